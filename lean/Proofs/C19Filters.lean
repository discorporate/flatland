/-
C19 — `transform_filters` (model `Flatland/C19Filters.lean`): the loop is a left fold over the filters whose `tags` admit the tag
(`runFilters_eq_foldlM`); filters run iff the `auto_filter` toggle resolves to on, with the `filters` setting in force
(`filters_resolution`); an option name survives the whole pipeline only if a filter wrote it (`optionsF_never_emitted`).  Filters
never touch the generator (`stepF_gen`), so every theorem about `run`/`step` holds verbatim for the filter-aware runner `runF`/`stepF`.
-/
import Proofs.C19Exact
import Flatland.C19Filters
namespace Flatland.C19.Proofs
open Flatland.Markup Flatland.C19 Flatland.C19.Spec

/-- in list order, only on the tags its `tags` admit, each applied to the state (attributes and contents) the previous one produced -/
theorem runFilters_eq_foldlM (tag : Str) (fs : List Filter) (st : TState) :
    runFilters tag fs st = (fs.filter (·.wanted tag)).foldlM (fun s f => f.apply tag s) st := by
  induction fs generalizing st with
  | nil => rfl
  | cons f rest ih =>
    simp only [runFilters, List.filter_cons]
    split
    · simp only [List.foldlM_cons]
      cases f.apply tag st with
      | error e => rfl
      | ok st' => exact ih st'
    · exact ih st

theorem runFilters_skip (tag : Str) (f : Filter) (rest : List Filter) (st : TState) (h : f.wanted tag = false) :
    runFilters tag (f :: rest) st = runFilters tag rest st := by
  simp [runFilters, h]

theorem runFilters_append (tag : Str) (fs gs : List Filter) (st : TState) :
    runFilters tag (fs ++ gs) st = (runFilters tag fs st).bind (runFilters tag gs) := by
  show _ = runFilters tag fs st >>= fun s => runFilters tag gs s
  simp only [runFilters_eq_foldlM, List.filter_append, List.foldlM_append]

theorem filter_apply_shape {f : Filter} {tag : Str} {st st' : TState} (h : f.apply tag st = .ok st') :
    st'.ctx = st.ctx ∧ st'.attrs = f.writeAttrs st.attrs := by
  obtain ⟨c, _, h⟩ := bind_eq_ok.mp h
  cases h; exact ⟨rfl, rfl⟩

theorem runFilters_ctx {tag : Str} {fs : List Filter} {st st' : TState} (h : runFilters tag fs st = .ok st') :
    st'.ctx = st.ctx := by
  rw [runFilters_eq_foldlM] at h
  exact Ex.Ok.foldlM (I := fun s => s.ctx = st.ctx) rfl
    (fun s f _ hs s' hs' => (filter_apply_shape hs').1.trans hs) st' h

theorem transformFiltersF_decision (E : FilterEnv) (T : Tables) (tag : Str) (bnd : Option Bind) (st : TState)
    (a : Attrs) (p f : Bool) (fv : CVal)
    (hp : popToggle T sAutoFilter st.attrs st.ctx = .ok (a, p, f)) (hf : st.ctx.getItem sFilters = .ok fv) :
    transformFiltersF E T tag bnd st =
      if p then (filtersOf E fv).bind (fun fs => runFilters tag fs { st with attrs := a })
      else .ok { st with attrs := a } := by
  unfold transformFiltersF
  simp only [bind, Except.bind, hp, hf, pure, Except.pure]
  cases p <;> rfl

theorem transformFiltersF_ok (E : FilterEnv) (T : Tables) (tag : Str) (bnd : Option Bind) (st : TState) :
    Ok (transformFiltersF E T tag bnd st) fun st' =>
      st' = { st with attrs := Dict.erase st.attrs sAutoFilter } ∨
      ∃ fv fs, st.ctx.getItem sFilters = .ok fv ∧ filtersOf E fv = .ok fs ∧
        runFilters tag fs { st with attrs := Dict.erase st.attrs sAutoFilter } = .ok st' := by
  unfold transformFiltersF
  refine Ok.popToggle fun p forced => ?_
  simp only [Ok.bind_iff, Ok.ite_iff, Ok.pure_iff, true_or, implies_true, true_and]
  exact fun fv hfv _ fs hfs st' h => .inr ⟨fv, fs, hfv, hfs, h⟩

theorem transformFiltersF_ctx {E : FilterEnv} {T : Tables} {tag : Str} {bnd : Option Bind} {st st' : TState}
    (h : transformFiltersF E T tag bnd st = .ok st') : st'.ctx = st.ctx := by
  rcases transformFiltersF_ok E T tag bnd st st' h with rfl | ⟨_, _, _, _, hr⟩
  · rfl
  · exact (runFilters_ctx hr).trans rfl

/-- the default `filters` value of the regenerated tables is the empty tuple -/
def filtersDefaultOK (T : Tables) : Bool :=
  Dict.get? (frameUpdate T.defaultContext T.defaultSettings) sFilters == some (.opaque "()".toList)

theorem filters_default_ok : filtersDefaultOK Tables.current = true := by decide +kernel

/-- filters run iff the toggle resolves to on — after any history, for any tag-level option, any
    stored values: the decision is `codeRule` on the last explicit `auto_filter` assignment, the
    list is the last explicit `filters` assignment (default `()`), and then the loop -/
theorem filters_resolution (E : FilterEnv) (T : Tables) (R : RenderCfg) (markup : Str) (settings : List (Str × CVal))
    (g0 : Gen) (hinit : Gen.init T markup settings = .ok g0) (ops : List Op)
    (hdef : optionDefaultOK T sAutoFilter false = true) (hfd : filtersDefaultOK T = true)
    (tag : Str) (bnd : Option Bind) (attrs : Attrs) (c : Option Val) :
    transformFiltersF E T tag bnd ⟨attrs, c, (runGen T R g0 ops).ctx⟩ =
      match codeRule T false (T.parseTrool ((Dict.get? attrs sAutoFilter).getD .maybe))
          (lastExplicit (runS T R g0 (initHist settings) ops).2 sAutoFilter) with
      | .error e => .error e
      | .ok (false, _) => .ok ⟨Dict.erase attrs sAutoFilter, c, (runGen T R g0 ops).ctx⟩
      | .ok (true, _) =>
        (filtersOf E ((lastExplicit (runS T R g0 (initHist settings) ops).2 sFilters).getD (.opaque "()".toList))).bind
          (fun fs => runFilters tag fs ⟨Dict.erase attrs sAutoFilter, c, (runGen T R g0 ops).ctx⟩) := by
  have hres := toggle_resolution_exact T R markup settings g0 hinit ops sAutoFilter false hdef attrs
  have hfv : (runGen T R g0 ops).ctx.getItem sFilters =
      .ok ((lastExplicit (runS T R g0 (initHist settings) ops).2 sFilters).getD (.opaque "()".toList)) := by
    have := setting_in_force T R markup settings g0 hinit ops sFilters
    simp only [filtersDefaultOK, beq_iff_eq] at hfd
    rw [hfd] at this
    simp only [Ctx.getItem, this]
    cases lastExplicit (runS T R g0 (initHist settings) ops).2 sFilters <;> rfl
  cases hc : codeRule T false (T.parseTrool ((Dict.get? attrs sAutoFilter).getD .maybe))
      (lastExplicit (runS T R g0 (initHist settings) ops).2 sAutoFilter) with
  | error e =>
    rw [hc] at hres
    unfold transformFiltersF
    simp only [bind, Except.bind, hres, Except.map]
  | ok d =>
    obtain ⟨p, f⟩ := d
    rw [hc] at hres
    simp only [Except.map] at hres
    rw [transformFiltersF_decision E T tag bnd _ _ p f _ hres hfv]
    cases p <;> rfl

theorem prepareTagF_gen {E : FilterEnv} {T : Tables} {order : List Str} {g : Gen} {tag : Str} {bnd : Option Bind}
    {kwargs : List (Str × Val)} {r : TagResult} (h : prepareTagF E T order g tag bnd kwargs = .ok r) :
    ({ g with ctx := r.ctx } : Gen) = g.afterFailedTag T tag bnd kwargs := by
  unfold prepareTagF transformF at h
  obtain ⟨st, ht, h⟩ := bind_eq_ok.mp h
  obtain ⟨s5, hp, hf⟩ := bind_eq_ok.mp ht
  have hr : r.ctx = st.ctx := by
    suffices hs : Ok _ fun r : TagResult => r.ctx = st.ctx from hs r h
    split <;> simp only [Ok.bind_iff, Ok.pure_iff, Ok.throw]
    all_goals
      refine Ok.of_forall fun ordered => ?_
      split <;> simp only [Ok.bind_iff, Ok.pure_iff, Ok.throw]
  simp only [Gen.afterFailedTag, hp, hr, transformFiltersF_ctx hf]

theorem stepF_tag_gen (E : FilterEnv) (T : Tables) (R : RenderCfg) (g : Gen) (name : Str) (bnd : Option Bind)
    (kwargs : List (Str × Val)) :
    (stepF E T R g (.tag name bnd kwargs)).1 = g.afterFailedTag T name bnd kwargs := by
  simp only [stepF]
  cases hc : callTagF E T R g name bnd kwargs with
  | error e => rfl
  | ok r =>
    obtain ⟨s, g'⟩ := r
    simp only
    simp only [callTagF, bind_eq_ok, pure_eq_ok, Prod.mk.injEq] at hc
    obtain ⟨r, hp, _, _, _, rfl⟩ := hc
    exact prepareTagF_gen hp

/-- filters never touch the generator: one step of the filter-aware runner leaves the same
    generator as the plain one, for every filter environment -/
theorem stepF_gen (E : FilterEnv) (T : Tables) (R : RenderCfg) (g : Gen) (op : Op) :
    (stepF E T R g op).1 = (step T R g op).1 := by
  cases op with
  | tag name bnd kwargs => rw [stepF_tag_gen, step_tag_gen]
  | _ => rfl

/-- … hence the same generator after every history: `toggle_resolution_exact`, `end_restores`,
    `scope_tabindex_increasing`, … (all stated on `runGen`) speak about `runF` as well -/
theorem runF_gen (E : FilterEnv) (T : Tables) (R : RenderCfg) (ops : List Op) (g : Gen) :
    (runF E T R g ops).1 = runGen T R g ops := by
  induction ops generalizing g with
  | nil => rfl
  | cons op rest ih =>
    simp only [runF, runGen, run]
    have := stepF_gen E T R g op
    rw [show (stepF E T R g op) = ((stepF E T R g op).1, (stepF E T R g op).2) from rfl]
    simp only
    rw [ih, this]
    rfl

theorem writeAttrs_none (f : Filter) (a : Attrs) (k : Str) (hw : f.writes k = false)
    (h : Dict.get? a k = none) : Dict.get? (f.writeAttrs a) k = none := by
  unfold Filter.writeAttrs
  exact (Dict.get?_foldl_set_absent f.sets _ hw).trans (Dict.get?_foldl_erase_none f.dels a h)

theorem runFilters_none {tag : Str} {fs : List Filter} {st st' : TState} (k : Str)
    (h : runFilters tag fs st = .ok st') (h0 : Dict.get? st.attrs k = none)
    (hw : ∀ f ∈ fs, f.wanted tag = true → f.writes k = false) : Dict.get? st'.attrs k = none := by
  rw [runFilters_eq_foldlM] at h
  refine Ex.Ok.foldlM (I := fun s => Dict.get? s.attrs k = none) h0 (fun s f hf hs s' hs' => ?_) st' h
  obtain ⟨hf, hwant⟩ := List.mem_filter.mp hf
  rw [(filter_apply_shape hs').2]
  exact writeAttrs_none f _ k (hw f hf hwant) hs

/-- options never emitted, whole pipeline with filters: for every input attribute map (distinct
    keys — `_transform_keys` guarantees it, `transformKeys_nodup`), every tag / bind / context /
    filter environment: after `transform` an option name is an attribute ONLY IF a filter that ran
    (in force, admitted by its `tags`, toggle on) writes that very name itself -/
theorem optionsF_never_emitted {E : FilterEnv} {T : Tables} {tag : Str} {bnd : Option Bind} {st st' : TState}
    (hnd : (Dict.keys st.attrs).Nodup) (h : transformF E T tag bnd st = .ok st')
    (k : Str) (hk : k ∈ optionKeys) :
    Dict.get? st'.attrs k = none ∨
    ∃ s5 fv fs f, transformPrefix T tag bnd st = .ok s5 ∧ s5.ctx.getItem sFilters = .ok fv ∧
      filtersOf E fv = .ok fs ∧ f ∈ fs ∧ f.wanted tag = true ∧ f.writes k = true := by
  obtain ⟨s5, hp, h⟩ := bind_eq_ok.mp h
  have hk6 : Dict.get? (Dict.erase s5.attrs sAutoFilter) k = none := by
    rw [show optionKeys = optionKeys.take 5 ++ [sAutoFilter] from rfl, List.mem_append, List.mem_singleton] at hk
    rcases hk with hk | rfl
    · exact Dict.get?_erase_none _ _ _ ((prefix_consumes T tag bnd).gone hp hnd k hk)
    · exact Dict.get?_erase_self _ _ ((prefix_consumes T tag bnd).nodup hp hnd)
  rcases transformFiltersF_ok E T tag bnd s5 st' h with rfl | ⟨fv, fs, hf, hfs, hr⟩
  · exact .inl hk6
  · by_cases hex : ∃ f ∈ fs, f.wanted tag = true ∧ f.writes k = true
    · obtain ⟨f, hfm, hw, hwr⟩ := hex
      exact .inr ⟨s5, fv, fs, f, hp, hf, hfs, hfm, hw, hwr⟩
    · refine .inl (runFilters_none k hr hk6 fun f hfm hw => ?_)
      cases hwr : f.writes k with
      | false => rfl
      | true => exact absurd ⟨f, hfm, hw, hwr⟩ hex

/-- with the default `()` the filter-aware pipeline is the shared one -/
theorem transformF_no_filters (E : FilterEnv) (T : Tables) (tag : Str) (bnd : Option Bind) (st s5 : TState)
    (hp : transformPrefix T tag bnd st = .ok s5)
    (hf : s5.ctx.getItem sFilters = .ok (.opaque "()".toList)) (hE : Dict.get? E "()".toList = none) :
    transformF E T tag bnd st = transform T tag bnd st := by
  rw [transform_eq_prefix]
  unfold transformF
  simp only [bind, Except.bind, hp]
  unfold transformFiltersF transformFilters
  simp only [bind, Except.bind, pure, Except.pure, sAutoFilter, sFilters] at hf ⊢
  cases hpt : popToggle T "auto_filter".toList s5.attrs s5.ctx with
  | error e => rfl
  | ok r =>
    simp only [hf]
    have hu : filtersOf E (.opaque "()".toList) = .ok [] := by
      simp only [filtersOf, hE, if_true]; rfl
    cases r.2.1
    · rfl
    · simp only [hu, Bool.not_true, Bool.false_eq_true, if_false]; rfl

/-! ### non-vacuity: two filters, the second gated away on `input`, threading of the contents -/

def fA : Filter := ⟨none, [], [("class".toList, .text "a".toList)], .append "[A]".toList⟩
def fB : Filter := ⟨some ["label".toList], [], [("auto_name".toList, .text "zz".toList)], .drop⟩
def fC : Filter := ⟨some [], ["class".toList], [], .appendTag⟩

example : runFilters "input".toList [fA, fB, fC] ⟨[], some (.text "x".toList), Ctx.init Tables.current⟩ =
    .ok ⟨[], some (.text "x[A]input".toList), Ctx.init Tables.current⟩ := by decide +kernel
example : (runFilters "label".toList [fA, fB, fC] ⟨[], some (.text "x".toList), Ctx.init Tables.current⟩).map (·.attrs) =
    .ok [("auto_name".toList, .text "zz".toList)] := by decide +kernel
example : fB.wanted "input".toList = false ∧ fC.wanted "input".toList = true ∧ fB.writes "auto_name".toList = true := by
  decide +kernel

end Flatland.C19.Proofs
