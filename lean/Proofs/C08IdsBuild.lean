/-
Identity accounting for the constructors and element-level mutators of the model, in this order:
`schema(parent=…)`, `element.set(raw)`, `schema(value)`, `from_defaults`, `set_default`.

`LS next old next' new`: a step that turns the subtrees `old` into `new` while the identity
counter moves from `next` to `next'` never hands an identity out twice, keeps keys unique, and
every identity occurs in `new` at most as often as in `old`, plus once if the step allocated it.
-/
import Proofs.Lemmas.C08Ids
import Proofs.Lemmas.TreeHdr
import Proofs.C09
import Proofs.C10
namespace Flatland.C08.Proofs
open Flatland.Tree Flatland.PyList Flatland.C08 Flatland.C08.Spec
open Flatland.C10.Proofs (findKid_some findKid_none fieldFor_some blankFields_ok keep replaceKid_keys hdr_eq_parts)

structure LS (next : Nat) (old : List Node) (next' : Nat) (new : List Node) : Prop where
  hle : next ≤ next'
  hkok : kokL new = true
  hcnt : ∀ a, cntL a new ≤ cntL a old + ind next next' a

theorem LS.refl (next : Nat) {l : List Node} (h : kokL l = true) : LS next l next l :=
  ⟨Nat.le_refl _, h, fun a => by rw [ind_self]; omega⟩

theorem LS.trans {a b c : Nat} {l0 l1 l2 : List Node} (h1 : LS a l0 b l1) (h2 : LS b l1 c l2) : LS a l0 c l2 :=
  ⟨Nat.le_trans h1.hle h2.hle, h2.hkok, fun x => by
    have := h1.hcnt x; have := h2.hcnt x; have := ind_add x h1.hle h2.hle; omega⟩

theorem LS.append {a b c : Nat} {l0 l1 m0 m1 : List Node} (h1 : LS a l0 b l1) (h2 : LS b m0 c m1) :
    LS a (l0 ++ m0) c (l1 ++ m1) :=
  ⟨Nat.le_trans h1.hle h2.hle, kokL_append.mpr ⟨h1.hkok, h2.hkok⟩, fun x => by
    have := h1.hcnt x; have := h2.hcnt x; have := ind_add x h1.hle h2.hle
    simp only [cntL_append]; omega⟩

theorem LS.cons {a b c : Nat} {k0 k1 : Node} {m0 m1 : List Node} (h1 : LS a [k0] b [k1]) (h2 : LS b m0 c m1) :
    LS a (k0 :: m0) c (k1 :: m1) := h1.append h2

theorem LS.consNew {a b c : Nat} {k1 : Node} {m0 m1 : List Node} (h1 : LS a [] b [k1]) (h2 : LS b m0 c m1) :
    LS a m0 c (k1 :: m1) := by
  have := h1.append h2; simpa using this

theorem LS.snocNew {a b c : Nat} {k1 : Node} {m0 m1 : List Node} (h1 : LS a m0 b m1) (h2 : LS b [] c [k1]) :
    LS a m0 c (m1 ++ [k1]) := by
  have := h1.append h2; simpa using this

theorem LS.mono {a b c : Nat} {l0 l1 : List Node} (h : LS a l0 b l1) (hbc : b ≤ c) : LS a l0 c l1 :=
  ⟨Nat.le_trans h.hle hbc, h.hkok, fun x => by
    have := h.hcnt x; have := ind_mono x (Nat.le_refl a) hbc; omega⟩

theorem LS.mono_left {a a' b : Nat} {l0 l1 : List Node} (h : LS a l0 b l1) (haa : a' ≤ a) : LS a' l0 b l1 :=
  ⟨Nat.le_trans haa h.hle, h.hkok, fun x => by
    have := h.hcnt x; have := ind_mono x haa (Nat.le_refl b); omega⟩

theorem LS.forget {a b : Nat} {l0 l1 : List Node} (h : LS a [] b l1) : LS a l0 b l1 :=
  ⟨h.hle, h.hkok, fun x => by have := h.hcnt x; simp only [cntL_nil] at this; omega⟩

theorem LS.of_le {a b : Nat} {l0 l0' l1 : List Node} (h : LS a l0 b l1) (hc : ∀ x, cntL x l0 ≤ cntL x l0') :
    LS a l0' b l1 :=
  ⟨h.hle, h.hkok, fun x => by have := h.hcnt x; have := hc x; omega⟩

theorem LS.nil (next : Nat) (l : List Node) : LS next l next [] :=
  ⟨Nat.le_refl _, rfl, fun a => by simp⟩

/-- a step on the children of an element (and on `extra`, what the call is handed) is a step on the element -/
theorem LS.inNode {next next' : Nat} {kids extra kids' : List Node} {i i' : NInfo} {s : Schema} (hi : i'.id = i.id)
    (hs : swf s = true) (hkeys : isMap s.kind = true → (kids'.map Node.key).Nodup)
    (h : LS next (kids ++ extra) next' kids') : LS next (.mk i s kids :: extra) next' [.mk i' s kids'] :=
  ⟨h.hle, by rw [kokL, kokL, Bool.and_true, kok_iff]; exact ⟨hs, hkeys, (kokL_iff _).mp h.hkok⟩, fun a => by
    have := h.hcnt a
    simp only [cntL_cons, cntL_nil, cnt_mk, cntL_append, hi] at this ⊢; omega⟩

/-- the converse, as far as the counting goes -/
theorem LS.ofNode {next next' : Nat} {kids extra : List Node} {i : NInfo} {s : Schema} {r : Node} (hid : r.id = i.id)
    (h : LS next (.mk i s kids :: extra) next' [r]) : ∀ a, cntL a r.kids ≤ cntL a (kids ++ extra) + ind next next' a := fun a => by
  have := h.hcnt a
  simp only [cntL_cons, cntL_nil, cnt_mk, cntL_append] at this ⊢
  rw [cnt_eq, hid] at this; omega

theorem LS.newNode {next next' : Nat} {A kids' : List Node} (i : NInfo) (hi : i.id = next) (s : Schema)
    (hs : swf s = true) (hkeys : isMap s.kind = true → (kids'.map Node.key).Nodup)
    (h : LS (next + 1) A next' kids') : LS next A next' [.mk i s kids'] :=
  ⟨by have := h.hle; omega, by rw [kokL, kokL, Bool.and_true, kok_iff]; exact ⟨hs, hkeys, (kokL_iff _).mp h.hkok⟩, fun a => by
    have := h.hcnt a
    have h1 := own_eq_ind a next
    have h2 := ind_add a (Nat.le_add_right next 1) h.hle
    simp only [cntL_singleton, cnt_mk, hi]; omega⟩

theorem LS.node {next next' : Nat} {kids kids' : List Node} (i : NInfo) (s : Schema)
    (hs : swf s = true) (hkeys : isMap s.kind = true → (kids'.map Node.key).Nodup)
    (h : LS next kids next' kids') : LS next [.mk i s kids] next' [.mk i s kids'] :=
  LS.inNode rfl hs hkeys (by rw [List.append_nil]; exact h)

theorem kok_single {n : Node} : kokL [n] = true ↔ kok n = true := by simp [kokL]

theorem swf_subs {s : Schema} (h : swf s = true) : ∀ f ∈ s.subs, swf f = true := ((swf_iff s).mp h).2
theorem swf_member {s m : Schema} (h : swf s = true) (hm : s.member = some m) : swf m = true := by
  unfold Schema.member at hm
  exact swf_subs h m (List.mem_of_mem_head? hm)

theorem nodup_filter_keys {subs : List Schema} (h : (subs.map Schema.key).Nodup) (p : Schema → Bool) :
    ((subs.filter p).map Schema.key).Nodup :=
  List.Nodup.sublist (List.Sublist.map _ List.filter_sublist) h

theorem blankFields_keys (subs : List Schema) (pid : Nat) (b : Bool) (next : Nat) :
    (blankFields subs pid b next).1.map Node.key = (subs.filter (keep b)).map Schema.key :=
  (blankFields_ok subs pid b next).2

mutual
theorem blank_ls : ∀ (s : Schema) (parent : Option Nat) (key : Str) (next : Nat), swf s = true →
    LS next [] (blank s parent key next).2 [(blank s parent key next).1]
  | .mk info dflt subs, parent, key, next, hs => by
    have hsub : swfL subs = true := (swfL_iff _).mpr (swf_subs hs)
    have hkeys : ∀ b nx, isMap (Schema.mk info dflt subs).kind = true →
        ((blankFields subs next b nx).1.map Node.key).Nodup := by
      intro b nx hm
      rw [blankFields_keys]
      exact nodup_filter_keys (((swf_iff _).mp hs).1 hm) _
    have hleaf : LS next [] (next + 1) [Node.mk { id := next, parent := parent, key := key } (.mk info dflt subs) []] :=
      LS.newNode (next := next) _ rfl _ hs (fun _ => by simp) (LS.nil _ _)
    rw [blank]
    split
    · exact LS.newNode (next := next) _ rfl _ hs (hkeys _ _) (blankFields_ls subs next false (next + 1) hsub)
    · split
      · exact LS.newNode (next := next) _ rfl _ hs (hkeys _ _) (blankFields_ls subs next true (next + 1) hsub)
      · exact hleaf
    · exact hleaf
theorem blankFields_ls : ∀ (subs : List Schema) (pid : Nat) (b : Bool) (next : Nat), swfL subs = true →
    LS next [] (blankFields subs pid b next).2 (blankFields subs pid b next).1
  | [], _, _, next, _ => by rw [blankFields]; exact LS.nil _ _
  | f :: fs, pid, b, next, hs => by
    rw [swfL, Bool.and_eq_true] at hs
    rw [blankFields]
    split
    · exact blankFields_ls fs pid b next hs.2
    · exact LS.consNew (blank_ls f (some pid) f.key next hs.1) (blankFields_ls fs pid b _ hs.2)
end

theorem LS.congr_new {a b : Nat} {l0 l1 l1' : List Node} (h : LS a l0 b l1)
    (hc : ∀ x, cntL x l1' = cntL x l1) (hk : kokL l1' = kokL l1) : LS a l0 b l1' :=
  ⟨h.hle, by rw [hk]; exact h.hkok, fun x => by rw [hc]; exact h.hcnt x⟩

theorem LS.withParent_new {a b : Nat} {l0 : List Node} {x : Node} (h : LS a l0 b [x]) (p : Option Nat) :
    LS a l0 b [x.withParent p] :=
  h.congr_new (fun y => by rw [cntL_singleton, cntL_singleton, cnt_withParent])
    (by simp [kokL, kok_withParent])

theorem LS.withParent_old {a b : Nat} {l1 : List Node} {x : Node} (p : Option Nat) (h : LS a [x.withParent p] b l1) :
    LS a [x] b l1 :=
  h.of_le (fun y => by rw [cntL_singleton, cntL_singleton, cnt_withParent]; exact Nat.le_refl _)

theorem kok_kids {i : NInfo} {s : Schema} {kids : List Node} (h : kok (.mk i s kids) = true) : kokL kids = true :=
  (kokL_iff _).mpr ((kok_iff _).mp h).2.2

theorem kok_keys {i : NInfo} {s : Schema} {kids : List Node} (h : kok (.mk i s kids) = true) :
    isMap s.kind = true → (kids.map Node.key).Nodup := ((kok_iff _).mp h).2.1

theorem kok_swf {n : Node} (h : kok n = true) : swf n.sch = true := ((kok_iff _).mp h).1

theorem kokL_of_kok {n : Node} (hk : kok n = true) : kokL n.kids = true := by
  cases n; exact kok_kids hk

theorem LS.rehead {next next' : Nat} {kids kids' : List Node} {i i' : NInfo} {s : Schema} (hi : i'.id = i.id)
    (hk : kok (.mk i s kids) = true) (hkeys : isMap s.kind = true → (kids'.map Node.key).Nodup)
    (h : LS next kids next' kids') : LS next [.mk i s kids] next' [.mk i' s kids'] :=
  LS.inNode hi (kok_swf hk) hkeys (by rw [List.append_nil]; exact h)

theorem LS.same {next : Nat} {kids : List Node} {i i' : NInfo} {s : Schema} (hi : i'.id = i.id)
    (hk : kok (.mk i s kids) = true) : LS next [.mk i s kids] next [.mk i' s kids] :=
  LS.rehead hi hk (kok_keys hk) (LS.refl _ (kok_kids hk))

theorem LS.frame {a b : Nat} {k : Node} {l0 l1 : List Node} (hk : kok k = true) (h : LS a l0 b l1) :
    LS a (k :: l0) b (k :: l1) := LS.cons (LS.refl a (kok_single.mpr hk)) h

theorem withKids_ls_map {n : Node} (hk : kok n = true) {extra ks' : List Node} {next next' : Nat}
    (hkeys : isMap n.kind = true → (ks'.map Node.key).Nodup)
    (h : LS next (n.kids ++ extra) next' ks') : LS next (n :: extra) next' [n.withKids ks'] := by
  cases n; exact LS.inNode rfl (kok_swf hk) hkeys h

theorem withKids_ls {n : Node} (hk : kok n = true) (hm : isMap n.kind = false) {extra ks' : List Node} {next next' : Nat}
    (h : LS next (n.kids ++ extra) next' ks') : LS next (n :: extra) next' [n.withKids ks'] :=
  withKids_ls_map hk (fun hm' => absurd (hm.symm.trans hm') (by simp)) h

theorem LS.slot {next next' : Nat} {A : List Node} {e : Node} (lst nm : Nat) (h : LS (next + 1) A next' [e]) :
    LS next A next' [mkSlot next lst nm e] :=
  LS.newNode { id := next, parent := some lst, key := (toString nm).toList } rfl slotSchema swf_slot (fun hm => nomatch hm)
    (h.withParent_new _)

theorem mkSlot_ls (next lst nm : Nat) {w : Node} (hw : kok w = true) : LS next [w] (next + 1) [mkSlot next lst nm w] :=
  LS.slot lst nm (LS.refl _ (kok_single.mpr hw))

theorem appendEl_sch (n w : Node) (next : Nat) : (appendEl n w next).1.sch = n.sch := sch_of_hdr (appendEl_hdr n w next)

theorem appendEl_ls (n w : Node) (next : Nat) (hn : kok n = true) (hm : isMap n.kind = false) (hw : kok w = true) :
    LS next [n, w] (appendEl n w next).2 [(appendEl n w next).1] := by
  have hkids := LS.refl next (kokL_of_kok hn)
  unfold appendEl
  split
  · exact withKids_ls hn hm (hkids.append (mkSlot_ls next _ _ hw))
  · exact withKids_ls hn hm (hkids.append ((LS.refl next (kok_single.mpr hw)).withParent_new _))

theorem appendEl_kind (n w : Node) (next : Nat) : (appendEl n w next).1.kind = n.kind := by
  unfold Node.kind; rw [appendEl_sch]

theorem attachAll_ls (vals : List Node) : ∀ (n : Node) (next : Nat), kok n = true → isMap n.kind = false →
    kokL vals = true → LS next (n :: vals) (attachAll n vals next).2 [(attachAll n vals next).1] := by
  induction vals with
  | nil => intro n next hn _ _; rw [attachAll]; exact LS.refl _ (kok_single.mpr hn)
  | cons e es ih =>
    intro n next hn hm hv
    rw [kokL, Bool.and_eq_true] at hv
    rw [attachAll_eq]
    have h1 := appendEl_ls n e next hn hm hv.1
    have h2 := ih (appendEl n e next).1 (appendEl n e next).2 (kok_single.mp h1.hkok)
      (by rw [appendEl_kind]; exact hm) hv.2
    have h3 : LS next ([n, e] ++ es) (appendEl n e next).2 ([(appendEl n e next).1] ++ es) :=
      h1.append (LS.refl _ hv.2)
    exact h3.trans h2

theorem freshKids_ls (i : NInfo) {s : Schema} (hs : swf s = true) (hm : isMap s.kind = true) (next : Nat) :
    LS next [] (freshKids i s next).2 (freshKids i s next).1 ∧ ((freshKids i s next).1.map Node.key).Nodup := by
  have hsub : swfL s.subs = true := (swfL_iff _).mpr (swf_subs hs)
  have hnd := ((swf_iff _).mp hs).1 hm
  unfold freshKids
  split
  · exact ⟨blankFields_ls _ _ _ _ hsub, by rw [blankFields_keys]; exact nodup_filter_keys hnd _⟩
  · split
    · exact ⟨blankFields_ls _ _ _ _ hsub, by rw [blankFields_keys]; exact nodup_filter_keys hnd _⟩
    · exact ⟨LS.nil _ _, by simp⟩

theorem replace_ls {next n1 : Nat} {kids extra : List Node} {k : Str} {child new : Node}
    (hk : kokL kids = true) (hn : (kids.map Node.key).Nodup) (hc : findKid kids k = some child)
    (h : LS next (child :: extra) n1 [new]) : LS next (kids ++ extra) n1 (replaceKid kids k new) := by
  refine ⟨h.hle, ?_, fun a => ?_⟩
  · rw [kokL_iff]
    intro x hx
    rcases Flatland.C10.Proofs.mem_replaceKid hx with h1 | h1
    · exact (kokL_iff _).mp hk x h1
    · rw [h1]; exact kok_single.mp h.hkok
  · have h1 := cntL_perm a (perm_replaceKid kids k new child hn hc)
    have h2 := h.hcnt a
    simp only [cntL_cons, cntL_append, cntL_nil] at h1 h2 ⊢; omega

theorem key_withParent (x : Node) (p : Option Nat) : (x.withParent p).key = x.key := by cases x; rfl
theorem sch_withParent (x : Node) (p : Option Nat) : (x.withParent p).sch = x.sch := by cases x; rfl

theorem nodup_keys_append {kids : List Node} {new : Node} (h : (kids.map Node.key).Nodup)
    (hn : new.key ∉ kids.map Node.key) : ((kids ++ [new]).map Node.key).Nodup := by
  rw [List.map_append, List.map_cons, List.map_nil]
  refine List.nodup_append.mpr ⟨h, by simp, ?_⟩
  intro a ha b hb
  simp only [List.mem_singleton] at hb
  rintro rfl
  rw [hb] at ha; exact hn ha

/-- `set` on a value satisfies the accounting inequality on every key-well-formed element -/
def SetsLS (x : Raw) : Prop := ∀ (n : Node) (pol : Option Policy) (next : Nat), kok n = true →
  LS next [n] (setNode n x pol next).next [(setNode n x pol next).node]

theorem buildItems_ls_of {m : Schema} (hm : swf m = true) (xs : List Raw) (h : ∀ x ∈ xs, SetsLS x) :
    ∀ next, LS next [] (buildItems m xs next).2.1 (buildItems m xs next).1 := by
  induction xs with
  | nil => intro next; rw [buildItems]; exact LS.nil _ _
  | cons x xs ih =>
    intro next
    have hb := blank_ls m none [] next hm
    have h1 := hb.trans (h x (List.mem_cons_self ..) _ none _ (kok_single.mp hb.hkok))
    have h2 := ih (fun y hy => h y (List.mem_cons_of_mem _ hy))
      (setNode (blank m none [] next).1 x none (blank m none [] next).2).next
    rw [buildItems]
    dsimp only
    split
    · exact (LS.nil _ _).mono h1.hle
    · split
      · exact (LS.nil _ _).mono (Nat.le_trans h1.hle h2.hle)
      · exact LS.consNew h1 h2

theorem setPairs_ls_of (kvs : List (Str × Raw)) (h : ∀ p ∈ kvs, SetsLS p.2) (pid : Nat) {subs : List Schema}
    (hs : swfL subs = true) : ∀ (kids : List Node) (next : Nat), kokL kids = true → (kids.map Node.key).Nodup →
    LS next kids (setPairs pid subs kids kvs next).2.1 (setPairs pid subs kids kvs next).1 ∧
      ((setPairs pid subs kids kvs next).1.map Node.key).Nodup := by
  induction kvs with
  | nil => intro kids next hk hn; rw [setPairs]; exact ⟨LS.refl _ hk, hn⟩
  | cons kv rest ih =>
    obtain ⟨k, v⟩ := kv
    have hv : SetsLS v := h (k, v) (List.mem_cons_self ..)
    have ih' := ih (fun p hp => h p (List.mem_cons_of_mem _ hp))
    intro kids next hk hn
    rw [setPairs]
    split
    · exact ih' kids next hk hn
    · rename_i f hf
      split
      · rename_i child hc
        have hcm := findKid_some hc
        have hrep : LS next kids (setNode child v none next).next (replaceKid kids k (setNode child v none next).node) := by
          simpa using replace_ls (extra := []) hk hn hc (hv child none next ((kokL_iff _).mp hk child hcm.1))
        have hkeys : ((replaceKid kids k (setNode child v none next).node).map Node.key).Nodup := by
          rw [replaceKid_keys _ _ _ (by rw [key_of_hdr (setNode_hdr child v none next)]; exact hcm.2)]; exact hn
        dsimp only
        split
        · exact ⟨hrep, hkeys⟩
        · have h2 := ih' _ (setNode child v none next).next hrep.hkok hkeys
          exact ⟨hrep.trans h2.1, h2.2⟩
      · rename_i hc
        have hb := (blank_ls f none k next ((swfL_iff _).mp hs f (fieldFor_some hf).1)).withParent_new (some pid)
        have happ := LS.snocNew (LS.refl next hk) (hb.trans (hv _ none _ (kok_single.mp hb.hkok)))
        have hkey : (setNode ((blank f none k next).1.withParent (some pid)) v none (blank f none k next).2).node.key = k := by
          rw [key_of_hdr (setNode_hdr _ v none _), key_withParent]
          exact (hdr_eq_parts (blank_hdr f none k next)).2.2.2.1
        have hkeys := nodup_keys_append
          (new := (setNode ((blank f none k next).1.withParent (some pid)) v none (blank f none k next).2).node)
          hn (by rw [hkey]; exact findKid_none hc)
        dsimp only
        split
        · exact ⟨happ, hkeys⟩
        · have h2 := ih' _ (setNode ((blank f none k next).1.withParent (some pid)) v none (blank f none k next).2).next
            happ.hkok hkeys
          exact ⟨happ.trans h2.1, h2.2⟩

theorem kok_mk_nil {i : NInfo} {s : Schema} (hs : swf s = true) : kok (.mk i s []) = true := by
  rw [kok_iff]; exact ⟨hs, fun _ => by simp [Node.kids], fun k hk' => by cases hk'⟩

theorem rebuilt_ls {i : NInfo} {s : Schema} {kids vals : List Node} {next n1 : Nat} (hk : kok (.mk i s kids) = true)
    (hmap : isMap s.kind = false) (hB : LS next [] n1 vals) :
    LS next [.mk i s kids] (attachAll (.mk i s []) vals n1).2 [(attachAll (.mk i s []) vals n1).1] := by
  have hE : kok (Node.mk i s []) = true := kok_mk_nil (kok_swf hk)
  have hA := attachAll_ls vals (.mk i s []) n1 hE hmap hB.hkok
  have h1 : LS next [Node.mk i s []] n1 (Node.mk i s [] :: vals) := by
    have := (LS.refl next (kok_single.mpr hE)).append hB; simpa using this
  exact (h1.trans hA).of_le (fun x => by simp only [cntL_singleton, cnt_mk, cntL_nil]; omega)

theorem not_isMap_of_seq {k : SKind} (h : k = .list ∨ k = .array ∨ k = .multi) : isMap k = false := by
  rcases h with h | h | h <;> rw [h] <;> rfl

theorem isMap_of_map {k : SKind} (h : k = .dict ∨ k = .sparse) : isMap k = true := by
  rcases h with h | h <;> rw [h] <;> rfl

theorem SetShape.ls {i : NInfo} {s : Schema} {kids : List Node} {raw : Raw} {next : Nat} {r : SetR}
    (h : SetShape i s kids raw next r) (hk : kok (.mk i s kids) = true)
    (hl : ∀ xs, raw = .list xs → ∀ x ∈ xs, SetsLS x)
    (hd : ∀ kvs, toPairs raw = some (some kvs) → ∀ p ∈ kvs, SetsLS p.2) :
    LS next [.mk i s kids] r.next [r.node] := by
  have hs : swf s = true := kok_swf hk
  cases h with
  | same hh => obtain ⟨v, u, rfl⟩ := hh; exact LS.same rfl hk
  | emptied hkd hn =>
    refine (LS.rehead rfl hk (fun _ => by simp) (LS.nil next kids)).mono ?_
    rcases hn with rfl | ⟨m, xs, hm, hraw, rfl⟩
    · exact Nat.le_refl _
    · exact (buildItems_ls_of (swf_member hs hm) xs (hl xs hraw) next).hle
  | @rebuilt m xs res hkd hm hraw =>
    exact rebuilt_ls hk (not_isMap_of_seq hkd) (buildItems_ls_of (swf_member hs hm) xs (hl xs hraw) next)
  | @pairs kvs res hkd hkvs =>
    obtain ⟨hls, hnd⟩ := freshKids_ls i hs (isMap_of_map hkd) next
    have hP := setPairs_ls_of kvs (by
      rcases hkvs with rfl | hkvs
      · intro p hp; cases hp
      · exact hd kvs hkvs) i.id ((swfL_iff _).mpr (swf_subs hs)) (freshKids i s next).1 (freshKids i s next).2
      hls.hkok hnd
    exact LS.rehead rfl hk (fun _ => hP.2) (hls.trans hP.1).forget

theorem setNode_ls : ∀ (raw : Raw) (n : Node) (pol : Option Policy) (next : Nat), kok n = true →
    LS next [n] (setNode n raw pol next).next [(setNode n raw pol next).node] :=
  Raw.induction (P := SetsLS) fun raw hl hd n pol next hk => by
    cases n with
    | mk i s kids => exact (setNode_shape i s kids raw pol next).ls hk hl hd

theorem buildItems_ls (xs : List Raw) (m : Schema) (next : Nat) (hm : swf m = true) :
    LS next [] (buildItems m xs next).2.1 (buildItems m xs next).1 :=
  buildItems_ls_of hm xs (fun x _ => setNode_ls x) next

theorem setPairs_ls : ∀ (kvs : List (Str × Raw)) (pid : Nat) (subs : List Schema) (kids : List Node) (next : Nat),
    swfL subs = true → kokL kids = true → (kids.map Node.key).Nodup →
    LS next kids (setPairs pid subs kids kvs next).2.1 (setPairs pid subs kids kvs next).1 ∧
      ((setPairs pid subs kids kvs next).1.map Node.key).Nodup :=
  fun kvs pid _ kids next hs hk hn => setPairs_ls_of kvs (fun p _ => setNode_ls p.2) pid hs kids next hk hn

theorem construct_next_le (s : Schema) (raw : Raw) (parent : Option Nat) (key : Str) (next : Nat) (hs : swf s = true) :
    next ≤ (construct s raw parent key next).2 := by
  have hb := blank_ls s parent key next hs
  have hr := setNode_ls raw (blank s parent key next).1 none (blank s parent key next).2 (kok_single.mp hb.hkok)
  unfold construct
  dsimp only
  split <;> exact (hb.trans hr).hle

theorem construct_ls (s : Schema) (raw : Raw) (parent : Option Nat) (key : Str) (next : Nat) (hs : swf s = true)
    (e : Node) (n1 : Nat) (h : construct s raw parent key next = (.ok e, n1)) : LS next [] n1 [e] := by
  have hb := blank_ls s parent key next hs
  have hr := setNode_ls raw (blank s parent key next).1 none (blank s parent key next).2 (kok_single.mp hb.hkok)
  unfold construct at h
  dsimp only at h
  split at h
  · cases h; exact hb.trans hr
  · cases h

theorem defaultFields_keys (subs : List Schema) (pid : Nat) (b : Bool) (next : Nat) :
    (defaultFields subs pid b next).1.map Node.key = (subs.filter (keep b)).map Schema.key :=
  (Flatland.C10.Proofs.defaultFields_ok subs pid b next).2

theorem defaultSlotsWith_ls (mk : Nat → SetR) (hmk : ∀ nx, LS nx [] (mk nx).next [(mk nx).node]) (lst : Nat) :
    ∀ (k idx next : Nat), LS next [] (defaultSlotsWith mk lst k idx next).2.1 (defaultSlotsWith mk lst k idx next).1 := by
  intro k
  induction k with
  | zero => intro idx next; rw [defaultSlotsWith]; exact LS.nil _ _
  | succ k ih =>
    intro idx next
    have hslot := LS.slot lst idx (hmk (next + 1))
    rw [defaultSlotsWith]
    dsimp only
    split
    · exact hslot
    · exact LS.consNew hslot (ih _ _)

theorem defaultFields_ls_of (subs : List Schema) (hs : swfL subs = true)
    (h : ∀ f ∈ subs, ∀ p k nx, LS nx [] (fromDefaults f p k nx).next [(fromDefaults f p k nx).node]) :
    ∀ (pid : Nat) (b : Bool) (next : Nat), LS next [] (defaultFields subs pid b next).2.1 (defaultFields subs pid b next).1 := by
  induction subs with
  | nil => intro pid b next; rw [defaultFields]; exact LS.nil _ _
  | cons f fs ih =>
    rw [swfL, Bool.and_eq_true] at hs
    have ih' := ih hs.2 (fun g hg => h g (List.mem_cons_of_mem _ hg))
    intro pid b next
    rw [defaultFields]
    split
    · exact ih' pid b next
    · have hfd := h f (List.mem_cons_self ..) (some pid) f.key next
      dsimp only
      split
      · -- `child.set_default()` raised: the rest keeps the blank children `_reset()` made
        split
        · have hbl := blank_ls f (some pid) f.key (fromDefaults f (some pid) f.key next).next hs.1
          exact LS.consNew (hbl.mono_left hfd.hle) (blankFields_ls fs pid b _ hs.2)
        · exact LS.consNew hfd (blankFields_ls fs pid b _ hs.2)
      · exact LS.consNew hfd (ih' pid b (fromDefaults f (some pid) f.key next).next)

theorem setDefaultKids_ls_of (kids : List Node)
    (h : ∀ k ∈ kids, ∀ next, kok k = true → LS next [k] (setDefault k next).next [(setDefault k next).node]) :
    ∀ next, kokL kids = true → LS next kids (setDefaultKids kids next).2.1 (setDefaultKids kids next).1 := by
  induction kids with
  | nil => intro next _; rw [setDefaultKids]; exact LS.nil _ _
  | cons k ks ih =>
    intro next hk
    rw [kokL, Bool.and_eq_true] at hk
    have h1 := h k (List.mem_cons_self ..) next hk.1
    rw [setDefaultKids]
    dsimp only
    split
    · exact LS.cons h1 (LS.refl _ hk.2)
    · exact LS.cons h1 (ih (fun y hy => h y (List.mem_cons_of_mem _ hy)) _ hk.2)

/-- `hsub`, `hkids`: the induction hypotheses of `fromDefaults_ls` (over classes) and `setDefault_ls` (over elements) -/
theorem DefaultShape.ls {p : Prop} {n : Node} {next : Nat} {r : SetR} (h : DefaultShape p n next r) (hk : kok n = true)
    (hsub : ∀ f ∈ n.sch.subs, ∀ q k nx, LS nx [] (fromDefaults f q k nx).next [(fromDefaults f q k nx).node])
    (hkids : p → LS next n.kids (setDefaultKids n.kids next).2.1 (setDefaultKids n.kids next).1) :
    LS next [n] r.next [r.node] := by
  have hs : swf n.sch = true := kok_swf hk
  have hre : ∀ (ks : List Node) (n1 : Nat), (isMap n.kind = true → (ks.map Node.key).Nodup) →
      LS next [] n1 ks → LS next [n] n1 [n.withKids ks] :=
    fun ks n1 hkeys h => withKids_ls_map (extra := []) hk hkeys h.forget
  cases h with
  | same => exact LS.refl _ (kok_single.mpr hk)
  | set => exact setNode_ls _ _ none next hk
  | slots hkd hm =>
    exact hre _ _ (fun h => by rw [hkd] at h; cases h)
      (defaultSlotsWith_ls _ (fun nx => hsub _ (List.mem_of_mem_head? hm) none [] nx) _ _ _ _)
  | @items m xs res hkd hm =>
    cases n with
    | mk i s kids =>
      exact rebuilt_ls hk (by rcases hkd with h | h <;> rw [show s.kind = _ from h] <;> rfl)
        (buildItems_ls xs m next (swf_member hs hm))
  | @emptied m xs res hkd hm =>
    exact (hre [] _ (fun _ => by simp) (LS.nil _ _)).mono (buildItems_ls xs m next (swf_member hs hm)).hle
  | kids hp hkd =>
    exact withKids_ls_map (extra := []) hk
      (fun hm => by
        rw [keys_of_map_hdr (Flatland.C10.Proofs.setDefaultKids_hdr n.kids next)]; exact ((kok_iff n).mp hk).2.1 hm)
      (by rw [List.append_nil]; exact hkids hp)
  | fields hkd =>
    exact hre _ _ (fun hm => by rw [defaultFields_keys]; exact nodup_filter_keys (((swf_iff _).mp hs).1 hm) _)
      (defaultFields_ls_of n.sch.subs ((swfL_iff _).mpr (swf_subs hs)) hsub _ _ _)
  | cleared => exact hre _ _ (fun _ => by simp) (LS.nil _ _)

theorem fromDefaults_ls : ∀ (s : Schema) (parent : Option Nat) (key : Str) (next : Nat), swf s = true →
    LS next [] (fromDefaults s parent key next).next [(fromDefaults s parent key next).node] :=
  Schema.induction fun s hsub parent key next hs => by
    have hb := blank_ls s parent key next hs
    refine hb.trans ((fromDefaults_shape s parent key next).ls (kok_single.mp hb.hkok) ?_ False.elim)
    rw [(blank_ni s parent key next).2]
    exact fun f hf q k nx => hsub f hf q k nx (swf_subs hs f hf)

theorem defaultFields_ls (subs : List Schema) (pid : Nat) (b : Bool) (next : Nat) (hs : swfL subs = true) :
    LS next [] (defaultFields subs pid b next).2.1 (defaultFields subs pid b next).1 :=
  defaultFields_ls_of subs hs (fun f hf p k nx => fromDefaults_ls f p k nx ((swfL_iff _).mp hs f hf)) pid b next

theorem setDefault_ls : ∀ (n : Node) (next : Nat), kok n = true →
    LS next [n] (setDefault n next).next [(setDefault n next).node] :=
  Node.induction fun n ih next hk => by
    cases n with
    | mk i s kids =>
      exact (setDefault_shape i s kids next).ls hk
        (fun f hf q k nx => fromDefaults_ls f q k nx (swf_subs (kok_swf hk) f hf))
        (fun _ => setDefaultKids_ls_of kids ih next (kok_kids hk))

theorem setDefaultKids_ls (kids : List Node) (next : Nat) (h : kokL kids = true) :
    LS next kids (setDefaultKids kids next).2.1 (setDefaultKids kids next).1 :=
  setDefaultKids_ls_of kids (fun k _ nx => setDefault_ls k nx) next h

end Flatland.C08.Proofs
