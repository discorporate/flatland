/-
C17 — the frame MECHANISM refines model A: WRITES through class views.
`Ref σ a` = `Sim σ a` + model A's invariant `Inv a` + the mechanism's own invariant `FInv σ`; every
write method of `_TypeLookup` returns model A's result and re-establishes `Ref` with model A's new state.
-/
import Proofs.C17Frames
namespace Flatland.C17.Frames.Proofs
open Flatland.C17 Flatland.C17.Spec Flatland.C17.Proofs Flatland.C17.Frames

structure FInv (σ : FState) : Prop where
  noAlias : NoAlias σ
  map_lt : ∀ P c r, σ.mapGet P c = some r → P < σ.ndesc ∧ c < σ.classes.length
  objs_len : σ.objs.length = σ.ndesc
  objs_lt : ∀ s, s < σ.ndesc → σ.objOf s < σ.ndesc

theorem FInv_finit (init : List (Key × Val)) : FInv (finit init) where
  noAlias := NoAlias_finit init
  map_lt := by intro P c r h; simp [FState.mapGet, finit] at h
  objs_len := rfl
  objs_lt := by
    intro s hs
    have : s = 0 := by simp [finit] at hs; exact hs
    subst this; exact Nat.zero_lt_one

theorem FInv_mapSet {σ : FState} (h : FInv σ) (P : ObjId) (c : ClassId) (f : Frame)
    (hP : P < σ.ndesc) (hc : c < σ.classes.length) : FInv (σ.mapSet P c (.obj f)) where
  noAlias := NoAlias_mapSet h.noAlias P c f
  map_lt := by
    intro P' c' r hr
    rw [mapGet_mapSet] at hr
    split at hr
    · rename_i hk
      obtain ⟨rfl, rfl⟩ := Prod.mk.inj hk
      exact ⟨hP, hc⟩
    · exact h.map_lt P' c' r hr
  objs_len := h.objs_len
  objs_lt := h.objs_lt

structure Ref (σ : FState) (a : State) : Prop where
  sim : Sim σ a
  inv : Inv a
  finv : FInv σ

theorem Ref_init (init : List (Key × Val)) : Ref (finit init) (initState init) :=
  ⟨Sim_init init, Inv_initState init, FInv_finit init⟩

theorem Ref.len {σ : FState} {a : State} (h : Ref σ a) : a.classes.length = σ.classes.length := by
  rw [h.sim.classes]

theorem Ref.desc_lt {σ : FState} {a : State} (h : Ref σ a) (c : ClassId) (s : DescId)
    (hd : a.descOf c = some s) : s < σ.ndesc := by
  rw [← h.sim.ndesc]; exact descOf_lt a h.inv.wf c s hd

theorem Ref.obj_lt {σ : FState} {a : State} (h : Ref σ a) (c : ClassId) (s : DescId)
    (hd : a.descOf c = some s) : σ.objOf s < σ.ndesc := h.finv.objs_lt s (h.desc_lt c s hd)

theorem Ref.own_desc {σ : FState} {a : State} (h : Ref σ a) (c : ClassId) (s : DescId)
    (ho : a.ownOf c = some s) : a.descOf c = some s := by
  have hc : c < a.classes.length := by
    rcases Nat.lt_or_ge c a.classes.length with hc | hc
    · exact hc
    · rw [ownOf_ge a c hc] at ho; exact absurd ho (by simp)
  obtain ⟨tail, ht⟩ := h.inv.wf.mro_head c hc
  exact descOf_of_head a c tail s ht ho

theorem Ref.coherentF {σ : FState} {a : State} (h : Ref σ a) (c : ClassId) (hc : c < a.classes.length) :
    CoherentF σ c := CoherentF_of h.sim c (h.inv.co c hc)

theorem pull_objOf (σ : FState) (P : ObjId) (l : List ClassId) (p : Frame → Pull) (s : DescId) :
    (framesPull σ P p l).1.objOf s = σ.objOf s := by
  simp only [FState.objOf, (store_pull σ P l p).objs]

theorem pull_mapGet_some (σ : FState) (P : ObjId) (l : List ClassId) (p : Frame → Pull)
    (P' : ObjId) (c' : ClassId) (r : FrameRef) (hr : σ.mapGet P' c' = some r) :
    (framesPull σ P p l).1.mapGet P' c' = some r := by
  rcases pull_state σ P l p with e | ⟨o, hm, _, e⟩ <;> rw [e]
  · exact hr
  · rw [mapGet_mapSet]
    split
    · rename_i hk
      obtain ⟨rfl, rfl⟩ := Prod.mk.inj hk
      rw [hm] at hr; exact absurd hr (by simp)
    · exact hr

theorem Ref_pull {σ : FState} {a : State} (h : Ref σ a) (P : ObjId) (hP : P < σ.ndesc)
    (l : List ClassId) (p : Frame → Pull) : Ref (framesPull σ P p l).1 a := by
  refine ⟨Sim_pull h.sim P l p, h.inv, ?_⟩
  rcases pull_state σ P l p with e | ⟨o, _, ho, e⟩ <;> rw [e]
  · exact h.finv
  · refine FInv_mapSet h.finv P o _ hP ?_
    rcases Nat.lt_or_ge o σ.classes.length with hc | hc
    · exact hc
    · have : a.ownOf o = none := ownOf_ge a o (by rw [h.len]; exact hc)
      rw [h.sim.ownOf] at this
      simp [FState.ownsObj, this] at ho

theorem pull_refines {σ : FState} {a : State} (h : Ref σ a) (c : ClassId) (hc : c < a.classes.length)
    (s : DescId) (hd : a.descOf c = some s) (p : Frame → Pull) :
    (framesPull σ (σ.objOf s) p (σ.mroOf c)).2 = cutF p (tFrames a c s) ∧
    Ref (framesPull σ (σ.objOf s) p (σ.mroOf c)).1 a :=
  ⟨by rw [pull_frames, pwalk_tFrames h.sim c s (by rw [← h.sim.descOf]; exact hd) (h.coherentF c hc)],
    Ref_pull h _ (h.obj_lt c s hd) _ _⟩

theorem tGetF_refines {σ : FState} {a : State} (h : Ref σ a) (c : ClassId) (hc : c < a.classes.length)
    (s : DescId) (hd : a.descOf c = some s) (k : Key) :
    (tGetF σ c (σ.objOf s) k).2 = tGet a c s k ∧ Ref (tGetF σ c (σ.objOf s) k).1 a :=
  ⟨by simp only [tGetF, (pull_refines h c hc s hd _).1, lookup_cutF]; rfl, (pull_refines h c hc s hd _).2⟩

theorem tItemsF_refines {σ : FState} {a : State} (h : Ref σ a) (c : ClassId) (hc : c < a.classes.length)
    (s : DescId) (hd : a.descOf c = some s) :
    (tItemsF σ c (σ.objOf s)).2 = tItems a c s ∧ Ref (tItemsF σ c (σ.objOf s)).1 a :=
  ⟨by simp only [tItemsF, (pull_refines h c hc s hd _).1, cutF_allP]; rfl, (pull_refines h c hc s hd _).2⟩

/-- the contents of the dict `_base_frame` returns -/
def baseVal (σ : FState) (c : ClassId) (P : ObjId) : Frame :=
  match σ.mapGet P c with
  | some r => σ.deref P r
  | none => if σ.ownsObj c P then σ.initialOf P else []

theorem mapSet_mapSet (σ : FState) (P : ObjId) (c : ClassId) (r r' : FrameRef) :
    (σ.mapSet P c r).mapSet P c r' = σ.mapSet P c r' := by
  simp only [FState.mapSet, set_set]

theorem writeRef_mapSet (σ : FState) (P : ObjId) (c : ClassId) (f : Frame) (g : Frame → Frame) :
    (σ.mapSet P c (.obj f)).writeRef P c g = σ.mapSet P c (.obj (g f)) := by
  simp only [FState.writeRef, mapGet_mapSet, if_true, mapSet_mapSet]

theorem baseFrame_eq {σ : FState} (h : NoAlias σ) (c : ClassId) (P : ObjId) :
    baseFrame false σ c P = σ.mapSet P c (.obj (baseVal σ c P)) := by
  unfold baseFrame baseVal
  cases hm : σ.mapGet P c with
  | some r =>
    cases r with
    | initCell => exact absurd hm (h P c)
    | obj f =>
      simp only [FState.deref, FState.mapSet]
      rw [set_of_get? σ.map (P, c) (.obj f) hm]
  | none =>
    by_cases ho : σ.ownsObj c P = true
    · simp only [ho, if_true, Bool.false_eq_true, if_false]
    · simp only [ho, if_false, Bool.false_eq_true]

theorem writeBase_eq {σ : FState} (h : NoAlias σ) (c : ClassId) (P : ObjId) (g : Frame → Frame) :
    writeBase false σ c P g = σ.mapSet P c (.obj (g (baseVal σ c P))) := by
  unfold writeBase
  rw [baseFrame_eq h, writeRef_mapSet]

theorem Ref.baseKey_cases {σ : FState} {a : State} (h : Ref σ a) (c : ClassId) (s : DescId)
    (hd : a.descOf c = some s) :
    (σ.ownOf c = some s ∧ a.baseKey c s = .init s) ∨ (σ.ownOf c = none ∧ a.baseKey c s = .cls s c) := by
  unfold State.baseKey State.owns
  rw [← h.sim.ownOf]
  cases ho : a.ownOf c with
  | some s0 =>
    have hs : s0 = s := by
      have := h.own_desc c s0 ho
      rw [hd] at this; exact (Option.some.inj this).symm
    subst hs
    exact .inl ⟨rfl, by rw [beq_self_eq_true, if_pos rfl]⟩
  | none => exact .inr ⟨rfl, rfl⟩

theorem baseVal_sim {σ : FState} {a : State} (h : Ref σ a) (c : ClassId) (s : DescId)
    (hd : a.descOf c = some s) : baseVal σ c (σ.objOf s) = a.baseFrame c s := by
  unfold baseVal State.baseFrame
  rcases h.baseKey_cases c s hd with ⟨ho, hk⟩ | ⟨ho, hk⟩
  · have hob : σ.ownsObj c (σ.objOf s) = true := by simp [FState.ownsObj, ho]
    rw [hk, h.sim.owner c s ho]
    simp only [would, hob, if_true]
    cases σ.mapGet (σ.objOf s) c <;> rfl
  · have hd' : σ.descOf c = some s := by rw [← h.sim.descOf]; exact hd
    have hob : σ.ownsObj c (σ.objOf s) = false := by simp [FState.ownsObj, ho]
    rw [hk]
    simp only [State.frameD, h.sim.other c s ho hd', obsC, hob, Bool.false_eq_true, if_false]
    cases σ.mapGet (σ.objOf s) c <;> rfl

theorem Sim_setBase {σ : FState} {a : State} (h : Ref σ a) (c : ClassId) (s : DescId)
    (hd : a.descOf c = some s) (F : Frame) :
    Sim (σ.mapSet (σ.objOf s) c (.obj F)) (a.setFrame (a.baseKey c s) F) where
  classes := h.sim.classes
  ndesc := h.sim.ndesc
  insts := h.sim.insts
  owner := by
    intro c' s' hc'
    have hc'' : σ.ownOf c' = some s' := hc'
    show (a.setFrame (a.baseKey c s) F).frameD (.init s') = would (σ.mapSet (σ.objOf s) c (.obj F)) (σ.objOf s') c'
    rw [frameD_setFrame, would_mapSet, ← h.sim.owner c' s' hc'']
    rcases h.baseKey_cases c s hd with ⟨ho, hk⟩ | ⟨ho, hk⟩
    · rw [hk]
      by_cases e : s = s'
      · subst e
        -- `NoShared`: a slot has one owner
        have : c = c' := h.inv.ns c c' s (by rw [h.sim.ownOf]; exact ho) (by rw [h.sim.ownOf]; exact hc'')
        subst this
        rw [if_pos rfl, if_pos rfl]; rfl
      · have hne : ¬ ((σ.objOf s, c) = (σ.objOf s', c')) := by
          intro hp; rw [(Prod.mk.inj hp).2, hc''] at ho; exact e (Option.some.inj ho).symm
        rw [if_neg hne, if_neg (fun hp => e (FrameKey.init.inj hp))]
    · have hne : ¬ ((σ.objOf s, c) = (σ.objOf s', c')) := by
        intro hp; rw [(Prod.mk.inj hp).2, hc''] at ho; cases ho
      rw [hk, if_neg hne, if_neg (fun hp => FrameKey.noConfusion hp)]
  other := by
    intro c' s' hc' hd'
    have hc'' : σ.ownOf c' = none := hc'
    have hd'' : σ.descOf c' = some s' := hd'
    show AList.get? (a.setFrame (a.baseKey c s) F).frames (.cls s' c')
      = obsC (σ.mapSet (σ.objOf s) c (.obj F)) (σ.objOf s') c'
    rw [frames_setFrame, obsC_mapSet, ← h.sim.other c' s' hc'' hd'']
    rcases h.baseKey_cases c s hd with ⟨ho, hk⟩ | ⟨ho, hk⟩
    · have hne : ¬ ((σ.objOf s, c) = (σ.objOf s', c')) := by
        intro hp; rw [(Prod.mk.inj hp).2, hc''] at ho; cases ho
      rw [hk, if_neg hne, if_neg (fun hp => FrameKey.noConfusion hp)]
    · rw [hk]
      by_cases e : c = c'
      · subst e
        have hs : s = s' := by
          rw [← h.sim.descOf, hd] at hd''; exact Option.some.inj hd''
        subst hs
        rw [if_pos rfl, if_pos rfl]; rfl
      · rw [if_neg (fun hp => e (Prod.mk.inj hp).2), if_neg (fun hp => e (FrameKey.cls.inj hp).2)]

theorem Inv_setBase {a : State} (hi : Inv a) (c : ClassId) (hc : c < a.classes.length) (s : DescId)
    (hd : a.descOf c = some s) (F : Frame) : Inv (a.setFrame (a.baseKey c s) F) :=
  ⟨WF_setFrame a hi.wf _ F (baseKey_lt a hi.wf c s hc hd), NoShared_congr rfl hi.ns,
    AllCoherent_congr rfl hi.co⟩

theorem Ref_setBase {σ : FState} {a : State} (h : Ref σ a) (c : ClassId) (hc : c < a.classes.length)
    (s : DescId) (hd : a.descOf c = some s) (F : Frame) :
    Ref (σ.mapSet (σ.objOf s) c (.obj F)) (a.setFrame (a.baseKey c s) F) :=
  ⟨Sim_setBase h c s hd F, Inv_setBase h.inv c hc s hd F,
    FInv_mapSet h.finv _ c F (h.obj_lt c s hd) (by rw [← h.len]; exact hc)⟩

/-- `P` with `hP` in place of `σ.objOf s`: at the calls `σ` is the state after a read, `P` the object before it -/
theorem writeBase_refines {σ : FState} {a : State} (h : Ref σ a) (c : ClassId) (hc : c < a.classes.length)
    (s : DescId) (hd : a.descOf c = some s) (P : ObjId) (hP : σ.objOf s = P) (g : Frame → Frame) :
    Ref (writeBase false σ c P g) (a.setFrame (a.baseKey c s) (g (a.baseFrame c s))) := by
  subst hP
  rw [writeBase_eq h.finv.noAlias, baseVal_sim h c s hd]
  exact Ref_setBase h c hc s hd _

theorem isRead_false (o : Op) (hw : isRead o = false) (r : Reader) : dictLikeRead r o = none := by
  apply Option.not_isSome_iff_eq_none.mp
  rw [dictLikeRead_isSome, hw]
  exact Bool.false_ne_true

theorem tItems_setSelf (a : State) (key : FrameKey) (c : ClassId) (d : DescId) :
    tItems (a.setFrame key (a.frameD key)) c d = tItems a c d := by
  simp only [tItems, tFrames, mroOf_setFrame, walk_flatten_setSelf]

theorem setFrame_setFrame (a : State) (key : FrameKey) (f g : Frame) :
    (a.setFrame key f).setFrame key g = a.setFrame key g := by
  simp only [State.setFrame, set_set]

/-- `clear()` through a class view: `_base_frame` first, then `keys()` pulled to the end, then the
    tombstones -/
theorem clear_refines {σ : FState} {a : State} (h : Ref σ a) (c : ClassId) (hc : c < a.classes.length)
    (s : DescId) (hd : a.descOf c = some s) :
    Ref (tWriteF false σ c (σ.objOf s) .clear).1 (tWrite a c s .clear).1 := by
  have e1 : baseFrame false σ c (σ.objOf s) = σ.mapSet (σ.objOf s) c (.obj (a.baseFrame c s)) := by
    rw [baseFrame_eq h.finv.noAlias, baseVal_sim h c s hd]
  have h1 : Ref (σ.mapSet (σ.objOf s) c (.obj (a.baseFrame c s)))
      (a.setFrame (a.baseKey c s) (a.baseFrame c s)) := Ref_setBase h c hc s hd _
  obtain ⟨hv, h2⟩ := tItemsF_refines h1 c hc s hd
  have hobj : (σ.mapSet (σ.objOf s) c (.obj (a.baseFrame c s))).objOf s = σ.objOf s := rfl
  rw [hobj] at hv h2
  have hv' : (tItemsF (σ.mapSet (σ.objOf s) c (.obj (a.baseFrame c s))) c (σ.objOf s)).2 = tItems a c s :=
    hv.trans (tItems_setSelf a (a.baseKey c s) c s)
  have hm2 : (tItemsF (σ.mapSet (σ.objOf s) c (.obj (a.baseFrame c s))) c (σ.objOf s)).1.mapGet (σ.objOf s) c
      = some (.obj (a.baseFrame c s)) :=
    pull_mapGet_some _ _ _ _ _ _ _ (by rw [mapGet_mapSet, if_pos rfl])
  have h3 := writeBase_refines h2 c hc s hd (σ.objOf s) (pull_objOf _ _ _ _ s)
    (fun f => ((tItems a c s).map (·.1)).foldl (fun f k => AList.set f k .deleted) f)
  have hb : (a.setFrame (a.baseKey c s) (a.baseFrame c s)).baseFrame c s = a.baseFrame c s := by
    show (a.setFrame (a.baseKey c s) (a.baseFrame c s)).frameD (a.baseKey c s) = _
    rw [frameD_setFrame, if_pos rfl]
  have hk : (a.setFrame (a.baseKey c s) (a.baseFrame c s)).baseKey c s = a.baseKey c s := rfl
  rw [hk, hb, setFrame_setFrame] at h3
  simp only [writeBase, baseFrame, hm2] at h3
  simp only [tWriteF, tWrite, e1, hv']
  exact h3

/-- both sides run `writeOp`: the reads agree, and a write through `_base_frame` re-establishes `Ref` -/
theorem tWrite_refines {σ : FState} {a : State} (h : Ref σ a) (c : ClassId) (hc : c < a.classes.length)
    (s : DescId) (hd : a.descOf c = some s) (o : Op) :
    (tWriteF false σ c (σ.objOf s) o).2 = (tWrite a c s o).2 ∧
    Ref (tWriteF false σ c (σ.objOf s) o).1 (tWrite a c s o).1 := by
  by_cases ho : o = .clear
  · subst ho; exact ⟨rfl, clear_refines h c hc s hd⟩
  have hget : (fun k => (tGetF σ c (σ.objOf s) k).2) = tGet a c s :=
    funext fun k => (tGetF_refines h c hc s hd k).1
  obtain ⟨href, hobj⟩ := afterRead_ind (σ := σ) (getF := tGetF σ c (σ.objOf s)) (itemsF := tItemsF σ c (σ.objOf s))
    (fun τ => Ref τ a ∧ τ.objOf s = σ.objOf s) ⟨h, rfl⟩
    (fun k => ⟨(tGetF_refines h c hc s hd k).2, pull_objOf _ _ _ _ s⟩)
    ⟨(tItemsF_refines h c hc s hd).2, pull_objOf _ _ _ _ s⟩ o
  rw [tWriteF_eq _ _ _ _ _ ho, tWrite_eq, hget, (tItemsF_refines h c hc s hd).1]
  cases (writeOp (tGet a c s) ((tItems a c s).map (·.1)) o).1 with
  | none => exact ⟨rfl, href⟩
  | some g => exact ⟨rfl, writeBase_refines href c hc s hd _ hobj g⟩

theorem classOp_refines {σ : FState} {a : State} (h : Ref σ a) (c : ClassId) (o : Op) :
    (classOpF false σ c o).2 = (classOp a c o).2 ∧ Ref (classOpF false σ c o).1 (classOp a c o).1 := by
  simp only [classOpF, classOp, ← h.len, ← h.sim.descOf]
  by_cases hc : c < a.classes.length
  · simp only [hc, if_true]
    cases hd : a.descOf c with
    | none => exact ⟨rfl, h⟩
    | some s =>
      cases hp : pullOf o with
      | some p =>
        obtain ⟨res, hres⟩ := dictLikeRead_isRead (tReader a c s) o p hp
        have hr : tReader a c s = readerOf (tFrames a c s) := rfl
        simp only [(pull_refines h c hc s hd p).1, read_cutF _ o p hp, ← hr, hres, Option.getD_some]
        exact ⟨trivial, (pull_refines h c hc s hd p).2⟩
      | none =>
        cases hw : isRead o with
        | false =>
          simp only [isRead_false o hw]
          exact tWrite_refines h c hc s hd o
        | true =>
          -- popitem: raises NotImplementedError on both sides
          have : o = .popitem := by
            cases o <;> simp only [pullOf, isRead, reduceCtorEq] at hp hw <;> rfl
          subst this
          exact ⟨rfl, h⟩
  · simp only [hc, if_false]
    exact ⟨trivial, h⟩

/-- every mutating method (`__setitem__`, `__delitem__`, `pop`, `setdefault`, `clear`, `update`) through a class
    view of the mechanism — `_base_frame` materialising the frame of the view's class (a copy of `initial_set`
    for the owner, `{}` otherwise), the reads it performs materialising the owner's frame on the way — returns
    model A's result, and the new mechanism state refines model A's new state -/
theorem classWrite_refines {σ : FState} {a : State} (h : Ref σ a) (c : ClassId) (o : Op)
    (hw : isRead o = false) :
    (classOpF false σ c o).2 = (classOp a c o).2 ∧ Ref (classOpF false σ c o).1 (classOp a c o).1 :=
  classOp_refines h c o

end Flatland.C17.Frames.Proofs
