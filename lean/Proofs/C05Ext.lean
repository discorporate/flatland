/-
C05 — `validate(recurse=False)`, the `all_valid` setter / getter over the `.valid` store, and the
`validator_validated` signal trace.
-/
import Proofs.C05Store
namespace Flatland.C05.Proofs
open Flatland.C05 Flatland.C05.Spec

/-- `validate(recurse=False)` = the documented statement, for every element: the element ends with (and the call
    returns) its OWN verdict by the rules of the full algorithm; exact invocation log -/
theorem validate_norecurse_refines (i : Info) : validateNoRecurse i = specNoRecurse i := by
  simp only [validateNoRecurse, specNoRecurse, noRecurseLog, validateDown_eq, validateUp_eq, validAfter_eq]

/-- the invocation log of `recurse=False` is the documented one — the element's descent list, then its ascent
    list, each cut at its first failure or Skip — for EVERY element -/
theorem norecurse_log_refines (i : Info) : (validateNoRecurse i).log = (specNoRecurse i).log :=
  congrArg NoRec.log (validate_norecurse_refines i)

/-- the documented statement, as a proposition about a candidate implementation of the branch -/
def NoRecurseSpec (impl : Info → NoRec) : Prop := ∀ i : Info, impl i = specNoRecurse i

def NoRecurse_Full : Prop := NoRecurseSpec validateNoRecurse

theorem norecurse_full : NoRecurse_Full := validate_norecurse_refines

/-- `recurse=False` is `validate()` on the element alone (the one-element tree), unconditionally -/
theorem norecurse_eq_single (i : Info) :
    (validateNoRecurse i).valid.truthy = (validate (.node i [])).ret := by
  rw [validate_norecurse_refines, validate_refines]
  simp [specNoRecurse, specValidate, expectedRet, visited, prune, pruneL, levelOrder, VTree.info, VTree.kids]

/-! #### the code before repair 10acb0e, as a counter-model (regression witness of KF-C05-a) -/

theorem old_norecurse_refines (i : Info) :
    oldValidateNoRecurse i = { valid := lastPhaseVerdict i, log := noRecurseLog i } := by
  simp only [oldValidateNoRecurse, noRecurseLog, validateDown_eq, validateUp_eq, lastPhaseVerdict]
  cases (upVerdict i).1 <;> cases (downVerdict i).1 <;> rfl

/-- the old code met the documented statement wherever the phases do not contradict each other -/
theorem old_norecurse_refines_partial (i : Info) (h : phasesAgree i = true) :
    oldValidateNoRecurse i = specNoRecurse i := by
  rw [old_norecurse_refines]
  simp only [specNoRecurse]
  congr 1
  simp only [phasesAgree] at h
  simp only [lastPhaseVerdict, verdict]
  revert h
  cases (upVerdict i).1 <;> cases (downVerdict i).1 <;> simp [Ret.truthy, Valid.ofBool]

/-- a container whose descent list fails and whose ascent list passes -/
def exOverride : Info := ⟨0, true, false, false, [.fls], [.tru]⟩

/-- … and violated it in general: the ascent result replaced a failed descent result -/
theorem oldNoRecurse_fails : ¬ NoRecurseSpec oldValidateNoRecurse := by
  intro h
  exact absurd (congrArg NoRec.valid (h exOverride)) (by decide +kernel)

/-- the witness through the repaired branch, the old branch and the full algorithm -/
example : (validateNoRecurse exOverride).valid = .fls ∧ (oldValidateNoRecurse exOverride).valid = .tru ∧
    (validate (.node exOverride [])).ret = false := by
  decide +kernel

example : phasesAgree ⟨0, true, false, false, [.tru, .skip, .fls], [.tru, .none]⟩ = true := by
  decide +kernel

theorem listVerdict_ne_uneval (vs : List Outcome) : listVerdict vs ≠ .uneval := by
  induction vs with
  | nil => simp [listVerdict]
  | cons a b ih => cases a <;> simp [listVerdict, ih]

theorem elementVerdict_ne_uneval (i : Info) (vs : List Outcome) : (elementVerdict i vs).1 ≠ .uneval := by
  unfold elementVerdict
  split
  · simp
  · split
    · split <;> simp
    · exact listVerdict_ne_uneval _

theorem ofBool_ne_uneval (b : Bool) : Valid.ofBool b ≠ .uneval := by cases b <;> simp [Valid.ofBool]

/-- with the two `_validate` variants of the library the value returned is a bool: a container always evaluates
    its ascent, any other element always evaluates its descent -/
theorem norecurse_ret_is_bool (i : Info) : (validateNoRecurse i).valid ≠ .uneval := by
  rw [validate_norecurse_refines]
  simp only [specNoRecurse, verdict]
  cases hc : i.container
  · have hu : (upVerdict i).1 = .uneval := by simp [upVerdict, hc]
    have hd : (downVerdict i).1 ≠ .uneval := by
      simp only [downVerdict, hc]; exact elementVerdict_ne_uneval _ _
    rw [hu]
    cases h : (downVerdict i).1 <;> simp_all [ofBool_ne_uneval]
  · have hu : (upVerdict i).1 ≠ .uneval := by
      simp only [upVerdict, hc]; exact elementVerdict_ne_uneval _ _
    cases h : (upVerdict i).1 <;> cases h' : (downVerdict i).1 <;> simp_all [ofBool_ne_uneval]

/-- No other element's `.valid` is touched, children in particular (the tree's elements are distinct) -/
theorem norecurse_children_untouched (prev : Nat → Valid) (i : Info) (kids : List VTree)
    (hnd : (VTree.node i kids).ids.Nodup) :
    (∀ id ∈ idsL kids, validNowNoRec prev i id = prev id) ∧
    (∀ id, id ≠ i.id → validNowNoRec prev i id = prev id) ∧
    (∀ c ∈ (validateNoRecurse i).log, c.1 = i.id) := by
  refine ⟨?_, ?_, ?_⟩
  · intro id hid
    simp only [VTree.ids, List.nodup_cons] at hnd
    have : id ≠ i.id := fun he => hnd.1 (he ▸ hid)
    simp [validNowNoRec, this]
  · intro id hne; simp [validNowNoRec, hne]
  · intro c hc
    simp only [validateNoRecurse, List.mem_append, callsOf, List.mem_map] at hc
    rcases hc with ⟨_, _, rfl⟩ | ⟨_, _, rfl⟩ <;> rfl

/-- after `validate(recurse=False)` the element itself holds what the call returns -/
theorem norecurse_own (prev : Nat → Valid) (i : Info) :
    validNowNoRec prev i i.id = (validateNoRecurse i).valid := by simp [validNowNoRec]

theorem root_mem_ids (t : VTree) : t.info.id ∈ t.ids := by
  cases t with | node i k => simp [VTree.ids, VTree.info]

/-- After `el.all_valid = v` the element and ALL its descendants carry `v`, `el.all_valid` reads
    `bool(v)`, and nothing outside the sub-tree is written -/
theorem all_valid_after_set (prev : Nat → Valid) (t : VTree) (v : Valid) :
    (∀ id ∈ t.ids, setAllValid prev t v id = v) ∧
    allValid (setAllValid prev t v) t = v.truthy ∧
    (∀ id, id ∉ t.ids → setAllValid prev t v id = prev id) := by
  refine ⟨fun id h => by simp [setAllValid, h], ?_, fun id h => by simp [setAllValid, h]⟩
  unfold allValid
  cases hv : v.truthy
  · apply List.all_eq_false.mpr
    exact ⟨t.info.id, root_mem_ids t, by simp [setAllValid, root_mem_ids, hv]⟩
  · apply List.all_eq_true.mpr
    intro id h; simp [setAllValid, h, hv]

theorem allValidNow_eq (prev : Nat → Valid) (t : VTree) : allValidNow prev t = allValid (validNow prev t) t := rfl

/-- the getter's conjunction runs over `self` and `all_children` (breadth-first): same elements as the preorder -/
theorem all_valid_getter_level_order (st : Nat → Valid) (t : VTree) :
    allValid st t = (levelOrder [t]).all (fun i => (st i.id).truthy) := by
  unfold allValid
  rw [← (levelOrder_single_perm t).all_eq, List.all_map]
  rfl

/-- `fresh_ret_eq_all_valid` for histories that use the setter first: after `root.all_valid = v` with a truthy
    `v` on a tree `whole` that contains `t`, `t.validate()` returns `t.all_valid` -/
theorem ret_eq_all_valid_after_set (prev : Nat → Valid) (whole t : VTree) (v : Valid) (hv : v.truthy = true)
    (hsub : ∀ id ∈ t.ids, id ∈ whole.ids) (hnd : t.ids.Nodup) :
    (validate t).ret = allValidNow (setAllValid prev whole v) t := by
  apply ret_eq_all_valid_of_store _ t hnd
  intro id hid _
  simp [setAllValid, hsub id hid, hv]

def exCut : VTree :=
  .node ⟨0, true, false, false, [.skipAll], []⟩ [ .node ⟨1, false, false, false, [.tru], []⟩ [] ]

/-- `ret_eq_all_valid_after_set` is FALSE after `all_valid = False` (or after an earlier failed validation) when
    an element stays unvisited: the return value speaks of visited elements only -/
theorem ret_ne_all_valid_after_set_false :
    (validate exCut).ret = true ∧ allValidNow (setAllValid (fun _ => .uneval) exCut .fls) exCut = false := by
  decide +kernel

example : allValid (setAllValid (fun _ => .tru) exTree .fls) exTree = false :=
  (all_valid_after_set _ exTree .fls).2.1

theorem filterMap_call_signal (s : Signal) (l : List Event) :
    (Event.signal s :: l).filterMap Event.call? = l.filterMap Event.call? := rfl
theorem filterMap_call_call (c : Call) (l : List Event) :
    (Event.call c :: l).filterMap Event.call? = c :: l.filterMap Event.call? := rfl

theorem traceRun_calls (id : Nat) (d : Bool) (k : Nat) (vs : List Outcome) :
    (traceRun id d k vs).filterMap Event.call? = (List.range' k (invoked vs)).map (fun j => (id, d, j)) := by
  induction vs generalizing k with
  | nil => rfl
  | cons o rest ih =>
    cases o <;>
      simp [traceRun, Outcome.goesOn, invoked, filterMap_call_signal, filterMap_call_call, List.range'_succ, ih]

theorem traceRun_eq (id : Nat) (d : Bool) (k : Nat) (vs : List Outcome) :
    traceRun id d k vs = (sigsFrom id d k vs).flatMap eventsOf := by
  induction vs generalizing k with
  | nil => simp [traceRun, sigsFrom]
  | cons o rest ih =>
    cases o <;> simp [traceRun, Outcome.goesOn, sigsFrom, eventsOf, ih]

theorem traceElement_eq (i : Info) (d : Bool) (vs : List Outcome) :
    traceElement i d vs = (elementSignals i d vs).flatMap eventsOf := by
  unfold traceElement elementSignals
  split
  · rfl
  · cases vs with
    | nil => simp [eventsOf]
    | cons o r => simp [traceRun_eq]

theorem traceDown_eq (i : Info) : traceDown i = (downSignals i).flatMap eventsOf := by
  unfold traceDown downSignals
  split
  · cases h : i.down <;> simp [traceElement_eq]
  · simp [traceElement_eq]

theorem traceUp_eq (i : Info) : traceUp i = (upSignals i).flatMap eventsOf := by
  unfold traceUp upSignals
  split <;> simp [traceElement_eq]

theorem traceElement_calls (i : Info) (d : Bool) (vs : List Outcome) :
    (traceElement i d vs).filterMap Event.call? = callsOf i.id d (validateElement i vs).2 := by
  rw [validateElement_eq]
  unfold traceElement elementVerdict
  split
  · simp [callsOf]
  · cases vs with
    | nil => simp [Event.call?, callsOf]
    | cons o r => simp [traceRun_calls, callsOf, List.range_eq_range']

theorem traceDown_calls (i : Info) :
    (traceDown i).filterMap Event.call? = callsOf i.id true (validateDown i).2 := by
  unfold traceDown validateDown
  split
  · split
    · simp [callsOf]
    · exact traceElement_calls i true i.down
  · exact traceElement_calls i true i.down

theorem traceUp_calls (i : Info) :
    (traceUp i).filterMap Event.call? = callsOf i.id false (validateUp i).2 := by
  unfold traceUp validateUp
  split
  · exact traceElement_calls i false i.up
  · simp [callsOf]

/-- The invocations in the trace are the call log: connecting a receiver changes nothing about which
    validators run, and every signal from a validator sits right behind that validator's invocation -/
theorem signals_eq_calls (t : VTree) :
    (validateTrace t).filterMap Event.call? = (validate t).log := by
  simp only [validateTrace, validate, List.filterMap_append, List.filterMap_flatMap, traceDown_calls, traceUp_calls]

/-- The trace is the documented one: one signal per validator invoked, in invocation order, with the raw
    result, each directly after its invocation; one `NotEmpty` signal (no invocation) for the fallback check of a
    visited element that is not optional-and-empty and has no validators in the phase (containers: ascent only) -/
theorem trace_refines (t : VTree) : validateTrace t = expectedTrace t := by
  simp only [validateTrace, expectedTrace, expectedSignals, descend_visits, List.flatMap_append,
    ← List.map_reverse, List.flatMap_map, mkVisit, traceDown_eq, traceUp_eq, List.flatMap_assoc]

theorem norecurse_trace_refines (i : Info) :
    noRecurseTrace i = expectedNoRecurseTrace i ∧
    (noRecurseTrace i).filterMap Event.call? = (validateNoRecurse i).log := by
  constructor
  · simp [noRecurseTrace, expectedNoRecurseTrace, traceDown_eq, traceUp_eq]
  · simp [noRecurseTrace, validateNoRecurse, traceDown_calls, traceUp_calls]

theorem trace_signals (t : VTree) : (validateTrace t).filterMap Event.signal? = expectedSignals t := by
  rw [trace_refines, expectedTrace, List.filterMap_flatMap]
  have : ∀ s : Signal, (eventsOf s).filterMap Event.signal? = [s] := by
    intro s; cases s with | mk a b c => cases b <;> rfl
  simp [this]

example : validateTrace exCut =
    [.call (0, true, 0), .signal ⟨0, .validator true 0, .skipAll⟩, .signal ⟨0, .notEmpty, .tru⟩] := by
  decide +kernel

end Flatland.C05.Proofs
