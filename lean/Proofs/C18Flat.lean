/-
C18 — "the Ref itself never appears in flat output".  Model: Flatland/C18Flat.lean over the queue
loop `Flatland.Flat.bfsFlat`; flags from Flatland/Generated/C18Flags.lean.
-/
import Flatland.C18Flat
import Proofs.Lemmas.FlatBfs
namespace Flatland.C18.Flat.Proofs
open Flatland.Scalar Flatland.C18 Flatland.C18.Flat Flatland.Generated.C18
open Flatland.Flat

/-- generated obligation: class Ref is not flattenable in the current source -/
theorem ref_flags_ok : refFlattenable = false := by decide

/-- `it` stands anywhere in the queue of `flatten`, so anywhere in the tree -/
theorem nonflattenable_leaf_contributes_nothing (sep : List Char) (a b : List QItem) (it : QItem)
    (hfl : it.2.fl = false) (hk : it.2.kids = []) :
    bfsFlat sep (a ++ it :: b) = bfsFlat sep (a ++ b) := by
  rw [bfsFlat_append, bfsFlat_append sep a b]
  congr 1
  rw [List.cons_append, bfsFlat_cons]
  have h1 : ownPair sep it = [] := by simp [ownPair, hfl]
  have h2 : pushed it = [] := by
    unfold pushed childItems
    rw [hk]
    split <;> simp [kidsFrom]
  simp [h1, h2]

/-- C18, "the Ref itself never appears in flat output": for every form tree, target path and separator the form
    with its Ref field flattens like the same form without it.  The only fact about class Ref used is the
    generated `ref_flags_ok` (`Ref.flattenable = False`, re-read from the source on every run); a Ref has no
    children because it is a Scalar. -/
theorem ref_absent_from_flat (sep : List Char) (t : Tree) (path : List PStep) :
    flattenNode sep (formNode t path) = flattenNode sep (treeNode none t) := by
  unfold formNode
  cases h : treeNode none t with
  | mk nm fl cfl u sl kids =>
    simp only [withField, flattenNode, FNode.fl, FNode.cfl, FNode.u]
    congr 1
    by_cases hc : cfl = true
    · simp only [hc, if_true]
      simp only [childItems, FNode.kids, FNode.slots]
      rw [kidsFrom_append]
      simp only [kidsFrom, namePath, FNode.name]
      exact (nonflattenable_leaf_contributes_nothing sep _ [] _ (by simp [refNode, FNode.fl, ref_flags_ok])
        (by simp [refNode, FNode.kids])).trans (by rw [List.append_nil])
    · simp [hc]

/-- non-vacuity: the form `Dict{sub: Dict{t}, o, r: Ref('../sub/t')}` flattens to its two scalars -/
example :
    formFlat (.dict ["sub".toList, "o".toList]
      [.dict ["t".toList] [.leaf 0 (.string true) ⟨.none, .str ['v'], ['v']⟩], .leaf 1 (.string true) ⟨.none, .none, []⟩])
      [.name "sub".toList, .name "t".toList] = [(['o'], []), ("sub_t".toList, ['v'])] := by
  simp [formFlat, formNode, withField, treeNode, dictKids, refNode, refText, flattenNode, FNode.fl, FNode.cfl, FNode.u,
    childItems, kidsFrom, namePath, FNode.name, FNode.kids, FNode.slots, bfsFlat_cons, bfsFlat_nil, ownPair, pushed, joinSep,
    dictFlattenable, dictChildrenFlattenable, scalarFlattenable, scalarChildrenFlattenable, refFlattenable,
    refChildrenFlattenable]

end Flatland.C18.Flat.Proofs
