/-
C08 — the element tree stays a tree.  The local invariant `wp` (every stored child points to its holder) and a root
without parent give the global clause `TreeInv` (`treeinv_of_wp`); a call applied inside a tree keeps `wp` of the whole
tree as soon as it keeps the header and `wp` of the element it is applied to (`stepAt_wp`, the frame rule).  `KidsWP`
is `wp` one level down: what the edits of a node have to keep of its underlying list.
-/
import Flatland.C08
import Flatland.Spec.C08
import Proofs.Lemmas.TreeHdr
import Proofs.Lemmas.TreeCtx
import Proofs.C08Shape
import Proofs.Lemmas.PyListMem
namespace Flatland.C08.Proofs
open Flatland.Tree Flatland.PyList Flatland.C08 Flatland.C08.Spec

theorem wpL_iff (p : Nat) (ks : List Node) :
    wpL p ks = true ↔ ∀ k ∈ ks, k.parent = some p ∧ wp k = true := by
  induction ks with
  | nil => simp [wpL]
  | cons k ks ih =>
    simp only [wpL, Bool.and_eq_true, beq_iff_eq, ih, List.mem_cons, forall_eq_or_imp]

theorem wp_iff (n : Node) : wp n = true ↔ ∀ k ∈ n.kids, k.parent = some n.id ∧ wp k = true := by
  cases n with
  | mk i s kids => rw [wp, wpL_iff]; rfl

theorem wp_of_anc {root x : Node} {as : List Node} (h : Anc root x as) (hw : wp root = true) : wp x = true := by
  induction h with
  | root => exact hw
  | kid _ hc ih => exact ((wp_iff _).mp ih _ hc).2

/-- In a well-parented tree whose root has no parent, the stored pointers
    of every node walk exactly its holders, nearest first, and end at the root. -/
theorem treeinv_of_wp {root : Node} (hw : wp root = true) (hr : root.parent = none) : TreeInv root := by
  intro x as h
  induction h with
  | root => exact hr
  | kid hp hc ih => exact ⟨((wp_iff _).mp (wp_of_anc hp hw) _ hc).1, ih⟩

theorem anc_last {root x : Node} {as : List Node} (h : Anc root x as) : as = [] ∧ x = root ∨ as.getLast? = some root := by
  induction h with
  | root => exact .inl ⟨rfl, rfl⟩
  | @kid p c as' hp _ ih =>
    rcases ih with ⟨h1, h2⟩ | h1
    · subst h1; subst h2; exact .inr rfl
    · right
      cases as' with
      | nil => simp at h1
      | cons a as'' => simpa [List.getLast?_cons_cons] using h1

/-- what a call must do to the element it is applied to -/
def Good (op : Op) : Prop :=
  ∀ (n : Node) (next : Nat), wp n = true →
    (nodeStep n op next).node.hdr = n.hdr ∧ wp (nodeStep n op next).node = true

theorem id_of_hdr {a b : Node} (h : a.hdr = b.hdr) : a.id = b.id := (parent_of_hdr h).2

theorem parent_eq_of_hdr {a b : Node} {p : Option Nat} (h : a.hdr = b.hdr) (hb : b.parent = p) : a.parent = p :=
  (parent_of_hdr h).1.trans hb

theorem wpL_swap {p : Nat} {pre post : List Node} {k k' : Node}
    (h : wp k = true → k'.hdr = k.hdr ∧ wp k' = true) (hw : wpL p (pre ++ k :: post) = true) :
    wpL p (pre ++ k' :: post) = true := by
  rw [wpL_iff] at hw ⊢
  have hk := hw k (by simp)
  exact forall_mem_swap (k' := k') hw (fun _ => ⟨parent_eq_of_hdr (h hk.2).1 hk.1, (h hk.2).2⟩)

theorem _root_.Flatland.Tree.Swap.wp {n n' t t' : Node} (h : Swap n n' t t')
    (hn : wp n = true → n'.hdr = n.hdr ∧ wp n' = true) : wp t = true → t'.hdr = t.hdr ∧ wp t' = true := by
  induction h with
  | here => exact hn
  | kid _ ih => intro hw; exact ⟨rfl, by rw [Spec.wp] at hw ⊢; exact wpL_swap ih hw⟩

theorem stepAt_wp (op : Op) (hg : Good op) (tid : Nat) :
    ∀ (t : Node) (next : Nat) (r : StepR), wp t = true → stepAt t tid op next = some r →
      r.node.hdr = t.hdr ∧ wp r.node = true := by
  intro t next r hw hr
  obtain ⟨n, _, hs, _⟩ := stepAt_swap op tid next t r hr
  exact hs.wp (hg n next) hw

theorem stepAtL_wp (op : Op) (hg : Good op) (tid : Nat) :
    ∀ (ks : List Node) (p : Nat) (next : Nat) (ks' : List Node) (r : StepR), wpL p ks = true →
      stepAtL ks tid op next = some (ks', r) → wpL p ks' = true := by
  intro ks p next ks' r hw hr
  obtain ⟨pre, k, post, rfl, rfl, hk⟩ := stepAtL_split op tid next _ _ _ hr
  exact wpL_swap (fun hwk => stepAt_wp op hg tid k next r hwk hk) hw

theorem hstep_wp (s : HState) (h : HOp) (hg : Good h.op) (hw : wp s.root = true) (hr : s.root.parent = none) :
    wp (hstep s h).root = true ∧ (hstep s h).root.parent = none := by
  rcases hstep_cases s h with ⟨_, e⟩ | ⟨r, hs, e⟩ <;> rw [e]
  · exact ⟨hw, hr⟩
  · have := stepAt_wp h.op hg h.target s.root s.next r hw hs
    exact ⟨this.2, parent_eq_of_hdr this.1 hr⟩

theorem hrun_wp (hs : List HOp) : ∀ (s : HState), (∀ h ∈ hs, Good h.op) → wp s.root = true →
    s.root.parent = none → wp (hrun s hs).root = true ∧ (hrun s hs).root.parent = none :=
  fun s hg hw hr =>
    hrun_induct (I := fun s => wp s.root = true ∧ s.root.parent = none) (H := fun _ hs => ∀ h ∈ hs, Good h.op)
      (fun s h _ hi hg => ⟨hstep_wp s h (hg h (by simp)) hi.1 hi.2, fun x hx => hg x (by simp [hx])⟩) hs s ⟨hw, hr⟩ hg

theorem hrun_treeinv (hs : List HOp) : ∀ (s : HState), (∀ h ∈ hs, Good h.op) → wp s.root = true →
    s.root.parent = none → TreeInv (hrun s hs).root :=
  fun s hg hw hr => treeinv_of_wp (hrun_wp hs s hg hw hr).1 (hrun_wp hs s hg hw hr).2

/- The stored-parent invariant of an underlying list (`KidsWP`) under the edits of a node: new children, a new
   key or parent pointer, a new slot, appending a wrapped element. -/
def KidsWP (p : Nat) (ks : List Node) : Prop := ∀ k ∈ ks, k.parent = some p ∧ wp k = true

theorem wp_withKids (n : Node) (ks : List Node) : wp (n.withKids ks) = true ↔ KidsWP n.id ks := by
  cases n with
  | mk i s kids => rw [Node.withKids, wp, wpL_iff]; rfl

theorem wp_withKey (x : Node) (k : Str) : wp (x.withKey k) = wp x := by cases x; rfl
theorem wp_withParent (x : Node) (p : Option Nat) : wp (x.withParent p) = wp x := by cases x; rfl
theorem parent_withKey (x : Node) (k : Str) : (x.withKey k).parent = x.parent := by cases x; rfl
theorem id_withKids (x : Node) (ks : List Node) : (x.withKids ks).id = x.id := by cases x; rfl
theorem parent_withKids (x : Node) (ks : List Node) : (x.withKids ks).parent = x.parent := by cases x; rfl

theorem wp_mkSlot (id lst nm : Nat) (e : Node) (he : wp e = true) :
    (mkSlot id lst nm e).parent = some lst ∧ wp (mkSlot id lst nm e) = true := by
  refine ⟨rfl, ?_⟩
  simp only [mkSlot, wp, wpL, Bool.and_eq_true, beq_iff_eq, and_true]
  exact ⟨parent_withParent _ _, by rw [wp_withParent]; exact he⟩

theorem appendEl_wp (n e : Node) (hn : KidsWP n.id n.kids) (he : wp e = true) (next : Nat) :
    KidsWP n.id (appendEl n e next).1.kids :=
  appendEl_forall n e next hn (fun _ => wp_mkSlot _ _ _ e he)
    (fun _ => ⟨parent_withParent _ _, by rw [wp_withParent]; exact he⟩)

theorem mem_take_drop {α : Type} {l : List α} {a b : Nat} {x : α} (h : x ∈ (l.drop a).take b) : x ∈ l :=
  List.mem_of_mem_drop (List.mem_of_mem_take h)

end Flatland.C08.Proofs
