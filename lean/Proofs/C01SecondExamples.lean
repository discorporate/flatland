/-
C01, flatten-level clauses: non-vacuity on states where something really is pruned, and the witness
that the pruning is not idempotent on trees (so the second-round-trip clause is about flat output).
-/
import Proofs.C01Examples
import Proofs.C01JoinedExamples
import Proofs.C01Second
namespace Flatland.Flat.Proofs
open Flatland.Flat Flatland.Flat.Spec

/-! ### the pruning List of `C01Examples`: `['', 'z', '']` -/

/-- the first trip really prunes … -/
theorem ex3_flatten : flatten exEnv01 "_".toList exSchema2 exElem3
    = [("l_0".toList, "".toList), ("l_1".toList, "z".toList), ("l_2".toList, "".toList)] := by
  rw [flatten_eq_flattenE]; decide +kernel

theorem ex3_flatten_pruned : flatten exEnv01 "_".toList exSchema2
      (fromFlat exEnv01 "_".toList exSchema2 (flatten exEnv01 "_".toList exSchema2 exElem3))
    = [("l_0".toList, "z".toList)] := by
  rw [roundtrip_pruned exEnv01 "_".toList exSchema2 exElem3 ex2_sepSafe exEnvOK (by decide +kernel) (by decide +kernel)
    (by decide +kernel) ex3_okP, ex3_pr]
  rw [flatten_eq_flattenE]; decide +kernel

/-- … and the second trip changes nothing -/
example : flatten exEnv01 "_".toList exSchema2
      (fromFlat exEnv01 "_".toList exSchema2 (flatten exEnv01 "_".toList exSchema2
        (fromFlat exEnv01 "_".toList exSchema2 (flatten exEnv01 "_".toList exSchema2 exElem3))))
    = [("l_0".toList, "z".toList)] := by
  rw [roundtrip_second_flatten exEnv01 "_".toList exSchema2 exElem3 ex2_sepSafe exEnvOK (by decide +kernel)
    (by decide +kernel) (by decide +kernel) ex3_okP, ex3_flatten_pruned]

theorem ex3_noIdx : flattenNoIdx exEnv01 "_".toList exSchema2 exElem3
    = [("l".toList, "".toList), ("l".toList, "z".toList), ("l".toList, "".toList)] := by
  simp [flattenNoIdx, relFlat, bfsPath, ownPath, pushed, unslot, unslotL, exSchema2, exElem3, resolve,
    resolveList, childItems, kidsFrom, namePath, joinPair, joinSep, FNode.fl, FNode.cfl, FNode.u,
    FNode.name, FNode.kids, FNode.slots]

theorem ex3_noIdx_pruned : flattenNoIdx exEnv01 "_".toList exSchema2
      (fromFlat exEnv01 "_".toList exSchema2 (flatten exEnv01 "_".toList exSchema2 exElem3))
    = [("l".toList, "z".toList)] := by
  rw [roundtrip_pruned exEnv01 "_".toList exSchema2 exElem3 ex2_sepSafe exEnvOK (by decide +kernel) (by decide +kernel)
    (by decide +kernel) ex3_okP, ex3_pr]
  simp [flattenNoIdx, relFlat, bfsPath, ownPath, pushed, unslot, unslotL, exSchema2, resolve,
    resolveList, childItems, kidsFrom, namePath, joinPair, joinSep, FNode.fl, FNode.cfl, FNode.u,
    FNode.name, FNode.kids, FNode.slots]

/-- at pair level: what is left is a subsequence (indexes aside) with the same non-empty values -/
example : [("l".toList, "z".toList)].Sublist
      [("l".toList, "".toList), ("l".toList, "z".toList), ("l".toList, "".toList)] ∧
    [("l".toList, "z".toList)].filter (fun p => !p.2.isEmpty)
      = [("l".toList, "".toList), ("l".toList, "z".toList), ("l".toList, "".toList)].filter
          (fun p => !p.2.isEmpty) := by
  have h := roundtrip_flatten_sub exEnv01 "_".toList exSchema2 exElem3 ex2_sepSafe exEnvOK (by decide +kernel)
    (by decide +kernel) (by decide +kernel) ex3_okP
  rw [ex3_noIdx_pruned, ex3_noIdx] at h
  exact h

/-! ### the pruning is not idempotent on trees: a non-pruning List of pruning Lists -/

/-- `List.named('n').using(prune_empty=False).of(List.of(String))` -/
def exSchemaNP : Schema :=
  .list (some "n".toList) false false 1024 (.list none false true 1024 (.leaf none false 0))

/-- `[['a'], ['']]` -/
def exElemNP : Elem := .list [.list [.leaf "a".toList], .list [.leaf "".toList]]

theorem exNP_sepSafe : SepSafe exEnv01 "_".toList (Tok exSchemaNP) := by
  exact sepSafe_single_char exEnv01 exEnvOK exSchemaNP '_' (by decide +kernel) (by decide +kernel)

theorem exNP_okP : OkP exEnv01 exSchemaNP exElemNP := by
  simp only [exSchemaNP, exElemNP, OkP]
  refine ⟨by decide, fun i hi => ex_digits i (by simp at hi; omega), ?_⟩
  intro e he
  simp only [List.mem_cons, List.not_mem_nil, or_false] at he
  rcases he with rfl | rfl
  · simp only [OkP]
    refine ⟨by decide, fun i hi => ex_digits i (by simp at hi; omega), ?_⟩
    intro x hx
    simp only [List.mem_cons, List.not_mem_nil, or_false] at hx
    subst hx; simp [OkP, exEnv01]
  · simp only [OkP]
    refine ⟨by decide, fun i hi => ex_digits i (by simp at hi; omega), ?_⟩
    intro x hx
    simp only [List.mem_cons, List.not_mem_nil, or_false] at hx
    subst hx; simp [OkP, exEnv01]

/-- first trip: the inner `['']` is emptied, but keeps its slot (it *had* a flat pair) -/
theorem exNP_pr1 : pr exEnv01 false exSchemaNP exElemNP = .list [.list [.leaf "a".toList], .list []] := by
  simp [exSchemaNP, exElemNP, pr, dropTrailing, emitsB_list, emitsB_leaf]

/-- second trip: the now empty inner list has no flat pair and is dropped: the tree changes again -/
theorem exNP_pr2 : pr exEnv01 false exSchemaNP (pr exEnv01 false exSchemaNP exElemNP)
    = .list [.list [.leaf "a".toList]] := by
  rw [exNP_pr1]
  simp [exSchemaNP, pr, dropTrailing, emitsB_list, emitsB_leaf]

/-- the tree after two trips differs from the tree after one … -/
theorem exNP_tree_changes :
    fromFlat exEnv01 "_".toList exSchemaNP (flatten exEnv01 "_".toList exSchemaNP
      (fromFlat exEnv01 "_".toList exSchemaNP (flatten exEnv01 "_".toList exSchemaNP exElemNP)))
    ≠ fromFlat exEnv01 "_".toList exSchemaNP (flatten exEnv01 "_".toList exSchemaNP exElemNP) := by
  have hok' := okP_pr (env := exEnv01) exSchemaNP (by decide +kernel) (by decide +kernel) false exElemNP exNP_okP
  rw [roundtrip_pruned exEnv01 "_".toList exSchemaNP exElemNP exNP_sepSafe exEnvOK (by decide +kernel) (by decide +kernel)
      (by decide +kernel) exNP_okP,
    roundtrip_pruned exEnv01 "_".toList exSchemaNP _ exNP_sepSafe exEnvOK (by decide +kernel) (by decide +kernel)
      (by decide +kernel) hok', exNP_pr2, exNP_pr1]
  simp

/-- … but the flattened output does not -/
example :
    flatten exEnv01 "_".toList exSchemaNP
      (fromFlat exEnv01 "_".toList exSchemaNP (flatten exEnv01 "_".toList exSchemaNP
        (fromFlat exEnv01 "_".toList exSchemaNP (flatten exEnv01 "_".toList exSchemaNP exElemNP))))
    = flatten exEnv01 "_".toList exSchemaNP
      (fromFlat exEnv01 "_".toList exSchemaNP (flatten exEnv01 "_".toList exSchemaNP exElemNP)) :=
  roundtrip_second_flatten exEnv01 "_".toList exSchemaNP exElemNP exNP_sepSafe exEnvOK (by decide +kernel)
    (by decide +kernel) (by decide +kernel) exNP_okP

/-! ### no pruning sequence: the tree may shrink, the flat output is identical -/

/-- `List.named('n').using(prune_empty=False).of(List.using(prune_empty=False).of(String))` -/
def exSchemaNN : Schema :=
  .list (some "n".toList) false false 1024 (.list none false false 1024 (.leaf none false 0))

/-- `[['a', ''], []]`: the trailing empty inner list has no flat representation -/
def exElemNN : Elem := .list [.list [.leaf "a".toList, .leaf "".toList], .list []]

theorem exNN_sepSafe : SepSafe exEnv01 "_".toList (Tok exSchemaNN) := by
  exact sepSafe_single_char exEnv01 exEnvOK exSchemaNN '_' (by decide +kernel) (by decide +kernel)

theorem exNN_okP : OkP exEnv01 exSchemaNN exElemNN := by
  simp only [exSchemaNN, exElemNN, OkP]
  refine ⟨by decide, fun i hi => ex_digits i (by simp at hi; omega), ?_⟩
  intro e he
  simp only [List.mem_cons, List.not_mem_nil, or_false] at he
  rcases he with rfl | rfl
  · simp only [OkP]
    refine ⟨by decide, fun i hi => ex_digits i (by simp at hi; omega), ?_⟩
    intro x hx
    simp only [List.mem_cons, List.not_mem_nil, or_false] at hx
    rcases hx with rfl | rfl <;> simp [OkP, exEnv01]
  · simp [OkP]

theorem exNN_pr : pr exEnv01 false exSchemaNN exElemNN
    = .list [.list [.leaf "a".toList, .leaf "".toList]] := by
  simp [exSchemaNN, exElemNN, pr, dropTrailing, emitsB_list, emitsB_leaf]

/-- the rebuilt tree has lost the trailing member … -/
theorem exNN_tree_changes :
    fromFlat exEnv01 "_".toList exSchemaNN (flatten exEnv01 "_".toList exSchemaNN exElemNN) ≠ exElemNN := by
  rw [roundtrip_pruned exEnv01 "_".toList exSchemaNN exElemNN exNN_sepSafe exEnvOK (by decide +kernel) (by decide +kernel)
    (by decide +kernel) exNN_okP, exNN_pr]
  simp [exElemNN]

/-- … its flattened output (empty value included) is identical -/
example :
    flatten exEnv01 "_".toList exSchemaNN
      (fromFlat exEnv01 "_".toList exSchemaNN (flatten exEnv01 "_".toList exSchemaNN exElemNN))
    = flatten exEnv01 "_".toList exSchemaNN exElemNN :=
  roundtrip_flatten_noprune exEnv01 "_".toList exSchemaNN exElemNN exNN_sepSafe exEnvOK (by decide +kernel)
    (by decide +kernel) (by decide +kernel) (by decide +kernel) exNN_okP

end Flatland.Flat.Proofs
