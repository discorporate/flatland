/-
C07 on the tree model — the LITERAL rendering of `Element.flatten` / `flattened_name` (`flattenCode`: a queue with a `seen` set
of identities, every key computed by walking the STORED parent pointers upward, `C08.pathOf`) is the structural walk
`flattenTree` (names accumulated while descending) on every tree with C08's invariant, given `Slotted` and a bound on the
pointer walk that is at least the height.  `Slotted` is needed because `flattenTree` reads a List item's STORED `key`, while
the pointer walk reads the item's `.name` — the same only for a ListSlot (`Node.name`); it is not part of `TreeOK` but of
`Inv.dps`, which every history preserves.
-/
import Proofs.C08Tree
import Proofs.C07TreeHist
namespace Flatland.C07Tree.Proofs
open Flatland.Tree Flatland.PyList Flatland.C08 Flatland.C08.Spec Flatland.C08.Proofs Flatland.C07Tree

mutual
/-- the longest chain of holders below the node (slots count: the walk passes through them) -/
def height : Node → Nat
  | .mk _ _ kids => heightL kids
def heightL : List Node → Nat
  | [] => 0
  | k :: ks => max (height k + 1) (heightL ks)
end

theorem heightL_mem {ks : List Node} {c : Node} (h : c ∈ ks) : height c + 1 ≤ heightL ks := by
  induction ks with
  | nil => cases h
  | cons k ks ih =>
    rw [heightL]
    rcases List.mem_cons.mp h with h1 | h1
    · subst h1; exact Nat.le_max_left _ _
    · exact Nat.le_trans (ih h1) (Nat.le_max_right _ _)

theorem height_kid {p c : Node} (h : c ∈ p.kids) : height c + 1 ≤ height p := by
  cases p with
  | mk i s kids => rw [height]; exact heightL_mem h

theorem anc_height {root x : Node} {as : List Node} (h : Anc root x as) : as.length + height x ≤ height root := by
  induction h with
  | root => simp
  | kid _ hc ih =>
    have := height_kid hc
    simp only [List.length_cons]; omega

mutual
theorem height_le_size : ∀ n : Node, height n + 1 ≤ size n
  | .mk _ _ kids => by
    rw [height, size]; have := heightL_le_sizeL kids; omega
theorem heightL_le_sizeL : ∀ ks : List Node, heightL ks ≤ sizeL ks
  | [] => by simp [heightL, sizeL]
  | k :: ks => by
    rw [heightL, sizeL]
    have h1 := height_le_size k
    have h2 := heightL_le_sizeL ks
    exact Nat.max_le.mpr ⟨by omega, by omega⟩
end

def Slotted (root : Node) : Prop := ∀ x ∈ nodes root, x.kind = .list → ∀ k ∈ x.kids, k.kind = .slot

theorem slotted_of_dps {n : Node} (h : Inv.dps n = true) : Slotted n := fun x hx hl => by
  have := (Inv.dps_deep.2 n).mp h x hx
  simp only [Inv.dpsLoc, hl, beq_self_eq_true, Bool.not_true, Bool.false_or, Bool.and_eq_true] at this
  exact (Inv.slotKinds_iff _).mp this.2

theorem slotted_of_dpsL_aux : ∀ (ks : List Node) (x : Node), Inv.dpsL ks = true → x ∈ nodesL ks → x.kind = .list →
    ∀ k ∈ x.kids, k.kind = .slot :=
  fun ks x hd hx =>
    have ⟨t, ht, hxt⟩ := mem_nodesL_iff.mp hx
    slotted_of_dps ((Inv.dps_deep.1 ks).mp hd t ht) x hxt

theorem parentsOf_cons_eq {root : Node} (pool : List Node) (hw : wp root = true) (hr : root.parent = none)
    (hu : UniqueIds root) {x : Node} {as : List Node} (h : Anc root x as) :
    ∀ fuel, as.length ≤ fuel → parentsOf (root :: pool) fuel x = as :=
  parentsOf_eq pool hw hr hu h

/-- the entry's element sits in the tree, and the names it carries are the names of its holders,
    root first -/
def QOK (root : Node) (it : QItem) : Prop :=
  ∃ as, Anc root it.2 as ∧ it.1 = as.reverse.filterMap Node.name

theorem filterMap_name_single (e : Node) : [e].filterMap Node.name = e.name.toList := by
  cases h : e.name <;> simp [h]

/-- `flattened_name` by pointer walk = the accumulated name path -/
theorem codePair_eq {root : Node} (pool : List Node) (fuel : Nat) (sep : Str) (hw : wp root = true)
    (hr : root.parent = none) (hu : UniqueIds root) (hf : height root ≤ fuel) (it : QItem) (h : QOK root it) :
    codePair (root :: pool) fuel sep it.2 = ownPair sep it := by
  obtain ⟨as, ha, hp⟩ := h
  have hlen : as.length ≤ fuel := by have := anc_height ha; omega
  have hpar := parentsOf_cons_eq pool hw hr hu ha fuel hlen
  unfold codePair ownPair flattenedName namePath pathOf
  rw [hpar, List.filterMap_append, filterMap_name_single, ← hp]

theorem mem_slotItems {here : List Str} {ks : List Node} {c : QItem} (h : c ∈ slotItems here ks) :
    ∃ slot ∈ ks, ∃ el ∈ slot.kids, c = (here ++ [slot.key], el) := by
  induction ks with
  | nil => simp [slotItems] at h
  | cons k ks ih =>
    rw [slotItems] at h
    rcases List.mem_append.mp h with h1 | h1
    · obtain ⟨el, hel, rfl⟩ := List.mem_map.mp h1
      exact ⟨k, by simp, el, hel, rfl⟩
    · obtain ⟨slot, hs, el, hel, hc⟩ := ih h1
      exact ⟨slot, List.mem_cons_of_mem _ hs, el, hel, hc⟩

theorem name_of_slot {s : Node} (h : s.kind = .slot) : s.name = some s.key := by
  unfold Node.name; simp [h]

theorem qok_pushed {root : Node} (hs : Slotted root) (it : QItem) (h : QOK root it) :
    ∀ c ∈ pushed it, QOK root c := by
  obtain ⟨p, n⟩ := it
  obtain ⟨as, ha, hp⟩ := h
  simp only at ha hp
  have plain : ∀ c ∈ n.kids.map (fun el => (namePath p n, el)), QOK root c := by
    intro c hc
    obtain ⟨el, hel, rfl⟩ := List.mem_map.mp hc
    refine ⟨n :: as, .kid ha hel, ?_⟩
    simp only [List.reverse_cons, List.filterMap_append, filterMap_name_single, namePath, hp]
  intro c hc
  simp only [pushed, cfl, if_true, childItems] at hc
  split at hc
  · rename_i hk
    obtain ⟨slot, hsl, el, hel, rfl⟩ := mem_slotItems hc
    have hkind := hs n (anc_mem_nodes ha) hk slot hsl
    refine ⟨slot :: n :: as, .kid (.kid ha hsl) hel, ?_⟩
    simp only [List.reverse_cons, List.filterMap_append, filterMap_name_single, namePath, hp,
      name_of_slot hkind, Option.toList, List.append_assoc]
  · exact plain c hc
  · exact plain c hc
  · exact plain c hc
  · exact plain c hc
  · cases hc

theorem codeLoop_nil (univ : List Node) (fuel : Nat) (sep : Str) (seen : List Nat) :
    codeLoop univ fuel sep seen [] = [] := by rw [codeLoop]

theorem codeLoop_cons (univ : List Node) (fuel : Nat) (sep : Str) (seen : List Nat) (e : Node) (q : List Node) :
    codeLoop univ fuel sep seen (e :: q) =
      if seen.contains e.id then codeLoop univ fuel sep seen q
      else codePair univ fuel sep e ++ codeLoop univ fuel sep (e.id :: seen) (q ++ children e) := by
  rw [codeLoop]; simp [cfl]

/-- the loop without the `seen` test, emitting `codePair` along the plain walk -/
def plainCode (univ : List Node) (fuel : Nat) (sep : Str) (q : List Node) : List (Str × Str) :=
  (reach q).flatMap (codePair univ fuel sep)

theorem plainCode_isLoop (univ : List Node) (fuel : Nat) (sep : Str) :
    Fifo.IsLoop (codePair univ fuel sep) children (plainCode univ fuel sep) :=
  ⟨by simp [plainCode, reach_nil], fun e q => by simp [plainCode, reach_cons]⟩

theorem codeLoop_eq_bfs {root : Node} (pool : List Node) (fuel : Nat) (sep : Str) (hw : wp root = true)
    (hr : root.parent = none) (hu : UniqueIds root) (hs : Slotted root) (hf : height root ≤ fuel)
    (q : List QItem) : ∀ (seen : List Nat),
    (∀ x ∈ reach (q.map (·.2)), x.id ∉ seen) → ((reach (q.map (·.2))).map Node.id).Nodup →
    (∀ it ∈ q, QOK root it) →
    codeLoop (root :: pool) fuel sep seen (q.map (·.2)) = bfs sep q := by
  intro seen hseen hn hq
  -- the `seen` test never fires: the literal loop is `codePair` along the plain walk
  rw [Fifo.IsSeenLoop.eq_loop ⟨codeLoop_nil _ fuel sep, codeLoop_cons _ fuel sep⟩ (plainCode_isLoop _ fuel sep)
    reach_isLoop sizeL_steps _ seen hseen hn]
  -- the two loops correspond item by item along `Prod.snd`
  have := (bfs_isLoop sep).sim (plainCode_isLoop (root :: pool) fuel sep) qsize_steps.levels
    (·.2) id (QOK root)
    (fun a ha => by simp [codePair_eq pool fuel sep hw hr hu hf a ha])
    (fun a _ => by simp [pushed, cfl, childItems_snd]) (qok_pushed hs) q hq
  simpa using this

theorem flattenCode_eq_codeLoop (univ : List Node) (fuel : Nat) (sep : Str) (n : Node) :
    flattenCode univ fuel sep n = codeLoop univ fuel sep [] [n] := by
  rw [codeLoop_cons]; rfl

/-- On a well-parented tree with unique identities whose root has
    no parent and whose Lists hold ListSlots, the literal rendering of `Element.flatten` — `seen`
    set of identities, every key by walking the stored parent pointers, looked up in the object
    store `root :: pool` — returns exactly what the structural walk returns, pair for pair, for
    every bound on the pointer walk that is at least the height of the tree. -/
theorem flattenCode_eq_flattenTree_of {root : Node} (pool : List Node) (fuel : Nat) (sep : Str)
    (hw : wp root = true) (hr : root.parent = none) (hu : UniqueIds root) (hs : Slotted root)
    (hf : height root ≤ fuel) :
    flattenCode (root :: pool) fuel sep root = flattenTree sep root := by
  rw [flattenCode_eq_codeLoop, flattenTree_eq_bfs]
  exact codeLoop_eq_bfs pool fuel sep hw hr hu hs hf [([], root)] [] (by simp) (reach_root_nodup hu)
    (by simpa using ⟨[], .root, rfl⟩)

/-- with C08's bundled invariant `TreeOK` on a history state, universe = the tree alone -/
theorem flattenCode_eq_flattenTree (s : HState) (hok : TreeOK s) (hs : Slotted s.root) (fuel : Nat)
    (hf : height s.root ≤ fuel) (sep : Str) :
    flattenCode [s.root] fuel sep s.root = flattenTree sep s.root :=
  flattenCode_eq_flattenTree_of [] fuel sep hok.wp hok.rootless hok.ids.uniq hs hf

/-- the bound `size root` always suffices -/
theorem flattenCode_eq_flattenTree_size (s : HState) (hok : TreeOK s) (hs : Slotted s.root) (sep : Str) :
    flattenCode [s.root] (size s.root) sep s.root = flattenTree sep s.root :=
  flattenCode_eq_flattenTree s hok hs _ (by have := height_le_size s.root; omega) sep

end Flatland.C07Tree.Proofs
