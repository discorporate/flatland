/-
The translator half of the model–code tie for CLASS-LEVEL CONSTANTS.

`Flatland.Generated.ClassTable` is rewritten on every run by harness/extractors/classtable.py from the current
/repo source: one row per element class with every class-level data attribute (resolved through the MRO of the
imported class and cross-checked with the literal in the source text), the class that defines each method, and
the model kinds the harness instantiates the class for.

Every theorem below says: a constant that a hand-written model (or the harness code feeding it) hard-codes is
what the source says NOW.  Each has two parts where the constant lives inside a model function:
  * a lemma about the MODEL for all inputs (`resolve_flags`, `validateUp_reads`, `isEmpty_*`, …) that reads the
    constant off the model's definition, and
  * the instantiation on the generated table by `decide`, in the kernel alone.  `repeat rw [String.toList_ofList]` in
    front of it turns the `"…".toList` of the statement into character lists: the kernel decodes a string literal in
    time quadratic in its length, whereas `(String.ofList l).toList = l` is one rewrite.
A source edit of such a constant breaks `lake build Proofs.ClassTable` at the named theorem.
Which theorem belongs to which property: `OBLIGATIONS` in harness/extractors/classtable.py.
-/
import Flatland.Generated.ClassTable
import Flatland.Generated.C04Tables
import Flatland.Flat
import Flatland.Tree
import Flatland.C05
import Flatland.C06
import Flatland.Scalar
import Flatland.C18
import Flatland.Spec.C04
namespace Flatland.Generated.ClassTable

def Row.flag (r : Row) (a : String) : Option Bool :=
  match r.get a.toList with | some (.bool b) => some b | _ => none

def Row.text (r : Row) (a : String) : Option Str :=
  match r.get a.toList with | some (.str s) => some s | _ => none

/-- `none` = the attribute is `None`; `some s` = it is the text `s` -/
def Row.optText (r : Row) (a : String) : Option (Option Str) :=
  match r.get a.toList with | some (.str s) => some (some s) | some .none => some none | _ => none

def Row.has (r : Row) (a : String) : Bool := (r.get a.toList).isSome

def Row.is (r : Row) (c : String) : Bool := r.isa c.toList

end Flatland.Generated.ClassTable

namespace Flatland.ClassTable
open Flatland.Generated.ClassTable

def row? (n : String) : Option Row := classTable.find? (fun r => r.name == n.toList)

/-- classes nobody instantiates: the abstract roots (their flags are the inherited defaults) -/
def abstractRoots : List Str := ["Element".toList, "Slot".toList]

/-! ## flat core (C01, C02, C07; C12's `embed`): which nodes emit a pair, which let their children emit,
    which interpose slot indexes -/

inductive FK | leaf | dict | compound | list | array | joined
  deriving DecidableEq, Repr

def FK.ofStr (k : Str) : Option FK :=
  if k == "leaf".toList then some .leaf else if k == "dict".toList then some .dict
  else if k == "compound".toList then some .compound else if k == "list".toList then some .list
  else if k == "array".toList then some .array else if k == "multi".toList then some .array   -- MultiValue runs as `.array`
  else if k == "joined".toList then some .joined else none

def ctorKind : Flat.Schema → FK
  | .leaf .. => .leaf | .dict .. => .dict | .compound .. => .compound
  | .list .. => .list | .array .. => .array | .joined .. => .joined

/-- (emits a pair, lets its children flatten, children are slots named by index) -/
def flagsOf (n : Flat.FNode) : Bool × Bool × Bool := (n.fl, n.cfl, n.slots)

def kindFlags : FK → Bool × Bool × Bool
  | .leaf => (true, true, false)
  | .dict => (false, true, false)
  | .compound => (true, true, false)
  | .list => (false, true, true)
  | .array => (false, true, false)
  | .joined => (true, false, false)

theorem resolve_flags (env : Flat.Env) (s : Flat.Schema) (e : Flat.Elem) :
    flagsOf (Flat.resolve env s e) = kindFlags (ctorKind s) := by
  cases s <;> (unfold Flat.resolve; rfl)

/-- the flat-model constructor a class falls under BY INHERITANCE (most specific first); `Ref` and the abstract
    classes without a `_set_flat` of their own kind are outside the flat model -/
def familyKind (r : Row) : Option FK :=
  if r.is "JoinedString" then some .joined
  else if r.is "Compound" then some .compound
  else if r.is "List" then some .list
  else if r.is "Array" then some .array
  else if r.is "Mapping" then some .dict
  else if r.is "Ref" then none
  else if r.is "Sequence" || r.is "Container" then none
  else if r.is "Scalar" then some .leaf
  else none

def rowFlags (r : Row) : Option (Bool × Bool × Bool) :=
  match r.flag "flattenable", r.flag "children_flattenable" with
  | some f, some c => some (f, c, r.has "slot_type")
  | _, _ => none

/-- the harness (flatlib.build_class) builds every class for the constructor of its family -/
theorem flat_kinds_cover : ∀ r ∈ classTable, ∀ k ∈ r.flatKinds, FK.ofStr k = familyKind r ∧ (FK.ofStr k).isSome := by
  decide +kernel

/-- `flattenable` / `children_flattenable` / presence of `slot_type` of EVERY class of a family (not only the ones the
    harness instantiates: Constrained, Number, Schema, Form, SparseSchema, Compound, Mapping … too) are the flags
    `Flat.resolve` gives the nodes of that constructor -/
theorem flat_flags_table : ∀ r ∈ classTable, ∀ k, familyKind r = some k → rowFlags r = some (kindFlags k) := by
  decide +kernel

theorem flat_flags_agree (env : Flat.Env) (s : Flat.Schema) (e : Flat.Elem) :
    ∀ r ∈ classTable, familyKind r = some (ctorKind s) → rowFlags r = some (flagsOf (Flat.resolve env s e)) := by
  intro r hr hk
  rw [resolve_flags]
  exact flat_flags_table r hr _ hk

/-- non-vacuity: all six constructors are inhabited by a class the harness builds -/
example : ∀ k ∈ [FK.leaf, .dict, .compound, .list, .array, .joined],
    classTable.any (fun r => r.flatKinds.any (fun s => FK.ofStr s == some k)) = true := by decide +kernel

/-- what is outside the flat model never emits a pair of its own: `Ref.flattenable = False` -/
theorem ref_defaults : ∀ r ∈ classTable, r.is "Ref" = true →
    r.flag "flattenable" = some false ∧ r.text "writable" = some "ignore".toList ∧
    r.get "target_path".toList = some .none := by
  repeat rw [String.toList_ofList]
  decide +kernel

/-- the three flags are only ever declared by the classes the model knows about: a new override anywhere in the
    hierarchy shows up here -/
theorem flags_closed_under_mro : ∀ r ∈ classTable,
    (r.definedBy "flattenable".toList).all (fun c => c ∈ ["Element", "Scalar", "Ref", "Array", "JoinedString"].map String.toList) = true ∧
    (r.definedBy "children_flattenable".toList).all (fun c => c ∈ ["Element", "JoinedString"].map String.toList) = true ∧
    (r.definedBy "slot_type".toList).all (fun c => c == "List".toList) = true := by
  repeat rw [String.toList_ofList]
  decide +kernel

/-! ## defaults the flat / tree / set models take as inputs and the generators fill in from "the documented default" -/

/-- `List.maximum_set_flat_members` default: the ceiling the C01 assumption text, the C02 generator (`1023, 1024`
    boundary indexes) and every hand-written example use -/
def assumedListCeiling : Int := 1024

theorem list_ceiling_default : ∀ r ∈ classTable, r.is "List" = true →
    r.get "maximum_set_flat_members".toList = some (.int assumedListCeiling) := by
  repeat rw [String.toList_ofList]
  decide +kernel

example : (row? "List").isSome = true := by decide +kernel

theorem sequence_prune_default : ∀ r ∈ classTable, r.is "Sequence" = true → r.flag "prune_empty" = some true := by decide +kernel

/-- every class is non-optional unless told otherwise: the runners read a missing `"opt"` as `false`
    (`Run/FlatCommon.lean`, `Run/C03.lean`), `flatlib.build_class` only ever calls `using(optional=True)`;
    `Tree.SInfo.optional := false` -/
theorem optional_default : ∀ r ∈ classTable, r.is "Element" = true →
    r.flag "optional" = some ({ cid := 0, kind := .dict : Tree.SInfo }).optional := by decide +kernel

def policyName : Tree.Policy → Option Str
  | .strict => some "strict".toList | .subset => some "subset".toList | .duck => some "duck".toList | .off => none

/-- `Dict.policy = 'subset'`: `Tree.SInfo.policy := .subset`, `Run/C06.lean` `cval` ("subset" when the class has no
    own value), "the default 'subset' policy" of C03's quantifier -/
theorem dict_policy_default : ∀ r ∈ classTable, r.is "Dict" = true →
    r.optText "policy" = some (policyName ({ cid := 0, kind := .dict : Tree.SInfo }).policy) := by decide +kernel

/-- `SparseDict.minimum_fields = None`: `Tree.SInfo.minreq := false`, `Flat.DictMode.sparse` is what a plain
    `SparseDict` runs as (flatlib passes `minimum_fields='required'` only for `sparseReq`) -/
theorem sparse_minimum_default : ∀ r ∈ classTable, r.is "SparseDict" = true →
    r.optText "minimum_fields" =
      some (if ({ cid := 0, kind := .sparse : Tree.SInfo }).minreq then some "required".toList else none) := by decide +kernel

/-! ## C05: the two `_validate` variants -/

/-- the attribute names the model's `Info.down` / `Info.up` stand for (doc comment of `C05.Info`; `_dress` of
    harness/props/c05.py installs the outcome lists under exactly these names) -/
def c05Down (container : Bool) : Option Str :=
  some (if container then "descent_validators".toList else "validators".toList)
def c05Up (container : Bool) : Option Str :=
  if container then some "validators".toList else none

/-- the MODEL side: a non-container never reads `up` (its `validates_up` is `None`: `Unevaluated`, no call) … -/
theorem validateUp_reads (i : C05.Info) :
    (c05Up i.container = none → C05.validateUp i = (.uneval, 0)) ∧
    (c05Up i.container ≠ none → C05.validateUp i = C05.validateElement i i.up) := by
  cases h : i.container <;> simp [c05Up, C05.validateUp, h]

/-- … and `down` is read by both, a container returning `Unevaluated` for an empty list (`Container._validate`) -/
theorem validateDown_reads (i : C05.Info) :
    (i.container = false → C05.validateDown i = C05.validateElement i i.down) ∧
    (i.container = true → i.down = [] → C05.validateDown i = (.uneval, 0)) ∧
    (i.container = true → i.down ≠ [] → C05.validateDown i = C05.validateElement i i.down) := by
  refine ⟨?_, ?_, ?_⟩
  · intro h; simp [C05.validateDown, h]
  · intro h hd; simp [C05.validateDown, h, hd]
  · intro h hd; cases hl : i.down with
    | nil => exact absurd hl hd
    | cons a b => simp [C05.validateDown, h, hl]

/-- EVERY class except the abstract roots is one of the two cases the model distinguishes, with the attribute names
    the harness installs its validators under: containers (`isinstance(el, Container)`: Compound, MultiValue and
    JoinedString included — `Container` precedes `Scalar` in their MROs) descend with `descent_validators` and
    ascend with `validators`; everything else descends with `validators` and does not ascend -/
theorem validates_agree : ∀ r ∈ classTable, r.is "Element" = true → r.name ∉ abstractRoots →
    r.optText "validates_down" = some (c05Down (r.is "Container")) ∧
    r.optText "validates_up" = some (c05Up (r.is "Container")) := by decide +kernel

/-- … and the `_validate` they run is `Container._validate` (empty descent list → `Unevaluated`) resp.
    `Element._validate`; `validate` itself is never overridden -/
theorem validate_definers : ∀ r ∈ classTable, r.is "Element" = true →
    r.definer "_validate".toList = some (if r.is "Container" then "Container".toList else "Element".toList) ∧
    r.definer "validate".toList = some "Element".toList ∧
    (r.is "Container" = true → r.get "descent_validators".toList = some (.tuple [])) ∧
    r.get "validators".toList = some (.tuple []) := by
  repeat rw [String.toList_ofList]
  decide +kernel

/-- the node kinds harness/props/c05.py builds are on the side of the split the case says (`"c"`) -/
theorem c05_kinds_agree : ∀ r ∈ classTable, ∀ k ∈ r.c05Kinds,
    r.is "Container" = (k != "s".toList) := by decide +kernel

def sentinel? (n : String) : Option Sentinel := sentinels.find? (fun s => s.name == n.toList)

/-- truthiness of the named ints as `C05.Ret.truthy` has it (`bool(validated)`), and `Skip` is truthy (the loop turns it
    into `True`) -/
theorem sentinel_truthiness :
    (sentinel? "Unevaluated").map (·.truthy) = some (C05.Ret.truthy .uneval) ∧
    (sentinel? "SkipAll").map (·.truthy) = some (C05.Ret.truthy .skipAll) ∧
    (sentinel? "SkipAllFalse").map (·.truthy) = some (C05.Ret.truthy .skipAllFalse) ∧
    (sentinel? "Skip").map (·.truthy) = some (C05.Ret.truthy (C05.runValidators [.skip]).1) := by decide +kernel

/-- `is` comparisons tell them apart (and from `True` / `False` / `None`) -/
theorem sentinels_distinct : sentinelsDistinct = true ∧ sentinels.length = 4 := by decide +kernel

/-! ## element tree model (C08, C09, C10, C13, C20 through `Flatland.Tree`) -/

def skindName : Tree.SKind → String
  | .integer => "integer" | .string => "string" | .list => "list" | .array => "array" | .multi => "multi"
  | .dict => "dict" | .sparse => "sparse" | .slot => "slot"

/-- the class whose `is_empty` body `Tree.isEmpty` follows for each kind -/
def isEmptyDefiner : Tree.SKind → String
  | .integer => "Element" | .string => "String" | .list | .array | .multi => "Sequence"
  | .dict => "Mapping" | .sparse => "SparseDict" | .slot => "Element"

/-- the MODEL side: `Mapping.is_empty` is `False`; `Sequence.is_empty` / `SparseDict.is_empty` are "no member" -/
theorem isEmpty_dict (n : Tree.Node) (h : n.kind = .dict) : Tree.isEmpty n = false := by
  simp [Tree.isEmpty, h]

theorem isEmpty_members (n : Tree.Node) (h : n.kind = .list ∨ n.kind = .array ∨ n.kind = .multi ∨ n.kind = .sparse) :
    Tree.isEmpty n = n.kids.isEmpty := by
  rcases h with h | h | h | h <;> simp [Tree.isEmpty, h]

def allSKinds : List Tree.SKind := [.integer, .string, .list, .array, .multi, .dict, .sparse, .slot]

theorem tree_is_empty_definers : ∀ r ∈ classTable, ∀ k ∈ allSKinds, (skindName k).toList ∈ r.treeKinds → k ≠ .slot →
    r.definer "is_empty".toList = some (isEmptyDefiner k).toList := by decide +kernel

/-- the kinds the builders instantiate a class for agree with its ancestry -/
theorem tree_kinds_agree : ∀ r ∈ classTable, ∀ k ∈ allSKinds, (skindName k).toList ∈ r.treeKinds →
    (match k with
     | .integer => r.is "Integer" | .string => r.is "String" && !r.is "Container"
     | .list => r.is "List" | .array => r.is "Array" && !r.is "Scalar" | .multi => r.is "MultiValue"
     | .dict => r.is "Dict" && !r.is "SparseDict" | .sparse => r.is "SparseDict"
     | .slot => r.is "Slot" && r.is "Container") = true := by decide +kernel

/-- a fresh element: `value = None`, `u = ''` (`Tree.NInfo` defaults), not optional, `default = None` -/
theorem tree_defaults_agree : ∀ r ∈ classTable, r.treeKinds ≠ [] → r.name ≠ "ListSlot".toList →
    r.flag "optional" = some ({ cid := 0, kind := .dict : Tree.SInfo }).optional ∧
    r.get "default".toList = some .none ∧ r.get "default_factory".toList = some .none ∧
    r.get "name".toList = some .none ∧
    (r.is "Container" = false →
      r.get "u".toList = some (.str ({ id := 0, parent := none : Tree.NInfo }).u) ∧
      r.get "value".toList = some .none) := by
  repeat rw [String.toList_ofList]
  decide +kernel

/-- `List.slot_type` is ListSlot, a Container that is a Slot (the model's `.slot` nodes, `Tree.slotSchema`) -/
theorem list_slot_type :
    (∀ r ∈ classTable, r.is "List" = true → r.get "slot_type".toList = some (.ref "ListSlot".toList)) ∧
    (∀ r ∈ classTable, r.has "slot_type" = true → r.is "List" = true) ∧
    (row? "ListSlot").map (fun r => (r.is "Container", r.is "Slot", r.is "Sequence" || r.is "Mapping" || r.is "Scalar")) =
      some (true, true, false) ∧
    Tree.slotSchema.kind = .slot := by decide +kernel

/-! ## scalars (C04, C18, C12, C20 through `Flatland.Scalar`) -/

def boolKind (r : Row) : Option Scalar.Kind :=
  match r.get "true".toList, r.get "false".toList, r.get "true_synonyms".toList, r.get "false_synonyms".toList with
  | some (.str t), some (.str f), some (.tuple ts), some (.tuple fs) => some (.boolean t f ts fs)
  | _, _, _, _ => none

def kindBoolParts : Scalar.Kind → Option (Str × Str × List Str × List Str)
  | .boolean t f ts fs => some (t, f, ts, fs)
  | _ => none

/-- the `Boolean` the C04 runner uses for `"boolean_default"` (regenerated by extractors/c04.py) is the class
    default of this table: `true`, `false` and both synonym tuples, in order -/
theorem boolean_default_agrees :
    ((row? "Boolean").bind boolKind).bind kindBoolParts = kindBoolParts Flatland.Generated.C04.booleanDefault ∧
    ((row? "Boolean").bind boolKind).isSome = true := by decide +kernel

/-- the class-default Boolean satisfies the side conditions (`Coherent`, `CoherentNone`) of the C04 theorems that are
    partial in them (`reset_text_partial`; KF-C04-c is about Booleans configured otherwise): they apply to `flatland.Boolean` -/
theorem boolean_default_coherent :
    ((row? "Boolean").bind boolKind).map (fun k => Scalar.Spec.Coherent k && Scalar.Spec.CoherentNone k) = some true := by
  decide +kernel

/-- change detector for the documented literal defaults (`true = '1'`, `false = ''`, the two synonym tuples).  The C04
    model itself takes them REGENERATED (so `boolean_default_agrees` only says that the two extractors agree); this pin
    is for everything written by hand against the documented defaults (corpus cases, C12's checkbox texts, docs) -/
theorem boolean_synonyms_pinned :
    ((row? "Boolean").bind boolKind).bind kindBoolParts =
      some ("1".toList, [], ["on".toList, "true".toList, "True".toList, "1".toList],
            ["off".toList, "false".toList, "False".toList, "0".toList, []]) := by decide +kernel

/-- `String.strip`, `Temporal.strip`: `True` (the kind `.string true` that `Run/C20.lean` falls back to, `.date true` in
    `C18.composeDate`); inherited unchanged by every subclass -/
theorem scalar_strip_defaults : ∀ r ∈ classTable, (r.is "String" || r.is "Temporal") = true →
    r.flag "strip" = some true := by decide +kernel

/-- number types: `signed = True`; `format` is `'%i'` for Integer/Long (`Scalar.Kind.integer _ 0`), `'%f'` for
    Float/Decimal; `type_` as the recognisers assume -/
theorem number_defaults : ∀ r ∈ classTable, r.is "Number" = true → r.name ≠ "Number".toList →
    r.flag "signed" = some true ∧
    (r.text "format", r.get "type_".toList) =
      (if r.is "Integer" || r.is "Long" then (some "%i".toList, some (.ref "int".toList))
       else if r.is "Float" then (some "%f".toList, some (.ref "float".toList))
       else (some "%f".toList, some (.ref "decimal.Decimal".toList))) := by
  repeat rw [String.toList_ofList]
  decide +kernel

/-- the regex / format / used triples the hand-written recognisers (`Scalar.adaptTemporalText`, `C18.composeDate`,
    `C18.DateCfg` member names) implement -/
def temporalTriple (r : Row) : Option (List Char × List Char × List (List Char)) :=
  match r.get "regex".toList, r.get "format".toList, r.get "used".toList with
  | some (.regex p), some (.str f), some (.tuple u) => some (p, f, u)
  | _, _, _ => none

/-- the member names a generated DateYYYYMMDD has in the C18 model -/
def dateMemberNames : List (List Char) :=
  let c : C18.DateCfg := {}
  [c.ny, c.nm, c.nd]

theorem temporal_triples_agree :
    (row? "Date").bind temporalTriple =
      some ("^(?P<year>\\d{4})-(?P<month>\\d{2})-(?P<day>\\d{2})$".toList, "%(year)04i-%(month)02i-%(day)02i".toList,
            dateMemberNames) ∧
    (row? "Time").bind temporalTriple =
      some ("^(?P<hour>\\d{2}):(?P<minute>\\d{2}):(?P<second>\\d{2})$".toList, "%(hour)02i:%(minute)02i:%(second)02i".toList,
            ["hour".toList, "minute".toList, "second".toList]) ∧
    (row? "DateTime").bind temporalTriple =
      some ("^(?P<year>\\d{4})-(?P<month>\\d{2})-(?P<day>\\d{2}) (?P<hour>\\d{2}):(?P<minute>\\d{2}):(?P<second>\\d{2})$".toList,
            "%(year)04i-%(month)02i-%(day)02i %(hour)02i:%(minute)02i:%(second)02i".toList,
            ["year".toList, "month".toList, "day".toList, "hour".toList, "minute".toList, "second".toList]) ∧
    ((row? "DateYYYYMMDD").bind temporalTriple) = (row? "Date").bind temporalTriple := by
  repeat rw [String.toList_ofList]
  refine ⟨?_, ?_, ?_, ?_⟩ <;> decide +kernel

/-- `JoinedString`: `separator = ','`, no `separator_regex`, members are `String`s, pruning on -/
theorem joined_defaults : ∀ r ∈ classTable, r.is "JoinedString" = true →
    r.text "separator" = some ",".toList ∧ r.get "separator_regex".toList = some .none ∧
    r.get "member_schema".toList = some (.ref "String".toList) ∧ r.flag "prune_empty" = some true := by
  repeat rw [String.toList_ofList]
  decide +kernel

/-! ## C06: which attributes a class of a kind has, and their built-in values -/

def c06Kind (k : Str) : Option C06.Kind :=
  if k == "scalar".toList then some .scalar else if k == "enum".toList then some .enum
  else if k == "ref".toList then some .ref else if k == "dict".toList then some .dict
  else if k == "seq".toList then some .seq else if k == "compound".toList then some .compound else none

def c06Attrs : List (C06.Attr × String) :=
  [(.name, "name"), (.optional, "optional"), (.default, "default"), (.validators, "validators"),
   (.descentValidators, "descent_validators"), (.memberSchema, "member_schema"), (.fieldSchema, "field_schema"),
   (.validValues, "valid_values"), (.targetPath, "target_path"), (.policy, "policy")]

/-- `C06.kindHas` (the model's `hasattr(cls, a)`: `using(a=…)` is accepted iff it holds) is `hasattr` of the real class
    for every class harness/props/c06.py runs and every attribute the model knows -/
theorem c06_kind_has_agrees : ∀ r ∈ classTable, ∀ ks ∈ r.c06Kinds, ∀ ap ∈ c06Attrs,
    (c06Kind ks).map (fun k => C06.kindHas k ap.1) = some (r.has ap.2) := by decide +kernel

/-- the built-in values of those attributes, as the runner's `cval` presents a class without own values -/
theorem c06_builtin_defaults : ∀ r ∈ classTable, r.c06Kinds ≠ [] →
    r.flag "optional" = some (C06.optionalOf (C06.initState .scalar []) 0) ∧
    r.get "name".toList = some .none ∧ r.get "default".toList = some .none ∧
    r.get "validators".toList = some (.tuple []) ∧
    (r.has "descent_validators" = true → r.get "descent_validators".toList = some (.tuple [])) ∧
    (r.has "valid_values" = true → r.get "valid_values".toList = some (.tuple [])) ∧
    (r.has "target_path" = true → r.get "target_path".toList = some .none) ∧
    (r.has "policy" = true → r.text "policy" = some "subset".toList) ∧
    (r.has "field_schema" = true → r.name ≠ "DateYYYYMMDD".toList → r.get "field_schema".toList = some (.tuple [])) := by
  decide +kernel

end Flatland.ClassTable
