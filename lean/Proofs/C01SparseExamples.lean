/-
C01 with SparseDicts: the full statement and its corollaries; the runner's executable tests `wfS`, `okSB` imply the
theorem's hypotheses, so the runner's flag `thm_hyp` entitles one to the conclusion (`roundtrip_sparse_checked`);
non-vacuity, and why each hypothesis is needed.
-/
import Proofs.C01Sparse
import Proofs.C01Examples
import Proofs.Lemmas.FlatEval
namespace Flatland.Flat.Proofs
open Flatland.Flat Flatland.Flat.Spec

/-- **the full statement**: every well-formed schema (SparseDicts allowed), every `SepSafe`
    separator, every conforming settled state — the rebuilt TREE is `prS e`. -/
def C01_Sparse_Full : Prop :=
  ∀ (env : Env) (sep : Str) (s : Schema) (e : Elem), SepSafe env sep (Tok s) → EnvOK env →
    wf s = true → rootOK s = true → OkS env s e →
    fromFlat env sep s (flatten env sep s e) = prS env sep false s e

theorem c01_sparse_full : C01_Sparse_Full :=
  fun env sep s e hs henv hw hroot hok => roundtrip_sparse env sep s e hs henv hw hroot hok

theorem roundtrip_sparse_flatten (env : Env) (sep : Str) (s : Schema) (e : Elem)
    (hs : SepSafe env sep (Tok s)) (henv : EnvOK env) (hw : wf s = true)
    (hroot : rootOK s = true) (hok : OkS env s e) :
    flatten env sep s (fromFlat env sep s (flatten env sep s e)) = flatten env sep s (prS env sep false s e) := by
  rw [roundtrip_sparse env sep s e hs henv hw hroot hok]

/-- `hok2` holds under `blankSettled` and `arraysScalar`: `prS_okS` (Lemmas/C01SparseSecondOk.lean) -/
theorem roundtrip_sparse_second (env : Env) (sep : Str) (s : Schema) (e : Elem)
    (hs : SepSafe env sep (Tok s)) (henv : EnvOK env) (hw : wf s = true)
    (hroot : rootOK s = true) (hok : OkS env s e) (hok2 : OkS env s (prS env sep false s e)) :
    fromFlat env sep s (flatten env sep s (fromFlat env sep s (flatten env sep s e)))
      = prS env sep false s (prS env sep false s e) := by
  rw [roundtrip_sparse env sep s e hs henv hw hroot hok,
    roundtrip_sparse env sep s _ hs henv hw hroot hok2]

theorem namesOfS_eq (fs : List Schema) : namesOfS fs = namesOf fs := by
  induction fs with
  | nil => rfl
  | cons f fs ih => simp [namesOfS, namesOf, ih]

mutual
theorem wfS_eq : ∀ s : Schema, wfS s = wf s
  | .leaf .. => by simp [wfS, wf]
  | .dict _ _ _ fields => by simp [wfS, wf, wfSL_eq fields, namesOfS_eq]
  | .compound _ _ _ fields => by simp [wfS, wf, wfSL_eq fields, namesOfS_eq]
  | .list _ _ _ _ member => by simp [wfS, wf, wfS_eq member]
  | .array _ _ _ member => by simp [wfS, wf, wfS_eq member]
  | .joined _ _ _ member => by simp [wfS, wf, wfS_eq member]
theorem wfSL_eq : ∀ fs : List Schema, wfSL fs = wfL fs
  | [] => by simp [wfSL, wfL]
  | f :: fs => by simp [wfSL, wfL, wfS_eq f, wfSL_eq fs]
end

theorem leavesOf_some : ∀ (ms : List Elem) (l : List Str), leavesOf ms = some l → ms = l.map Elem.leaf
  | [], l, h => by
    simp only [leavesOf, Option.some.injEq] at h
    subst h; rfl
  | .leaf u :: es, l, h => by
    simp only [leavesOf, Option.map_eq_some_iff] at h
    obtain ⟨l', hl', rfl⟩ := h
    rw [leavesOf_some es l' hl']; rfl
  | .dict _ :: _, _, h => by simp [leavesOf] at h
  | .list _ :: _, _, h => by simp [leavesOf] at h
  | .array _ :: _, _, h => by simp [leavesOf] at h
  | .joined _ _ :: _, _, h => by simp [leavesOf] at h

theorem okSAnyB_sound_of (env : Env) {fs : List Schema}
    (hf : ∀ f ∈ fs, ∀ e, okSB env f e = true → OkS env f e) (k : Str) (e : Elem)
    (h : okSAnyB env fs k e = true) : OkSAny env fs k e := by
  induction fs with
  | nil => simp [okSAnyB] at h
  | cons f fs ih =>
    simp only [okSAnyB, Bool.or_eq_true, Bool.and_eq_true, beq_iff_eq] at h
    simp only [OkSAny]
    rcases h with h | h
    · exact Or.inl ⟨h.1, hf f (List.mem_cons_self ..) e h.2⟩
    · exact Or.inr (ih (fun g hg => hf g (List.mem_cons_of_mem _ hg)) h)

/-- the runner's `thm_hyp` test is sound: what it accepts conforms (`OkS`) -/
theorem okSB_sound (env : Env) : ∀ (s : Schema) (e : Elem), okSB env s e = true → OkS env s e := by
  intro s
  induction s using schema_ind_mapping with
  | hleaf n o k =>
    intro e h
    cases e <;> simp_all [okSB, OkS, OkP]
  | hjoined n o k m =>
    intro e h
    cases e with
    | joined u ms =>
      simp only [okSB, Bool.and_eq_true, Bool.or_eq_true, beq_iff_eq, List.isEmpty_iff] at h
      simp only [OkS, OkP]
      refine ⟨h.1, ?_⟩
      rcases h.2 with h2 | h2
      · exact Or.inl (leavesOf_some ms _ h2)
      · exact Or.inr h2
    | _ => simp [okSB] at h
  | harray n o p m _ =>
    intro e h
    cases e with
    | array ms =>
      cases m with
      | leaf cn co k =>
        simp only [okSB, List.all_eq_true] at h
        simp only [OkS, OkP]
        refine ⟨⟨cn, co, k, rfl⟩, ?_⟩
        intro x hx
        have := h x hx
        cases x with
        | leaf u => simpa [OkP] using this
        | _ => exact Bool.noConfusion this
      | _ => simp [okSB] at h
    | _ => cases m <;> simp [okSB] at h
  | hdict n o mode fields ih =>
    intro e h
    cases e with
    | dict ms =>
      simp only [okSB, Bool.and_eq_true, decide_eq_true_eq, List.all_eq_true] at h
      simp only [OkS]
      exact ⟨h.1, fun p hp => okSAnyB_sound_of env ih p.1 p.2 (h.2 p hp)⟩
    | _ => simp [okSB] at h
  | hcompound n o k fields ih =>
    intro e h
    have : okSB env (.compound n o k fields) e = okSB env (.dict n o .dense fields) e := by cases e <;> rfl
    exact (okS_compound n o k fields e).mpr (ih e (this ▸ h))
  | hlist n o p mx member ih =>
    intro e h
    cases e with
    | list ms =>
      simp only [okSB, Bool.and_eq_true, decide_eq_true_eq, List.all_eq_true, List.mem_range] at h
      simp only [OkS]
      exact ⟨h.1.1, h.1.2, fun x hx => ih x (h.2 x hx)⟩
    | _ => simp [okSB] at h

theorem okSAnyB_sound (env : Env) : ∀ (fs : List Schema) (k : Str) (e : Elem),
    okSAnyB env fs k e = true → OkSAny env fs k e :=
  fun _ k e h => okSAnyB_sound_of env (fun f _ => okSB_sound env f) k e h

/-- for the examples: `decide` cannot run `okSB` on a List itself, `natStr` being a well-founded recursion -/
theorem okS_short_list {env : Env} {nm : Option Str} {o p : Bool} {mx : Nat} {member : Schema}
    {ms : List Elem} (hlen : ms.length ≤ mx) (hdig : ms.length ≤ env.maxDigits)
    (h : ms.all (okSB env member) = true) : OkS env (.list nm o p mx member) (.list ms) := by
  rw [OkS]
  refine ⟨hlen, fun i hi => ?_, fun e he => okSB_sound env member e (List.all_eq_true.mp h e he)⟩
  have := natStr_length_le i
  omega

/-- SparseDict(minimum_fields='required'){ o1?: String, r: String, o2?: String } -/
def exReqSchema : Schema :=
  .dict none false .sparseReq
    [ .leaf (some "o1".toList) true 0, .leaf (some "r".toList) false 0, .leaf (some "o2".toList) true 0 ]

def exReqElem : Elem := .dict [("o2".toList, .leaf "y".toList), ("r".toList, .leaf "x".toList)]

theorem exReq_sepSafe : SepSafe exEnv01 "_".toList (Tok exReqSchema) :=
  sepSafe_single_char exEnv01 exEnvOK exReqSchema '_' (by decide +kernel) (by decide +kernel)

theorem exReq_ok : OkS exEnv01 exReqSchema exReqElem := okSB_sound _ _ _ (by decide +kernel)

/-- the required member comes back FIRST (although it was inserted last and is declared second),
    then the touched optional one; the absent optional member stays absent (KF-C01-d) -/
example : fromFlat exEnv01 "_".toList exReqSchema (flatten exEnv01 "_".toList exReqSchema exReqElem)
    = .dict [("r".toList, .leaf "x".toList), ("o2".toList, .leaf "y".toList)] := by
  rw [roundtrip_sparse exEnv01 "_".toList exReqSchema exReqElem exReq_sepSafe exEnvOK (by decide +kernel)
    (by decide +kernel) exReq_ok]
  simp only [exReqSchema, exReqElem]; simp [flat_eval, prS_eval]

/-- List 'l' of Dict{ id: String, sp: SparseDict{ r: String, o1?: String, o2?: String } } -/
def exNestSchema : Schema :=
  .list (some "l".toList) false true 1024
    (.dict none false .dense
      [ .leaf (some "id".toList) false 0,
        .dict (some "sp".toList) false .sparse
          [ .leaf (some "r".toList) false 0, .leaf (some "o1".toList) true 0,
            .leaf (some "o2".toList) true 0 ] ])

def exNestElem : Elem :=
  .list [ .dict [ ("id".toList, .leaf "1".toList),
                  ("sp".toList, .dict [("o2".toList, .leaf "y".toList), ("r".toList, .leaf "x".toList)]) ] ]

/-- the names are tested by evaluating `names exNestSchema` as a whole: unfolding `names` inside a
    hypothesis leaves the kernel a conversion whose check is exponential in the nesting depth -/
theorem exNest_sepSafe : SepSafe exEnv01 "_".toList (Tok exNestSchema) :=
  sepSafe_single_char exEnv01 exEnvOK exNestSchema '_' (by decide +kernel) (by decide +kernel)

theorem exNest_ok : OkS exEnv01 exNestSchema exNestElem :=
  okS_short_list (by decide +kernel) (by decide +kernel) (by decide +kernel)

/-- the hypotheses of `roundtrip_sparse` are satisfiable by a SparseDict with a required and two
    optional members, one absent, held out of declaration order, inside a List of Dicts -/
example : fromFlat exEnv01 "_".toList exNestSchema (flatten exEnv01 "_".toList exNestSchema exNestElem)
    = prS exEnv01 "_".toList false exNestSchema exNestElem :=
  roundtrip_sparse exEnv01 "_".toList exNestSchema exNestElem exNest_sepSafe exEnvOK (by decide +kernel)
    (by decide +kernel) exNest_ok

theorem sparse_ok : OkS exEnv01 sparseSchema sparseElem := okSB_sound _ _ _ (by decide +kernel)

/-- `roundtrip_sparse_fails` (Proofs/C01Examples.lean) refutes "the flat output is identical" for
    `sparseElem` = {b: 1, a: 2}; `roundtrip_sparse` says what the rebuilt tree is instead: the same
    members in declaration order -/
example : prS exEnv01 "_".toList false sparseSchema sparseElem
    = .dict [("a".toList, .leaf "2".toList), ("b".toList, .leaf "1".toList)] := by
  simp only [sparseSchema, sparseElem]; simp [flat_eval, prS_eval]

/-- … and that state is not in normal order, which is the decidable reason the flat output moves -/
example : sparseNormal sparseSchema sparseElem = false := by decide +kernel

def exEnvUp : Env :=
  { norm := fun _ s => if s = "x".toList then "X".toList else s, compose := fun _ _ => [],
    joinedMembers := fun _ _ => [], ndZeros := [48], maxDigits := 4300 }

/-- without "every leaf is settled" (`OkS`) the conclusion fails: the leaf comes back as `norm "x"` -/
example : fromFlat exEnvUp "_".toList (.leaf (some "a".toList) false 0)
      (flatten exEnvUp "_".toList (.leaf (some "a".toList) false 0) (.leaf "x".toList))
    ≠ prS exEnvUp "_".toList false (.leaf (some "a".toList) false 0) (.leaf "x".toList) := by
  simp [flat_eval, prS_eval, fromFlat, setFlat, wrap, exEnvUp]

/-- **what the runner's flag means**: if the runner reports `thm_hyp` (and the separator is
    `SepSafe`), the model's round trip IS `prS e` -/
theorem roundtrip_sparse_checked (env : Env) (sep : Str) (s : Schema) (e : Elem)
    (hs : SepSafe env sep (Tok s)) (henv : EnvOK env)
    (h : (okSB env s e && wfS s && rootOK s) = true) :
    fromFlat env sep s (flatten env sep s e) = prS env sep false s e := by
  simp only [Bool.and_eq_true] at h
  exact roundtrip_sparse env sep s e hs henv (by rw [← wfS_eq]; exact h.1.2) h.2
    (okSB_sound env s e h.1.1)

end Flatland.Flat.Proofs
