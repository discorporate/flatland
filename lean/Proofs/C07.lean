/-
C07 — flatten() is compositional and names every leaf by its position.

The model is `Flatland.Flat.flatten` (`flattenNode` / `bfsFlat`): the queue loop of
`Element.flatten` over element trees resolved against their schema.
-/
import Flatland.Flat
import Proofs.Lemmas.FlatBfs
namespace Flatland.Flat.Proofs
open Flatland.Flat

/-- C07, compositional: the pairs a container emits are exactly its own pair (if it is flattenable)
    plus the pairs each member emits from its own `flatten()`, provided the container lets its
    members be flattened (`children_flattenable`).  Stated as equality of multisets (`List.Perm`),
    for every node of every tree, every separator, every path of ancestor names. -/
theorem flatten_compositional (sep : Str) (p : List Str) (n : FNode) (h : n.cfl = true) :
    (flattenAt sep p n).Perm
      (ownPair sep (p, n) ++ (childItems p n).flatMap (fun it => flattenAt sep it.1 it.2)) := by
  unfold flattenAt
  apply List.Perm.append_left
  have : pushed (p, n) = childItems p n := by simp [pushed, h]
  rw [this]
  exact bfsFlat_perm_flatMap sep _

theorem flatten_root_compositional (sep : Str) (n : FNode) (h : n.cfl = true) :
    (flattenNode sep n).Perm
      (ownPair sep ([], n) ++ (childItems [] n).flatMap (fun it => flattenAt sep it.1 it.2)) := by
  rw [flattenNode_eq]; exact flatten_compositional sep [] n h

/-- C07, exact order: the queue emits one whole level, then everything that level
    pushed: the breadth-first order of the documentation. -/
theorem flatten_level_order (sep : Str) (q : List QItem) :
    bfsFlat sep q = q.flatMap (ownPair sep) ++ bfsFlat sep (q.flatMap pushed) :=
  bfsFlat_level sep q

/-- C07, joined values are opaque: an element that does not let its members be flattened
    (JoinedString) emits its own pair and nothing else … -/
theorem joined_opaque (sep : Str) (p : List Str) (n : FNode) (h : n.cfl = false) :
    flattenAt sep p n = ownPair sep (p, n) := by
  simp [flattenAt, pushed, h, bfsFlat_nil]

/-- … and an ancestor never emits anything from beneath it: in the ancestor's queue the joined
    element contributes exactly its own pair. -/
theorem joined_opaque_in_queue (sep : Str) (it : QItem) (q : List QItem) (h : it.2.cfl = false) :
    bfsFlat sep (it :: q) = ownPair sep it ++ bfsFlat sep q := by
  rw [bfsFlat_cons]; simp [pushed, h]

/-- path handed to member `i` of a node: the node's own name is appended; members of a List get
    their *position* interposed -/
def childPath (p : List Str) (n : FNode) (i : Nat) : List Str :=
  if n.slots then namePath p n ++ [natStr i] else namePath p n

theorem kidsFrom_eq (p : List Str) (s : Bool) (i : Nat) (ks : List FNode) :
    kidsFrom p s i ks =
      (List.range ks.length).map (fun j => ((if s then p ++ [natStr (i + j)] else p), ks[j]!)) := by
  rw [kidsFrom_zipIdx]
  apply List.ext_getElem (by simp)
  intro j h1 _
  have hj : j < ks.length := by simpa using h1
  simp [List.getElem?_eq_getElem hj]

/-- C07, positional: member `i` of a node is enqueued with the node's path extended by the node's
    name and — for Lists — by the decimal form of its current position `i`. -/
theorem childItems_positional (p : List Str) (n : FNode) :
    childItems p n = (List.range n.kids.length).map (fun i => (childPath p n i, n.kids[i]!)) := by
  unfold childItems childPath
  rw [kidsFrom_eq]
  apply List.map_congr_left
  intro j _
  simp

/-- `Below p n p' n'`: the element `n'` (with ancestor names `p'`) is `n` itself or lies beneath `n`
    along members that are allowed to be flattened, the path growing as in `childPath`. -/
inductive Below : List Str → FNode → List Str → FNode → Prop
  | here (p n) : Below p n p n
  | kid {p n p' n'} (i : Nat) (hc : n.cfl = true) (hi : i < n.kids.length)
      (h : Below (childPath p n i) (n.kids[i]!) p' n') : Below p n p' n'

theorem mem_childItems {p : List Str} {n : FNode} {it : QItem} (h : it ∈ childItems p n) :
    ∃ i, i < n.kids.length ∧ it = (childPath p n i, n.kids[i]!) := by
  rw [childItems_positional] at h
  simp only [List.mem_map, List.mem_range] at h
  obtain ⟨i, hi, rfl⟩ := h
  exact ⟨i, hi, rfl⟩

theorem mem_bfsFlat_below (sep : Str) (q : List QItem) : ∀ x ∈ bfsFlat sep q,
    ∃ it ∈ q, ∃ p' n', Below it.1 it.2 p' n' ∧ n'.fl = true ∧ x = (joinSep sep (namePath p' n'), n'.u) := by
  induction q using level_ind with
  | nil => intro x hx; simp [bfsFlat_nil] at hx
  | level it q ih =>
    intro x hx
    rw [bfsFlat_level] at hx
    rcases List.mem_append.mp hx with h | h
    · obtain ⟨a, ha, hxa⟩ := List.mem_flatMap.mp h
      unfold ownPair at hxa
      split at hxa
      · exact ⟨a, ha, a.1, a.2, .here _ _, ‹_›, List.mem_singleton.mp hxa⟩
      · cases hxa
    · obtain ⟨c, hc, p', n', hb, hfl, rfl⟩ := ih x h
      obtain ⟨a, ha, hca⟩ := List.mem_flatMap.mp hc
      unfold pushed at hca
      split at hca
      · obtain ⟨i, hi, rfl⟩ := mem_childItems hca
        exact ⟨a, ha, p', n', .kid i ‹_› hi hb, hfl, rfl⟩
      · cases hca

/-- C07, keys are paths: every pair emitted by `flatten()` belongs to a flattenable element lying
    at or beneath the root along flattenable-children links; its key is the separator-join of the
    names on the path from the root, list members contributing their current index; its value is
    that element's text. -/
theorem keys_are_paths (sep : Str) (n : FNode) (x : Str × Str) (hx : x ∈ flattenNode sep n) :
    ∃ p' n', Below [] n p' n' ∧ n'.fl = true ∧ x = (joinSep sep (namePath p' n'), n'.u) := by
  rw [flattenNode_eq, ← bfsFlat_single sep ([], n)] at hx
  obtain ⟨it, hit, h⟩ := mem_bfsFlat_below sep _ x hx
  rw [List.mem_singleton.mp hit] at h
  exact h

/-- Nothing beneath an element that presents itself as a single joined value is `Below` it (other
    than the element itself), hence nothing beneath it is ever emitted. -/
theorem below_joined {p : List Str} {n : FNode} (h : n.cfl = false) {p' n'} (hb : Below p n p' n') :
    p' = p ∧ n' = n := by
  cases hb with
  | here => exact ⟨rfl, rfl⟩
  | kid i hc _ _ => rw [h] at hc; cases hc

/-- a Dict holding a joined value, a List of two strings and a scalar -/
def exNode : FNode :=
  .mk none false true [] false
    [ .mk (some "j".toList) true false "a,b".toList false
        [.mk none true true "a".toList false [], .mk none true true "b".toList false []],
      .mk (some "l".toList) false true [] true
        [.mk (some "s".toList) true true "x".toList false [], .mk (some "s".toList) true true "y".toList false []],
      .mk (some "k".toList) true true "z".toList false [] ]

example : flattenNode "_".toList exNode =
    [("j".toList, "a,b".toList), ("k".toList, "z".toList),
     ("l_0_s".toList, "x".toList), ("l_1_s".toList, "y".toList)] := by
  simp [flattenNode, exNode, bfsFlat, childItems, kidsFrom, namePath, joinSep, natStr, FNode.fl,
    FNode.cfl, FNode.u, FNode.name, FNode.kids, FNode.slots]
  decide

end Flatland.Flat.Proofs
