/-
C14: "`[a:b:c]` selects the same children as the Python slice a:b:c" as a theorem relative to the
DOCUMENTED definition of slicing (`slice.indices` = PySlice_AdjustIndices, written out in
`Flatland.PyList.adjust`; `list[slice]` = `PyList.getSlice`), not relative to the model's own
`pySlice`.  The arithmetic is `Proofs/Lemmas/C14SliceSpec.lean` (`pySlice_spec`); here it is stated
for the evaluator's SLICE operation (`runCtx`) and for spec B's slice step (`stepDen`).
-/
import Flatland.Path
import Flatland.PyList
import Flatland.Spec.C14
import Proofs.Lemmas.C14SliceSpec
import Proofs.Lemmas.PathTree
namespace Flatland.C14.Proofs
open Flatland.Path Flatland.PyList Flatland.C14.Spec

theorem filterMap_get?_children (root : Node) (el : Pos) (is : List Nat) :
    (is.map (fun i => el ++ [i])).filterMap root.get? = is.filterMap (fun i => (kidsAt root el)[i]?) := by
  rw [List.filterMap_map]
  exact congrArg (List.filterMap · is) (funext (Lemmas.get?_child root el))

/-- the children the positions `pySlice` selects below `el` stand for: Python's `children[a:b:c]` -/
theorem slice_children_python (root : Node) (el : Pos) (a b c : Option Int) (hc : c ≠ some 0) :
    getSlice (kidsAt root el) ⟨a, b, c⟩ =
      .ok (((pySlice (kidsAt root el).length a b c).map (fun i => el ++ [i])).filterMap root.get?) := by
  rw [getSlice_eq_pySlice, if_neg hc, filterMap_get?_children]

/-- **the evaluator's SLICE operation is Python's slice of the children**: a step written as 0 is
    the `ValueError` of `children[a:b:0]`; otherwise the contexts spawned are the positions
    `el ++ [start + k*step]`, `k < count`, of `slice(a, b, c).indices(len(children))`, and the elements
    at these positions are `children[a:b:c]`, one position per element. -/
theorem C14_slice_is_python_slice (root : Node) (strict : Bool) (a b c : Option Int) (r : List Op)
    (el : Pos) :
    (c = some 0 ∧ getSlice (kidsAt root el) ⟨a, b, c⟩ = .error .valueError
        ∧ runCtx root strict (.slice a b c :: r) el = .error .value) ∨
    (c ≠ some 0 ∧ ∃ ps : List Pos,
        ps = (indices (sliceIx (kidsAt root el).length a b c)).map (fun i => el ++ [i])
        ∧ runCtx root strict (.slice a b c :: r) el = .ok (.spawn r ps)
        ∧ getSlice (kidsAt root el) ⟨a, b, c⟩ = .ok (ps.filterMap root.get?)
        ∧ (ps.filterMap root.get?).length = ps.length) := by
  by_cases hc : c = some 0
  · left
    subst hc
    exact ⟨rfl, by rw [getSlice_eq_pySlice, if_pos rfl], rfl⟩
  · right
    refine ⟨hc, _, rfl, ?_, ?_, ?_⟩
    · rw [runCtx, if_neg (by simpa using hc), pySlice_spec _ _ _ _ hc]
    · rw [← pySlice_spec _ _ _ _ hc]; exact slice_children_python root el a b c hc
    · rw [← pySlice_spec _ _ _ _ hc, filterMap_get?_children, pySlice_filterMap_length, List.length_map]

/-- the same for spec B's slice step (`stepDen`, what `denote` is made of) -/
theorem stepDen_slice_is_python_slice (root : Node) (strict : Bool) (a b : Option Int)
    (c : Option (Option Int)) (el : Pos) :
    (Step.stride c = some 0 ∧ stepDen root strict (.slice a b c) el = .error .value) ∨
    (Step.stride c ≠ some 0 ∧
      stepDen root strict (.slice a b c) el =
        .ok ((indices (sliceIx (kidsAt root el).length a b (Step.stride c))).map (fun i => el ++ [i]))) := by
  have hk : (nodeAt root el).kids = kidsAt root el := by
    unfold kidsAt nodeAt; cases root.get? el <;> rfl
  by_cases hc : Step.stride c = some 0
  · left; exact ⟨hc, by rw [stepDen, if_pos (by simpa using hc)]⟩
  · right
    exact ⟨hc, by rw [stepDen, if_neg (by simpa using hc), hk, pySlice_spec _ _ _ _ hc]⟩

/-! non-vacuity: `[1::2]` and `[::0]` on a five-member list -/
private def five : Node :=
  .mk .list (some []) [] ((List.range 5).map (fun i => .mk .scalar (some []) (toString i).toList []))

example : ∃ ps, runCtx five true [.slice (some 1) none (some 2)] [] = .ok (.spawn [] ps) ∧ ps = [[1], [3]] := by
  rcases C14_slice_is_python_slice five true (some 1) none (some 2) [] [] with h | ⟨_, ps, h1, h2, _⟩
  · exact absurd h.1 (by decide)
  · exact ⟨ps, h2, by rw [h1]; decide⟩

example : runCtx five true [.slice none none (some 0)] [] = .error .value := by
  rcases C14_slice_is_python_slice five true none none (some 0) [] [] with h | h
  · exact h.2.2
  · exact absurd rfl h.1

end Flatland.C14.Proofs
