/-
C18 — derived elements always reflect their parts.
Model A: Flatland/C18.lean (+ Flatland/C04.lean for whole-element set).  Spec B: Flatland/Spec/C18.lean.
-/
import Proofs.Lemmas.C04Num
import Proofs.Lemmas.ExceptBasic
import Proofs.C18Multi
import Proofs.C18Flat
import Proofs.C18Joined
import Proofs.C18Explode
import Flatland.Spec.C18
import Flatland.Generated.C04Tables
namespace Flatland.C18.Proofs
open Flatland.Scalar Flatland.Scalar.Spec Flatland.C18 Flatland.C18.Spec
open Flatland.C04.Proofs (plainEnv pyTables_ok)

theorem strip_dateFmt (T : Tables) (hT : T.OK) (y m d : Int) :
    strip T (fmtInt 4 y ++ ['-'] ++ fmtInt 2 m ++ ['-'] ++ fmtInt 2 d) =
      fmtInt 4 y ++ ['-'] ++ fmtInt 2 m ++ ['-'] ++ fmtInt 2 d := by
  simpa only [List.append_assoc] using strip_between T hT 4 y 2 d (['-'] ++ (fmtInt 2 m ++ ['-']))

theorem asInt_some {v : Native} {i : Int} (h : asInt v = some i) : v = .int i := by
  cases v <;> cases h
  rfl

theorem date_compose_spec (E : Env) (hT : E.T.OK) (vy vm vd : Native) (hfit : MembersFit E.T vy vm vd) :
    composeDate E vy vm vd = .ok (specCompose vy vm vd) := by
  unfold composeDate specCompose dateOf
  cases hy : asInt vy with
  | none => rfl
  | some y =>
    cases hm : asInt vm with
    | none => rfl
    | some m =>
      cases hd : asInt vd with
      | none => rfl
      | some d =>
        have hvy := asInt_some hy
        have hvm := asInt_some hm
        have hvd := asInt_some hd
        have f1 := hfit vy (by simp) y hvy
        have f2 := hfit vm (by simp) m hvm
        have f3 := hfit vd (by simp) d hvd
        simp only [f1, f2, f3, Bool.and_self, if_true]
        simp only [adapt, if_true, strip_dateFmt E.T hT, adaptTemporalText, matchDate_fmt E.T hT]
        by_cases hr : 0 ≤ y ∧ y < 10000 ∧ 0 ≤ m ∧ m < 100 ∧ 0 ≤ d ∧ d < 100
        · simp only [hr, and_self, if_true]
          by_cases hv : validDate y.toNat m.toNat d.toNat = true
          · simp only [hv, if_true, and_self]
            obtain ⟨yn, rfl⟩ := Int.eq_ofNat_of_zero_le hr.1
            obtain ⟨mn, rfl⟩ := Int.eq_ofNat_of_zero_le hr.2.2.1
            obtain ⟨dn, rfl⟩ := Int.eq_ofNat_of_zero_le hr.2.2.2.2.1
            simp [dateText, pad4, pad2]
          · simp [hv]
        · have hc : ¬ (0 ≤ y ∧ 0 ≤ m ∧ 0 ≤ d ∧ validDate y.toNat m.toNat d.toNat = true) := by
            intro h
            have := validDate_bounds _ _ _ h.2.2.2
            omega
          simp [hr, hc]

theorem intFits_small (T : Tables) (hT : T.OK) (n : Nat) (h : n < 10 ^ 4) : intFits T (n : Int) = true := by
  have h4 := hT.2.2.2.2.1
  have : 10 ^ 4 ≤ 10 ^ T.maxDigits := Nat.pow_le_pow_right (by omega) h4
  simp only [intFits, Int.natAbs_natCast, decide_eq_true_eq]
  omega

theorem setScalar_int_member (E : Env) (sg : Bool) (w : Nat) (n : Nat) (hfit : intFits E.T (n : Int) = true) :
    setScalar E (.integer sg w) (.int n) = .ok ⟨⟨.int n, .int n, fmtInt w n⟩, true, [true]⟩ := by
  have : ¬ ((n : Int) < 0) := by omega
  cases sg <;> simp [setScalar, adapt, checkSigned, uOfValue, serialize, pyFmtInt, hfit, this]

theorem specCompose_valid (y m d : Nat) (hv : validDate y m d = true) :
    specCompose (.int y) (.int m) (.int d) = (dateText y m d, .date y m d) := by
  simp [specCompose, dateOf, asInt, hv]

/-- C18, "setting it with a date or date text sets exactly those members": setting a DateYYYYMMDD with a value that
    denotes the date `y-m-d` (a date, a datetime, or a text the Date type adapts) returns True, sets year, month
    and day to exactly `y`, `m`, `d`, and the element then composes back to that date. -/
theorem date_explode (E : Env) (hT : E.T.OK) (c : DateCfg) (hc : c.Integers) (s : DateState) (x : Native) (y m d : Nat)
    (hv : validDate y m d = true)
    (hx : adapt E (.date true) x = .ok (some (.date y m d)) ∨
          ∃ h mi sec us, adapt E (.date true) x = .ok (some (.datetime y m d h mi sec us))) :
    ∃ s', s.step E c (.set x) = .ok (s', some true) ∧
      s'.y.value = .int y ∧ s'.m.value = .int m ∧ s'.d.value = .int d ∧
      s'.compose E = .ok (dateText y m d, .date y m d) := by
  obtain ⟨hy, hm, hd⟩ := validDate_bounds y m d hv
  have fy := intFits_small E.T hT y hy
  have fm := intFits_small E.T hT m (by omega)
  have fd := intFits_small E.T hT d (by omega)
  have hcomp : composeDate E (.int y) (.int m) (.int d) = .ok (dateText y m d, .date y m d) := by
    rw [date_compose_spec E hT _ _ _ (by
      intro v hv' i hi
      simp only [List.mem_cons, List.mem_nil_iff, or_false] at hv'
      rcases hv' with h | h | h <;> (subst h; cases hi; assumption)), specCompose_valid y m d hv]
  obtain ⟨⟨sy, wy, hky⟩, ⟨sm, wm, hkm⟩, ⟨sd, wd, hkd⟩⟩ := hc
  refine ⟨⟨⟨.int y, .int y, fmtInt wy y⟩, ⟨.int m, .int m, fmtInt wm m⟩, ⟨.int d, .int d, fmtInt wd d⟩⟩, ?_, rfl, rfl, rfl, hcomp⟩
  rw [Flatland.C18.Explode.Proofs.step_set_date E c s x y m d hx]
  simp only [Flatland.C18.Explode.Proofs.setMembers, hky, hkm, hkd, setScalar_int_member, fy, fm, fd]

/-- non-vacuity of `Flatland.C18.Explode.Proofs.date_explode_all_members`: its hypothesis (a completed
    whole-element set with a value that denotes a date) holds e.g. for the generated members -/
example (E : Env) (hT : E.T.OK) (s : DateState) (x : Native) (y m d : Nat) (hv : validDate y m d = true)
    (hx : adapt E (.date true) x = .ok (some (.date y m d))) : ∃ s' ret, s.step E {} (.set x) = .ok (s', ret) := by
  obtain ⟨s', h, _⟩ := date_explode E hT {} ⟨⟨true, 4, rfl⟩, ⟨true, 2, rfl⟩, ⟨true, 2, rfl⟩⟩ s x y m d hv (Or.inl hx)
  exact ⟨s', _, h⟩

theorem findSome_map_ok {α β} (f : Except Raise β → Option α) (hf : ∀ r, f (.ok r) = none)
    (rs : List β) : (rs.map Except.ok).findSome? f = none := by
  induction rs with
  | nil => rfl
  | cons r t ih => simp [hf, ih]

theorem filterMap_map_ok {β} (f : Except Raise β → Option β) (hf : ∀ r, f (.ok r) = some r)
    (rs : List β) : (rs.map Except.ok).filterMap f = rs := by
  induction rs with
  | nil => rfl
  | cons r t ih => simp [hf, ih]

theorem settled_results (E : Env) (k : Kind) (s : JoinedState) (h : Settled E k s) :
    ∃ rs : List SetResult, s.map (fun st => setScalar E k (.str st.u)) = rs.map .ok ∧
      rs.map (·.st.u) = s.map (·.u) := by
  induction s with
  | nil => exact ⟨[], rfl, rfl⟩
  | cons st t ih =>
    obtain ⟨r, hr, hu⟩ := h st (by simp)
    obtain ⟨rs, h1, h2⟩ := ih (fun x hx => h x (List.mem_cons_of_mem _ hx))
    exact ⟨r :: rs, by simp [hr, h1], by simp [hu, h2]⟩

theorem keepPieces_fst (prune : Bool) (l : List (SState × Bool × List (Bool × SState))) (i : Nat) :
    (Flatland.C04.keepPieces prune l i).1 =
      (l.filter fun r => !(prune && r.1.u.isEmpty)).map fun r => (r.1, r.2.1) := by
  induction l generalizing i with
  | nil => rfl
  | cons r rest ih =>
    simp only [Flatland.C04.keepPieces, List.filter_cons]
    cases prune && r.1.u.isEmpty <;> simp [ih]

theorem keepPieces_nonempty (prune : Bool) (l : List (SState × Bool × List (Bool × SState))) (i : Nat) :
    ∀ q ∈ (Flatland.C04.keepPieces prune l i).1, prune = true → q.1.u ≠ [] := by
  intro q hq hp
  rw [keepPieces_fst] at hq
  obtain ⟨r, hr, rfl⟩ := List.mem_map.mp hq
  simpa [hp] using (List.mem_filter.mp hr).2

/-- `h`: every piece of the text sets without raising, `rs` the results in order -/
theorem joinedSet_text (E : Env) (c : JoinedCfg) (s : JoinedState) (t : Str) (rs : List SetResult)
    (h : (splitWith E.T c.sp c.sep t).map (fun u => setScalar E c.member (.str u)) = rs.map .ok) :
    joinedSet E c s (.leaf (.str t)) =
      .ok (((rs.filter fun r => !(c.prune && r.st.u.isEmpty)).map (·.st)),
           some ((rs.filter fun r => !(c.prune && r.st.u.isEmpty)).all (·.flag))) := by
  have h' : List.map (fun v => Flatland.C04.scalarSetTrace E c.member Flatland.C04.blankState v)
      (List.map Native.str (splitWith E.T c.sp c.sep t)) =
      (rs.map fun r => (r.st, r.flag, [(r.flag, r.st)])).map .ok := by
    have := congrArg (List.map fun o : Except Raise SetResult =>
      match o with | .ok r => Except.ok (r.st, r.flag, [(r.flag, r.st)]) | .error e => .error e) h
    simp only [List.map_map, Function.comp_def] at this
    simp only [List.map_map, Function.comp_def, Flatland.C04.Proofs.scalarSetTrace_eq]
    exact this
  unfold joinedSet JoinedCfg.schema
  simp only [Flatland.C04.setElem, h']
  rw [findSome_map_ok _ (fun _ => rfl), filterMap_map_ok _ (fun _ => rfl)]
  simp only [keepPieces_fst, joinedOfElem, List.filter_map, List.map_map, Function.comp_def, List.all_map]

theorem setElem_joined_noEmpty (E : Env) (sep : Str) (sp : Splitter) (prune : Bool) (k : Kind)
    (old : Flatland.C04.Elem) (x : Flatland.C04.Input) (out : Flatland.C04.SetOut)
    (h : Flatland.C04.setElem E (.joined sep sp prune k) old x = .ok out) :
    ∃ ms, out.elem = .joined ms ∧ (prune = true → ∀ st ∈ ms, st.u ≠ []) := by
  simp only [Flatland.C04.setElem] at h
  split at h
  · simp at h
  · simp only [Except.ok.injEq] at h; subst h; exact ⟨[], rfl, by simp⟩
  · split at h
    · simp at h
    · simp only [Except.ok.injEq] at h; subst h
      refine ⟨_, rfl, ?_⟩
      intro hp st hst
      obtain ⟨q, hq, rfl⟩ := List.mem_map.mp hst
      exact keepPieces_nonempty prune _ 0 q hq hp

/-- after any completed whole-element `set()` of a JoinedString no member has the text `''` under prune_empty (the
    pieces are pruned on the member's text, fix 2a6b55c); only member mutation (append / member set) can break
    `NoEmptyTextUnderPrune` (KF-C18-a) -/
theorem set_establishes_noEmpty (E : Env) (c : JoinedCfg) (s s' : JoinedState) (x : Flatland.C04.Input)
    (ret : Option Bool) (h : joinedSet E c s x = .ok (s', ret)) : NoEmptyTextUnderPrune c s' := by
  unfold joinedSet at h
  cases hset : Flatland.C04.setElem E c.schema (.joined s) x with
  | error e => simp [hset] at h
  | ok out =>
    simp only [hset, Except.ok.injEq, Prod.mk.injEq] at h
    obtain ⟨rfl, _⟩ := h
    obtain ⟨ms, hms, hne⟩ := setElem_joined_noEmpty E c.sep c.sp c.prune c.member _ x out hset
    rw [hms]
    exact hne

/-- C18, "setting that value again reproduces the same value", outside KF-C18-a (`NoEmptyTextUnderPrune`) and
    KF-C18-c (`SplitStable`) -/
theorem joined_reset_partial (E : Env) (c : JoinedCfg) (s : JoinedState)
    (hsplit : SplitStable E.T c s) (hprune : NoEmptyTextUnderPrune c s) (hset : Settled E c.member s) :
    ∃ s' flag, joinedSet E c s (.leaf (.str (joinedValue c s))) = .ok (s', some flag) ∧
      joinedValue c s' = joinedValue c s := by
  obtain ⟨rs, h1, h2⟩ := settled_results E c.member s hset
  have hkeep : (rs.filter fun r => !(c.prune && r.st.u.isEmpty)) = rs := by
    apply List.filter_eq_self.mpr
    intro r hr
    cases hp : c.prune
    · rfl
    · have : r.st.u ∈ s.map (·.u) := h2 ▸ List.mem_map_of_mem (f := fun x : SetResult => x.st.u) hr
      obtain ⟨st, hst, hu⟩ := List.mem_map.mp this
      simpa [← hu] using hprune hp st hst
  refine ⟨_, _, joinedSet_text E c s _ rs (by rw [hsplit, List.map_map]; exact h1), ?_⟩
  rw [hkeep]
  unfold joinedValue
  rw [List.map_map, ← h2]; rfl

def C18_Full_joined_reset : Prop :=
  ∀ (c : JoinedCfg) (s : JoinedState), Settled plainEnv c.member s →
    ∃ s' flag, joinedSet plainEnv c s (.leaf (.str (joinedValue c s))) = .ok (s', some flag) ∧
      joinedValue c s' = joinedValue c s

def witnessCfg : JoinedCfg := ⟨[','], .static, true, .string true⟩
def witnessState : JoinedState :=
  [⟨.str ['a'], .str ['a'], ['a']⟩, ⟨.str [' '], .str [], []⟩, ⟨.str ['b'], .str ['b'], ['b']⟩]

theorem string_settled (E : Env) (b : Bool) (u : Str) (h : b = true → strip E.T u = u) :
    ∃ r, setScalar E (.string b) (.str u) = .ok r ∧ r.st.u = u := by
  cases b
  · exact ⟨⟨⟨.str u, .str u, u⟩, true, [true]⟩, by simp [setScalar, adapt, uOfValue, serialize], rfl⟩
  · refine ⟨⟨⟨.str u, .str u, u⟩, true, [true]⟩, ?_, rfl⟩
    simp [setScalar, adapt, uOfValue, serialize, h rfl]

theorem witness_run :
    joinedSet plainEnv witnessCfg witnessState (.leaf (.str (joinedValue witnessCfg witnessState))) =
      .ok ([⟨.str ['a'], .str ['a'], ['a']⟩, ⟨.str ['b'], .str ['b'], ['b']⟩], some true) := by
  rfl

/-- KF-C18-a: `JoinedString(['a', ' ', 'b'])` has value `'a,,b'`; setting that gives `'a,b'` -/
theorem C18_joined_reset_fails : ¬ C18_Full_joined_reset := by
  intro h
  obtain ⟨s', flag, h1, h2⟩ := h witnessCfg witnessState (by
    intro st hst
    simp only [witnessState, List.mem_cons, List.mem_nil_iff, or_false] at hst
    rcases hst with rfl | rfl | rfl <;> exact string_settled plainEnv true _ (fun _ => by decide))
  rw [witness_run] at h1
  simp only [Except.ok.injEq, Prod.mk.injEq] at h1
  obtain ⟨rfl, _⟩ := h1
  revert h2
  decide +kernel

/-- a member produced by `set(text)` meets `Settled` -/
theorem settled_of_text (E : Env) (hT : E.T.OK) (hE : EnvTotal E) (k : Kind)
    (hm : Modelled k = true) (hc : Coherent k = true) (hw : WidthOK E.T k = true) (s : Str) (r : SetResult)
    (h : setScalar E k (.str s) = .ok r) :
    ∃ r', setScalar E k (.str r.st.u) = .ok r' ∧ r'.st.u = r.st.u := by
  exact (TextFixed.of_set E hT k (Flatland.C04.Proofs.opaqueOK_of_modelled E k hm) hc hw s r h).set

theorem splitGo_run (c : Char) (u rest acc : Str) (hu : c ∉ u) :
    splitGo [c] (u ++ rest) 0 acc = splitGo [c] rest 0 (u.reverse ++ acc) := by
  induction u generalizing acc with
  | nil => simp
  | cons x t ih =>
    have hx : c ≠ x := fun h => hu (by simp [h])
    have ht : c ∉ t := fun h => hu (by simp [h])
    have hb : (c == x) = false := by simpa using hx
    simp only [List.cons_append, splitGo, List.isPrefixOf, hb, Bool.false_and, Bool.false_eq_true, if_false]
    rw [ih (x :: acc) ht]
    simp

theorem splitStr_joinStr_char (c : Char) (us : List Str) (hne : us ≠ []) (h : ∀ u ∈ us, c ∉ u) :
    splitStr [c] (joinStr [c] us) = us := by
  unfold splitStr
  induction us with
  | nil => exact absurd rfl hne
  | cons u rest ih =>
    cases rest with
    | nil =>
      have := splitGo_run c u [] [] (h u (by simp))
      simp only [List.append_nil] at this
      simp [joinStr, this, splitGo]
    | cons u' rest' =>
      simp only [joinStr, List.append_assoc]
      rw [splitGo_run c u _ [] (h u (by simp))]
      simp only [List.singleton_append, splitGo, List.isPrefixOf, beq_self_eq_true, Bool.true_and, if_true,
        List.append_nil, List.reverse_reverse, List.length_singleton, Nat.sub_self]
      rw [ih (by simp) (fun x hx => h x (List.mem_cons_of_mem _ hx))]

theorem splitStable_single_char (T : Tables) (c : JoinedCfg) (s : JoinedState) (ch : Char)
    (hsep : c.sep = [ch]) (hsp : c.sp = .static) (hne : s ≠ []) (h : ∀ st ∈ s, ch ∉ st.u) :
    SplitStable T c s := by
  unfold SplitStable joinedValue splitWith
  rw [hsp, hsep]
  apply splitStr_joinStr_char ch _ (by simpa using hne)
  intro u hu
  obtain ⟨st, hst, rfl⟩ := List.mem_map.mp hu
  exact h st hst

/-- the common configuration: a one-character static separator that no member text contains -/
theorem joined_reset_single_char (E : Env) (c : JoinedCfg) (s : JoinedState) (ch : Char)
    (hsep : c.sep = [ch]) (hsp : c.sp = .static) (hne : s ≠ []) (h : ∀ st ∈ s, ch ∉ st.u)
    (hprune : NoEmptyTextUnderPrune c s) (hset : Settled E c.member s) :
    ∃ s' flag, joinedSet E c s (.leaf (.str (joinedValue c s))) = .ok (s', some flag) ∧
      joinedValue c s' = joinedValue c s :=
  joined_reset_partial E c s (splitStable_single_char E.T c s ch hsep hsp hne h) hprune hset

/-- the hypotheses of `joined_reset_single_char` hold for `JoinedString(['a', 'b c'])` -/
example :
    let c : JoinedCfg := ⟨[','], .static, true, .string true⟩
    let s : JoinedState := [⟨.str ['a'], .str ['a'], ['a']⟩, ⟨.str "b c".toList, .str "b c".toList, "b c".toList⟩]
    s ≠ [] ∧ (∀ st ∈ s, ',' ∉ st.u) ∧ NoEmptyTextUnderPrune c s ∧ Settled plainEnv c.member s := by
  refine ⟨by decide, by decide, ?_, ?_⟩
  · intro _ st hst
    simp only [List.mem_cons, List.mem_nil_iff, or_false] at hst
    rcases hst with rfl | rfl <;> decide
  · intro st hst
    simp only [List.mem_cons, List.mem_nil_iff, or_false] at hst
    rcases hst with rfl | rfl <;> exact string_settled plainEnv true _ (fun _ => by decide)

example : MembersFit Flatland.Generated.C04.pyTables (.int 2020) (.int 2) (.int 30) := by
  intro v hv i hi
  simp only [List.mem_cons, List.mem_nil_iff, or_false] at hv
  rcases hv with rfl | rfl | rfl <;> (cases hi; exact intFits_small _ pyTables_ok _ (by decide))

theorem splitWith_nil (T : Tables) (sp : Splitter) (sep : Str) : splitWith T sp sep [] = [[]] := by
  cases sp <;> rfl

/-- the empty JoinedString: its value `''` set again gives `''` whenever the member
    type gives the text `''` for `''` (with or without prune_empty: since fix 2a6b55c the piece is
    adapted first; a member type that turns `''` into another text — Boolean(false='no') — keeps it) -/
theorem joined_reset_empty (E : Env) (c : JoinedCfg)
    (h : ∃ r, setScalar E c.member (.str []) = .ok r ∧ r.st.u = []) :
    ∃ s' flag, joinedSet E c [] (.leaf (.str (joinedValue c []))) = .ok (s', some flag) ∧
      joinedValue c s' = joinedValue c [] := by
  obtain ⟨r, hr, hu⟩ := h
  refine ⟨_, _, joinedSet_text E c [] [] [r] (by simp [splitWith_nil, hr]), ?_⟩
  cases c.prune <;> simp [joinedValue, joinStr, hu]

theorem joined_reset_single_char_all (E : Env) (c : JoinedCfg) (s : JoinedState) (ch : Char)
    (hsep : c.sep = [ch]) (hsp : c.sp = .static) (h : ∀ st ∈ s, ch ∉ st.u)
    (hprune : NoEmptyTextUnderPrune c s) (hset : Settled E c.member s)
    (hempty : ∃ r, setScalar E c.member (.str []) = .ok r ∧ r.st.u = []) :
    ∃ s' flag, joinedSet E c s (.leaf (.str (joinedValue c s))) = .ok (s', some flag) ∧
      joinedValue c s' = joinedValue c s := by
  cases s with
  | nil => exact joined_reset_empty E c hempty
  | cons m rest => exact joined_reset_single_char E c _ ch hsep hsp (by simp) h hprune hset

/-- KF-C18-c: `JoinedString(['a , b'], prune_empty=False)` has value `'a , b'`; setting that gives two
    members and the value `'a,b'` -/
theorem C18_joined_resplit_witness :
    let c : JoinedCfg := ⟨[','], .static, false, .string true⟩
    let s : JoinedState := [⟨.str "a , b".toList, .str "a , b".toList, "a , b".toList⟩]
    Settled plainEnv c.member s ∧ NoEmptyTextUnderPrune c s ∧
    ∃ s', joinedSet plainEnv c s (.leaf (.str (joinedValue c s))) = .ok (s', some true) ∧
      joinedValue c s' = "a,b".toList ∧ joinedValue c s = "a , b".toList := by
  intro c s
  refine ⟨?_, ?_, ?_⟩
  · intro st hst
    simp only [s, List.mem_cons, List.mem_nil_iff, or_false] at hst
    subst hst
    exact string_settled plainEnv true _ (fun _ => by decide)
  · intro h; cases h
  · exact ⟨[⟨.str ['a', ' '], .str ['a'], ['a']⟩, ⟨.str [' ', 'b'], .str ['b'], ['b']⟩],
      Ex.toOption_eq_some_iff.mp (by decide +kernel), by decide +kernel, by decide +kernel⟩

/-- C18, "a JoinedString's value is the separator-join of its members' texts", for `joinedValue` of
    Flatland/C18.lean; for any member type: `Flatland.C18.Joined.Proofs.joined_value_generic` -/
theorem joined_value (c : JoinedCfg) (s : JoinedState) : joinedValue c s = sepJoin c.sep (s.map (·.u)) :=
  Flatland.C18.Joined.Proofs.joinStr_eq_sepJoin _ _

/-- C18, "a MultiValue's scalar view is its first member", for `multiU` / `multiValue` of Flatland/C18.lean; for the
    getters and setters as written: `Flatland.C18.Multi.Proofs.multivalue_view_history` -/
theorem multivalue_first (s : MultiState) :
    (multiU s, multiValue s) = (match s with | [] => ([], Native.none) | m :: _ => (m.u, m.value)) := by
  cases s <;> rfl

example : multiU [⟨.none, .int 3, ['3']⟩, ⟨.none, .none, ['x']⟩] = ['3'] := rfl

/-- every Ref read of the history returns value and text of the element that the path denotes in
    the tree at that moment (`treeOf` after the step) -/
def ReadsDenoted {σ : Type} (step : σ → TOp → StepOut σ) (treeOf : σ → Tree) (path : List PStep) :
    σ → List TOp → Bool
  | _, [] => true
  | s, op :: rest =>
    match step s op with
    | .error _ => true
    | .ok (s', _, rd) =>
      (rd == none || rd == denoted (treeOf s') path) && ReadsDenoted step treeOf path s' rest

theorem liveStep_read (E : Env) (w : Writable) (path : List PStep) (s s' : TState) (op : TOp)
    (ret : Option Bool) (rd : Option (Native × Str)) (h : liveStep E w path s op = .ok (s', ret, rd)) :
    rd = none ∨ rd = denoted s'.tree path := by
  cases op with
  | refRead =>
    simp only [liveStep] at h
    split at h
    · rename_i id k st hres
      simp only [Except.ok.injEq, Prod.mk.injEq] at h
      obtain ⟨rfl, _, rfl⟩ := h
      right; simp [denoted, hres]
    · simp at h
  | refSet x =>
    left
    simp only [liveStep] at h
    split at h
    · split at h
      · cases h
      · cases h
      · split at h
        · cases h
        · split at h
          · split at h <;> cases h
            rfl
          · cases h; rfl
    · cases h
  | _ =>
    -- the operations on the tree read nothing through the Ref
    left
    simp only [liveStep] at h
    split at h <;> cases h
    rfl

/-- C18, "a Ref's value and text are those of its target": for every form tree, target path, writable mode and
    history of operations on the tree (scalar sets, `Dict.set` that rebuilds members, list set / insert / delete
    before or at the target position, Ref reads, Ref writes), every Ref read returns the value and text of the
    element that the path denotes in the tree at that moment.  This holds by construction of `liveStep`, whose
    read is "resolve the path against the current tree"; that the code does this is checked by correspondence
    and oracle, and `cachedRef_fails` shows a Ref implementation for which it is false. -/
theorem ref_proxy_history (E : Env) (w : Writable) (path : List PStep) (s : TState) (ops : List TOp) :
    ReadsDenoted (liveStep E w path) (·.tree) path s ops = true := by
  induction ops generalizing s with
  | nil => rfl
  | cons op rest ih =>
    simp only [ReadsDenoted]
    cases hstep : liveStep E w path s op with
    | error e => rfl
    | ok res =>
      obtain ⟨s', ret, rd⟩ := res
      simp only [Bool.and_eq_true, Bool.or_eq_true, beq_iff_eq]
      exact ⟨liveStep_read E w path s s' op ret rd hstep, ih s'⟩

theorem child_setChild (t c c' : Tree) (st : PStep) (h : t.child st = some c) :
    (t.setChild st c').child st = some c' := by
  cases t with
  | leaf id k s => cases st <;> simp [Tree.child] at h
  | dict names ms =>
    cases st with
    | index i => simp [Tree.child] at h
    | name n =>
      simp only [Tree.child] at h
      cases hn : nameIdx names n with
      | none => simp [hn] at h
      | some i =>
        simp only [hn, Option.bind_some] at h
        have hi : i < ms.length := by
          rcases List.getElem?_eq_some_iff.mp h with ⟨hlt, _⟩; exact hlt
        simp [Tree.setChild, Tree.child, hn, hi]
  | list k ms =>
    cases st with
    | name n => simp [Tree.child] at h
    | index i =>
      simp only [Tree.child] at h
      have hi : i < ms.length := by
        rcases List.getElem?_eq_some_iff.mp h with ⟨hlt, _⟩; exact hlt
      simp [Tree.setChild, Tree.child, hi]

theorem resolve_replaceAt (t t' new : Tree) (p : List PStep) (h : t.replaceAt p new = some t') :
    t'.resolve p = some new := by
  induction p generalizing t t' with
  | nil => simp [Tree.replaceAt] at h; subst h; rfl
  | cons st rest ih =>
    simp only [Tree.replaceAt] at h
    cases hc : t.child st with
    | none => simp [hc] at h
    | some c =>
      simp only [hc, Option.map_eq_some_iff] at h
      obtain ⟨c', hc', rfl⟩ := h
      simp only [Tree.resolve, child_setChild t c c' st hc]
      exact ih c c' hc'

/-- a successful write through a writable Ref is what the path denotes
    afterwards (and hence what the next Ref read returns) -/
theorem ref_write_through (E : Env) (path : List PStep) (s s' : TState) (x v : Native) (u : Str)
    (id : Nat) (k : Kind) (st : SState) (hres : s.tree.resolve path = some (.leaf id k st))
    (ha : adapt E k x = .ok (some v)) (hu : uOfValue E k v = .ok u)
    (h : liveStep E .yes path s (.refSet x) = .ok (s', some true, none)) :
    denoted s'.tree path = some (v, u) := by
  simp only [liveStep, hres, ha, hu, beq_self_eq_true, if_true] at h
  split at h
  · rename_i t ht
    simp only [Except.ok.injEq, Prod.mk.injEq] at h
    obtain ⟨rfl, _⟩ := h
    simp [denoted, resolve_replaceAt _ _ _ _ ht]
  · simp at h

def refForm (k : Kind) : TState :=
  ⟨.dict ["sub".toList, "o".toList]
    [.dict ["t".toList] [.leaf 0 k Flatland.C04.blankState], .leaf 1 (.string true) Flatland.C04.blankState], 2⟩

def refPath : List PStep := [.name "sub".toList, .name "t".toList]

/-- KF-C18-b as a counter-model: with a cached target, `sub.set({'t': '1'}); r.value;
    sub.set({'t': '2'}); r.value` reads '1' while the path denotes the element holding '2' — so
    `ref_proxy_history`, true of the live model by construction, is false of this one: the statement
    separates the two implementations -/
theorem cachedRef_fails :
    ¬ ∀ (c : CachedState) (ops : List TOp),
        ReadsDenoted (cachedStep plainEnv refPath) (·.base.tree) refPath c ops = true := by
  intro h
  have := h ⟨refForm (.string true), none⟩
    [.dictSet [.name "sub".toList] [("t".toList, .str ['1'])], .refRead,
     .dictSet [.name "sub".toList] [("t".toList, .str ['2'])], .refRead]
  revert this
  decide +kernel

/-- the same history under the live Ref reads '2' -/
example :
    ReadsDenoted (liveStep plainEnv .ignore refPath) (·.tree) refPath (refForm (.string true))
      [.dictSet [.name "sub".toList] [("t".toList, .str ['1'])], .refRead,
       .dictSet [.name "sub".toList] [("t".toList, .str ['2'])], .refRead] = true := by
  decide +kernel

/-- a Ref to list position 1 follows insertions and deletions before it -/
example :
    let start : TState := ⟨.dict ["l".toList] [.list (.string true) []], 0⟩
    let path : List PStep := [.name "l".toList, .index 1]
    (((liveStep plainEnv .ignore path start (.listSet [.name "l".toList] [.str ['a'], .str ['b'], .str ['c']])).toOption.bind
      fun r => (liveStep plainEnv .ignore path r.1 (.listInsert [.name "l".toList] 0 (.str ['z']))).toOption).bind
      fun r => (liveStep plainEnv .ignore path r.1 .refRead).toOption.map (·.2.2)) =
      some (some (.str ['a'], ['a'])) := by
  decide +kernel

end Flatland.C18.Proofs
