/-
What a list-protocol call makes of the sequence it is called on.  Every branch of `seqStep` ends in one of a
few shapes (`SeqShape`): the element is returned as it was; the underlying list is edited (`place`: the wrapped
arguments enter as new items, some old items may leave; `drop`: items leave or are reordered); members are
appended one by one (`grow`, through `Appends`); the element held by one slot is replaced or set in place; or the
whole element is handed to `set` / `set_default`.  That every call keeps an invariant is proved of each shape
(`cases` on `SeqShape`) and applied to `seqStep_shape n op next`.
-/
import Proofs.Lemmas.C08Lists
import Proofs.Lemmas.TreeHdr
namespace Flatland.C08.Proofs
open Flatland.Tree Flatland.PyList Flatland.C08 Flatland.C08.Spec

/-- the underlying list as a call leaves it: a List renumbers its slots -/
def seqFin (n : Node) (ks : List Node) : List Node := if n.kind = .list then renumber ks else ks

theorem children_seqFin (n : Node) (ks : List Node) :
    children (n.withKids (seqFin n ks)) = children (n.withKids ks) := by
  unfold seqFin
  split
  · rename_i hl
    unfold children
    simp only [kind_withKids, hl, kids_withKids]
    exact kids_renumberFrom 0 ks
  · rfl

/-- the items a sequence makes of wrapped elements: a List puts each into a new slot (identities
    from `k` on), an Array / MultiValue re-points them to itself -/
def seqItems (n : Node) (ws : List Node) (k : Nat) : List Node × Nat :=
  if n.kind = .list then newSlots n.id n.kids.length ws k
  else (ws.map (fun w => w.withParent (some n.id)), k)

/-- `Appends m n k used n' k'`: appending the wrapped arguments `used` one by one turns `n`
    into `n'` and the counter `k` into `k'`; wraps whose result is not appended (a raising one)
    only move the counter.  What `extend`, `+=`, `append` and `*=` do. -/
inductive Appends (m : Schema) : Node → Nat → List Arg → Node → Nat → Prop
  | done (n : Node) (k : Nat) : Appends m n k [] n k
  | bump {n : Node} {k : Nat} (a : Arg) {used : List Arg} {n' : Node} {k' : Nat} :
      Appends m n (wrap m a k).2 used n' k' → Appends m n k used n' k'
  | step {n : Node} {k : Nat} {a : Arg} {w : Node} {k1 : Nat} {used : List Arg} {n' : Node} {k' : Nat} :
      wrap m a k = (.ok w, k1) → Appends m (appendEl n w k1).1 (appendEl n w k1).2 used n' k' →
      Appends m n k (a :: used) n' k'

theorem Appends.trans {m : Schema} {n n1 n2 : Node} {k k1 k2 : Nat} {u1 u2 : List Arg}
    (h1 : Appends m n k u1 n1 k1) (h2 : Appends m n1 k1 u2 n2 k2) : Appends m n k (u1 ++ u2) n2 k2 := by
  induction h1 with
  | done => exact h2
  | bump a _ ih => exact .bump a (ih h2)
  | step hw _ ih => exact .step hw (ih h2)

theorem extendArgs_appends (m : Schema) (as : List Arg) : ∀ (n : Node) (next : Nat),
    ∃ used rest, as = used ++ rest ∧ ((extendArgs m n as next).2.2 = none → rest = []) ∧
      Appends m n next used (extendArgs m n as next).1 (extendArgs m n as next).2.1 := by
  induction as with
  | nil => intro n next; exact ⟨[], [], rfl, fun _ => rfl, .done n next⟩
  | cons a as ih =>
    intro n next
    rw [extendArgs]
    split
    · rename_i e n1 h
      refine ⟨[], a :: as, rfl, fun h' => (by cases h'), .bump a ?_⟩
      rw [h]; exact .done n n1
    · rename_i w n1 h
      obtain ⟨used, rest, h1, h2, h3⟩ := ih (appendEl n w n1).1 (appendEl n w n1).2
      exact ⟨a :: used, rest, by rw [h1]; rfl, h2, .step h h3⟩

theorem imulLoop_appends (m : Schema) (vals : List Arg) (hv : vals.flatMap argElems = []) (c : Nat) :
    ∀ (n : Node) (next : Nat), ∃ used, used.flatMap argElems = [] ∧
      Appends m n next used (imulLoop m vals c n next).1 (imulLoop m vals c n next).2.1 := by
  induction c with
  | zero => intro n next; exact ⟨[], rfl, .done n next⟩
  | succ c ih =>
    intro n next
    obtain ⟨used, rest, h1, _, h3⟩ := extendArgs_appends m vals n next
    have hu : used.flatMap argElems = [] := by
      rw [h1, List.flatMap_append, List.append_eq_nil_iff] at hv; exact hv.1
    rw [imulLoop]
    split
    · rename_i hx; rw [hx] at h3; exact ⟨used, hu, h3⟩
    · rename_i n' nx hx
      rw [hx] at h3
      obtain ⟨u2, hu2, h4⟩ := ih n' nx
      exact ⟨used ++ u2, by rw [List.flatMap_append, hu, hu2]; rfl, h3.trans h4⟩

/-- counter values a call reaches without changing the sequence: after wrapping some arguments,
    possibly after making their items as well -/
def Reached (n : Node) (next n1 : Nat) : Prop :=
  n1 = next ∨ ∃ m, n.sch.member = some m ∧ ∃ args,
    n1 = (wrapAll m args next).2 ∨ ∃ ws k, wrapAll m args next = (.ok ws, k) ∧ n1 = (seqItems n ws k).2

theorem wrapAll_one {m : Schema} {a : Arg} {next n1 : Nat} {w : Node} (h : wrap m a next = (.ok w, n1)) :
    wrapAll m [a] next = (.ok [w], n1) := by
  simp only [wrapAll, h]

theorem reached_wrap {n : Node} {m : Schema} (hm : n.sch.member = some m) {a : Arg} {next n1 : Nat}
    {x : Except Exc Node} (h : wrap m a next = (x, n1)) : Reached n next n1 := by
  refine .inr ⟨m, hm, [a], .inl ?_⟩
  cases x <;> simp only [wrapAll, h]

theorem reached_wrapAll {n : Node} {m : Schema} (hm : n.sch.member = some m) {as : List Arg} {next n1 : Nat}
    {x : Except Exc (List Node)} (h : wrapAll m as next = (x, n1)) : Reached n next n1 :=
  .inr ⟨m, hm, as, .inl (by rw [h])⟩

inductive SeqShape (n : Node) (next : Nat) (op : SeqOp) : StepR → Prop
  /-- nothing happened to the sequence (the call raised before its effect, or only reads) -/
  | keep {n1 : Nat} {out : Out} (hn : Reached n next n1) (hpl : noExc out → placedSeq op = []) :
      SeqShape n next op ⟨n, n1, out, []⟩
  /-- the arguments `args`, wrapped to `ws` and made into the items `news`, enter the underlying
      list; `rem` leaves it: the new list with `rem` is the old one with `news`, rearranged -/
  | place {m : Schema} {args : List Arg} {ws : List Node} {k : Nat} {news : List Node} {n2 : Nat}
      {ks ks' rem : List Node} (hm : n.sch.member = some m) (hw : wrapAll m args next = (.ok ws, k))
      (hpl : placedSeq op = args.flatMap argElems) (hit : seqItems n ws k = (news, n2))
      (hin : ∀ x ∈ news, x ∈ ks)
      (hperm : (ks ++ rem).Perm (n.kids ++ news))
      (hks : ks' = seqFin n ks) : SeqShape n next op ⟨n.withKids ks', n2, .ok, rem⟩
  /-- items leave the underlying list (`rem`; reported with or without their parent pointer
      cleared) or change places; nothing enters -/
  | drop {n1 : Nat} {out : Out} {ks ks' rem det : List Node} (hn : Reached n next n1) (hout : noExc out)
      (hpl : placedSeq op = [])
      (hperm : (ks ++ rem).Perm n.kids)
      (hdet : det = rem ∨ det = rem.map (fun x => x.withParent none))
      (hks : ks' = seqFin n ks) : SeqShape n next op ⟨n.withKids ks', n1, out, det⟩
  /-- members are appended one by one; only `extend`, `+=` and `*=` may raise half-way -/
  | grow {m : Schema} {used : List Arg} {n' : Node} {k : Nat} {out : Out} (hm : n.sch.member = some m)
      (hch : Appends m n next used n' k) (hpl : (used.flatMap argElems).Sublist (placedSeq op))
      (hfull : noExc out → ∀ e ∈ placedSeq op, Arg.elem e ∈ used)
      (hexc : noExc out ∨ (∃ as, op = .extend as ∨ op = .iadd as) ∨ ∃ c, op = .imul c) :
      SeqShape n next op ⟨n', k, out, []⟩
  /-- `lst[i] = element`: the slot stays, the element it holds is exchanged -/
  | slotElem {i : Int} {e slot : Node} {k : Nat} (hop : op = .setitem i (.elem e)) (hlist : n.kind = .list)
      (hl : n.kids[k]? = some slot) :
      SeqShape n next op
        ⟨n.withKids (n.kids.set k (slot.withKids [e.withParent (some slot.id)])), next, .ok, slot.kids⟩
  /-- `lst[i] = value`: the element the slot holds is set in place -/
  | slotSet {i : Int} {r : Raw} {slot el : Node} {k : Nat} {out : Out} (hop : op = .setitem i (.plain r))
      (hlist : n.kind = .list) (hg : getItem n.kids i = some slot) (hl : n.kids[k]? = some slot)
      (hel : slotElement slot = some el) :
      SeqShape n next op
        ⟨n.withKids (n.kids.set k (slot.withKids [(setNode el r none next).node])), (setNode el r none next).next,
          out, []⟩
  | set {r : Raw} {out : Out} (hop : op = .set r) :
      SeqShape n next op ⟨(setNode n r none next).node, (setNode n r none next).next, out, n.kids⟩
  | setDefault {out : Out} (hop : op = .setDefault) :
      SeqShape n next op ⟨(setDefault n next).node, (setDefault n next).next, out, []⟩

theorem plain_args_nil (l : List Raw) : (l.map Arg.plain).flatMap argElems = [] := by
  induction l with
  | nil => rfl
  | cons x xs ih => simp [argElems, ih]

theorem mem_argElems_flatMap {as : List Arg} {e : Node} (h : e ∈ as.flatMap argElems) : Arg.elem e ∈ as := by
  obtain ⟨a, ha, he⟩ := List.mem_flatMap.mp h
  cases a with
  | plain r => cases he
  | elem e' => simp only [argElems, List.mem_singleton] at he; rw [he]; exact ha

theorem mem_insertAt_self {α : Type} (l : List α) (i : Int) (x : α) : x ∈ insertAt l i x := by
  unfold insertAt; simp

theorem SeqShape.refused {n : Node} {next n1 : Nat} {op : SeqOp} {e : Exc} (hn : Reached n next n1) :
    SeqShape n next op (excOut n n1 e) :=
  .keep hn (fun h => False.elim h)

theorem SeqShape.reads {n : Node} {next n1 : Nat} {op : SeqOp} {out : Out} (hn : Reached n next n1)
    (hop : placedSeq op = []) : SeqShape n next op ⟨n, n1, out, []⟩ :=
  .keep hn (fun _ => hop)

theorem seqStep_shape (n : Node) (op : SeqOp) (next : Nat) : SeqShape n next op (seqStep n op next) := by
  unfold seqStep
  split
  · exact .refused (.inl rfl)
  · rename_i m hm
    have here : Reached n next next := .inl rfl
    cases op with
    | append a =>
      dsimp only
      split
      · rename_i h; exact .refused (reached_wrap hm h)
      · rename_i w n1 h
        have hpl : [a].flatMap argElems = placedSeq (.append a) := by simp [placedSeq]
        exact .grow hm (.step h (.done _ _)) (hpl ▸ List.Sublist.refl _)
          (fun _ e he => mem_argElems_flatMap (hpl ▸ he)) (.inl trivial)
    | extend as | iadd as =>
      obtain ⟨used, rest, h1, h2, h3⟩ := extendArgs_appends m as n next
      have hsub : (used.flatMap argElems).Sublist (as.flatMap argElems) := by
        rw [h1, List.flatMap_append]; exact List.sublist_append_left _ _
      dsimp only
      split
      · exact .grow hm h3 hsub (fun h => False.elim h) (.inr (.inl ⟨as, by simp⟩))
      · rename_i hn
        refine .grow hm h3 hsub (fun _ e he => ?_) (.inl trivial)
        rw [h1, h2 hn, List.append_nil] at he; exact mem_argElems_flatMap he
    | insert i a =>
      dsimp only
      split
      · rename_i h; exact .refused (reached_wrap hm h)
      · rename_i w n1 h
        have hpl : placedSeq (.insert i a) = [a].flatMap argElems := by simp [placedSeq]
        split
        · rename_i hl
          exact .place (ks := insertAt n.kids i (mkSlot n1 n.id n.kids.length w))
            (news := [mkSlot n1 n.id n.kids.length w]) (rem := []) hm (wrapAll_one h) hpl
            (by rw [seqItems, if_pos hl]; rfl)
            (fun x hx => by rw [List.mem_singleton.mp hx]; exact mem_insertAt_self _ _ _)
            (by rw [List.append_nil]; exact perm_insertAt _ _ _) (by rw [seqFin, if_pos hl])
        · rename_i hl
          exact .place (ks := insertAt n.kids i (w.withParent (some n.id)))
            (news := [w.withParent (some n.id)]) (rem := []) hm (wrapAll_one h) hpl
            (by rw [seqItems, if_neg hl]; rfl)
            (fun x hx => by rw [List.mem_singleton.mp hx]; exact mem_insertAt_self _ _ _)
            (by rw [List.append_nil]; exact perm_insertAt _ _ _) (by rw [seqFin, if_neg hl])
    | setitem i a =>
      dsimp only
      split
      · rename_i hl
        cases a with
        | elem e =>
          dsimp only
          split
          · exact .refused here
          · rename_i slot hg
            split
            · exact .refused here
            · rename_i k hnk
              exact .slotElem rfl hl (getItem_idx hg hnk)
        | plain r =>
          dsimp only
          split
          · rename_i slot k hg hnk
            split
            · exact .refused here
            · rename_i el hel
              split
              · exact .slotSet rfl hl hg (getItem_idx hg hnk) hel
              · exact .slotSet rfl hl hg (getItem_idx hg hnk) hel
          · exact .refused here
      · rename_i hl
        split
        · rename_i h; exact .refused (reached_wrap hm h)
        · rename_i w n1 h
          split
          · exact .refused (reached_wrap hm h)
          · rename_i k hnk
            have hk := normIndex_lt hnk
            exact .place (ks := n.kids.set k (w.withParent (some n.id))) (news := [w.withParent (some n.id)])
              (rem := (n.kids[k]?).toList) hm (wrapAll_one h)
              (by simp [placedSeq]) (by rw [seqItems, if_neg hl]; rfl)
              (fun x hx => by rw [List.mem_singleton.mp hx]; exact List.mem_set hk _)
              (by rw [List.getElem?_eq_getElem hk]; exact perm_set n.kids k _ hk)
              (by rw [seqFin, if_neg hl])
    | setslice sl as =>
      dsimp only
      split
      · rename_i h; exact .refused (reached_wrapAll hm h)
      · rename_i ws n1 hws
        split
        · rename_i hl
          have hit : seqItems n ws n1 = newSlots n.id n.kids.length ws n1 := by rw [seqItems, if_pos hl]
          split
          · exact .refused (.inr ⟨m, hm, as, .inr ⟨ws, n1, hws, by rw [hit]⟩⟩)
          · rename_i ks hss
            exact .place hm hws rfl hit (setSlice_new_mem hss)
              (rem := sliceRemoved n.kids sl) (perm_setSlice hss)
              (by rw [seqFin, if_pos hl])
        · rename_i hl
          have hit : seqItems n ws n1 = (ws.map (fun w => w.withParent (some n.id)), n1) := by
            rw [seqItems, if_neg hl]
          split
          · exact .refused (reached_wrapAll hm hws)
          · rename_i ks hss
            exact .place hm hws rfl hit (setSlice_new_mem hss)
              (rem := sliceRemoved n.kids sl) (perm_setSlice hss)
              (by rw [seqFin, if_neg hl])
    | delitem i =>
      dsimp only
      split
      · rename_i ks k hd hnk
        exact .drop here trivial rfl
          (by rw [delItem_eq hd hnk]; exact perm_eraseIdx_opt n.kids k) (.inl rfl) rfl
      · exact .refused here
    | delslice sl =>
      dsimp only
      split
      · exact .refused here
      · rename_i ks hd
        exact .drop here trivial rfl
          (perm_delSlice hd) (.inl rfl) rfl
    | pop i =>
      dsimp only
      split
      · exact .refused here
      · rename_i x ks hp
        have hperm : (ks ++ [x]).Perm n.kids := perm_popAt hp
        split
        · rename_i hl
          exact .drop here trivial rfl hperm (.inr rfl) (by rw [seqFin, if_pos hl])
        · rename_i hl
          exact .drop here trivial rfl hperm (.inl rfl) (by rw [seqFin, if_neg hl])
    | remove a =>
      dsimp only
      split
      · rename_i h; exact .refused (reached_wrap hm h)
      · rename_i w n1 h
        split
        · exact .refused (reached_wrap hm h)
        · rename_i k _
          exact .drop (reached_wrap hm h) trivial rfl
            (perm_eraseIdx_opt n.kids k) (.inl rfl) rfl
    | reverse =>
      exact .drop (rem := []) here trivial rfl
        (by rw [List.append_nil]; exact List.reverse_perm _) (.inl rfl) rfl
    | sort key rev =>
      dsimp only
      split
      · split
        · exact .reads here rfl
        · split <;> exact .reads here rfl
      · split
        · exact .drop (rem := []) here trivial rfl
            (by rw [List.append_nil]; exact sortBy_perm _ _) (.inl rfl) rfl
        · exact .reads here rfl
    | clear =>
      exact .drop (ks := []) here trivial rfl (List.Perm.refl _) (.inl rfl)
        (by unfold seqFin; split <;> rfl)
    | imul c =>
      dsimp only
      split
      · exact .drop (ks := []) here trivial rfl (List.Perm.refl _) (.inl rfl) rfl
      · obtain ⟨used, hu, hch⟩ := imulLoop_appends m ((members n).map (fun x => Arg.plain (imulValue x)))
          (by have := plain_args_nil ((members n).map imulValue); rw [List.map_map] at this; exact this)
          (c.toNat - 1) n next
        split
        · exact .grow hm hch (by rw [hu]; exact List.nil_sublist _) (fun h => False.elim h) (.inr (.inr ⟨c, rfl⟩))
        · exact .grow hm hch (by rw [hu]; exact List.nil_sublist _) (fun _ e he => by cases he) (.inl trivial)
    | set r => dsimp only; split <;> exact .set rfl
    | setDefault => dsimp only; split <;> exact .setDefault rfl
    | len => exact .reads here rfl
    | getitem i =>
      dsimp only
      split
      · exact .reads here rfl
      · split
        · split <;> exact .reads here rfl
        · exact .reads here rfl
    | getslice s => dsimp only; split <;> exact .reads here rfl
    | contains a => dsimp only; split <;> (rename_i h; exact .reads (reached_wrap hm h) rfl)
    | index a =>
      dsimp only
      split
      · rename_i h; exact .reads (reached_wrap hm h) rfl
      · rename_i h; split <;> exact .reads (reached_wrap hm h) rfl
    | count a => dsimp only; split <;> (rename_i h; exact .reads (reached_wrap hm h) rfl)

theorem Appends.hdr {m : Schema} {n n' : Node} {k k' : Nat} {used : List Arg} (h : Appends m n k used n' k') :
    n'.hdr = n.hdr := by
  induction h with
  | done => rfl
  | bump a _ ih => exact ih
  | step hw _ ih => exact ih.trans (appendEl_hdr _ _ _)

theorem SeqShape.hdr {n : Node} {next : Nat} {op : SeqOp} {r : StepR} (h : SeqShape n next op r) : r.node.hdr = n.hdr := by
  cases h with
  | keep => rfl
  | place => rfl
  | drop => rfl
  | grow hm hch => exact hch.hdr
  | slotElem => rfl
  | slotSet => rfl
  | set => exact setNode_hdr _ _ _ _
  | setDefault => exact setDefault_hdr _ _

/-- `Q k`: what the sequence `n` asks of an item `k` of its underlying list; `W e`: what is known of an element
    handed to it or built by its member class.  The fields are the ways an item comes to be. -/
structure ItemInv (n : Node) (W Q : Node → Prop) : Prop where
  withKey : ∀ {k : Node} (s : Str), Q k → Q (k.withKey s)
  slot : n.kind = .list → ∀ {w : Node} (id nm : Nat), W w → Q (mkSlot id n.id nm w)
  direct : ¬ n.kind = .list → ∀ {w : Node}, W w → Q (w.withParent (some n.id))
  built : ∀ {m : Schema} {r : Raw} {next k : Nat} {w : Node}, n.sch.member = some m →
    construct m r none [] next = (.ok w, k) → W w
  slotElem : n.kind = .list → ∀ {slot e : Node}, Q slot → W e → Q (slot.withKids [e.withParent (some slot.id)])
  slotSet : n.kind = .list → ∀ {slot el : Node} (r : Raw) (next : Nat), Q slot → slotElement slot = some el →
    Q (slot.withKids [(setNode el r none next).node])
  set : ∀ (r : Raw) (next : Nat), ∀ k ∈ (setNode n r none next).node.kids, Q k
  setDefault : ∀ (next : Nat), ∀ k ∈ (setDefault n next).node.kids, Q k

namespace ItemInv
variable {n : Node} {W Q : Node → Prop} (S : ItemInv n W Q)
include S

theorem wrap {m : Schema} (hm : n.sch.member = some m) {a : Arg} (ha : ∀ e ∈ argElems a, W e) {next k : Nat} {w : Node}
    (h : wrap m a next = (.ok w, k)) : W w := by
  cases a with
  | elem e => simp only [Tree.wrap, Prod.mk.injEq, Except.ok.injEq] at h; exact h.1 ▸ ha e (List.mem_singleton_self e)
  | plain r => exact S.built hm h

theorem seqFin {ks : List Node} (h : ∀ k ∈ ks, Q k) : ∀ k ∈ seqFin n ks, Q k := by
  unfold Proofs.seqFin
  split
  · exact renumberFrom_forall S.withKey ks 0 h
  · exact h

theorem seqItems {ws : List Node} (h : ∀ w ∈ ws, W w) (k : Nat) : ∀ x ∈ (seqItems n ws k).1, Q x := by
  unfold Proofs.seqItems
  split
  · rename_i hl; exact newSlots_forall _ _ ws (fun w hw id => S.slot hl id _ (h w hw)) k
  · rename_i hl
    intro x hx
    obtain ⟨w, hw, rfl⟩ := List.mem_map.mp hx
    exact S.direct hl (h w hw)

theorem appends {m : Schema} (hm : n.sch.member = some m) {n0 n' : Node} {k k' : Nat} {used : List Arg}
    (h : Appends m n0 k used n' k') (h0 : n0.hdr = n.hdr) (hK : ∀ x ∈ n0.kids, Q x)
    (ha : ∀ a ∈ used, ∀ e ∈ argElems a, W e) : ∀ x ∈ n'.kids, Q x := by
  induction h with
  | done => exact hK
  | bump a _ ih => exact ih h0 hK ha
  | @step n1 k a w k1 used n' k' hw _ ih =>
    have hW := S.wrap hm (ha a (List.mem_cons_self ..)) hw
    have hid : n1.id = n.id := congrArg Prod.fst h0
    exact ih ((appendEl_hdr _ _ _).trans h0)
      (appendEl_forall n1 w k1 hK (fun hl => hid ▸ S.slot (kind_of_hdr h0 ▸ hl) _ _ hW)
        (fun hl => hid ▸ S.direct (kind_of_hdr h0 ▸ hl) hW))
      (fun a h => ha a (List.mem_cons_of_mem _ h))

end ItemInv

theorem SeqShape.forall_items {n : Node} {W Q : Node → Prop} (S : ItemInv n W Q) {next : Nat} {op : SeqOp} {r : StepR}
    (h : SeqShape n next op r) (hK : ∀ k ∈ n.kids, Q k) (hop : ∀ e ∈ placedSeq op, W e) : ∀ k ∈ r.node.kids, Q k := by
  have hargs : ∀ {as : List Arg}, (∀ e ∈ as.flatMap argElems, W e) → ∀ a ∈ as, ∀ e ∈ argElems a, W e :=
    fun h a ha e he => h e (List.mem_flatMap.mpr ⟨a, ha, he⟩)
  cases h with
  | keep => exact hK
  | @place m args ws k news n2 ks ks' rem hm hwr hpl hit hin hperm hks =>
    have hws : ∀ w ∈ ws, W w :=
      wrapAll_forall (fun a ha nx w k hw => S.wrap hm (hargs (hpl ▸ hop) a ha) hw) hwr
    have hnews := S.seqItems hws k
    rw [hit] at hnews
    rw [kids_withKids, hks]
    exact S.seqFin (fun x hx => (List.mem_append.mp (hperm.subset (List.mem_append_left _ hx))).elim (hK x) (hnews x))
  | drop hn hout hpl hperm hdet hks =>
    rw [kids_withKids, hks]; exact S.seqFin (fun x hx => hK x (hperm.subset (List.mem_append_left _ hx)))
  | grow hm hch hpl hfull hexc =>
    exact S.appends hm hch rfl hK (hargs (fun e he => hop e (hpl.subset he)))
  | @slotElem i e slot k hopq hlist hl =>
    rw [kids_withKids]
    intro x hx
    rcases List.mem_or_eq_of_mem_set hx with h1 | h1
    · exact hK x h1
    · rw [h1]
      exact S.slotElem hlist (hK slot (List.mem_of_getElem? hl)) (hop e (by rw [hopq]; exact List.mem_singleton_self e))
  | @slotSet i r slot el k out hopq hlist hg hl hel =>
    rw [kids_withKids]
    intro x hx
    rcases List.mem_or_eq_of_mem_set hx with h1 | h1
    · exact hK x h1
    · rw [h1]; exact S.slotSet hlist r next (hK slot (List.mem_of_getElem? hl)) hel
  | set => exact S.set _ next
  | setDefault => exact S.setDefault next

end Flatland.C08.Proofs

theorem Flatland.Tree.seqStep_hdr (n : Flatland.Tree.Node) (op : Flatland.Tree.SeqOp) (next : Nat) :
    (Flatland.Tree.seqStep n op next).node.hdr = n.hdr :=
  (Flatland.C08.Proofs.seqStep_shape n op next).hdr
