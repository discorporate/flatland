/-
C17 — the frame MECHANISM refines model A: the class- and instance-creating commands, the
one-step refinement `frames_step_refines` and the history theorem `frames_run_refines`.
-/
import Proofs.C17FramesInst
namespace Flatland.C17.Frames.Proofs
open Flatland.C17 Flatland.C17.Spec Flatland.C17.Proofs Flatland.C17.Frames

theorem map_ge {σ : FState} (h : FInv σ) (P : ObjId) (c : ClassId) (hc : σ.classes.length ≤ c) :
    σ.mapGet P c = none := by
  cases hm : σ.mapGet P c with
  | none => rfl
  | some r => exact absurd (h.map_lt P c r hm).2 (Nat.not_lt.2 hc)

theorem obsC_extend {σ σ' : FState} (hmap : σ'.map = σ.map) (P : ObjId) (c : ClassId)
    (hinit : σ'.initialOf P = σ.initialOf P) : obsC σ' P c = obsC σ P c := by
  unfold obsC FState.mapGet
  rw [hmap]
  cases AList.get? σ.map (P, c) with
  | none => rfl
  | some r => cases r with
    | obj f => rfl
    | initCell => exact congrArg some hinit

theorem would_extend {σ σ' : FState} (hmap : σ'.map = σ.map) (P : ObjId) (c : ClassId)
    (hinit : σ'.initialOf P = σ.initialOf P) : would σ' P c = would σ P c := by
  rw [would_eq, would_eq, obsC_extend hmap P c hinit, hinit]

theorem FInv_extend {σ : FState} (h : FInv σ) (σ' : FState) (hmap : σ'.map = σ.map)
    (hcl : σ.classes.length ≤ σ'.classes.length) (hnd : σ.ndesc ≤ σ'.ndesc)
    (hlen : σ'.objs.length = σ'.ndesc) (hlt : ∀ s, s < σ'.ndesc → σ'.objOf s < σ'.ndesc) : FInv σ' where
  noAlias := by intro P c; unfold FState.mapGet; rw [hmap]; exact h.noAlias P c
  map_lt := by
    intro P c r hr
    unfold FState.mapGet at hr; rw [hmap] at hr
    obtain ⟨h1, h2⟩ := h.map_lt P c r hr
    exact ⟨Nat.lt_of_lt_of_le h1 hnd, Nat.lt_of_lt_of_le h2 hcl⟩
  objs_len := hlen
  objs_lt := hlt

/-- a new class `n` (MRO `n :: tail`, own slot `own`) on both sides; old slots, objects, cells and
    frames unchanged; for a new owner, model A's frame is the `initial_set` of the object its slot
    refers to -/
theorem Ref_extend {σ : FState} {a : State} (h : Ref σ a) (σ' : FState) (a' : State)
    (tail : List ClassId) (own : Option DescId)
    (hca : a'.classes = (C17.addClass a tail own).classes) (hcs : a'.classes = σ'.classes)
    (hnd : a'.ndesc = σ'.ndesc) (hin : a'.insts = σ'.insts)
    (hinv : Inv a') (hfinv : FInv σ')
    (hmap : σ'.map = σ.map)
    (hobj : ∀ s, s < σ.ndesc → σ'.objOf s = σ.objOf s)
    (hinit : ∀ P, P < σ.ndesc → σ'.initialOf P = σ.initialOf P)
    (hfi : ∀ s, s < σ.ndesc → a'.frameD (.init s) = a.frameD (.init s))
    (hfc : ∀ s c, AList.get? a'.frames (.cls s c) = AList.get? a.frames (.cls s c))
    (hown : ∀ d, own = some d → a'.frameD (.init d) = σ'.initialOf (σ'.objOf d)) :
    Ref σ' a' := by
  have hown' : ∀ c, σ'.ownOf c = if c = a.classes.length then own else a.ownOf c := by
    intro c
    rw [← ownOf_of_classes hcs, ownOf_congr (σ := C17.addClass a tail own) hca c, ownOf_addClass]
  refine ⟨⟨hcs, hnd, hin, ?_, ?_⟩, hinv, hfinv⟩
  · intro c s hc
    rw [hown' c] at hc
    by_cases e : c = a.classes.length
    · rw [if_pos e] at hc
      have hm : σ'.mapGet (σ'.objOf s) c = none := by
        unfold FState.mapGet; rw [hmap]
        exact map_ge h.finv _ c (by rw [← h.len, e]; exact Nat.le_refl _)
      rw [hown s hc]
      simp only [would, hm]
    · rw [if_neg e] at hc
      have hs : s < σ.ndesc := by rw [← h.sim.ndesc]; exact h.inv.wf.own_lt c s hc
      have hc' : σ.ownOf c = some s := by rw [← h.sim.ownOf]; exact hc
      rw [hfi s hs, hobj s hs, would_extend hmap _ c (hinit _ (h.finv.objs_lt s hs))]
      exact h.sim.owner c s hc'
  · intro c s hc hd
    rw [hown' c] at hc
    rcases Nat.lt_or_ge c a.classes.length with hlt | hge
    · rw [if_neg (Nat.ne_of_lt hlt)] at hc
      have hda : a.descOf c = some s := by
        rw [← descOf_extend a a' h.inv.wf tail own hca c hlt, descOf_of_classes hcs]; exact hd
      have hs : s < σ.ndesc := h.desc_lt c s hda
      have hc' : σ.ownOf c = none := by rw [← h.sim.ownOf]; exact hc
      have hd' : σ.descOf c = some s := by rw [← h.sim.descOf]; exact hda
      rw [hfc, hobj s hs, obsC_extend hmap _ c (hinit _ (h.finv.objs_lt s hs))]
      exact h.sim.other c s hc' hd'
    · rw [hfc, frames_ge a h.inv.wf s c hge]
      have hm : σ'.mapGet (σ'.objOf s) c = none := by
        unfold FState.mapGet; rw [hmap]
        exact map_ge h.finv _ c (by rw [← h.len]; exact hge)
      simp only [obsC, hm, Option.map_none]

theorem Ref_addClass {σ : FState} {a : State} (h : Ref σ a) (tail : List ClassId)
    (hinv : Inv (C17.addClass a tail none)) : Ref (Frames.addClass σ tail none) (C17.addClass a tail none) := by
  have hcs : (C17.addClass a tail none).classes = (Frames.addClass σ tail none).classes := by
    simp only [C17.addClass, Frames.addClass, h.sim.classes]
  refine Ref_extend h _ _ tail none rfl hcs h.sim.ndesc h.sim.insts hinv ?_ rfl (fun _ _ => rfl)
    (fun _ _ => rfl) (fun _ _ => rfl) (fun _ _ => rfl) (fun d hd => by simp at hd)
  exact FInv_extend h.finv _ rfl (by simp [Frames.addClass]) (Nat.le_refl _) h.finv.objs_len h.finv.objs_lt

/-- a new class owning the new slot `σ.ndesc`, which refers to object `x` whose `initial_set` cell
    holds `init`: model A's `usingPropsStep` -/
theorem Ref_newOwner {σ : FState} {a : State} (h : Ref σ a) (p : ClassId) (init : List (Key × Val))
    (σ' : FState) (x : ObjId) (hx : x < σ.ndesc + 1)
    (hcl : σ'.classes = (Frames.addClass σ (σ.mroOf p) (some σ.ndesc)).classes)
    (hnd : σ'.ndesc = σ.ndesc + 1) (hobjs : σ'.objs = σ.objs ++ [x]) (hmap : σ'.map = σ.map)
    (hins : σ'.insts = σ.insts)
    (hinit : ∀ P, P < σ.ndesc → σ'.initialOf P = σ.initialOf P)
    (hcell : σ'.initialOf x = valFrame init)
    (hinv : Inv (usingPropsStep a p init)) : Ref σ' (usingPropsStep a p init) := by
  have hlen := h.finv.objs_len
  have hobj : ∀ s, s < σ.ndesc → σ'.objOf s = σ.objOf s := by
    intro s hs
    unfold FState.objOf
    rw [hobjs, List.getElem?_append_left (by rw [hlen]; exact hs)]
  have hobjn : σ'.objOf σ.ndesc = x := by
    unfold FState.objOf
    rw [hobjs, ← hlen]
    simp
  have hcs : (usingPropsStep a p init).classes = σ'.classes := by
    rw [hcl]
    simp only [usingPropsStep, C17.addClass, Frames.addClass, h.sim.classes, h.sim.mroOf, h.sim.ndesc]
  refine Ref_extend h σ' _ (a.mroOf p) (some a.ndesc) rfl hcs ?_ ?_ hinv ?_ hmap hobj hinit ?_ ?_ ?_
  · rw [hnd, ← h.sim.ndesc]; rfl
  · rw [hins, ← h.sim.insts]; rfl
  · refine FInv_extend h.finv σ' hmap (by rw [hcl]; simp [Frames.addClass]) (by rw [hnd]; exact Nat.le_succ _)
      (by rw [hobjs, hnd, List.length_append, hlen]; rfl) ?_
    intro s hs
    rw [hnd] at hs ⊢
    rcases Nat.lt_succ_iff_lt_or_eq.1 hs with hl | he
    · rw [hobj s hl]; exact Nat.lt_succ_of_lt (h.finv.objs_lt s hl)
    · rw [he, hobjn]; exact hx
  · intro s hs
    have hne : ¬ (FrameKey.init a.ndesc = FrameKey.init s) := by
      rw [h.sim.ndesc]; intro e; injection e with e; exact Nat.ne_of_gt hs e
    simp only [State.frameD, usingPropsStep, C17.addClass, get?_set, hne, if_false]
  · intro s c
    simp only [usingPropsStep, C17.addClass, get?_set, reduceCtorEq, if_false]
  · intro d hd
    have hd' : d = σ.ndesc := by rw [← h.sim.ndesc]; exact (Option.some.inj hd).symm
    subst hd'
    rw [hobjn, hcell]
    simp only [State.frameD, usingPropsStep, C17.addClass, get?_set, h.sim.ndesc, if_true, Option.getD_some]

theorem Ref_usingProps {σ : FState} {a : State} (h : Ref σ a) (p : ClassId) (init : List (Key × Val))
    (hinv : Inv (usingPropsStep a p init)) : Ref (usingPropsF σ p init) (usingPropsStep a p init) :=
  Ref_newOwner h p init _ σ.ndesc (Nat.lt_succ_self _) rfl rfl rfl rfl rfl
    (fun P hP => by
      simp only [FState.initialOf, usingPropsF, Frames.addClass, get?_set, Nat.ne_of_gt hP, if_false])
    (by simp only [FState.initialOf, usingPropsF, Frames.addClass, get?_set, if_true, Option.getD_some])
    hinv

/-- `using(properties=P)` with `P` already held (slot `s0`): model A gives the new class a fresh
    descriptor with `init`; the mechanism gives it a new slot for the SAME object — the two agree
    as long as `init` is what the object's `initial_set` cell holds -/
theorem Ref_usingShared {σ : FState} {a : State} (h : Ref σ a) (p : ClassId) (s0 : DescId)
    (init : List (Key × Val)) (hs0 : s0 < σ.ndesc)
    (hcell : σ.initialOf (σ.objOf s0) = valFrame init)
    (hinv : Inv (usingPropsStep a p init)) : Ref (usingSharedF σ p s0) (usingPropsStep a p init) :=
  Ref_newOwner h p init _ (σ.objOf s0) (Nat.lt_succ_of_lt (h.finv.objs_lt s0 hs0)) rfl rfl rfl rfl rfl
    (fun _ _ => rfl) hcell hinv

theorem Ref_addInst {σ : FState} {a : State} (h : Ref σ a) (y : Inst) (hy : y.cls < a.classes.length) :
    Ref { σ with insts := σ.insts ++ [y] } { a with insts := a.insts ++ [y] } :=
  Ref_insts h (fun l => l ++ [y]) (WF_addInst a h.inv.wf y hy)

/-- a command that checks a bound and fails otherwise, in both models: it refines if its success branch does -/
theorem guarded_refines {σ σ' : FState} {a a' : State} (h : Ref σ a) {b : Prop} [Decidable b] (r : Res)
    (hinv : Inv (if b then (a', r) else (a, Res.err .badCase)).1) (hstep : b → Inv a' → Ref σ' a') :
    (if b then (σ', r) else (σ, Res.err .badCase)).2 = (if b then (a', r) else (a, Res.err .badCase)).2 ∧
    Ref (if b then (σ', r) else (σ, Res.err .badCase)).1 (if b then (a', r) else (a, Res.err .badCase)).1 := by
  by_cases hb : b
  · simp only [hb, if_true] at hinv ⊢; exact ⟨trivial, hstep hb hinv⟩
  · simp only [hb, if_false]; exact ⟨trivial, h⟩

/-- the case format's annotation of `using(properties=<shared object>)` — "`init` is the mapping the
    object was constructed with" — agrees with the state: it is what the object's `initial_set` cell holds -/
def sharedInit (σ : FState) : Cmd → Bool
  | .usingShared _ owner init =>
    match σ.ownOf owner with
    | some s => decide (σ.initialOf (σ.objOf s) = valFrame init)
    | none => true
  | _ => true

/-- from related states, any command that names a legal MRO tail (`CmdOK`), does not create a
    mixed-descriptor class (`miGuard`, KF-C17-c / the modelling boundary of `usingShared`) and annotates a
    shared `Properties` object correctly (`sharedInit`) returns the same result in the mechanism model and
    in model A, and the new states are related again -/
theorem frames_step_refines {σ : FState} {a : State} (h : Ref σ a) (cmd : Cmd) (hok : CmdOK cmd)
    (hmi : miGuard a cmd = true) (hsh : sharedInit σ cmd = true) :
    (fstep false σ cmd).2 = (step a cmd).2 ∧ Ref (fstep false σ cmd).1 (step a cmd).1 := by
  have hinv := Inv_step' a h.inv cmd hok hmi
  have hl := h.len
  cases cmd with
  | op V o =>
    cases V with
    | cls c => exact classOp_refines h c o
    | inst i => exact instOp_refines h i o
  | subclass p =>
    simp only [fstep, step, ← hl, ← h.sim.mroOf] at hinv ⊢
    exact guarded_refines h .unit hinv (fun _ hi => Ref_addClass h _ hi)
  | subclassMI tail =>
    simp only [fstep, step, ← hl] at hinv ⊢
    exact guarded_refines h .unit hinv (fun _ hi => Ref_addClass h _ hi)
  | usingProps p init =>
    simp only [fstep, step, ← hl] at hinv ⊢
    exact guarded_refines h .unit hinv (fun _ hi => Ref_usingProps h p init hi)
  | usingShared p owner init =>
    simp only [fstep, step, ← hl, ← h.sim.ownOf] at hinv ⊢
    cases ho : a.ownOf owner with
    | none => simp only [ite_self]; exact ⟨trivial, h⟩
    | some s0 =>
      simp only [ho] at hinv ⊢
      have hs0 : s0 < σ.ndesc := by rw [← h.sim.ndesc]; exact h.inv.wf.own_lt owner s0 ho
      have hcell : σ.initialOf (σ.objOf s0) = valFrame init := by
        simpa only [sharedInit, ← h.sim.ownOf, ho, decide_eq_true_eq] using hsh
      exact guarded_refines h .unit hinv (fun _ hi => Ref_usingShared h p s0 init hs0 hcell hi)
  | withProps p pairs =>
    simp only [fstep, step, ← hl, ← h.sim.mroOf] at hinv ⊢
    refine guarded_refines h .unit hinv (fun hp _ => ?_)
    have hinv1 : Inv (C17.addClass a (a.mroOf p) none) := by
      simpa only [step, hp, if_true] using Inv_step' a h.inv (.subclass p) trivial rfl
    exact (classOp_refines (Ref_addClass h _ hinv1) a.classes.length (.update pairs)).2
  | newInst c =>
    simp only [fstep, step, ← hl] at hinv ⊢
    exact guarded_refines h .unit hinv (fun hp _ => Ref_addInst h _ hp)
  | newInstWith c m =>
    simp only [fstep, step, ← hl] at hinv ⊢
    exact guarded_refines h .unit hinv (fun hp _ => Ref_addInst h _ hp)
  | assign i m =>
    simp only [fstep, step, ← h.sim.insts]
    cases hx : a.insts[i]? with
    | none => exact ⟨rfl, h⟩
    | some x => exact ⟨rfl, Ref_setInst h i _ (h.inv.wf.inst_lt i x hx)⟩
  | newInstCompound c m =>
    simp only [fstep, step, ← hl] at hinv ⊢
    refine guarded_refines h .unit hinv (fun hp _ => ?_)
    have hinv1 : Inv (usingPropsStep a c m) := by
      simpa only [step, hp, if_true] using Inv_step' a h.inv (.usingProps c m) trivial rfl
    exact Ref_addInst (Ref_usingProps h c m hinv1) _ (by simp [usingPropsStep, C17.addClass])

def refGuard : FState → State → List Cmd → Bool
  | _, _, [] => true
  | σ, a, c :: cs =>
    decide (CmdOK c) && miGuard a c && sharedInit σ c && refGuard (fstep false σ c).1 (step a c).1 cs

/-- along every guarded history the mechanism model — `Properties.map` filled lazily by reads and
    writes — returns, command by command, exactly the results of model A, and the final states are related -/
theorem frames_run_refines : ∀ (cmds : List Cmd) (σ : FState) (a : State), Ref σ a →
    refGuard σ a cmds = true →
    (frun false σ cmds).2 = (run a cmds).2 ∧ Ref (frun false σ cmds).1 (run a cmds).1
  | [], _, _, h, _ => ⟨rfl, h⟩
  | c :: cs, σ, a, h, hg => by
    simp only [refGuard, Bool.and_eq_true, decide_eq_true_eq] at hg
    obtain ⟨⟨⟨hok, hmi⟩, hsh⟩, hrest⟩ := hg
    obtain ⟨hres, href⟩ := frames_step_refines h c hok hmi hsh
    obtain ⟨ihres, ihref⟩ := frames_run_refines cs _ _ href hrest
    simp only [frun, run]
    exact ⟨by rw [hres, ihres], ihref⟩

theorem frames_run_refines_init (init : List (Key × Val)) (cmds : List Cmd)
    (hg : refGuard (finit init) (initState init) cmds = true) :
    (frun false (finit init) cmds).2 = (run (initState init) cmds).2 ∧
    Ref (frun false (finit init) cmds).1 (run (initState init) cmds).1 :=
  frames_run_refines cmds _ _ (Ref_init init) hg

end Flatland.C17.Frames.Proofs
