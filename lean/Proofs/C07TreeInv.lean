/-
C07 on the tree model — `dps` is kept by every list-protocol call (`seqStep_dps`) and every dict-protocol call
(`mapStep_dps`), hence by every call applied anywhere in a tree (`stepAt_dps`, by induction on `Swap`) and along histories
(`hrun_dps`); the `dp` corollaries that `flattenTree_positional` asks for; why not `dp` itself (`dp_not_framed`,
`dp_not_node_level`); non-vacuity on a mixed history.
-/
import Proofs.C07TreeInvBase
import Proofs.C07TreeInvBuild
/-
Every list-protocol call on a List / Array / MultiValue keeps `dps`.  The numbering of the node's own slots is C09's
`positional_step`; added here: every item of the new underlying list is a good item (`Item`), by `SeqShape.forall_items`
(Proofs/C08Shape.lean) for the ways an item comes to be (`dpsItems`).
-/
namespace Flatland.C07Tree.Proofs.Inv
open Flatland.Tree Flatland.PyList Flatland.C08 Flatland.C08.Spec Flatland.C07Tree
open Flatland.C08.Proofs (SeqShape ItemInv seqStep_shape mem_argElems_flatMap)
open Flatland.C09.Proofs (positional_step)

def SeqArgsDP : SeqOp → Prop
  | .append a | .insert _ a | .setitem _ a => ArgDP a
  | .extend as | .iadd as | .setslice _ as => ∀ a ∈ as, ArgDP a
  | _ => True

theorem kd_of_dps {r n : Node} (hh : r.hdr = n.hdr) (h : dps r = true) : KidsDP (n.kind = .list) r.kids := by
  have := (dps_iff' r).mp h
  rw [kind_of_hdr hh] at this
  exact this.2

theorem placedSeq_dps {op : SeqOp} (hop : SeqArgsDP op) : ∀ e ∈ placedSeq op, dps e = true := by
  cases op <;> first
    | exact argElems_dps hop
    | exact fun e he => hop _ (mem_argElems_flatMap he)
    | (intro e he; cases he)

theorem dpsItems {n : Node} (hn : dps n = true) : ItemInv n (fun e => dps e = true) (Item (n.kind = .list)) where
  withKey s h := item_withKey h s
  slot _ _ id nm h := item_mkSlot _ id n.id nm _ h
  direct hl _ h := item_notList hl (by rw [dps_withParent]; exact h)
  built _ h := construct_dps _ _ _ _ _ _ _ h
  slotElem hl _ e hs he := item_slot_withKids hs hl _ (by rw [dps_withParent]; exact he)
  slotSet hl _ _ r next hs hel := item_slot_withKids hs hl _ (setNode_dps r _ none next (dps_slotElement hs hel))
  set r next := kd_of_dps (setNode_hdr _ _ _ _) (setNode_dps _ n none next hn)
  setDefault next := kd_of_dps (setDefault_hdr _ _) (setDefault_dps n next hn)

theorem seqShape_kids {n : Node} {next : Nat} {op : SeqOp} {r : StepR} (h : SeqShape n next op r) (hn : dps n = true)
    (hop : ∀ e ∈ placedSeq op, dps e = true) : KidsDP (n.kind = .list) r.node.kids :=
  h.forall_items (dpsItems hn) ((dps_iff' n).mp hn).2 hop
theorem seqStep_kids (n : Node) (hn : dps n = true) (op : SeqOp) (hop : SeqArgsDP op) (next : Nat) :
    KidsDP (n.kind = .list) (seqStep n op next).node.kids :=
  seqShape_kids (seqStep_shape n op next) hn (placedSeq_dps hop)

/-- A deep-positional List / Array /
    MultiValue stays deep positional under every list-protocol call OF THE MODEL, whether the model's call
    returns or raises.  "Raising" is true of the model: its raising paths are the rejections (bad index, rejected
    item, missing value …) and the prefix-keeping failures of extend / `+=` / `*=` / set that `seqStep` implements.
    It is NOT a statement about every raising path of the code: the model's keyed sort never raises (it sorts or
    answers `.unsupported`, `C08.Proofs.keyed_sort_only_refuses`), whereas `list.sort` may fail inside a COMPARISON
    and leave the slots rearranged; on that path `dps` is re-established by the `finally: self._renumber()` of
    List.sort (9873cdc) — proved for every rearrangement in `Proofs/C09SortFailure.lean`
    (`sort_failure_any_permutation_dps`), checked on the code by `g1common.check_sort_failure`. -/
theorem seqStep_dps (n : Node) (h : dps n = true) (op : SeqOp) (hop : SeqArgsDP op) (next : Nat) :
    dps (seqStep n op next).node = true :=
  dps_of_hdr (seqStep_shape n op next).hdr
    (fun hl => positional_step n hl (((dps_iff' n).mp h).1 hl) op next)
    (seqStep_kids n h op hop next)

end Flatland.C07Tree.Proofs.Inv

/-
Every dict-protocol call on a Dict / SparseDict keeps `dps`.  A mapping is not a List, so only the deep part is at stake:
every child after the call is `dps`, by `MapShape.forall_kids` (Proofs/C08MapShape.lean) for the ways a child comes to be
(`dpsKids`), as for `mapStep_wp`.
-/
namespace Flatland.C07Tree.Proofs.Inv
open Flatland.Tree Flatland.PyList Flatland.C08 Flatland.C07Tree
open Flatland.C08.Spec (argElems placedMap)
open Flatland.C08.Proofs (MapShape mapStep_shape KidInv)

def MapArgsDP : MapOp → Prop
  | .setitem _ a => ArgDP a
  | .updateArgs kvs => ∀ p ∈ kvs, ArgDP p.2
  | _ => True

theorem setChild_dps (child : Node) (a : Arg) (next : Nat) (hw : dps child = true) :
    dps (setChild child a next).node = true := by
  unfold setChild
  split
  · exact setNode_dps _ _ _ _ hw
  · split
    · rw [dps_withScalar]; exact hw
    · exact hw

theorem dpsKids (pid : Nat) : KidInv pid (fun e => dps e = true) (fun c => dps c = true) where
  placed key he := by rw [dps_withKey, dps_withParent]; exact he
  scalar f key next v u := by rw [dps_withScalar]; exact blank_dps _ _ _ _
  built hc := construct_dps _ _ _ _ _ _ _ hc
  defaulted f key next d := setNode_dps _ _ none _ (by rw [dps_withParent]; exact blank_dps _ _ _ _)
  setChild a next hc := setChild_dps _ a next hc
  fresh subs b next := blankFields_dps subs pid b next

theorem placedMap_dps {op : MapOp} (hop : MapArgsDP op) : ∀ e ∈ placedMap op, dps e = true := by
  cases op with
  | setitem k a => exact argElems_dps hop
  | updateArgs kvs =>
    intro e he
    obtain ⟨p, hp, hep⟩ := List.mem_flatMap.mp he
    exact argElems_dps (hop p hp) e hep
  | _ => intro e he; cases he

theorem mapShape_dps {n : Node} {next : Nat} {op : MapOp} {r : StepR} (h : MapShape n next op r) (hn : dps n = true)
    (hnl : n.kind ≠ .list) (hop : ∀ e ∈ placedMap op, dps e = true) : dps r.node = true := by
  rw [dps_iff]
  refine ⟨fun hl => absurd (kind_of_hdr h.hdr ▸ hl) hnl, ?_⟩
  exact h.forall_kids (dpsKids n.id) ((dps_iff n).mp hn).2 hop
    (fun raw pol => ((dps_iff _).mp (setNode_dps raw n pol next hn)).2) ((dps_iff _).mp (setDefault_dps n next hn)).2

/-- `hnl`: the call is made on a mapping — what `nodeStep` guarantees -/
theorem mapStep_dps (n : Node) (h : dps n = true) (hnl : n.kind ≠ .list) (op : MapOp) (hop : MapArgsDP op)
    (next : Nat) : dps (mapStep n op next).node = true :=
  mapShape_dps (mapStep_shape n op next) h hnl (placedMap_dps hop)

end Flatland.C07Tree.Proofs.Inv

namespace Flatland.C07Tree.Proofs.Inv
open Flatland.Tree Flatland.PyList Flatland.C08 Flatland.C07Tree
open Flatland.C09.Proofs (WellNumbered)
open Flatland.C08.Proofs (nodeStep_hdr nodeStep_cases hstep_cases hrun_induct)

/-- mirror of `Flatland.C08.Spec.OpArgsWP` for `dps` -/
def OpArgsDP : Op → Prop
  | .seq (.append a) | .seq (.insert _ a) | .seq (.setitem _ a) => ArgDP a
  | .seq (.extend as) | .seq (.iadd as) | .seq (.setslice _ as) => ∀ a ∈ as, ArgDP a
  | .map (.setitem _ a) => ArgDP a
  | .map (.updateArgs kvs) => ∀ p ∈ kvs, ArgDP p.2
  | _ => True

theorem opArgs_seq {o : SeqOp} (h : OpArgsDP (.seq o)) : SeqArgsDP o := by cases o <;> first | exact h | trivial

theorem opArgs_map {o : MapOp} (h : OpArgsDP (.map o)) : MapArgsDP o := by cases o <;> first | exact h | trivial

theorem nodeStep_dps (n : Node) (h : dps n = true) (op : Op) (hop : OpArgsDP op) (next : Nat) :
    dps (nodeStep n op next).node = true := by
  rcases nodeStep_cases n op next with ⟨o, rfl, _, e⟩ | ⟨o, rfl, hm, e⟩ | e <;> rw [e]
  · exact seqStep_dps n h o (opArgs_seq hop) next
  · exact mapStep_dps n h (by intro hl; rw [hl] at hm; cases hm) o (opArgs_map hop) next
  · exact h

theorem nodeStep_slot (n : Node) (hk : n.kind = .slot) (op : Op) (next : Nat) : (nodeStep n op next).node = n := by
  unfold nodeStep
  cases op <;> simp only [hk] <;> rfl

/-- what a step may do to one item without disturbing its holder: when the holder is a List, the item is a ListSlot and the
    call lands inside it; the slot keeps its name (header) and the number of elements it holds, so the List's numbering and
    "one element per slot" are untouched -/
def DpsStep (k k' : Node) : Prop :=
  dps k = true → dps k' = true ∧ k'.hdr = k.hdr ∧ (k.kind = .slot → k'.kids.length = k.kids.length)

theorem kidsDP_swap {L : Prop} {pre post : List Node} {k k' : Node} (h : DpsStep k k') (hw : KidsDP L (pre ++ k :: post)) :
    KidsDP L (pre ++ k' :: post) :=
  forall_mem_swap (k' := k') hw (fun hk => by
    obtain ⟨h1, h2, h3⟩ := h hk.1
    exact ⟨h1, fun hL => ⟨by rw [h3 (hk.2 hL).2]; exact (hk.2 hL).1, by rw [kind_of_hdr h2]; exact (hk.2 hL).2⟩⟩)

theorem _root_.Flatland.Tree.Swap.dps {n n' t t' : Node} (h : Swap n n' t t') (hn : DpsStep n n') : DpsStep t t' := by
  induction h with
  | here => exact hn
  | @kid i s pre post k k' _ ih =>
    intro hw
    have hd := (dps_mk_iff i s _).mp hw
    have hk := ih (hd.2 k (by simp)).1
    refine ⟨(dps_mk_iff i s _).mpr ⟨fun hl => ?_, kidsDP_swap ih hd.2⟩, rfl, fun _ => by simp [Node.kids]⟩
    have := hd.1 hl
    unfold WellNumbered at this ⊢
    rw [keys_swap hk.2.1]; simpa using this

theorem stepAt_dps (op : Op) (hop : OpArgsDP op) (tid : Nat) :
    ∀ (t : Node) (next : Nat) (r : StepR), dps t = true → stepAt t tid op next = some r →
      dps r.node = true ∧ r.node.hdr = t.hdr ∧ (t.kind = .slot → r.node.kids.length = t.kids.length) := by
  intro t next r hd hr
  obtain ⟨n, _, hs, _⟩ := stepAt_swap op tid next t r hr
  exact hs.dps (fun hw => ⟨nodeStep_dps _ hw op hop next, nodeStep_hdr _ _ _, fun hk => by rw [nodeStep_slot _ hk]⟩) hd

theorem stepAtL_dps (op : Op) (hop : OpArgsDP op) (tid : Nat) :
    ∀ (ks : List Node) (L : Prop) (next : Nat) (ks' : List Node) (r : StepR), KidsDP L ks →
      stepAtL ks tid op next = some (ks', r) →
      KidsDP L ks' ∧ ks'.map Node.key = ks.map Node.key ∧ ks'.length = ks.length := by
  intro ks L next ks' r hw hr
  obtain ⟨pre, k, post, rfl, rfl, hk⟩ := stepAtL_split op tid next _ _ _ hr
  have h := fun hd => stepAt_dps op hop tid k next r hd hk
  exact ⟨kidsDP_swap h hw, keys_swap (h (hw k (by simp)).1).2.1, by simp⟩

theorem hstep_dps (s : HState) (h : HOp) (hop : OpArgsDP h.op) (hd : dps s.root = true) :
    dps (hstep s h).root = true := by
  rcases hstep_cases s h with ⟨_, e⟩ | ⟨r, hs, e⟩ <;> rw [e]
  · exact hd
  · exact (stepAt_dps h.op hop h.target s.root s.next r hd hs).1

/-- From a deep-positional tree, after any sequence of list-protocol and
    dict-protocol calls applied to any of its elements — with plain values or deep-positional Element
    arguments — the tree is deep positional. -/
theorem hrun_dps (hs : List HOp) : ∀ s : HState, (∀ h ∈ hs, OpArgsDP h.op) → dps s.root = true →
    dps (hrun s hs).root = true :=
  fun s hg hd =>
    hrun_induct (I := fun s => dps s.root = true) (H := fun _ hs => ∀ h ∈ hs, OpArgsDP h.op)
      (fun s h _ hd hg => ⟨hstep_dps s h (hg h (by simp)) hd, fun x hx => hg x (by simp [hx])⟩) hs s hd hg

theorem hrun_dps_prefix (hs : List HOp) (s : HState) (hops : ∀ h ∈ hs, OpArgsDP h.op) (hd : dps s.root = true)
    (k : Nat) : dps (hrun s (hs.take k)).root = true :=
  hrun_dps (hs.take k) s (fun h hh => hops h (List.mem_of_mem_take hh)) hd

theorem blank_dp (s : Schema) (parent : Option Nat) (key : Str) (next : Nat) : dp (blank s parent key next).1 = true :=
  dp_of_dps _ (blank_dps s parent key next)

theorem construct_dp (s : Schema) (raw : Raw) (parent : Option Nat) (key : Str) (next : Nat) (e : Node) (n1 : Nat)
    (h : construct s raw parent key next = (.ok e, n1)) : dp e = true :=
  dp_of_dps _ (construct_dps s raw parent key next e n1 h)

theorem fromDefaults_dp (s : Schema) (parent : Option Nat) (key : Str) (next : Nat) :
    dp (fromDefaults s parent key next).node = true :=
  dp_of_dps _ (fromDefaults_dps s parent key next)

theorem seqStep_dp (n : Node) (h : dps n = true) (op : SeqOp) (hop : OpArgsDP (.seq op)) (next : Nat) :
    dp (seqStep n op next).node = true :=
  dp_of_dps _ (seqStep_dps n h op (opArgs_seq hop) next)

theorem mapStep_dp (n : Node) (h : dps n = true) (hnl : n.kind ≠ .list) (op : MapOp) (hop : OpArgsDP (.map op))
    (next : Nat) : dp (mapStep n op next).node = true :=
  dp_of_dps _ (mapStep_dps n h hnl op (opArgs_map hop) next)

theorem nodeStep_dp (n : Node) (h : dps n = true) (op : Op) (hop : OpArgsDP op) (next : Nat) :
    dp (nodeStep n op next).node = true :=
  dp_of_dps _ (nodeStep_dps n h op hop next)

theorem stepAt_dp (op : Op) (hop : OpArgsDP op) (tid : Nat) (t : Node) (next : Nat) (r : StepR)
    (h : dps t = true) (hr : stepAt t tid op next = some r) : dp r.node = true :=
  dp_of_dps _ (stepAt_dps op hop tid t next r h hr).1

theorem hstep_dp (s : HState) (h : HOp) (hop : OpArgsDP h.op) (hd : dps s.root = true) :
    dp (hstep s h).root = true :=
  dp_of_dps _ (hstep_dps s h hop hd)

/-- the hypothesis of `flattenTree_positional` holds in the state reached by any history from a `dps` tree -/
theorem hrun_dp (hs : List HOp) (s : HState) (hops : ∀ h ∈ hs, OpArgsDP h.op) (hd : dps s.root = true) :
    dp (hrun s hs).root = true :=
  dp_of_dps _ (hrun_dps hs s hops hd)

theorem hrun_dp_prefix (hs : List HOp) (s : HState) (hops : ∀ h ∈ hs, OpArgsDP h.op) (hd : dps s.root = true)
    (k : Nat) : dp (hrun s (hs.take k)).root = true :=
  dp_of_dps _ (hrun_dps_prefix hs s hops hd k)

namespace Cex
def sI : Schema := .mk { cid := 2, kind := .integer } .none []
def sD : Schema := .mk { cid := 3, kind := .dict } .none [sI]
def sL : Schema := .mk { cid := 1, kind := .list } .none [sI]
/-- a List whose one item is not a ListSlot but a List-kind node named "0" holding one child named "0" -/
def root : Node :=
  .mk { id := 1, parent := none } sL
    [.mk { id := 2, parent := none, key := ['0'] } sL
      [.mk { id := 3, parent := none, key := ['0'] } sD [.mk { id := 4, parent := none } sI []]]]
def e : Node := .mk { id := 40, parent := none, key := ['z'] } sI []
end Cex

/-- plain `dp` is not preserved by a call addressed to a (non-slot) item of a List: `clear()` on the
    item empties it, and the List above no longer has "one element per slot" -/
theorem dp_not_framed :
    dp Cex.root = true ∧ (stepAt Cex.root 2 (.seq .clear) 10).map (fun r => dp r.node) = some false := by
  decide +kernel

/-- plain `dp` is not preserved at node level either: `lst[0] = e` re-fills the (List-kind) item with
    an element stored under an arbitrary key -/
theorem dp_not_node_level :
    dp Cex.root = true ∧ dp Cex.e = true ∧ dp (seqStep Cex.root (.setitem 0 (.elem Cex.e)) 10).node = false := by
  decide +kernel

/-- … and `dps` excludes that tree -/
example : dps Cex.root = false := by decide +kernel

namespace Ex
def sI : Schema := .mk { cid := 2, kind := .integer } .none []
def sX : Schema := .mk { cid := 11, kind := .integer, name := some ['x'] } .none []
def sY : Schema := .mk { cid := 12, kind := .list, name := some ['y'] } .none [sI]
def sD : Schema := .mk { cid := 10, kind := .dict } .none [sX, sY]
/-- `List.of(Dict.of(Integer.named('x'), List.named('y').of(Integer)))` -/
def sLoD : Schema := .mk { cid := 13, kind := .list } .none [sD]

/-- `schema([{'x': 1, 'y': [3, 2]}, {'x': 4, 'y': [5]}])` -/
def built : Except Exc Node × Nat :=
  construct sLoD (.list [.dict [(['x'], .int 1), (['y'], .list [.int 3, .int 2])],
                         .dict [(['x'], .int 4), (['y'], .list [.int 5])]]) none [] 1

def tree : Node :=
  match built.1 with
  | .ok e => e
  | .error _ => (blank sLoD none [] 1).1

/-- a detached populated Dict element handed to a call -/
def arg : Node := .mk { id := 900, parent := some 77 } sD
  [.mk { id := 901, parent := some 900, key := ['x'] } sX [],
   .mk { id := 902, parent := some 900, key := ['y'] } sY
     [mkSlot 903 902 0 (.mk { id := 904, parent := none, val := .int 8, u := ['8'] } sI [])]]

/-- the nested List `y` of the first Dict -/
def yId : Nat := 6

/-- insert with a negative index (plain value, then an Element), sort of the nested List, deletion
    of a slice, `append` to the nested List -/
def hist : List HOp :=
  [⟨1, .seq (.insert (-1) (.plain (.dict [(['x'], .int 7), (['y'], .list [.int 9, .int 8])])))⟩,
   ⟨yId, .seq (.sort (some .u) false)⟩,
   ⟨1, .seq (.insert (-2) (.elem arg))⟩,
   ⟨1, .seq (.delslice ⟨some 1, some 3, none⟩)⟩,
   ⟨yId, .seq (.append (.plain (.int 6)))⟩]
end Ex

/-- the construction did not raise, and built two slots -/
example : (match Ex.built.1 with | .ok _ => true | .error _ => false) = true ∧ Ex.tree.kids.length = 2 := by decide +kernel

example : dps Ex.tree = true := by decide +kernel

theorem ex_hist_args : ∀ h ∈ Ex.hist, OpArgsDP h.op := by
  intro h hh
  simp only [Ex.hist, List.mem_cons, List.not_mem_nil, or_false] at hh
  rcases hh with rfl | rfl | rfl | rfl | rfl <;> first | trivial | (show dps _ = true; decide +kernel)

/-- the hypotheses of `hrun_dps` are satisfiable: the tree reached is deep positional … -/
example : dp (hrun ⟨Ex.tree, 100⟩ Ex.hist).root = true :=
  hrun_dp Ex.hist ⟨Ex.tree, 100⟩ ex_hist_args (by decide +kernel)

/-- … and the history really ran: the slot names after it, and the nested List, sorted -/
example : (hrun ⟨Ex.tree, 100⟩ Ex.hist).root.kids.map Node.key = [['0'], ['1']] := by decide +kernel

example : ((hrun ⟨Ex.tree, 100⟩ Ex.hist).root.kids.flatMap Node.kids).map
      (fun d => d.kids.flatMap (fun f => f.kids.map (fun sl => (sl.key, sl.kids.map (·.ni.u))))) =
    [[(['0'], [['2']]), (['1'], [['3']]), (['2'], [['6']])], [(['0'], [['5']])]] := by decide +kernel

end Flatland.C07Tree.Proofs.Inv
