/-
C19 — markup options resolve tag > block > generator > default and unwind on end().

`setting_in_force`: after EVERY history of Generator calls a setting of the model's flat-copied
top frame is its last explicit assignment among the open levels of the specification (the
resolution theorems of `Proofs/C19Exact.lean` rest on it).  The statement's four-level rule
without side condition is `C19_Full`; `C19_full_fails` refutes it from the documented witness
(KF-C19-a).
-/
import Flatland.C19
import Flatland.Spec.C19
import Proofs.Lemmas.C19Resolve
import Proofs.Lemmas.C19Discipline
import Proofs.Lemmas.C19Transforms
import Proofs.Lemmas.C19Hist
import Proofs.Lemmas.C19Scope
import Proofs.Lemmas.C19Applies
namespace Flatland.C19.Proofs
open Flatland.Markup Flatland.C19 Flatland.C19.Spec

/-- the built-in default of an option is a bool, in `_default_context` and in the generator's
    base frame (no `_default_settings` entry overrides it) -/
def optionDefaultOK (T : Tables) (key : Str) (b : Bool) : Bool :=
  Dict.get? T.defaultContext key == some (.bool b) &&
  Dict.get? (frameUpdate T.defaultContext T.defaultSettings) key == some (.bool b)

def optionTable : List (Str × Bool) :=
  [("auto_name".toList, true), ("auto_value".toList, true), ("auto_domid".toList, false),
   ("auto_for".toList, false), ("auto_tabindex".toList, false), ("auto_filter".toList, false)]

/-- regenerated `_default_context`: the six options have exactly these built-in defaults -/
theorem defaults_ok : optionTable.all (fun kb => optionDefaultOK Tables.current kb.1 kb.2) = true := by
  decide +kernel

theorem init_shape {T : Tables} {markup : Str} {settings : List (Str × CVal)} {g : Gen}
    (h : Gen.init T markup settings = .ok g) :
    g.ctx.below = [frameUpdate T.defaultContext T.defaultSettings] ∧
    g.ctx.top = frameUpdate (frameUpdate T.defaultContext T.defaultSettings) settings := by
  suffices hs : Ok (Gen.init T markup settings) fun g =>
      g.ctx.below = [frameUpdate T.defaultContext T.defaultSettings] ∧
      g.ctx.top = frameUpdate (frameUpdate T.defaultContext T.defaultSettings) settings from hs g h
  have hpush : Ctx.push ⟨frameUpdate T.defaultContext T.defaultSettings, []⟩ [] =
      .ok ⟨frameUpdate T.defaultContext T.defaultSettings, [frameUpdate T.defaultContext T.defaultSettings]⟩ := rfl
  have hu : Ok (Ctx.update ⟨frameUpdate T.defaultContext T.defaultSettings,
      [frameUpdate T.defaultContext T.defaultSettings]⟩ settings) fun c =>
      c.below = [frameUpdate T.defaultContext T.defaultSettings] ∧
      c.top = frameUpdate (frameUpdate T.defaultContext T.defaultSettings) settings :=
    fun c hc => by rw [update_eq] at hc; split at hc <;> cases hc; exact ⟨rfl, rfl⟩
  simp only [Gen.init, Ctx.init, hpush, Ok.ite_iff, Ok.bind_iff, Ok.pure_iff, Ok.throw, hu, implies_true, and_self]

theorem init_depth {T : Tables} {markup : Str} {settings : List (Str × CVal)} {g : Gen}
    (h : Gen.init T markup settings = .ok g) : g.ctx.depth = 2 := by
  simp [Ctx.depth, (init_shape h).1]

theorem init_matches {T : Tables} {markup : Str} {settings : List (Str × CVal)} {g : Gen}
    (h : Gen.init T markup settings = .ok g) : Matches (frames g.ctx) (initHist settings) := by
  obtain ⟨hb, ht⟩ := init_shape h
  simp only [frames, hb, initHist, Matches, ht, and_true]

theorem popToggle_of_top (T : Tables) (key : Str) (attrs : Attrs) (ctx : Ctx) (b : Bool) (v : CVal)
    (hdef : Dict.get? T.defaultContext key = some (.bool b))
    (hv : Dict.get? ctx.top key = some v) :
    popToggle T key attrs ctx =
      (codeRule T b (T.parseTrool ((Dict.get? attrs key).getD .maybe)) (some v)).map
        (fun d => (Dict.erase attrs key, d)) := by
  unfold popToggle codeRule
  simp only [bind, Except.bind, pure, Except.pure, Ctx.getItem, hv, hdef]
  cases T.parseTrool ((Dict.get? attrs key).getD .maybe) with
  | yes => rfl
  | no => rfl
  | maybe =>
    cases hp : T.parseTroolC v with
    | error e => rfl
    | ok t => cases t <;> rfl

theorem popToggle_eq (T : Tables) (key : Str) (attrs : Attrs) (ctx : Ctx) (b : Bool) (v : CVal) (t : Trool)
    (hdef : Dict.get? T.defaultContext key = some (.bool b))
    (hv : Dict.get? ctx.top key = some v) (ht : T.parseTroolC v = .ok t) :
    popToggle T key attrs ctx = .ok (Dict.erase attrs key,
      match T.parseTrool ((Dict.get? attrs key).getD .maybe) with
      | .yes => (true, true)
      | .no => (false, false)
      | .maybe => (match t with | .yes => true | .no => false | .maybe => b, false)) := by
  rw [popToggle_of_top T key attrs ctx b v hdef hv]
  simp only [codeRule, ht]
  cases T.parseTrool ((Dict.get? attrs key).getD .maybe) <;> cases t <;> rfl

/-- `key` is any setting, the `filters` list included -/
theorem setting_in_force (T : Tables) (R : RenderCfg) (markup : Str) (settings : List (Str × CVal))
    (g0 : Gen) (hinit : Gen.init T markup settings = .ok g0) (ops : List Op) (key : Str) :
    Dict.get? (runGen T R g0 ops).ctx.top key =
      (lastExplicit (runS T R g0 (initHist settings) ops).2 key).or
        (Dict.get? (frameUpdate T.defaultContext T.defaultSettings) key) := by
  have hm := matches_run T R ops g0 (initHist settings) (init_matches hinit)
  have hbase := base_run T R ops g0 (initHist settings) _
    (by rw [(init_shape hinit).1]; rfl)
  rw [runS_fst] at hm hbase
  refine lookup_matches _ _ _ key _ hm ?_
  rwa [getLast?_cons_of_ne_nil _ _ fun e => by rw [e] at hbase; cases hbase]

deriving instance DecidableEq for Except

/-- the property as stated: the four-level rule, with `auto` ALWAYS deferring to the next level -/
def C19_Full : Prop :=
  ∀ (markup : Str) (settings : List (Str × CVal)) (g0 : Gen),
    Gen.init Tables.current markup settings = .ok g0 →
    ∀ (ops : List Op) (key : Str) (b : Bool), optionDefaultOK Tables.current key b = true →
    ∀ (attrs : Attrs),
    troolValued Tables.current (runS Tables.current RenderCfg.current g0 (initHist settings) ops).2 key = true →
    popToggle Tables.current key attrs (runGen Tables.current RenderCfg.current g0 ops).ctx =
      .ok (Dict.erase attrs key,
           resolve b (Tables.current.parseTrool ((Dict.get? attrs key).getD .maybe))
             (levelTrools Tables.current (runS Tables.current RenderCfg.current g0 (initHist settings) ops).2 key))

/-- `Generator(auto_name='off')` -/
def kfSettings : List (Str × CVal) := [("auto_name".toList, .text "off".toList)]
/-- `begin(auto_name='auto')` -/
def kfOps : List Op := [.begin [("auto_name".toList, .text "auto".toList)]]
def kfGen : Gen :=
  match Gen.init Tables.current "xhtml".toList kfSettings with
  | .ok g => g
  | .error _ => ⟨false, ⟨[], []⟩⟩

theorem kfGen_init : Gen.init Tables.current "xhtml".toList kfSettings = .ok kfGen := by decide +kernel

/-- what the code does on the witness: the name transform is ON (built-in default) … -/
theorem kf_code : popToggle Tables.current "auto_name".toList []
    (runGen Tables.current RenderCfg.current kfGen kfOps).ctx = .ok ([], true, false) := by decide +kernel

/-- … while the rule of the statement says OFF (the generator's setting, `auto` deferring to it) -/
theorem kf_rule : resolve true (Tables.current.parseTrool ((Dict.get? ([] : Attrs) "auto_name".toList).getD .maybe))
    (levelTrools Tables.current (runS Tables.current RenderCfg.current kfGen (initHist kfSettings) kfOps).2
      "auto_name".toList) = (false, false) := by decide +kernel

/-- KF-C19-a: the unrestricted statement is false of the code as it is -/
theorem C19_full_fails : ¬ C19_Full := by
  intro hfull
  have h := hfull "xhtml".toList kfSettings kfGen kfGen_init kfOps "auto_name".toList true (by decide +kernel) []
    (by decide +kernel)
  rw [kf_code, kf_rule] at h
  simp [Dict.erase] at h

/-- the witness is exactly what `noShadowingAuto` excludes -/
example : noShadowingAuto true (levelTrools Tables.current
    (runS Tables.current RenderCfg.current kfGen (initHist kfSettings) kfOps).2 "auto_name".toList) = false := by
  decide +kernel

/-! ### the hypotheses of `toggle_resolution` (`Proofs/C19Exact.lean`) can be met: a three-level history
    on which the rule picks the block's setting over the generator's -/

def nvSettings : List (Str × CVal) := [("auto_domid".toList, .text "on".toList)]
def nvOps : List Op :=
  [.begin [("auto_domid".toList, .text "off".toList)], .begin [], .set [("auto_name".toList, .bool false)]]
def nvGen : Gen :=
  match Gen.init Tables.current "html".toList nvSettings with
  | .ok g => g
  | .error _ => ⟨false, ⟨[], []⟩⟩

example : Gen.init Tables.current "html".toList nvSettings = .ok nvGen := by decide +kernel
theorem nvOps_levels : levelTrools Tables.current
    (runS Tables.current RenderCfg.current nvGen (initHist nvSettings) nvOps).2 "auto_domid".toList =
    [none, some .no, some .yes] := by decide +kernel

example : troolValued Tables.current
    (runS Tables.current RenderCfg.current nvGen (initHist nvSettings) nvOps).2 "auto_domid".toList = true := by decide +kernel
example : noShadowingAuto false (levelTrools Tables.current
    (runS Tables.current RenderCfg.current nvGen (initHist nvSettings) nvOps).2 "auto_domid".toList) = true := by
  rw [nvOps_levels]; rfl
example : levelTrools Tables.current
    (runS Tables.current RenderCfg.current nvGen (initHist nvSettings) nvOps).2 "auto_domid".toList =
    [none, some .no, some .yes] := nvOps_levels
example : resolve false .maybe [none, some .no, some .yes] = (false, false) := by decide +kernel
example : resolve false .yes [none, some .no, some .yes] = (true, true) := by decide +kernel

/-! ### non-vacuity of the stack-discipline, forcing and tabindex theorems -/

def el : Bind := ⟨"fld".toList, "val".toList, .scalar⟩
def tagInput (kw : List (Str × Val)) : Op := .tag "input".toList (some el) kw

/-- a body with a nested block, a set(), tag calls and a rejected call, ending at its own depth -/
def nvBody : List Op :=
  [tagInput [], .begin [("auto_name".toList, .text "off".toList)], .set [("tabindex".toList, .int 7)],
   .update [("bogus".toList, .int 1)], tagInput [("auto_tabindex".toList, .bool true)], .end_,
   .setItem "auto_value".toList (.bool false)]

def nvG1 : Gen := (nvGen.begin [("auto_domid".toList, .bool true)]).gen

example : 2 ≤ nvGen.ctx.depth := by decide +kernel
example : nvGen.begin [("auto_domid".toList, .bool true)] = ⟨nvG1, none⟩ := by decide +kernel
theorem nvBody_run :
    staysAbove Tables.current RenderCfg.current nvG1.ctx.depth nvG1 nvBody = true ∧
    (runGen Tables.current RenderCfg.current nvG1 nvBody).ctx.depth = nvG1.ctx.depth ∧
    (runGen Tables.current RenderCfg.current nvG1 nvBody).ctx ≠ nvG1.ctx := by decide +kernel

example : staysAbove Tables.current RenderCfg.current nvG1.ctx.depth nvG1 nvBody = true := nvBody_run.1
example : (runGen Tables.current RenderCfg.current nvG1 nvBody).ctx.depth = nvG1.ctx.depth := nvBody_run.2.1
/-- … and the body really changed settings before the end() restored them -/
example : (runGen Tables.current RenderCfg.current nvG1 nvBody).ctx ≠ nvG1.ctx := nvBody_run.2.2

example : hasUnknown nvGen [("auto_name".toList, .text "off".toList), ("bogus".toList, .int 1)] :=
  ⟨("bogus".toList, .int 1), by simp, by decide +kernel⟩

example : nvGen.ctx.depth = 2 := by decide +kernel

/-- forcing: a tag-level `auto_name="on"` reads as `yes` -/
example : Tables.current.parseTrool ((Dict.get?
    ([("name".toList, .text "pre".toList), ("auto_name".toList, .text "on".toList)] : Attrs)
    "auto_name".toList).getD .maybe) = .yes := by decide +kernel

def tabGen : Gen :=
  match Gen.init Tables.current "xhtml".toList [("auto_tabindex".toList, .bool true), ("tabindex".toList, .int 5)] with
  | .ok g => g
  | .error _ => ⟨false, ⟨[], []⟩⟩

example : counter tabGen = some 5 := by decide +kernel
example : handed Tables.current RenderCfg.current tabGen
    [tagInput [], .tag "div".toList none [], tagInput [("tabindex".toList, .text "9".toList)], tagInput []] = [5, 6] := by
  decide +kernel

/-- a scope with everything in between: an accepted set(), a nested block with its own counter, a
    rejected update(), a tag that is not given a tabindex — the scope's own tags get 5, 6, 7 -/
def scopeOps : List Op :=
  [tagInput [], .set [("auto_name".toList, .bool false)],
   .begin [("tabindex".toList, .int 50)], tagInput [], tagInput [], .end_,
   .update [("bogus".toList, .int 1)], .tag "div".toList none [], tagInput [], tagInput []]

theorem scopeOps_run :
    staysAbove Tables.current RenderCfg.current tabGen.ctx.depth tabGen scopeOps = true ∧
    noTabWriteAt Tables.current RenderCfg.current tabGen.ctx.depth tabGen scopeOps = true ∧
    scopeHanded Tables.current RenderCfg.current tabGen.ctx.depth tabGen scopeOps = [5, 6, 7] ∧
    handed Tables.current RenderCfg.current tabGen scopeOps = [5, 6, 6, 50, 51, 52, 6, 7] ∧
    scopeHanded Tables.current RenderCfg.current (tabGen.ctx.depth + 1)
      (run Tables.current RenderCfg.current tabGen (scopeOps.take 3)).1 [tagInput [], tagInput []] = [50, 51] := by
  decide +kernel

example : staysAbove Tables.current RenderCfg.current tabGen.ctx.depth tabGen scopeOps = true := scopeOps_run.1
example : noTabWriteAt Tables.current RenderCfg.current tabGen.ctx.depth tabGen scopeOps = true := scopeOps_run.2.1
example : scopeHanded Tables.current RenderCfg.current tabGen.ctx.depth tabGen scopeOps = [5, 6, 7] := scopeOps_run.2.2.1
/-- `handed` is the notion for histories of TAG CALLS ONLY (`tabindex_increasing` asks for `isTag`
    everywhere): it emits the counter at every op that changes the context, so on this mixed
    history it also lists the counter in force at `set` (6), `begin` (6) and `end` (52) next to the
    values the tags got (5 · 50 51 · 6 7).  Mixed histories are what `scopeHanded` is for. -/
example : handed Tables.current RenderCfg.current tabGen scopeOps = [5, 6, 6, 50, 51, 52, 6, 7] := scopeOps_run.2.2.2.1
/-- the nested block's own scope (one level deeper, from the generator as `begin` leaves it): 50, 51 -/
example : scopeHanded Tables.current RenderCfg.current (tabGen.ctx.depth + 1)
    (run Tables.current RenderCfg.current tabGen (scopeOps.take 3)).1 [tagInput [], tagInput []] = [50, 51] :=
  scopeOps_run.2.2.2.2

end Flatland.C19.Proofs
