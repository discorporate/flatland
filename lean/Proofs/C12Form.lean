/-
C12, whole form.  `form_roundtrip`: a rendered form (`Flatland/C12/Form.lean`) submitted unchanged posts
exactly `formPairs` — the element's own flat pairs a form can carry — in document order.
`formPairs_flatten`: `formPairs` plus the unchecked Boolean pairs is a permutation of `flatten()`.
-/
import Proofs.Lemmas.C12FormControls
import Proofs.Lemmas.C12FormTotal
import Proofs.Lemmas.C12FormGen
import Proofs.Lemmas.C12FormFlat
import Proofs.Lemmas.C12FormSelect
import Proofs.Lemmas.C12FormSubmit
namespace Flatland.C12.Proofs
open Flatland.Markup Flatland.C12 Flatland.C19.Proofs

theorem filter_eq_single (lits : List Str) (u : Str) (hnd : lits.Nodup) (hu : u ∈ lits) :
    lits.filter (fun l => l == u) = [u] := by
  rw [List.filter_beq, hnd.count, if_pos hu]; rfl

theorem offersOnce_spec {lits : List Str} {u : Str} (h : offersOnce lits u = true) : lits.Nodup ∧ u ∈ lits := by
  simp only [offersOnce, Bool.and_eq_true, decide_eq_true_eq, List.contains_eq_mem] at h
  exact h

/-- a scalar leaf, whichever of its five control groups renders it, posts exactly `(flat name, u)` -/
theorem scalar_posts (T : Tables) (ctx : Ctx) (hT : TablesOK T) (hL : Live T ctx) (pre : List (Option Str))
    (n : Option Str) (u : Str) (w : ScalarWidget) (ex : List Attrs)
    (hname : flatName (pre ++ [n]) ≠ []) (hw : widgetOk u w = true) (hex : ex.all extraOk = true)
    (ps : List Pair) (h : browserPost (seenOf T ctx) (scalarControls (textBind pre n u) w ex) = .ok ps) :
    ps = [(flatName (pre ++ [n]), u)] := by
  have hkind : ∀ s ms, (textBind pre n u).kind ≠ .array s ms := by intro s ms hk; cases hk
  cases w with
  | input ty =>
    exact input_posts T ctx hT hL (textBind pre n u) ty _ (extraOk_headD hex) hw hname ps (postsAll_single h)
  | textarea =>
    have hlf : startsWithLF u = false := by simpa [widgetOk] using hw
    exact textarea_posts T ctx hT hL (textBind pre n u) _ (extraOk_headD hex) hname hlf ps (postsAll_single h)
  | button =>
    exact button_posts T ctx hT hL (textBind pre n u) _ (extraOk_headD hex) hname ps (postsAll_single h)
  | radios ty lits =>
    simp only [widgetOk, Bool.and_eq_true] at hw
    obtain ⟨hnd, hu⟩ := offersOnce_spec hw.2
    have := checkGroup_posts T ctx (textBind pre n u) ty (fun l => l == u)
      (fun l extra hx p hp => check_posts T ctx hT hL (textBind pre n u) ty l extra hx hw.1 hname _
        (matches_scalar T _ hkind l) p hp)
      lits ex hex ps h
    rw [this, filter_eq_single lits u hnd hu]
    rfl
  | select lits =>
    obtain ⟨hnd, hu⟩ := offersOnce_spec (by simpa [widgetOk] using hw)
    obtain ⟨s, hs, hopts⟩ := posts_select (postsAll_single h)
    have hsn := select_seen_name T ctx hT hL (textBind pre n u) [] extraOk_nil hname s hs
    rw [hsn] at hopts
    have := optionGroup_posts T ctx hT hL (textBind pre n u) _ hname (fun l => l == u)
      (matches_scalar T _ hkind) lits ex hex ps hopts
    rw [this, filter_eq_single lits u hnd hu]
    rfl

theorem contains_map_some (ms : List Str) (l : Str) : (ms.map some).contains (some l) = ms.contains l := by
  rw [Bool.eq_iff_iff]; simp

theorem members_match (T : Tables) (strip : Bool) (ms : List Str)
    (hms : ms.all (fun m => !strip || T.strip m == m) = true) :
    ms.filter (fun l => (ms.map some).contains (some (if strip then T.strip l else l))) = ms := by
  rw [List.filter_eq_self]
  intro l hl
  simp only [List.all_eq_true, Bool.or_eq_true, Bool.not_eq_true', beq_iff_eq] at hms
  rw [contains_map_some]
  cases strip with
  | false => simpa using hl
  | true =>
    rcases hms l hl with h | h
    · cases h
    · simp only [if_true, h]; simpa using hl

/-- an Array leaf, as checkboxes or as `<select multiple>`, posts one `(flat name, m)` per member -/
theorem array_posts (T : Tables) (ctx : Ctx) (hT : TablesOK T) (hL : Live T ctx) (pre : List (Option Str))
    (n : Option Str) (strip : Bool) (ms : List Str) (w : ArrayWidget) (ex : List Attrs) (shown : Str)
    (hname : flatName (pre ++ [n]) ≠ []) (hms : ms.all (fun m => !strip || T.strip m == m) = true)
    (hex : ex.all extraOk = true)
    (ps : List Pair) (h : browserPost (seenOf T ctx) (arrayControls (arrayBind pre n strip ms shown) ms w ex) = .ok ps) :
    ps = ms.map (fun m => (flatName (pre ++ [n]), m)) := by
  have hm := matches_array T (arrayBind pre n strip ms shown) strip (ms.map some) rfl
  cases w with
  | checkboxes =>
    rw [checkGroup_posts T ctx (arrayBind pre n strip ms shown) sCheckbox _
      (fun l extra hx p hp => check_posts T ctx hT hL _ sCheckbox l extra hx checkTy_checkbox hname _ (hm l) p hp)
      ms ex hex ps h, members_match T strip ms hms]
    rfl
  | selectMultiple =>
    obtain ⟨s, hs, hopts⟩ := posts_select (postsAll_single h)
    rw [select_seen_name T ctx hT hL (arrayBind pre n strip ms shown) _ extraOk_multiple hname s hs] at hopts
    rw [optionGroup_posts T ctx hT hL (arrayBind pre n strip ms shown) _ hname _ hm ms ex hex ps hopts,
      members_match T strip ms hms]

theorem ne_nil_of_isEmpty {s : Str} (h : (!s.isEmpty) = true) : s ≠ [] := by simpa using h

mutual
theorem form_roundtrip_at (T : Tables) (ctx : Ctx) (hT : TablesOK T) (hL : Live T ctx) :
    ∀ (t : FormTree) (pre : List (Option Str)), formOk T pre t = true → ∀ ps,
      browserPost (seenOf T ctx) (renderForm pre t) = .ok ps → ps = formPairs pre t
  | .text n u w ex, pre, hok, ps, h => by
    simp only [formOk, Bool.and_eq_true] at hok
    exact scalar_posts T ctx hT hL pre n u w ex (ne_nil_of_isEmpty hok.1.1) hok.1.2 hok.2 ps h
  | .bool n tru u ex, pre, hok, ps, h => by
    simp only [formOk, Bool.and_eq_true] at hok
    exact boolbox_posts T ctx hT hL (boolBind pre n tru u) tru _ (extraOk_headD hok.2) (ne_nil_of_isEmpty hok.1) rfl
      ps (postsAll_single h)
  | .array n strip ms w ex, pre, hok, ps, h => by
    simp only [formOk, Bool.and_eq_true] at hok
    rw [array_posts T ctx hT hL pre n strip ms w ex [] (ne_nil_of_isEmpty hok.1.1) hok.1.2 hok.2 ps h, formPairs,
      flatName_member]
  | .joined n u ms ty ex, pre, hok, ps, h => by
    simp only [formOk, Bool.and_eq_true] at hok
    exact input_posts T ctx hT hL (arrayBind pre n true ms u) ty _ (extraOk_headD hok.2) hok.1.2
      (ne_nil_of_isEmpty hok.1.1) ps (postsAll_single h)
  | .dict n fields, pre, hok, ps, h => fields_roundtrip_at T ctx hT hL fields (pre ++ [n]) hok ps h
  | .list n members, pre, hok, ps, h => slots_roundtrip_at T ctx hT hL members (pre ++ [n]) 0 hok ps h
theorem fields_roundtrip_at (T : Tables) (ctx : Ctx) (hT : TablesOK T) (hL : Live T ctx) :
    ∀ (ts : List FormTree) (pre : List (Option Str)), fieldsOk T pre ts = true → ∀ ps,
      browserPost (seenOf T ctx) (renderFields pre ts) = .ok ps → ps = fieldPairs pre ts
  | [], pre, _, ps, h => (Except.ok.inj h).symm
  | t :: ts, pre, hok, ps, h => by
    simp only [fieldsOk, Bool.and_eq_true] at hok
    obtain ⟨p, q, hp, hq, rfl⟩ := postsAll_append h
    rw [form_roundtrip_at T ctx hT hL t pre hok.1 p hp, fields_roundtrip_at T ctx hT hL ts pre hok.2 q hq]
    rfl
theorem slots_roundtrip_at (T : Tables) (ctx : Ctx) (hT : TablesOK T) (hL : Live T ctx) :
    ∀ (ts : List FormTree) (pre : List (Option Str)) (i : Nat), slotsOk T pre i ts = true → ∀ ps,
      browserPost (seenOf T ctx) (renderSlots pre i ts) = .ok ps → ps = slotPairs pre i ts
  | [], pre, i, _, ps, h => (Except.ok.inj h).symm
  | t :: ts, pre, i, hok, ps, h => by
    simp only [slotsOk, Bool.and_eq_true] at hok
    obtain ⟨p, q, hp, hq, rfl⟩ := postsAll_append h
    rw [form_roundtrip_at T ctx hT hL t _ hok.1 p hp, slots_roundtrip_at T ctx hT hL ts pre (i + 1) hok.2 q hq]
    rfl
end

/-- For every element tree and every way form mode renders its leaves, on a generator whose context
    has name and value generation switched on: if the tag calls render, what the controls post —
    every control taken as successful, every submitter as THE activated one (`browserPost`) — is
    exactly the element's own flat pairs a form can carry, in document order. -/
theorem form_controls_post (T : Tables) (ctx : Ctx) (hT : TablesOK T) (hL : Live T ctx) (t : FormTree)
    (hok : formOk T [] t = true) (ps : List Pair)
    (h : browserPost (seenOf T ctx) (renderForm [] t) = .ok ps) : ps = formPairs [] t :=
  form_roundtrip_at T ctx hT hL t [] hok ps h

/-- a way of making the tag calls that succeeds whenever the transforms do -/
def SeesAll (T : Tables) (ctx : Ctx) (see : Str → Bind → Attrs → Except PyErr Seen) : Prop :=
  ∀ tag b kw, Renders T ctx tag b kw → kwStable kw → ∃ s, see tag b kw = .ok s

theorem seesAll_seenOf (T : Tables) (ctx : Ctx) : SeesAll T ctx (seenOf T ctx) := fun _ _ _ h _ => h.seen

theorem seesAll_seenVia (T : Tables) (order : List Str) (g : Gen) (ho : OrderedSet g.ctx) :
    SeesAll T g.ctx (seenVia T order g) := fun _ _ _ h hk => seenVia_of_renders hk h ho

theorem KwCallable.sees {T : Tables} {ctx : Ctx} (hL : Live T ctx) (hQ : Quiet T ctx)
    {see : Str → Bind → Attrs → Except PyErr Seen} (hsee : SeesAll T ctx see) {tag : Str} (b : Bind) {kw : Attrs}
    (hl : tag ≠ sLabel) (h : KwCallable kw) : ∃ s, see tag b kw = .ok s :=
  hsee tag b kw (renders_of_quiet T ctx hL hQ tag b kw hl h.noName h.noValue h.noLater h.textual) h.stable

theorem Callable.posts {T : Tables} {ctx : Ctx} (hL : Live T ctx) (hQ : Quiet T ctx)
    {see : Str → Bind → Attrs → Except PyErr Seen} (hsee : SeesAll T ctx see) :
    ∀ {c : Control}, Callable c → ∃ ps, Control.posts see c = .ok ps
  | .single tag b kw, h => (h.2.sees hL hQ hsee b h.1).elim fun _ hs => ⟨_, posts_single_ok hs⟩
  | .select b kw opts, h => by
    obtain ⟨s, hs⟩ := h.1.sees hL hQ hsee b (by decide +kernel : sSelect ≠ sLabel)
    unfold Control.posts
    simp only [bind, Except.bind, pure, Except.pure, hs]
    exact postsAll_ok fun o ho =>
      ((h.2 o ho).sees hL hQ hsee b (by decide +kernel : sOption ≠ sLabel)).elim fun so hso => ⟨_, by simp only [hso]; rfl⟩

theorem optionGroup_callable (lits : List Str) (es : List Attrs) (hes : es.all extraOk = true) :
    ∀ o ∈ optionGroup lits es, KwCallable o :=
  group_forall (fun l _ he => .kwOf none (some l) he) lits es hes

theorem checkGroup_callable (b : Bind) (ty : Str) (lits : List Str) (es : List Attrs) (hes : es.all extraOk = true) :
    ∀ c ∈ checkGroup b ty lits es, Callable c := by
  rw [checkGroup_eq_map]
  exact List.forall_mem_map.mpr (group_forall (P := fun kw => Callable (.single sInput b ((sType, .text ty) :: kw)))
    (fun l _ he => ⟨by decide +kernel, .kwOf (some ty) (some l) he⟩) lits es hes)

mutual
theorem renderForm_callable (T : Tables) : ∀ (t : FormTree) (pre : List (Option Str)), formOk T pre t = true →
    ∀ c ∈ renderForm pre t, Callable c
  | .text n u w ex, pre, hok, c, hc => by
    simp only [formOk, Bool.and_eq_true] at hok
    simp only [renderForm] at hc
    cases w with
    | input ty =>
      simp only [scalarControls, List.mem_singleton] at hc; subst hc
      exact ⟨by decide +kernel, kwInput_eq ty _ ▸ .kwOf ty none (extraOk_headD hok.2)⟩
    | textarea =>
      simp only [scalarControls, List.mem_singleton] at hc; subst hc
      exact ⟨by decide +kernel, .kwOf none none (extraOk_headD hok.2)⟩
    | button =>
      simp only [scalarControls, List.mem_singleton] at hc; subst hc
      exact ⟨by decide +kernel, .kwOf none none (extraOk_headD hok.2)⟩
    | radios ty lits => exact checkGroup_callable _ ty lits ex hok.2 c hc
    | select lits =>
      simp only [scalarControls, List.mem_singleton] at hc; subst hc
      exact ⟨.kwOf none none extraOk_nil, optionGroup_callable lits ex hok.2⟩
  | .bool n tru u ex, pre, hok, c, hc => by
    simp only [formOk, Bool.and_eq_true] at hok
    simp only [renderForm, List.mem_singleton] at hc
    subst hc
    exact ⟨by decide +kernel, .kwOf (some sCheckbox) none (extraOk_headD hok.2)⟩
  | .array n strip ms w ex, pre, hok, c, hc => by
    simp only [formOk, Bool.and_eq_true] at hok
    simp only [renderForm] at hc
    cases w with
    | checkboxes => exact checkGroup_callable _ sCheckbox ms ex hok.2 c hc
    | selectMultiple =>
      simp only [arrayControls, List.mem_singleton] at hc; subst hc
      exact ⟨.kwOf none none extraOk_multiple, optionGroup_callable ms ex hok.2⟩
  | .joined n u ms ty ex, pre, hok, c, hc => by
    simp only [formOk, Bool.and_eq_true] at hok
    simp only [renderForm, List.mem_singleton] at hc
    subst hc
    exact ⟨by decide +kernel, kwInput_eq ty _ ▸ .kwOf ty none (extraOk_headD hok.2)⟩
  | .dict n fields, pre, hok, c, hc => renderFields_callable T fields (pre ++ [n]) hok c hc
  | .list n members, pre, hok, c, hc => renderSlots_callable T members (pre ++ [n]) 0 hok c hc
theorem renderFields_callable (T : Tables) : ∀ (ts : List FormTree) (pre : List (Option Str)), fieldsOk T pre ts = true →
    ∀ c ∈ renderFields pre ts, Callable c
  | [], _, _, c, hc => by simp [renderFields] at hc
  | t :: ts, pre, hok, c, hc => by
    simp only [fieldsOk, Bool.and_eq_true] at hok
    simp only [renderFields, List.mem_append] at hc
    rcases hc with h | h
    · exact renderForm_callable T t pre hok.1 c h
    · exact renderFields_callable T ts pre hok.2 c h
theorem renderSlots_callable (T : Tables) : ∀ (ts : List FormTree) (pre : List (Option Str)) (i : Nat),
    slotsOk T pre i ts = true → ∀ c ∈ renderSlots pre i ts, Callable c
  | [], _, _, _, c, hc => by simp [renderSlots] at hc
  | t :: ts, pre, i, hok, c, hc => by
    simp only [slotsOk, Bool.and_eq_true] at hok
    simp only [renderSlots, List.mem_append] at hc
    rcases hc with h | h
    · exact renderForm_callable T t _ hok.1 c h
    · exact renderSlots_callable T ts pre (i + 1) hok.2 c h
end

theorem renderForm_stable (T : Tables) (t : FormTree) (pre : List (Option Str)) (hok : formOk T pre t = true) :
    ∀ c ∈ renderForm pre t, ControlStable c :=
  fun c hc => (renderForm_callable T t pre hok c hc).stable

theorem renderSlots_stable (T : Tables) : ∀ (ts : List FormTree) (pre : List (Option Str)) (i : Nat),
    slotsOk T pre i ts = true → ∀ c ∈ renderSlots pre i ts, ControlStable c :=
  fun ts pre i hok c hc => (renderSlots_callable T ts pre i hok c hc).stable

theorem form_renders_at (T : Tables) (ctx : Ctx) (hL : Live T ctx) (hQ : Quiet T ctx)
    (see : Str → Bind → Attrs → Except PyErr Seen) (hsee : SeesAll T ctx see)
    (t : FormTree) (pre : List (Option Str)) (hok : formOk T pre t = true) :
    ∃ ps, browserPost see (renderForm pre t) = .ok ps :=
  postsAll_ok fun c hc => (renderForm_callable T t pre hok c hc).posts hL hQ hsee

theorem fields_render_at (T : Tables) (ctx : Ctx) (hT : TablesOK T) (hL : Live T ctx) (hQ : Quiet T ctx)
    (see : Str → Bind → Attrs → Except PyErr Seen) (hsee : SeesAll T ctx see) :
    ∀ (ts : List FormTree) (pre : List (Option Str)), fieldsOk T pre ts = true →
      ∃ ps, browserPost see (renderFields pre ts) = .ok ps :=
  fun ts pre hok => postsAll_ok fun c hc => (renderFields_callable T ts pre hok c hc).posts hL hQ hsee

theorem slots_render_at (T : Tables) (ctx : Ctx) (hT : TablesOK T) (hL : Live T ctx) (hQ : Quiet T ctx)
    (see : Str → Bind → Attrs → Except PyErr Seen) (hsee : SeesAll T ctx see) :
    ∀ (ts : List FormTree) (pre : List (Option Str)) (i : Nat), slotsOk T pre i ts = true →
      ∃ ps, browserPost see (renderSlots pre i ts) = .ok ps :=
  fun ts pre i hok => postsAll_ok fun c hc => (renderSlots_callable T ts pre i hok c hc).posts hL hQ hsee

theorem form_subCount (T : Tables) {see : Str → Bind → Attrs → Except PyErr Seen} (hsee : ReadsType see)
    (t : FormTree) (pre : List (Option Str)) (hok : formOk T pre t = true) (ps : List Pair)
    (h : browserPost see (renderForm pre t) = .ok ps) : subCount see (renderForm pre t) = .ok (submitters t) := by
  rw [subCount_eq hsee _ (renderForm_stable T t pre hok) ps h, countP_renderForm T t pre hok]

theorem submit_of_post (T : Tables) {see : Str → Bind → Attrs → Except PyErr Seen} (hsee : ReadsType see)
    (t : FormTree) (hok : formOk T [] t = true) (hsub : oneSubmitter t = true) (ps : List Pair)
    (h : browserPost see (renderForm [] t) = .ok ps) : browserSubmit see (some 0) (renderForm [] t) = .ok ps :=
  browserSubmit_of_one _ _ ps (form_subCount T hsee t [] hok ps h) (of_decide_eq_true hsub) h

def RoundTrips (T : Tables) (see : Str → Bind → Attrs → Except PyErr Seen) : Prop :=
  ∀ t pre, formOk T pre t = true → ∀ ps, browserPost see (renderForm pre t) = .ok ps → ps = formPairs pre t

/-- every control posts its pair, every tag call made as `gen.<tag>(bind, **kwargs)` (`prepareTag`:
    keyword arguments re-keyed, attributes put in output order, contents printed and parsed back) -/
theorem form_controls_post_generator (T : Tables) (order : List Str) (g : Gen) (hT : TablesOK T) (hL : Live T g.ctx)
    (t : FormTree) (pre : List (Option Str)) (hok : formOk T pre t = true) (ps : List Pair)
    (h : browserPost (seenVia T order g) (renderForm pre t) = .ok ps) : ps = formPairs pre t :=
  form_roundtrip_at T g.ctx hT hL t pre hok ps
    (browserPost_via_of T order g _ (renderForm_stable T t pre hok) ps h)

/-- `form_roundtrip` for any way `see` of making the tag calls -/
theorem roundtrip_of (T : Tables) {see : Str → Bind → Attrs → Except PyErr Seen} (hsee : ReadsType see)
    (hrt : RoundTrips T see) (t : FormTree) (hok : formOk T [] t = true) (hsub : oneSubmitter t = true) (ps : List Pair)
    (h : browserSubmit see (some 0) (renderForm [] t) = .ok ps) : ps = formPairs [] t := by
  obtain ⟨ps', h'⟩ := browserPost_of_submit _ _ _ h
  rw [submit_of_post T hsee t hok hsub ps' h', Except.ok.injEq] at h
  rw [← h]
  exact hrt t [] hok ps' h'

theorem roundtrip_total_of (T : Tables) (ctx : Ctx) (hL : Live T ctx) (hQ : Quiet T ctx)
    {see : Str → Bind → Attrs → Except PyErr Seen} (hsee : ReadsType see) (hrt : RoundTrips T see)
    (hall : SeesAll T ctx see) (t : FormTree) (hok : formOk T [] t = true) (hsub : oneSubmitter t = true) :
    browserSubmit see (some 0) (renderForm [] t) = .ok (formPairs [] t) := by
  obtain ⟨ps, h⟩ := form_renders_at T ctx hL hQ see hall t [] hok
  rw [← hrt t [] hok ps h]
  exact submit_of_post T hsee t hok hsub ps h

/-- For every element tree and every way form mode renders its leaves, on a
    generator whose context has name and value generation switched on: if the tag calls render,
    the name/value pairs a browser submits for the unchanged form are exactly the element's own
    flat pairs a form can carry, in document order.
    Submitters: a browser posts a `<button>` / `<input type=submit>` only when it is the control
    that was activated (`browserSubmit`).  The statement is about forms that render bound data as
    AT MOST ONE submitter (`hsub`), submitted through it.  An element rendered only as a button
    that is not pressed is not posted (`form_unpressed`); forms with two or more submitters are
    outside this theorem. -/
theorem form_roundtrip (T : Tables) (ctx : Ctx) (hT : TablesOK T) (hL : Live T ctx) (t : FormTree)
    (hok : formOk T [] t = true) (hsub : oneSubmitter t = true) (ps : List Pair)
    (h : browserSubmit (seenOf T ctx) (some 0) (renderForm [] t) = .ok ps) : ps = formPairs [] t :=
  roundtrip_of T (readsType_seenOf T ctx) (form_roundtrip_at T ctx hT hL) t hok hsub ps h

/-- `form_roundtrip`, total: on a generator whose context has name/value generation on and the
    id / for / tabindex / filter transforms off (the default settings), every form renders and the
    browser submits exactly the element's own flat pairs a form can carry -/
theorem form_roundtrip_total (T : Tables) (ctx : Ctx) (hT : TablesOK T) (hL : Live T ctx) (hQ : Quiet T ctx)
    (t : FormTree) (hok : formOk T [] t = true) (hsub : oneSubmitter t = true) :
    browserSubmit (seenOf T ctx) (some 0) (renderForm [] t) = .ok (formPairs [] t) :=
  roundtrip_total_of T ctx hL hQ (readsType_seenOf T ctx) (form_roundtrip_at T ctx hT hL) (seesAll_seenOf T ctx)
    t hok hsub

/-- `form_roundtrip_total` on `Generator()` with the tables of the current source -/
theorem form_roundtrip_fresh (t : FormTree) (hok : formOk Tables.current [] t = true) (hsub : oneSubmitter t = true) :
    browserSubmit (seenOf Tables.current freshGen.ctx) (some 0) (renderForm [] t) = .ok (formPairs [] t) :=
  form_roundtrip_total _ _ tablesOK_current fresh_live fresh_quiet t hok hsub

/-- `form_roundtrip` with every tag call made through `prepareTag` -/
theorem form_roundtrip_generator (T : Tables) (order : List Str) (g : Gen) (hT : TablesOK T) (hL : Live T g.ctx)
    (t : FormTree) (hok : formOk T [] t = true) (hsub : oneSubmitter t = true) (ps : List Pair)
    (h : browserSubmit (seenVia T order g) (some 0) (renderForm [] t) = .ok ps) : ps = formPairs [] t :=
  roundtrip_of T (readsType_seenVia T order g) (form_controls_post_generator T order g hT hL) t hok hsub ps h

theorem form_roundtrip_generator_total (T : Tables) (order : List Str) (g : Gen) (hT : TablesOK T) (hL : Live T g.ctx)
    (hQ : Quiet T g.ctx) (ho : OrderedSet g.ctx) (t : FormTree) (hok : formOk T [] t = true) (hsub : oneSubmitter t = true) :
    browserSubmit (seenVia T order g) (some 0) (renderForm [] t) = .ok (formPairs [] t) :=
  roundtrip_total_of T g.ctx hL hQ (readsType_seenVia T order g) (form_controls_post_generator T order g hT hL)
    (seesAll_seenVia T order g ho) t hok hsub

/-- `form_roundtrip_generator_total` on `Generator()` with the tables and the attribute order of the current source -/
theorem form_roundtrip_fresh_generator (t : FormTree) (hok : formOk Tables.current [] t = true) (hsub : oneSubmitter t = true) :
    browserSubmit (seenVia Tables.current Flatland.Generated.C11.staticAttributeOrder freshGen) (some 0) (renderForm [] t) =
      .ok (formPairs [] t) :=
  form_roundtrip_generator_total _ _ _ tablesOK_current fresh_live fresh_quiet fresh_ordered t hok hsub

theorem leaf_quiet (T : Tables) {see : Str → Bind → Attrs → Except PyErr Seen} (hsee : ReadsType see)
    (hrt : RoundTrips T see) (t : FormTree) (pre : List (Option Str)) (hok : formOk T pre t = true)
    (hleaf : quietPairs pre t = if t.isSubmitterLeaf then [] else formPairs pre t)
    (hsingle : t.isSubmitterLeaf = true → ∃ c, renderForm pre t = [c])
    (hcnt : submitters t = if t.isSubmitterLeaf then 1 else 0)
    (ps : List Pair) (h : browserPost see (renderForm pre t) = .ok ps) :
    browserSubmit see none (renderForm pre t) = .ok (quietPairs pre t) := by
  have hc := form_subCount T hsee t pre hok ps h
  have hps := hrt t pre hok ps h
  rw [hleaf]
  cases hl : t.isSubmitterLeaf with
  | false =>
    rw [hl] at hcnt
    simp only [Bool.false_eq_true, if_false] at hcnt ⊢
    rw [hcnt] at hc
    rw [← hps]
    exact browserSubmit_of_none _ ps hc h none
  | true =>
    rw [hl] at hcnt
    simp only [if_true] at hcnt ⊢
    obtain ⟨c, hcs⟩ := hsingle hl
    rw [hcs] at h hc ⊢
    rw [hcnt] at hc
    obtain ⟨p, q, hp, _, _⟩ := postsAll_cons h
    obtain ⟨s, m, hs, hm, e⟩ := subCount_cons_inv hc
    have hm0 : m = 0 := by
      simp only [subCount, pure, Except.pure, Except.ok.injEq] at hm
      exact hm.symm
    subst hm0
    cases s with
    | false => simp at e
    | true => exact browserSubmit_none_single_sub hp hs

mutual
/-- submitted without pressing a submitter (Enter in a text field, `form.submit()`), any number of
    submitters in the form: the browser posts the element's pairs except those of the leaves
    rendered as a `<button>` / `<input type=submit>` -/
theorem form_unpressed_at (T : Tables) {see : Str → Bind → Attrs → Except PyErr Seen} (hsee : ReadsType see)
    (hrt : RoundTrips T see) :
    ∀ (t : FormTree) (pre : List (Option Str)), formOk T pre t = true → ∀ ps,
      browserPost see (renderForm pre t) = .ok ps → browserSubmit see none (renderForm pre t) = .ok (quietPairs pre t)
  | .text n u w ex, pre, hok, ps, h => by
    cases w with
    | input ty => exact leaf_quiet T hsee hrt _ pre hok rfl (fun _ => ⟨_, rfl⟩) rfl ps h
    | button => exact leaf_quiet T hsee hrt _ pre hok rfl (fun _ => ⟨_, rfl⟩) rfl ps h
    | textarea => exact leaf_quiet T hsee hrt _ pre hok rfl nofun rfl ps h
    | radios ty lits => exact leaf_quiet T hsee hrt _ pre hok rfl nofun rfl ps h
    | select lits => exact leaf_quiet T hsee hrt _ pre hok rfl nofun rfl ps h
  | .bool n tru u ex, pre, hok, ps, h => leaf_quiet T hsee hrt _ pre hok rfl nofun rfl ps h
  | .array n strip ms w ex, pre, hok, ps, h => leaf_quiet T hsee hrt _ pre hok rfl nofun rfl ps h
  | .joined n u ms ty ex, pre, hok, ps, h => leaf_quiet T hsee hrt _ pre hok rfl (fun _ => ⟨_, rfl⟩) rfl ps h
  | .dict n fields, pre, hok, ps, h => fields_unpressed_at T hsee hrt fields (pre ++ [n]) hok ps h
  | .list n members, pre, hok, ps, h => slots_unpressed_at T hsee hrt members (pre ++ [n]) 0 hok ps h
theorem fields_unpressed_at (T : Tables) {see : Str → Bind → Attrs → Except PyErr Seen} (hsee : ReadsType see)
    (hrt : RoundTrips T see) :
    ∀ (ts : List FormTree) (pre : List (Option Str)), fieldsOk T pre ts = true → ∀ ps,
      browserPost see (renderFields pre ts) = .ok ps → browserSubmit see none (renderFields pre ts) = .ok (quietFieldPairs pre ts)
  | [], _, _, _, _ => rfl
  | t :: ts, pre, hok, ps, h => by
    simp only [fieldsOk, Bool.and_eq_true] at hok
    simp only [renderFields] at h ⊢
    obtain ⟨p, q, hp, hq, _⟩ := postsAll_append h
    simp only [quietFieldPairs]
    exact browserSubmit_none_append _ _ _ _ (form_unpressed_at T hsee hrt t pre hok.1 p hp)
      (fields_unpressed_at T hsee hrt ts pre hok.2 q hq)
theorem slots_unpressed_at (T : Tables) {see : Str → Bind → Attrs → Except PyErr Seen} (hsee : ReadsType see)
    (hrt : RoundTrips T see) :
    ∀ (ts : List FormTree) (pre : List (Option Str)) (i : Nat), slotsOk T pre i ts = true → ∀ ps,
      browserPost see (renderSlots pre i ts) = .ok ps →
      browserSubmit see none (renderSlots pre i ts) = .ok (quietSlotPairs pre i ts)
  | [], _, _, _, _, _ => rfl
  | t :: ts, pre, i, hok, ps, h => by
    simp only [slotsOk, Bool.and_eq_true] at hok
    simp only [renderSlots] at h ⊢
    obtain ⟨p, q, hp, hq, _⟩ := postsAll_append h
    simp only [quietSlotPairs]
    exact browserSubmit_none_append _ _ _ _ (form_unpressed_at T hsee hrt t _ hok.1 p hp)
      (slots_unpressed_at T hsee hrt ts pre (i + 1) hok.2 q hq)
end

/-- A submitter that is not pressed posts nothing.  On `Generator()`, every tag call made through
    `prepareTag`: a form (with any number of buttons) submitted without activating any of them
    posts the element's flat pairs MINUS the pairs of the leaves rendered as `<button>` /
    `<input type=submit>`.  So "a rendered form posts the element's flat pairs" is about leaves
    rendered as successful controls and at most the one submitter that is pressed. -/
theorem form_unpressed (t : FormTree) (hok : formOk Tables.current [] t = true) :
    browserSubmit (seenVia Tables.current Flatland.Generated.C11.staticAttributeOrder freshGen) none (renderForm [] t) =
      .ok (quietPairs [] t) := by
  obtain ⟨ps, h⟩ := form_renders_at Tables.current freshGen.ctx fresh_live fresh_quiet _
    (seesAll_seenVia Tables.current Flatland.Generated.C11.staticAttributeOrder freshGen fresh_ordered) t [] hok
  exact form_unpressed_at Tables.current (readsType_seenVia _ _ _)
    (form_controls_post_generator _ _ _ tablesOK_current fresh_live) t [] hok ps h

open Flatland.Flat (FNode joinSep namePath flattenNode)

/-- what `flatten()` emits for the tree (flat
    model, separator `_`) is, as a multiset, `formPairs` plus one pair for every Boolean whose box
    is unchecked -/
theorem formPairs_flatten (t : FormTree) :
    (flattenNode usep (embed t)).Perm (formPairs [] t ++ uncheckedPairs [] t) := by
  rw [Flatland.Flat.flattenNode_eq]
  exact formPairs_flattenAt t []

mutual
theorem unchecked_empty : ∀ (t : FormTree) (pre : List (Option Str)), boolsCanonical t = true →
    ∀ x ∈ uncheckedPairs pre t, x.2 = []
  | .text .., _, _, x, hx => nomatch hx
  | .array .., _, _, x, hx => nomatch hx
  | .joined .., _, _, x, hx => nomatch hx
  | .bool n tru u ex, pre, hc, x, hx => by
    simp only [uncheckedPairs] at hx
    simp only [boolsCanonical, Bool.or_eq_true, beq_iff_eq, List.isEmpty_iff] at hc
    split at hx
    · simp at hx
    · rename_i hne
      simp only [List.mem_singleton] at hx
      subst hx
      rcases hc with h | h
      · exact absurd h.symm hne
      · exact h
  | .dict n fields, pre, hc, x, hx => uncheckedFields_empty fields (pre ++ [n]) hc x hx
  | .list n members, pre, hc, x, hx => uncheckedSlots_empty members (pre ++ [n]) 0 hc x hx
theorem uncheckedFields_empty : ∀ (ts : List FormTree) (pre : List (Option Str)), allCanonical ts = true →
    ∀ x ∈ uncheckedFields pre ts, x.2 = []
  | [], _, _, x, hx => by simp [uncheckedFields] at hx
  | t :: ts, pre, hc, x, hx => by
    simp only [allCanonical, Bool.and_eq_true] at hc
    simp only [uncheckedFields, List.mem_append] at hx
    rcases hx with h | h
    · exact unchecked_empty t pre hc.1 x h
    · exact uncheckedFields_empty ts pre hc.2 x h
theorem uncheckedSlots_empty : ∀ (ts : List FormTree) (pre : List (Option Str)) (i : Nat), allCanonical ts = true →
    ∀ x ∈ uncheckedSlots pre i ts, x.2 = []
  | [], _, _, _, x, hx => by simp [uncheckedSlots] at hx
  | t :: ts, pre, i, hc, x, hx => by
    simp only [allCanonical, Bool.and_eq_true] at hc
    simp only [uncheckedSlots, List.mem_append] at hx
    rcases hx with h | h
    · exact unchecked_empty t _ hc.1 x h
    · exact uncheckedSlots_empty ts pre (i + 1) hc.2 x h
end

/-- the posted pairs together with the pairs of the unchecked
    Boolean boxes are exactly (as a multiset) the element's flat pairs; when every Boolean shows
    its true text or `''`, the pairs a form drops all have the value `''` -/
theorem form_posts_flatten (T : Tables) (ctx : Ctx) (hT : TablesOK T) (hL : Live T ctx) (t : FormTree)
    (hok : formOk T [] t = true) (hsub : oneSubmitter t = true) (ps : List Pair)
    (h : browserSubmit (seenOf T ctx) (some 0) (renderForm [] t) = .ok ps) :
    (flattenNode usep (embed t)).Perm (ps ++ uncheckedPairs [] t) ∧
    (boolsCanonical t = true → ∀ x ∈ uncheckedPairs [] t, x.2 = []) := by
  rw [form_roundtrip T ctx hT hL t hok hsub ps h]
  exact ⟨formPairs_flatten t, unchecked_empty t []⟩

/-- every posted name is the separator-join of the names on the path to a flattenable element of
    the tree (list members by index), and the posted value is that element's text (C07 `keys_are_paths`) -/
theorem posted_keys_are_paths (T : Tables) (ctx : Ctx) (hT : TablesOK T) (hL : Live T ctx) (t : FormTree)
    (hok : formOk T [] t = true) (hsub : oneSubmitter t = true) (ps : List Pair)
    (h : browserSubmit (seenOf T ctx) (some 0) (renderForm [] t) = .ok ps) (x : Pair) (hx : x ∈ ps) :
    ∃ p' n', Flatland.Flat.Proofs.Below [] (embed t) p' n' ∧ n'.fl = true ∧
      x = (joinSep usep (namePath p' n'), n'.u) := by
  have hperm := (form_posts_flatten T ctx hT hL t hok hsub ps h).1
  exact Flatland.Flat.Proofs.keys_are_paths usep (embed t) x
    (hperm.mem_iff.mpr (List.mem_append.mpr (Or.inl hx)))

end Flatland.C12.Proofs
