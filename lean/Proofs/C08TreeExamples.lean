/-
C08 — non-vacuity of the tree theorems on a concrete tree of depth 3 (a List of Dicts, each with
an Integer and a List of Integers), built and changed by a history with plain values, a detached
populated Element argument, an in-place `set` two levels down, and removals.
-/
import Proofs.C08Tree
namespace Flatland.C08.Proofs
open Flatland.Tree Flatland.PyList Flatland.C08 Flatland.C08.Spec

/-- the empty `List.of(Dict.of(Integer.named('x'), List.named('y').of(Integer)))()`, counter at 1000 -/
def exS0 : HState := ⟨exRoot, 1000⟩

/-- a detached, populated Dict element (stale parent pointer 77), identities 900 / 901 -/
def exArg : Node := .mk { id := 900, parent := some 77 } exDictS2
  [.mk { id := 901, parent := some 900, key := ['x'] } (.mk { cid := 11, kind := .integer, name := some ['x'] } .none []) []]

def exHist3 : List HOp :=
  [⟨1, .seq (.append (.plain (.dict [(['x'], .int 1), (['y'], .list [.int 2, .int 3])])))⟩,
   ⟨1, .seq (.append (.plain (.dict [(['x'], .int 4), (['y'], .list [.int 5])])))⟩,
   ⟨1, .seq (.insert 0 (.elem exArg))⟩,
   ⟨1004, .seq (.setitem 0 (.plain (.int 9)))⟩,
   ⟨1000, .map (.set (.dict [(['x'], .int 6), (['y'], .list [.int 7])]) none)⟩]

theorem exS0_ok : TreeOK exS0 :=
  ⟨by decide +kernel, rfl, ⟨by unfold UniqueIds; decide +kernel, by decide +kernel, by decide +kernel⟩⟩

theorem exHist3_ok : HistOK exS0 exHist3 := by
  refine ⟨?_, ?_⟩
  · intro h hh
    simp only [exHist3, List.mem_cons, List.not_mem_nil, or_false] at hh
    rcases hh with rfl | rfl | rfl | rfl | rfl <;> first | trivial | (show wp _ = true; decide +kernel)
  · exact ⟨⟨by decide +kernel, by decide +kernel, by decide +kernel⟩, ⟨by decide +kernel, by decide +kernel, by decide +kernel⟩, ⟨by decide +kernel, by decide +kernel, by decide +kernel⟩,
      ⟨by decide +kernel, by decide +kernel, by decide +kernel⟩, ⟨by decide +kernel, by decide +kernel, by decide +kernel⟩, trivial⟩

def exS3 : HState := hrun exS0 exHist3

/-- the two fields of `exDictS2` -/
def exXS : Schema := .mk { cid := 11, kind := .integer, name := some ['x'] } .none []
def exYS : Schema := .mk { cid := 12, kind := .list, name := some ['y'] } .none [exI]

/-- `exS3` written out: what the history leaves (the examples below evaluate calls on this tree
    instead of running the history again each time) -/
def exS3v : HState := ⟨.mk { id := 1, parent := none } exLoD
  [.mk { id := 1018, parent := some 1, key := ['0'] } slotSchema
     [.mk { id := 900, parent := some 1018 } exDictS2
        [.mk { id := 901, parent := some 900, key := ['x'] } exXS []]],
   .mk { id := 1009, parent := some 1, key := ['1'] } slotSchema
     [.mk { id := 1000, parent := some 1009 } exDictS2
        [.mk { id := 1019, parent := some 1000, key := ['x'], val := .int 6, u := ['6'] } exXS [],
         .mk { id := 1020, parent := some 1000, key := ['y'] } exYS
           [.mk { id := 1022, parent := some 1020, key := ['0'] } slotSchema
              [.mk { id := 1021, parent := some 1022, val := .int 7, u := ['7'] } exI []]]]],
   .mk { id := 1017, parent := some 1, key := ['2'] } slotSchema
     [.mk { id := 1010, parent := some 1017 } exDictS2
        [.mk { id := 1013, parent := some 1010, key := ['x'], val := .int 4, u := ['4'] } exXS [],
         .mk { id := 1014, parent := some 1010, key := ['y'] } exYS
           [.mk { id := 1016, parent := some 1014, key := ['0'] } slotSchema
              [.mk { id := 1015, parent := some 1016, val := .int 5, u := ['5'] } exI []]]]]], 1023⟩

theorem exS3_eq : exS3 = exS3v := rfl

theorem exS3_fresh {op : Op} (h : ArgsFresh exS3v op) : ArgsFresh exS3 op := exS3_eq ▸ h

example : (ids exS3.root).length = 16 := by rw [exS3_eq]; decide +kernel
example : (children exS3.root).map Node.id = [900, 1000, 1010] := by rw [exS3_eq]; decide +kernel

/-- root (1) → slot 1009 → Dict 1000 → List 'y' 1020 → slot 1022 → Integer 1021 -/
def exSlot1 : Node := exS3.root.kids[1]'(by decide)
def exDict : Node := exSlot1.kids[0]'(by decide)
def exY : Node := exDict.kids[1]'(by decide)
def exYSlot : Node := exY.kids[0]'(by decide)
def exInt : Node := exYSlot.kids[0]'(by decide)

example : (exDict.id, exY.id, exInt.id) = (1000, 1020, 1021) := by decide +kernel

theorem exDict_child : exDict ∈ children exS3.root := by
  rw [children_list (by rw [exS3_eq]; rfl)]
  exact List.mem_flatMap.mpr ⟨exSlot1, List.getElem_mem _, List.getElem_mem _⟩
theorem exY_child : exY ∈ children exDict := by
  rw [children_kids (.inr (.inr (.inl (by decide +kernel))))]; exact List.getElem_mem _
theorem exInt_child : exInt ∈ children exY := by
  rw [children_list (by decide +kernel)]
  exact List.mem_flatMap.mpr ⟨exYSlot, List.getElem_mem _, List.getElem_mem _⟩
theorem exY_mem : exY ∈ nodes exS3.root :=
  mem_nodes_trans _ _ _ (mem_nodes_trans _ _ _ (kid_mem_nodes (List.getElem_mem _)) (kid_mem_nodes (List.getElem_mem _)))
    (kid_mem_nodes (List.getElem_mem _))

/-- `c08_tree_inv`: the hypotheses hold for the history above -/
theorem exS3_ok : TreeOK exS3 := c08_tree_inv exHist3 exS0 exS0_ok exHist3_ok

example : IdInv exS3 := hrun_idinv exHist3 exS0 exS0_ok.ids exHist3_ok.2
example : NavInv exS3.root := navinv_hrun exS0 exHist3 exS0_ok exHist3_ok
example : AllChildrenSpec exS3.root := allChildren_hrun exS0 exHist3 exS0_ok exHist3_ok

/-- `all_children` of the root lists the Integer three levels down (identity 1021, built by the
    last `set`): it is reachable and is not the root -/
example : exInt ∈ allChildren exS3.root :=
  ((allChildren_hrun exS0 exHist3 exS0_ok exHist3_ok).2.2.2.1 exInt).mpr
    ⟨exY, .child (.child .root exDict_child) exY_child, exInt_child⟩

example : IdInv (hstep exS3 ⟨1, .seq (.append (.elem (.mk { id := 950, parent := none } exDictS2 [])))⟩) :=
  hstep_idinv _ _ exS3_ok.ids (exS3_fresh ⟨by decide +kernel, by decide +kernel, by decide +kernel⟩)

/-- an argument that is already in the tree is NOT fresh: the hypothesis of `hstep_idinv` fails
    (aliasing is outside the quantifier), and so does an argument above the counter -/
example : ¬ ArgsFresh exS3 (.seq (.append (.elem exArg))) := by
  intro h; exact absurd h.1 (by rw [exS3_eq]; decide +kernel)
example : ¬ ArgsFresh exS3 (.seq (.append (.elem (.mk { id := 5000, parent := none } exDictS2 [])))) := by
  intro h; exact absurd (h.2.1 5000 (by decide +kernel)) (by rw [exS3_eq]; decide +kernel)

/-! `removed_unreachable`: `pop(1)` on the root List removes the Dict with identity 1000 -/

def exPop : HOp := ⟨1, .seq (.pop (some 1))⟩

example : exDict.id ∉ ids (hstep exS3 exPop).root ∧ ∀ x, Reach (hstep exS3 exPop).root x → x.id ≠ exDict.id :=
  (removed_unreachable exS3 exPop exS3_ok.ids (exS3_fresh ⟨by decide +kernel, by decide +kernel, by decide +kernel⟩) exS3.root
    (self_mem_nodes _) rfl).2 exDict exDict_child (by decide +kernel)

/-- `detached_unreachable`: the slot `pop(1)` returns, the Dict it holds and everything below are gone -/
example : ∀ a ∈ [1009, 1000, 1019, 1020, 1022, 1021], a ∉ ids (hstep exS3 exPop).root := by
  have h := detached_unreachable exS3 exPop exS3_ok.ids (exS3_fresh ⟨by decide +kernel, by decide +kernel, by decide +kernel⟩) exS3.root (self_mem_nodes _) rfl
    ((nodeStep exS3.root exPop.op exS3.next).detached[0]'(by decide +kernel)) (List.getElem_mem _)
  intro a ha
  exact (h a (by revert a; decide +kernel) (by revert a; decide +kernel)).1

/-- the same theorem two levels down: `del y[0]` on the List inside the Dict; and `set` on that
    List rebuilding its members -/
example : exInt.id ∉ ids (hstep exS3 ⟨1020, .seq (.delitem 0)⟩).root :=
  ((removed_unreachable exS3 ⟨1020, .seq (.delitem 0)⟩ exS3_ok.ids (exS3_fresh ⟨by decide +kernel, by decide +kernel, by decide +kernel⟩) exY exY_mem
    (by decide +kernel)).2 exInt exInt_child (by decide +kernel)).1

example : exInt.id ∉ ids (hstep exS3 ⟨1020, .seq (.set (.list [.int 1, .int 2]))⟩).root :=
  ((removed_unreachable exS3 ⟨1020, .seq (.set (.list [.int 1, .int 2]))⟩ exS3_ok.ids (exS3_fresh ⟨by decide +kernel, by decide +kernel, by decide +kernel⟩)
    exY exY_mem (by decide +kernel)).2 exInt exInt_child (by decide +kernel)).1

/-! `placed_is_child`: the detached Dict `exArg` inserted at the front of the root List (third
    call of the history), and an Integer element assigned into the List two levels down -/

def exS2 : HState := hrun exS0 (exHist3.take 2)

example : PlacedIn (nodeStep exS2.root (.seq (.insert 0 (.elem exArg))) exS2.next).node exArg :=
  (placed_is_child exS2 ⟨1, .seq (.insert 0 (.elem exArg))⟩
    (c08_tree_inv (exHist3.take 2) exS0 exS0_ok ⟨fun h hh => exHist3_ok.1 h (List.mem_of_mem_take hh),
      ⟨exHist3_ok.2.1, exHist3_ok.2.2.1, trivial⟩⟩).ids
    (c08_tree_inv (exHist3.take 2) exS0 exS0_ok ⟨fun h hh => exHist3_ok.1 h (List.mem_of_mem_take hh),
      ⟨exHist3_ok.2.1, exHist3_ok.2.2.1, trivial⟩⟩).wp
    exS2.root (self_mem_nodes _) rfl exArg ⟨.inl (by decide +kernel), by simp [placedSeq, argElems]⟩ (by decide +kernel)).2.2.1

def exNewInt : Node := .mk { id := 960, parent := none, val := .int 8, u := ['8'] } exI []

example : PlacedIn (nodeStep exY (.seq (.setitem 0 (.elem exNewInt))) exS3.next).node exNewInt :=
  (placed_is_child exS3 ⟨1020, .seq (.setitem 0 (.elem exNewInt))⟩ exS3_ok.ids exS3_ok.wp exY exY_mem (by decide +kernel)
    exNewInt ⟨.inl (by decide +kernel), by simp [placedSeq, argElems]⟩ (by decide +kernel)).2.2.1

/-! a SparseDict: `sparse['b'] = element` and `sparse.update(...)` store the element itself -/

def exBField : Schema := .mk { cid := 22, kind := .array, name := some ['b'] } .none [exI]
def exSparseS : Schema := .mk { cid := 20, kind := .sparse, name := some ['s'] } .none
  [.mk { cid := 21, kind := .integer, name := some ['a'] } .none [], exBField]
def exSparse : HState := ⟨(blank exSparseS none [] 1).1, 100⟩
def exArr : Node := .mk { id := 50, parent := none } exBField
  [.mk { id := 51, parent := some 50, val := .int 3, u := ['3'] } exI []]

theorem exSparse_ok : TreeOK exSparse := ⟨by decide +kernel, rfl, ⟨by unfold UniqueIds; decide +kernel, by decide +kernel, by decide +kernel⟩⟩

example : PlacedIn (nodeStep exSparse.root (.map (.setitem ['b'] (.elem exArr))) 100).node exArr :=
  (placed_is_child exSparse ⟨1, .map (.setitem ['b'] (.elem exArr))⟩ exSparse_ok.ids exSparse_ok.wp exSparse.root
    (self_mem_nodes _) rfl exArr ⟨rfl, by decide +kernel, exBField, rfl, by decide +kernel⟩ (by decide +kernel)).2.2.1

example : PlacedIn (nodeStep exSparse.root
    (.map (.updateArgs [(['a'], .plain (.int 1)), (['b'], .elem exArr), (['a'], .plain (.int 2))])) 100).node exArr :=
  (placed_is_child exSparse ⟨1, .map (.updateArgs [(['a'], .plain (.int 1)), (['b'], .elem exArr), (['a'], .plain (.int 2))])⟩
    exSparse_ok.ids exSparse_ok.wp exSparse.root (self_mem_nodes _) rfl exArr
    ⟨by decide +kernel, [(['a'], .plain (.int 1))], [(['a'], .plain (.int 2))], ['b'], exBField, rfl, by decide +kernel, rfl, by decide +kernel⟩
    (by decide +kernel)).2.2.1

example : IdInv (hstep exSparse ⟨1, .map (.setitem ['b'] (.elem exArr))⟩) :=
  hstep_idinv _ _ exSparse_ok.ids ⟨by decide +kernel, by decide +kernel, by decide +kernel⟩

/-- `ArgsFresh` without its key clause (no Element arguments here anyway) -/
def ArgsFresh' (s : HState) (op : Op) : Prop :=
  ((placedArgs op).flatMap ids ++ ids s.root).Nodup ∧ (∀ a ∈ (placedArgs op).flatMap ids, a < s.next)

def exDup : HState :=
  ⟨.mk { id := 1, parent := none } (.mk { cid := 30, kind := .dict } .none [.mk { cid := 31, kind := .integer, name := some ['x'] } .none []])
    [.mk { id := 2, parent := some 1, key := ['x'] } (.mk { cid := 31, kind := .integer, name := some ['x'] } .none []) [],
     .mk { id := 3, parent := some 1, key := ['x'] } (.mk { cid := 31, kind := .integer, name := some ['x'] } .none []) []], 10⟩

/-- Without `kok` uniqueness is not preserved.  A mapping node holding two children under one
    key (a state the model's type allows and Python's dict does not): `d['x'] = 5` overwrites
    both with the updated first child — identities unique and below the counter before, the
    element with identity 2 stored twice after. -/
theorem uniqueIds_needs_keys :
    UniqueIds exDup.root ∧ (∀ a ∈ ids exDup.root, a < exDup.next) ∧ wp exDup.root = true ∧ kok exDup.root = false ∧
      ArgsFresh' exDup (.map (.setitem ['x'] (.plain (.int 5)))) ∧
      ids (hstep exDup ⟨1, .map (.setitem ['x'] (.plain (.int 5)))⟩).root = [1, 2, 2] := by
  refine ⟨by unfold UniqueIds; decide +kernel, by decide +kernel, by decide +kernel, by decide +kernel, ⟨by decide +kernel, by decide +kernel⟩, by decide +kernel⟩

def exLow : HState := ⟨(blank exLS none [] 1).1, 5⟩

/-- An Element argument at or above the counter collides with the next allocation: appending an
    element with identity 5 to a List while the counter is 5 gives its new slot identity 5 too. -/
theorem uniqueIds_needs_below :
    IdInv exLow ∧ ids (hstep exLow ⟨1, .seq (.append (.elem (.mk { id := 5, parent := none } exI [])))⟩).root = [1, 5, 5] :=
  ⟨⟨by unfold UniqueIds; decide +kernel, by decide +kernel, by decide +kernel⟩, by decide +kernel⟩

/-- Aliasing: an argument that is already in the tree is stored a second time by the model
    (the real object would move); outside the property's quantifier -/
theorem uniqueIds_needs_fresh :
    ¬ UniqueIds (hstep exS3 ⟨1, .seq (.append (.elem exDict))⟩).root := by
  unfold UniqueIds; decide +kernel

end Flatland.C08.Proofs
