/-
C01, second round trip — non-vacuity of `roundtrip_sparse_second_flat_compound_partial`:
a pruning List of SparseDicts holding a DateYYYYMMDD-like Compound (own text = the members' texts
concatenated) and an optional sibling.
-/
import Proofs.C01SparseSecond
namespace Flatland.Flat.Proofs
open Flatland.Flat Flatland.Flat.Spec

/-- a Compound's own text: its members' texts, concatenated -/
def exEnvCat : Env :=
  { norm := fun _ s => s, compose := fun _ us => (us.map (·.2)).flatten, joinedMembers := fun _ _ => [],
    ndZeros := [48], maxDigits := 4300 }

theorem exEnvCatOK : EnvOK exEnvCat := ⟨[], rfl⟩

/-- List `l` (pruning) of `SparseDict{ date: Compound{y, m, d}, note?: String }` -/
def exCSchema : Schema :=
  .list (some "l".toList) false true 1024
    (.dict none false .sparse
      [ .compound (some "date".toList) false 1
          [ .leaf (some "y".toList) false 0, .leaf (some "m".toList) false 0,
            .leaf (some "d".toList) false 0 ],
        .leaf (some "note".toList) true 0 ])

/-- three members: `note` held before `date`; an all-empty date (pruned by trip 1); an empty `note`
    (lost below the pruning List) beside a date with only the year set -/
def exCElem : Elem :=
  .list [ .dict [ ("note".toList, .leaf "n".toList),
                  ("date".toList, .dict [ ("y".toList, .leaf "2024".toList), ("m".toList, .leaf "01".toList),
                                          ("d".toList, .leaf "02".toList) ]) ],
          .dict [ ("date".toList, .dict [ ("y".toList, .leaf []), ("m".toList, .leaf []),
                                          ("d".toList, .leaf []) ]) ],
          .dict [ ("note".toList, .leaf []),
                  ("date".toList, .dict [ ("y".toList, .leaf "1999".toList), ("m".toList, .leaf []),
                                          ("d".toList, .leaf []) ]) ] ]

theorem exC_sepSafe : SepSafe exEnvCat "_".toList (Tok exCSchema) :=
  sepSafe_single_char exEnvCat exEnvCatOK exCSchema '_' (by decide +kernel) (by decide +kernel)

theorem exC_ok : OkS exEnvCat exCSchema exCElem :=
  okS_short_list (by decide +kernel) (by decide +kernel) (by decide +kernel)

theorem exC_compoundsFull : compoundsFull exCSchema exCElem = true := by decide +kernel
theorem exC_not_compoundFree : compoundFree exCSchema = false := by decide +kernel

theorem exC_second :
    flatten exEnvCat "_".toList exCSchema (fromFlat exEnvCat "_".toList exCSchema
      (flatten exEnvCat "_".toList exCSchema (fromFlat exEnvCat "_".toList exCSchema
        (flatten exEnvCat "_".toList exCSchema exCElem))))
    = flatten exEnvCat "_".toList exCSchema (fromFlat exEnvCat "_".toList exCSchema
      (flatten exEnvCat "_".toList exCSchema exCElem)) :=
  roundtrip_sparse_second_flat_compound_partial exEnvCat "_".toList exCSchema exCElem exC_sepSafe
    exEnvCatOK (by decide +kernel) (by decide +kernel) (by decide +kernel) (by decide +kernel) exC_compoundsFull (by decide +kernel) exC_ok

/-- trip 1 is not the identity: it prunes the all-empty member, drops the empty `note`, and puts
    `date` before `note` -/
theorem exC_trip1 : prS exEnvCat "_".toList false exCSchema exCElem
    = .list [ .dict [ ("date".toList, .dict [ ("y".toList, .leaf "2024".toList), ("m".toList, .leaf "01".toList),
                                              ("d".toList, .leaf "02".toList) ]),
                      ("note".toList, .leaf "n".toList) ],
              .dict [ ("date".toList, .dict [ ("y".toList, .leaf "1999".toList), ("m".toList, .leaf []),
                                              ("d".toList, .leaf []) ]) ] ] := by
  simp only [exCSchema, exCElem]
  simp [flat_eval, prS_eval, uOf, usOf, exEnvCat]

end Flatland.Flat.Proofs
