/-
C02 — "order-free": what exactly `from_flat` needs of a reordering of the pairs.

"No key occurs twice" has to be read hereditarily (`HNodup`): the plain top-level reading is not enough (KF-C02-a:
two spellings of one slot index are different keys that collide one level down; `order_free_full_fails`).  An Array /
MultiValue with two members has one key twice, and there the order of the pairs IS the order of the members: the
stable version `order_free_stable` exempts the Arrays (`HNodupA`) and asks that what every Array is handed keeps its
order (`ASame`).  `order_free` is the special case: under `HNodup` every permutation is `ASame`.
-/
import Flatland.Flat
import Proofs.C02Confined
import Proofs.Lemmas.ListBasic
namespace Flatland.Flat.Proofs
open Flatland.Flat

mutual
/-- the hereditary reading of "no key occurs twice": at every scalar at most one pair matches its name, at every Array
    at most one pair yields a member, and the same holds for what each Mapping field and each List slot is handed
    (after every stripping step of `_set_flat`) -/
def HNodup (env : Env) (sep : Str) : Schema → Pairs → Prop
  | .leaf name _ _, ps => (ps.filter (fun p => p.1 == name)).length ≤ 1
  | .joined name _ _ _, ps => (ps.filter (fun p => p.1 == name)).length ≤ 1
  | .dict name _ _ fields, ps => HNodupFields env sep fields (possibles sep name ps)
  | .compound name _ _ fields, ps => HNodupFields env sep fields (possibles sep name ps)
  | .list name _ prune _ member, ps => ∀ i, HNodup env sep member (groupOf env sep name prune i ps)
  | .array name _ prune member, ps =>
    if !truthy name then (arrayAnon (fun _ => Elem.leaf []) prune member.name ps).length ≤ 1
    else (arrayNamed (fun _ => Elem.leaf []) sep prune (name.getD []) member.name ps).length ≤ 1
def HNodupFields (env : Env) (sep : Str) : List Schema → List (Str × Str) → Prop
  | [], _ => True
  | f :: fs, poss =>
    HNodup env sep f (wrap (poss.filter (fun p => isPrefix (f.name.getD []) p.1)))
      ∧ HNodupFields env sep fs poss
end

theorem hnodup_compound (env : Env) (sep : Str) (nm : Option Str) (o : Bool) (k : Nat) (fs : List Schema)
    (ps : Pairs) : HNodup env sep (.compound nm o k fs) ps = HNodup env sep (.dict nm o .dense fs) ps := by
  simp only [HNodup]

theorem hnodup_array (env : Env) (sep : Str) (name : Option Str) (o prune : Bool) (member : Schema)
    (ps : Pairs) :
    HNodup env sep (.array name o prune member) ps
      ↔ (ps.filterMap (arrayPass sep name prune member.name)).length ≤ 1 := by
  simp only [HNodup, arrayPass]
  split <;> simp only [arrayAnon_eq, arrayNamed_eq, List.length_map]

theorem hnodupFields_iff (env : Env) (sep : Str) (poss : List (Str × Str)) (fs : List Schema) :
    HNodupFields env sep fs poss ↔
      ∀ f ∈ fs, HNodup env sep f (wrap (poss.filter (fun p => isPrefix (f.name.getD []) p.1))) := by
  induction fs with
  | nil => simp [HNodupFields]
  | cons f fs ih => simp [HNodupFields, ih]

theorem perm_length_le_one {α} {l l' : List α} (h : l.Perm l') (hl : l.length ≤ 1) : l = l' := by
  match l, hl with
  | [], _ => exact h.nil_eq
  | [a], _ => exact (List.perm_singleton.1 h.symm).symm

theorem find?_perm {α} (p : α → Bool) {l l' : List α} (h : l.Perm l')
    (hl : (l.filter p).length ≤ 1) : l.find? p = l'.find? p := by
  rw [← List.head?_filter, ← List.head?_filter, perm_length_le_one (h.filter p) hl]

theorem possibles_perm (sep : Str) (name : Option Str) {ps ps' : Pairs} (h : ps.Perm ps') :
    (possibles sep name ps).Perm (possibles sep name ps') := by
  rw [possibles_eq_filterMap, possibles_eq_filterMap]
  exact h.filterMap _

theorem wrap_perm {l l' : List (Str × Str)} (h : l.Perm l') : (wrap l).Perm (wrap l') := h.map _

theorem mem_insertSorted (n x : Nat) (l : List Nat) : x ∈ insertSorted n l ↔ x = n ∨ x ∈ l := by
  induction l with
  | nil => simp [insertSorted]
  | cons m ms ih =>
    unfold insertSorted
    split
    · simp
    · split
      · rename_i h; subst h; simp
      · simp [ih]; constructor
        · rintro (h | h | h) <;> simp [h]
        · rintro (h | h | h) <;> simp [h]

theorem pairwise_insertSorted (n : Nat) (l : List Nat) (h : l.Pairwise (· < ·)) :
    (insertSorted n l).Pairwise (· < ·) := by
  induction l with
  | nil => simp [insertSorted]
  | cons m ms ih =>
    have hm := List.pairwise_cons.mp h
    unfold insertSorted
    split
    · rename_i hlt
      apply List.pairwise_cons.mpr
      refine ⟨?_, h⟩
      intro x hx
      rcases List.mem_cons.mp hx with rfl | hx
      · exact hlt
      · exact Nat.lt_trans hlt (hm.1 x hx)
    · split
      · exact h
      · rename_i h1 h2
        apply List.pairwise_cons.mpr
        refine ⟨?_, ih hm.2⟩
        intro x hx
        rcases (mem_insertSorted n x ms).mp hx with rfl | hx
        · omega
        · exact hm.1 x hx

theorem sortedDistinct_spec (l : List Nat) :
    (sortedDistinct l).Pairwise (· < ·) ∧ ∀ x, x ∈ sortedDistinct l ↔ x ∈ l := by
  induction l with
  | nil => simp [sortedDistinct]
  | cons a as ih =>
    simp only [sortedDistinct, List.foldr_cons] at ih ⊢
    refine ⟨pairwise_insertSorted a _ ih.1, ?_⟩
    intro x
    rw [mem_insertSorted, ih.2 x]
    simp

theorem sorted_unique (l l' : List Nat) (h1 : l.Pairwise (· < ·)) (h2 : l'.Pairwise (· < ·))
    (h : ∀ x, x ∈ l ↔ x ∈ l') : l = l' :=
  Lists.pairwise_ext (fun _ _ => Nat.lt_asymm) h1 h2 h

theorem sortedDistinct_perm {l l' : List Nat} (h : l.Perm l') : sortedDistinct l = sortedDistinct l' := by
  apply sorted_unique _ _ (sortedDistinct_spec l).1 (sortedDistinct_spec l').1
  intro x
  rw [(sortedDistinct_spec l).2, (sortedDistinct_spec l').2]
  exact h.mem_iff

theorem foldl_max_perm {l l' : List Nat} (h : l.Perm l') (a : Nat) : l.foldl max a = l'.foldl max a :=
  h.foldl_eq' (fun _ _ _ _ _ => by omega) a

theorem indexesOf_perm (env : Env) (sep : Str) (name : Option Str) (prune : Bool) {ps ps' : Pairs}
    (h : ps.Perm ps') : (indexesOf env sep name prune ps).Perm (indexesOf env sep name prune ps') :=
  h.filterMap _

theorem groupOf_perm (env : Env) (sep : Str) (name : Option Str) (prune : Bool) (i : Nat)
    {ps ps' : Pairs} (h : ps.Perm ps') :
    (groupOf env sep name prune i ps).Perm (groupOf env sep name prune i ps') :=
  h.filterMap _

theorem slotIdxs_perm (prune : Bool) (mx : Nat) {l l' : List Nat} (h : l.Perm l') :
    slotIdxs prune mx l = slotIdxs prune mx l' := by
  simp only [slotIdxs, h.isEmpty_eq, sortedDistinct_perm h, foldl_max_perm h]

mutual
/-- `HNodup` with the Arrays exempt -/
def HNodupA (env : Env) (sep : Str) : Schema → Pairs → Prop
  | .leaf name _ _, ps => (ps.filter (fun p => p.1 == name)).length ≤ 1
  | .joined name _ _ _, ps => (ps.filter (fun p => p.1 == name)).length ≤ 1
  | .dict name _ _ fields, ps => HNodupAFields env sep fields (possibles sep name ps)
  | .compound name _ _ fields, ps => HNodupAFields env sep fields (possibles sep name ps)
  | .list name _ prune _ member, ps => ∀ i, HNodupA env sep member (groupOf env sep name prune i ps)
  | .array .., _ => True
def HNodupAFields (env : Env) (sep : Str) : List Schema → List (Str × Str) → Prop
  | [], _ => True
  | f :: fs, poss =>
    HNodupA env sep f (wrap (poss.filter (fun p => isPrefix (f.name.getD []) p.1)))
      ∧ HNodupAFields env sep fs poss
end

mutual
/-- both lists hand every Array the same member-yielding pairs in the same order -/
def ASame (env : Env) (sep : Str) : Schema → Pairs → Pairs → Prop
  | .leaf .., _, _ => True
  | .joined .., _, _ => True
  | .dict name _ _ fields, ps, ps' => ASameFields env sep fields (possibles sep name ps) (possibles sep name ps')
  | .compound name _ _ fields, ps, ps' =>
    ASameFields env sep fields (possibles sep name ps) (possibles sep name ps')
  | .list name _ prune _ member, ps, ps' =>
    ∀ i, ASame env sep member (groupOf env sep name prune i ps) (groupOf env sep name prune i ps')
  | .array name _ prune member, ps, ps' =>
    if !truthy name then ps.filterMap (anonPass prune member.name) = ps'.filterMap (anonPass prune member.name)
    else ps.filterMap (namedPass sep prune (name.getD []) member.name)
      = ps'.filterMap (namedPass sep prune (name.getD []) member.name)
def ASameFields (env : Env) (sep : Str) : List Schema → List (Str × Str) → List (Str × Str) → Prop
  | [], _, _ => True
  | f :: fs, poss, poss' =>
    ASame env sep f (wrap (poss.filter (fun p => isPrefix (f.name.getD []) p.1)))
        (wrap (poss'.filter (fun p => isPrefix (f.name.getD []) p.1)))
      ∧ ASameFields env sep fs poss poss'
end

theorem hnodupA_compound (env : Env) (sep : Str) (nm : Option Str) (o : Bool) (k : Nat) (fs : List Schema)
    (ps : Pairs) : HNodupA env sep (.compound nm o k fs) ps = HNodupA env sep (.dict nm o .dense fs) ps := by
  simp only [HNodupA]

theorem asame_compound (env : Env) (sep : Str) (nm : Option Str) (o : Bool) (k : Nat) (fs : List Schema)
    (ps ps' : Pairs) :
    ASame env sep (.compound nm o k fs) ps ps' = ASame env sep (.dict nm o .dense fs) ps ps' := by
  simp only [ASame]

theorem asame_array (env : Env) (sep : Str) (name : Option Str) (o prune : Bool) (member : Schema)
    (ps ps' : Pairs) :
    ASame env sep (.array name o prune member) ps ps'
      ↔ ps.filterMap (arrayPass sep name prune member.name) = ps'.filterMap (arrayPass sep name prune member.name) := by
  simp only [ASame, arrayPass]
  split <;> exact Iff.rfl

theorem hnodupAFields_iff (env : Env) (sep : Str) (poss : List (Str × Str)) (fs : List Schema) :
    HNodupAFields env sep fs poss ↔
      ∀ f ∈ fs, HNodupA env sep f (wrap (poss.filter (fun p => isPrefix (f.name.getD []) p.1))) := by
  induction fs with
  | nil => simp [HNodupAFields]
  | cons f fs ih => simp [HNodupAFields, ih]

theorem asameFields_iff (env : Env) (sep : Str) (poss poss' : List (Str × Str)) (fs : List Schema) :
    ASameFields env sep fs poss poss' ↔
      ∀ f ∈ fs, ASame env sep f (wrap (poss.filter (fun p => isPrefix (f.name.getD []) p.1)))
        (wrap (poss'.filter (fun p => isPrefix (f.name.getD []) p.1))) := by
  induction fs with
  | nil => simp [ASameFields]
  | cons f fs ih => simp [ASameFields, ih]

theorem stable_setFields_of (env : Env) (sep : Str) : ∀ (fs : List Schema),
    (∀ f ∈ fs, ∀ (e : Elem) (ps ps' : Pairs), HNodupA env sep f ps → ps.Perm ps' →
      ASame env sep f ps ps' → setFlat env sep f e ps = setFlat env sep f e ps') →
    ∀ (members : List (Str × Elem)) (poss poss' : List (Str × Str)),
    HNodupAFields env sep fs poss → poss.Perm poss' → ASameFields env sep fs poss poss' →
    setFields env sep fs members poss = setFields env sep fs members poss' := by
  intro fs
  induction fs with
  | nil => intros; simp [setFields]
  | cons f fs ih =>
    intro hih members poss poss' h hp ha
    simp only [HNodupAFields] at h
    simp only [ASameFields] at ha
    have hacc : (poss.filter (fun p => isPrefix (f.name.getD []) p.1)).Perm
        (poss'.filter (fun p => isPrefix (f.name.getD []) p.1)) := hp.filter _
    have hstep : stepM env sep f members (poss.filter (fun p => isPrefix (f.name.getD []) p.1))
        = stepM env sep f members (poss'.filter (fun p => isPrefix (f.name.getD []) p.1)) := by
      rw [stepM_eq, stepM_eq, hacc.isEmpty_eq, hih f (by simp) _ _ _ h.1 (wrap_perm hacc) ha.1]
    rw [setFields_cons, setFields_cons, hstep]
    exact ih (fun g hg => hih g (List.mem_cons_of_mem _ hg)) _ poss poss' h.2 hp ha.2

theorem stable_setFlat (env : Env) (sep : Str) : ∀ (s : Schema) (e : Elem) (ps ps' : Pairs),
    HNodupA env sep s ps → ps.Perm ps' → ASame env sep s ps ps' →
    setFlat env sep s e ps = setFlat env sep s e ps' := by
  intro s
  induction s using schema_ind with
  | hleaf name o k =>
    intro e ps ps' h hp _
    simp only [HNodupA] at h
    simp only [setFlat, find?_perm _ hp h]
  | hjoined name o k m =>
    intro e ps ps' h hp _
    simp only [HNodupA] at h
    simp only [setFlat, find?_perm _ hp h]
  | hdict name o _ fields ih | hcompound name o _ fields ih =>
    intro e ps ps' h hp ha
    simp only [HNodupA] at h
    simp only [ASame] at ha
    have hposs := possibles_perm sep name hp
    simp only [setFlat, hposs.isEmpty_eq]
    rw [stable_setFields_of env sep fields ih (membersOf e) _ _ h hposs ha]
  | hlist name o prune mx member ih =>
    intro e ps ps' h hp ha
    simp only [HNodupA] at h
    simp only [ASame] at ha
    rw [setFlat_list, setFlat_list, slotIdxs_perm prune mx (indexesOf_perm env sep name prune hp)]
    congr 1
    exact List.map_congr_left (fun i _ => ih _ _ _ (h i) (groupOf_perm env sep name prune i hp) (ha i))
  | harray name o prune member _ =>
    intro e ps ps' _ _ ha
    rw [setFlat_array, setFlat_array, (asame_array ..).mp ha]

theorem stable_setFields (env : Env) (sep : Str) : ∀ (fs : List Schema) (members : List (Str × Elem))
    (poss poss' : List (Str × Str)), HNodupAFields env sep fs poss → poss.Perm poss' →
    ASameFields env sep fs poss poss' →
    setFields env sep fs members poss = setFields env sep fs members poss' :=
  fun fs => stable_setFields_of env sep fs (fun f _ => stable_setFlat env sep f)

/-- C02, order-free, stable form: when no key of a scalar occurs twice (hereditarily; Arrays exempt), the
    tree `from_flat` builds is the same for every reordering of the pairs that keeps, for every Array,
    the pairs that yield its members in their order. -/
theorem order_free_stable (env : Env) (sep : Str) (s : Schema) (ps ps' : List (Str × Str))
    (h : HNodupA env sep s (wrap ps)) (hp : ps.Perm ps') (ha : ASame env sep s (wrap ps) (wrap ps')) :
    fromFlat env sep s ps = fromFlat env sep s ps' :=
  stable_setFlat env sep s (blank s) (wrap ps) (wrap ps') h (wrap_perm hp) ha

theorem hnodup_hnodupA (env : Env) (sep : Str) : ∀ (s : Schema) (ps : Pairs),
    HNodup env sep s ps → HNodupA env sep s ps := by
  intro s
  induction s using schema_ind_mapping with
  | hleaf _ _ _ | hjoined _ _ _ _ => exact fun _ h => by simpa only [HNodup, HNodupA] using h
  | hdict name o mode fields ih =>
    intro ps h
    simp only [HNodup, hnodupFields_iff] at h
    simp only [HNodupA, hnodupAFields_iff]
    exact fun f hf => ih f hf _ (h f hf)
  | hcompound name o k fields ih => intro ps; rw [hnodup_compound, hnodupA_compound]; exact ih ps
  | hlist name o prune mx member ih =>
    intro ps h
    simp only [HNodup] at h; simp only [HNodupA]
    exact fun i => ih _ (h i)
  | harray _ _ _ _ _ => intro _ _; simp only [HNodupA]

theorem hnodupFields_hnodupA (env : Env) (sep : Str) : ∀ (fs : List Schema) (poss : List (Str × Str)),
    HNodupFields env sep fs poss → HNodupAFields env sep fs poss :=
  fun fs poss h => (hnodupAFields_iff env sep poss fs).mpr fun f hf =>
    hnodup_hnodupA env sep f _ ((hnodupFields_iff env sep poss fs).mp h f hf)

theorem asame_of_hnodup (env : Env) (sep : Str) : ∀ (s : Schema) (ps ps' : Pairs),
    HNodup env sep s ps → ps.Perm ps' → ASame env sep s ps ps' := by
  intro s
  induction s using schema_ind_mapping with
  | hleaf _ _ _ | hjoined _ _ _ _ => intro _ _ _ _; simp only [ASame]
  | hdict name o mode fields ih =>
    intro ps ps' h hp
    simp only [HNodup, hnodupFields_iff] at h
    simp only [ASame, asameFields_iff]
    exact fun f hf => ih f hf _ _ (h f hf) (wrap_perm ((possibles_perm sep name hp).filter _))
  | hcompound name o k fields ih => intro ps ps'; rw [hnodup_compound, asame_compound]; exact ih ps ps'
  | hlist name o prune mx member ih =>
    intro ps ps' h hp
    simp only [HNodup] at h; simp only [ASame]
    exact fun i => ih _ _ (h i) (groupOf_perm env sep name prune i hp)
  | harray name o prune member _ =>
    exact fun ps ps' h hp => (asame_array ..).mpr (perm_length_le_one (hp.filterMap _) ((hnodup_array ..).mp h))

theorem asameFields_of_hnodup (env : Env) (sep : Str) : ∀ (fs : List Schema) (poss poss' : List (Str × Str)),
    HNodupFields env sep fs poss → poss.Perm poss' → ASameFields env sep fs poss poss' :=
  fun fs poss poss' h hp => (asameFields_iff env sep poss poss' fs).mpr fun f hf =>
    asame_of_hnodup env sep f _ _ ((hnodupFields_iff env sep poss fs).mp h f hf) (wrap_perm (hp.filter _))

theorem order_setFlat (env : Env) (sep : Str) (s : Schema) (e : Elem) (ps ps' : Pairs)
    (h : HNodup env sep s ps) (hp : ps.Perm ps') : setFlat env sep s e ps = setFlat env sep s e ps' :=
  stable_setFlat env sep s e ps ps' (hnodup_hnodupA env sep s ps h) hp (asame_of_hnodup env sep s ps ps' h hp)

theorem order_setFields (env : Env) (sep : Str) : ∀ (fs : List Schema) (members : List (Str × Elem))
    (poss poss' : List (Str × Str)), HNodupFields env sep fs poss → poss.Perm poss' →
    setFields env sep fs members poss = setFields env sep fs members poss' :=
  fun fs members poss poss' h hp =>
    stable_setFields env sep fs members poss poss' (hnodupFields_hnodupA env sep fs poss h) hp
      (asameFields_of_hnodup env sep fs poss poss' h hp)

/-- C02, order-free: when no key occurs twice (hereditarily), the tree `from_flat` builds is the
    same for every ordering of the pairs. -/
theorem order_free (env : Env) (sep : Str) (s : Schema) (ps ps' : List (Str × Str))
    (h : HNodup env sep s (wrap ps)) (hp : ps.Perm ps') :
    fromFlat env sep s ps = fromFlat env sep s ps' :=
  order_setFlat env sep s (blank s) (wrap ps) (wrap ps') h (wrap_perm hp)

/-- the plain reading: no *top-level* key occurs twice -/
def C02_order_Full : Prop :=
  ∀ (env : Env) (sep : Str) (s : Schema), wf s = true → ∀ (ps ps' : List (Str × Str)),
    (ps.map (·.1)).Nodup → ps.Perm ps' → fromFlat env sep s ps = fromFlat env sep s ps'

/-- KF-C02-a: `l_0_s` and `l_00_s` are different keys for the same leaf; the first one wins. -/
theorem order_free_full_fails : ¬ C02_order_Full := by
  intro h
  have := h exEnv "_".toList
    (.list (some "l".toList) false true 1024 (.leaf (some "s".toList) false 0)) (by decide +kernel)
    [("l_0_s".toList, "a".toList), ("l_00_s".toList, "b".toList)]
    [("l_00_s".toList, "b".toList), ("l_0_s".toList, "a".toList)]
    (by decide +kernel) (List.Perm.swap _ _ _)
  -- both spellings address slot 0, whose leaf takes the first pair that names it
  change Elem.list [.leaf "a".toList] = Elem.list [.leaf "b".toList] at this
  simp at this

end Flatland.Flat.Proofs
