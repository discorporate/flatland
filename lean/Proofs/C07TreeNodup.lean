/-
C07 — the uniqueness clause ("keys are unique except for the repeated members of an Array /
MultiValue") on the TREE model, for the trees histories reach.

The flat development proves the clause on `Flat.Schema × Flat.Elem` by reducing it to node-level
lemmas about resolved nodes (`Proofs/Lemmas/C07Paths.lean`).  Here the same lemmas are applied along
`toFNode`, and the bridge `flattenTree_eq_flat` carries the result to `flattenTree`,
`flattenCode_eq_flattenTree_history` to the literal rendering `flattenCode`.  What the schema-level
hypotheses (`wf`, `dense`, `OkP`) provide in the flat development is, on a tree, a decidable check of
the tree itself (`distinctNames`, `arrLe1T`).
-/
import Proofs.C07Nodup
import Proofs.C07TreeCodeExamples
namespace Flatland.C07Tree.Proofs
open Flatland.Tree Flatland.PyList Flatland.C08 Flatland.C08.Spec Flatland.C08.Proofs Flatland.C07Tree
open Flatland.Flat (FNode SepSafe natStr)
open Flatland.Flat.Proofs (paths nodup_paths_own nodup_paths_mapping nodup_paths_slots nodup_paths_le1 tokens_mk
  pathsOK_mk_of keys_nodup_of_pathsOK)

def isArr : SKind → Bool
  | .array | .multi => true
  | _ => false

mutual
/-- the children of every mapping of the tree carry pairwise distinct names, none of them None -/
def distinctNames : Node → Bool
  | .mk _ s kids =>
    (!isMap s.kind || (kids.all (fun k => k.name.isSome) && decide ((kids.map Node.name).Nodup))) && distinctNamesL kids
def distinctNamesL : List Node → Bool
  | [] => true
  | k :: ks => distinctNames k && distinctNamesL ks
end

mutual
/-- every Array / MultiValue of the tree holds at most one member -/
def arrLe1T : Node → Bool
  | .mk _ s kids => (!isArr s.kind || decide (kids.length ≤ 1)) && arrLe1TL kids
def arrLe1TL : List Node → Bool
  | [] => true
  | k :: ks => arrLe1T k && arrLe1TL ks
end

mutual
def noArrayT : Node → Bool
  | .mk _ s kids => !isArr s.kind && noArrayTL kids
def noArrayTL : List Node → Bool
  | [] => true
  | k :: ks => noArrayT k && noArrayTL ks
end

theorem distinctNames_deep : IsDeep distinctNames distinctNamesL
    (fun n => !isMap n.kind || (n.kids.all (fun k => k.name.isSome) && decide ((n.kids.map Node.name).Nodup))) :=
  deep_iff (fun _ _ _ => by rw [distinctNames]; rfl) (by rw [distinctNamesL]) (fun _ _ => by rw [distinctNamesL])

theorem arrLe1T_deep : IsDeep arrLe1T arrLe1TL (fun n => !isArr n.kind || decide (n.kids.length ≤ 1)) :=
  deep_iff (fun _ _ _ => by rw [arrLe1T]; rfl) (by rw [arrLe1TL]) (fun _ _ => by rw [arrLe1TL])

theorem noArrayT_deep : IsDeep noArrayT noArrayTL (fun n => !isArr n.kind) :=
  deep_iff (fun _ _ _ => by rw [noArrayT]; rfl) (by rw [noArrayTL]) (fun _ _ => by rw [noArrayTL])

theorem arrLe1T_of_noArrayT : ∀ n : Node, noArrayT n = true → arrLe1T n = true :=
  fun n h => (arrLe1T_deep.2 n).mpr fun x hx => by simp [(noArrayT_deep.2 n).mp h x hx]

theorem arrLe1TL_of_noArrayTL : ∀ ks : List Node, noArrayTL ks = true → arrLe1TL ks = true :=
  fun ks h => (arrLe1T_deep.1 ks).mpr fun k hk => arrLe1T_of_noArrayT k ((noArrayT_deep.1 ks).mp h k hk)

/-- what is proved of every resolved node: distinct token paths, every token a name of the tree
    (`T`) or a decimal index -/
def PathsOK (T : Str → Prop) (m : FNode) : Prop :=
  (paths m).Nodup ∧ ∀ π ∈ paths m, ∀ t ∈ π, T t

theorem pathsOK_leaf (T : Str → Prop) (hidx : ∀ i, T (natStr i)) (nm : Option Str) (fl : Bool) (u : Str)
    (hnm : ∀ x, nm = some x → T x) : PathsOK T (.mk nm fl true u false []) :=
  ⟨nodup_paths_own _ _ _ _ _ _ (Or.inr rfl), tokens_mk T hidx _ _ _ _ _ _ hnm (by intro k hk; cases hk)⟩

/-- what uniqueness asks of one node: a mapping's children carry distinct names, an Array holds at most one member,
    its own name is a token -/
def NamesOK (T : Str → Prop) (x : Node) : Prop :=
  (isMap x.kind = true → (∀ k ∈ x.kids, k.name.isSome) ∧ (x.kids.map Node.name).Nodup) ∧
  (isArr x.kind = true → x.kids.length ≤ 1) ∧ ∀ nm, x.name = some nm → T nm

theorem toFSlots_eq (ks : List Node) : toFSlots ks =
    ks.map (fun s => match s.kids with | el :: _ => toFNode el | [] => .mk none false true [] false []) := by
  induction ks with
  | nil => rw [toFSlots]; rfl
  | cons s ks ih => obtain ⟨_, _, els⟩ := s; cases els <;> rw [toFSlots, ih] <;> rfl

/-- stated of all nodes below `n`, so that the induction on the tree reaches the element a slot holds (two
    levels down) -/
theorem pathsOK_nodes (T : Str → Prop) (hidx : ∀ i, T (natStr i)) :
    ∀ n : Node, (∀ x ∈ nodes n, NamesOK T x) → ∀ y ∈ nodes n, PathsOK T (toFNode y) :=
  Node.induction fun n ih hn y hy => by
    cases n with
    | mk i s kids =>
    rw [nodes] at hy
    rcases List.mem_cons.mp hy with rfl | hy
    · obtain ⟨hmap, harr, hnm⟩ := hn _ (self_mem_nodes _)
      have below : ∀ c ∈ kids, ∀ x ∈ nodes c, PathsOK T (toFNode x) := fun c hc =>
        ih c hc (fun x hx => hn x (mem_nodes_trans _ _ _ (kid_mem_nodes (p := .mk i s kids) hc) hx))
      have hL : ∀ k ∈ toFNodeL kids, PathsOK T k := by
        rw [toFNodeL_eq]; intro k hk
        obtain ⟨c, hc, rfl⟩ := List.mem_map.mp hk
        exact below c hc c (self_mem_nodes c)
      have hS : ∀ k ∈ toFSlots kids, PathsOK T k := by
        rw [toFSlots_eq]; intro k hk
        obtain ⟨c, hc, rfl⟩ := List.mem_map.mp hk
        split
        · rename_i el _ hel; exact below c hc el (kid_mem_nodes (by rw [hel]; exact List.mem_cons_self ..))
        · exact pathsOK_leaf T hidx none false [] (by intro x hx; cases hx)
      have names : (FNode.name ∘ toFNode) = Node.name := funext toFNode_name
      rw [toFNode]
      cases hk : s.kind with
      | integer | string | slot => exact pathsOK_leaf T hidx _ _ _ hnm
      | list =>
        exact pathsOK_mk_of hidx hnm hS (nodup_paths_slots _ _ _ _)
      | array | multi =>
        exact pathsOK_mk_of hidx hnm hL (nodup_paths_le1 _ _ _ _
          (by rw [toFNodeL_eq, List.length_map]; exact harr (by show isArr s.kind = true; rw [hk]; rfl)))
      | dict | sparse =>
        obtain ⟨h1, h2⟩ := hmap (by show isMap s.kind = true; rw [hk]; rfl)
        refine pathsOK_mk_of hidx hnm hL
          (nodup_paths_mapping _ _ _ _ _ ?_ (by rw [toFNodeL_eq, List.map_map, names]; exact h2))
        rw [toFNodeL_eq]; intro k hk
        obtain ⟨x, hx, rfl⟩ := List.mem_map.mp hk
        rw [toFNode_name]; exact h1 x hx
    · obtain ⟨c, hc, hyc⟩ := mem_nodesL_iff.mp hy
      exact ih c hc (fun x hx => hn x (mem_nodes_trans _ _ _ (kid_mem_nodes (p := .mk i s kids) hc) hx)) y hyc

theorem namesOK_of {T : Str → Prop} {n : Node} (hd : distinctNames n = true) (ha : arrLe1T n = true)
    (hn : ∀ x ∈ nodes n, ∀ nm, x.name = some nm → T nm) : ∀ x ∈ nodes n, NamesOK T x := fun x hx => by
  have h1 := (distinctNames_deep.2 n).mp hd x hx
  have h2 := (arrLe1T_deep.2 n).mp ha x hx
  refine ⟨fun hm => ?_, fun hm => ?_, hn x hx⟩
  · simpa [hm, List.all_eq_true] using h1
  · simpa [hm] using h2

theorem pathsOK_toFNode (T : Str → Prop) (hidx : ∀ i, T (natStr i)) : ∀ n : Node,
    distinctNames n = true → arrLe1T n = true → (∀ x ∈ nodes n, ∀ nm, x.name = some nm → T nm) →
    PathsOK T (toFNode n) :=
  fun n hd ha hn => pathsOK_nodes T hidx n (namesOK_of hd ha hn) n (self_mem_nodes n)

theorem pathsOK_toFNodeL (T : Str → Prop) (hidx : ∀ i, T (natStr i)) : ∀ ks : List Node,
    distinctNamesL ks = true → arrLe1TL ks = true → (∀ x ∈ nodesL ks, ∀ nm, x.name = some nm → T nm) →
    ∀ k ∈ toFNodeL ks, PathsOK T k := by
  intro ks hd ha hn
  rw [toFNodeL_eq]; intro k hk
  obtain ⟨c, hc, rfl⟩ := List.mem_map.mp hk
  exact pathsOK_toFNode T hidx c ((distinctNames_deep.1 ks).mp hd c hc) ((arrLe1T_deep.1 ks).mp ha c hc)
    (fun x hx => hn x (mem_nodesL_iff.mpr ⟨c, hc, hx⟩))

theorem pathsOK_toFSlots (T : Str → Prop) (hidx : ∀ i, T (natStr i)) : ∀ ks : List Node,
    distinctNamesL ks = true → arrLe1TL ks = true → (∀ x ∈ nodesL ks, ∀ nm, x.name = some nm → T nm) →
    ∀ k ∈ toFSlots ks, PathsOK T k := by
  intro ks hd ha hn
  rw [toFSlots_eq]; intro k hk
  obtain ⟨c, hc, rfl⟩ := List.mem_map.mp hk
  have hall := pathsOK_nodes T hidx c (namesOK_of ((distinctNames_deep.1 ks).mp hd c hc) ((arrLe1T_deep.1 ks).mp ha c hc)
    (fun x hx => hn x (mem_nodesL_iff.mpr ⟨c, hc, hx⟩)))
  split
  · rename_i el _ hel; exact hall el (kid_mem_nodes (by rw [hel]; exact List.mem_cons_self ..))
  · exact pathsOK_leaf T hidx none false [] (by intro x hx; cases hx)

/-- the names a separator has to be safe for: every `.name` in the tree, and the decimal indexes -/
def TokT (n : Node) (t : Str) : Prop := (∃ x ∈ nodes n, x.name = some t) ∨ ∃ i, t = natStr i

/-- **uniqueness on a tree (general form).**  In a deep-positional tree whose mappings' children
    carry distinct names and whose Arrays / MultiValues hold at most one member, for a separator
    that is `SepSafe` for the names of the tree: the keys `flatten()` emits are pairwise distinct. -/
theorem tree_keys_nodup_arrLe1 {env : Flatland.Flat.Env} (sep : Str) (n : Node) (hs : SepSafe env sep (TokT n))
    (hp : dp n = true) (hd : distinctNames n = true) (ha : arrLe1T n = true) :
    ((flattenTree sep n).map Prod.fst).Nodup := by
  rw [flattenTree_eq_flat sep n hp]
  exact keys_nodup_of_pathsOK hs
    (pathsOK_toFNode (TokT n) (fun i => .inr ⟨i, rfl⟩) n hd ha (fun x hx nm hnm => .inl ⟨x, hx, hnm⟩))

/-- no Array / MultiValue in the tree ⇒ keys pairwise distinct -/
theorem tree_keys_nodup_noArray {env : Flatland.Flat.Env} (sep : Str) (n : Node) (hs : SepSafe env sep (TokT n))
    (hp : dp n = true) (hd : distinctNames n = true) (hna : noArrayT n = true) :
    ((flattenTree sep n).map Prod.fst).Nodup :=
  tree_keys_nodup_arrLe1 sep n hs hp hd (arrLe1T_of_noArrayT n hna)

end Flatland.C07Tree.Proofs
