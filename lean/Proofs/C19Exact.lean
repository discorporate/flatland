/-
C19 — what `_pop_toggle` returns after every history, and where that differs from the statement's rule.

`toggle_resolution_exact`: for every history, every option, every stored value, `_pop_toggle` on
the flat-copied frames returns exactly `Spec.codeRule` of (tag option, LAST explicit assignment
among the open levels).  The statement's rule is the corollary under `noShadowingAuto`
(`toggle_resolution`), and `toggle_doc_iff` says precisely where the two differ:
`ShadowingAuto` (KF-C19-a).
-/
import Proofs.C19
namespace Flatland.C19.Proofs
open Flatland.Markup Flatland.C19 Flatland.C19.Spec

theorem codeRule_default (T : Tables) (b : Bool) (t : Trool) :
    codeRule T b t (some (.bool b)) = codeRule T b t none := by
  cases t <;> cases b <;> rfl

/-- No side condition: the AttributeError for a stored value that is no option value is part of `codeRule`.
    `hdef`: `key` is an option with built-in default `b` (`defaults_ok` lists the six). -/
theorem toggle_resolution_exact (T : Tables) (R : RenderCfg) (markup : Str) (settings : List (Str × CVal))
    (g0 : Gen) (hinit : Gen.init T markup settings = .ok g0) (ops : List Op)
    (key : Str) (b : Bool) (hdef : optionDefaultOK T key b = true) (attrs : Attrs) :
    popToggle T key attrs (runGen T R g0 ops).ctx =
      (codeRule T b (T.parseTrool ((Dict.get? attrs key).getD .maybe))
        (lastExplicit (runS T R g0 (initHist settings) ops).2 key)).map
        (fun d => (Dict.erase attrs key, d)) := by
  simp only [optionDefaultOK, Bool.and_eq_true, beq_iff_eq] at hdef
  obtain ⟨hd1, hd2⟩ := hdef
  have hget := setting_in_force T R markup settings g0 hinit ops key
  rw [hd2] at hget
  cases hl : lastExplicit (runS T R g0 (initHist settings) ops).2 key with
  | none =>
    rw [hl] at hget
    rw [popToggle_of_top T key attrs _ b (.bool b) hd1 hget, codeRule_default]
  | some v =>
    rw [hl] at hget
    rw [popToggle_of_top T key attrs _ b v hd1 hget]

theorem codeResolve_eq_findSome (b : Bool) (levels : List (Option Trool)) :
    codeResolve b levels =
      (match levels.findSome? id with | some .yes => true | some .no => false | _ => b) := by
  induction levels with
  | nil => rfl
  | cons x rest ih =>
    cases x with
    | none => simpa [codeResolve, List.findSome?_cons] using ih
    | some t => cases t <;> simp [codeResolve]

theorem codeRuleL_eq (b : Bool) (t : Trool) (levels : List (Option Trool)) :
    codeRuleL b t levels =
      (match t with | .yes => (true, true) | .no => (false, false) | .maybe => (codeResolve b levels, false)) := by
  cases t with
  | yes => rfl
  | no => rfl
  | maybe =>
    simp only [codeRuleL, codeResolve_eq_findSome]
    rcases List.findSome? id levels with _ | (_ | _ | _) <;> rfl

theorem codeRule_levels (T : Tables) (b : Bool) (t : Trool) (H : Hist) (key : Str)
    (htv : troolValued T H key = true) :
    codeRule T b t (lastExplicit H key) = .ok (codeRuleL b t (levelTrools T H key)) := by
  cases t with
  | yes => rfl
  | no => rfl
  | maybe =>
    induction H with
    | nil => rfl
    | cons lv rest ih =>
      simp only [troolValued, List.all_cons, Bool.and_eq_true] at htv
      have ih := ih htv.2
      simp only [codeRule, codeRuleL, levelTrools, List.map_cons, List.findSome?_cons, lastExplicit_cons] at ih ⊢
      cases hg : lv.given key with
      | none => simpa using ih
      | some v =>
        have h1 := htv.1
        simp only [hg, readTrool] at h1 ⊢
        cases hp : T.parseTroolC v with
        | error e => rw [hp] at h1; cases h1
        | ok t' => cases t' <;> simp [readTrool, hp]

/-- the exact theorem on level readings: under `troolValued` only (no `noShadowingAuto`) -/
theorem toggle_resolution_code (T : Tables) (R : RenderCfg) (markup : Str) (settings : List (Str × CVal))
    (g0 : Gen) (hinit : Gen.init T markup settings = .ok g0) (ops : List Op)
    (key : Str) (b : Bool) (hdef : optionDefaultOK T key b = true) (attrs : Attrs)
    (htv : troolValued T (runS T R g0 (initHist settings) ops).2 key = true) :
    popToggle T key attrs (runGen T R g0 ops).ctx =
      .ok (Dict.erase attrs key,
           codeRuleL b (T.parseTrool ((Dict.get? attrs key).getD .maybe))
             (levelTrools T (runS T R g0 (initHist settings) ops).2 key)) := by
  rw [toggle_resolution_exact T R markup settings g0 hinit ops key b hdef attrs, codeRule_levels T b _ _ key htv]
  rfl

theorem shadowing_nil (b : Bool) : ¬ ShadowingAuto b [] := by
  rintro ⟨pre, post, c, h, _⟩
  cases pre <;> cases h

theorem shadowing_none (b : Bool) (l : List (Option Trool)) : ShadowingAuto b (none :: l) ↔ ShadowingAuto b l := by
  constructor
  · rintro ⟨pre, post, c, h, hp, hf⟩
    cases pre with
    | nil => cases h
    | cons p pre' => exact ⟨pre', post, c, (List.cons.inj h).2, fun y hy => hp y (List.mem_cons_of_mem _ hy), hf⟩
  · rintro ⟨pre, post, c, h, hp, hf⟩
    exact ⟨none :: pre, post, c, by rw [h]; rfl, List.forall_mem_cons.mpr ⟨rfl, hp⟩, hf⟩

theorem shadowing_some (b : Bool) (t : Trool) (l : List (Option Trool)) :
    ShadowingAuto b (some t :: l) ↔ t = .maybe ∧ ∃ c, firstOnOff l = some c ∧ c ≠ b := by
  constructor
  · rintro ⟨pre, post, c, h, hp, hf⟩
    cases pre with
    | nil => cases h; exact ⟨rfl, c, hf⟩
    | cons p pre' => cases (List.cons.inj h).1 ▸ hp p (List.mem_cons_self ..)
  · rintro ⟨rfl, c, hf⟩
    exact ⟨[], l, c, rfl, fun _ h => absurd h List.not_mem_nil, hf⟩

theorem noShadowingAuto_false_iff (b : Bool) (levels : List (Option Trool)) :
    noShadowingAuto b levels = false ↔ ShadowingAuto b levels := by
  induction levels with
  | nil => simp [noShadowingAuto, shadowing_nil]
  | cons x rest ih =>
    cases x with
    | none => rw [shadowing_none, ← ih]; rfl
    | some t =>
      rw [shadowing_some]
      cases t with
      | yes => simp [noShadowingAuto]
      | no => simp [noShadowingAuto]
      | maybe =>
        simp only [noShadowingAuto, Bool.or_eq_false_iff, beq_eq_false_iff_ne, ne_eq, true_and]
        cases firstOnOff rest with
        | none => simp
        | some c => simp

/-- on the level readings the rule the code follows and the
    four-level rule of the statement give different answers iff the tag itself does not decide and
    `ShadowingAuto` holds — an inner `auto` above an outer on/off that differs from the default -/
theorem code_ne_doc_iff (b : Bool) (t : Trool) (levels : List (Option Trool)) :
    codeRuleL b t levels ≠ resolve b t levels ↔ t = .maybe ∧ ShadowingAuto b levels := by
  rw [codeRuleL_eq, ← noShadowingAuto_false_iff]
  cases t with
  | yes => simp [resolve]
  | no => simp [resolve]
  | maybe => simp only [resolve, ne_eq, Prod.mk.injEq, and_true, true_and, codeResolve_rule_iff, Bool.not_eq_true]

/-- the iff at the level of `_pop_toggle`: after any history with option-valued settings, the code
    returns the decision of the STATEMENT'S rule iff not (tag silent ∧ ShadowingAuto) -/
theorem toggle_doc_iff (T : Tables) (R : RenderCfg) (markup : Str) (settings : List (Str × CVal))
    (g0 : Gen) (hinit : Gen.init T markup settings = .ok g0) (ops : List Op)
    (key : Str) (b : Bool) (hdef : optionDefaultOK T key b = true) (attrs : Attrs)
    (htv : troolValued T (runS T R g0 (initHist settings) ops).2 key = true) :
    popToggle T key attrs (runGen T R g0 ops).ctx =
      .ok (Dict.erase attrs key,
           resolve b (T.parseTrool ((Dict.get? attrs key).getD .maybe))
             (levelTrools T (runS T R g0 (initHist settings) ops).2 key))
    ↔ ¬ (T.parseTrool ((Dict.get? attrs key).getD .maybe) = .maybe ∧
         ShadowingAuto b (levelTrools T (runS T R g0 (initHist settings) ops).2 key)) := by
  rw [toggle_resolution_code T R markup settings g0 hinit ops key b hdef attrs htv, ← code_ne_doc_iff]
  simp only [Except.ok.injEq, Prod.mk.injEq, true_and, ne_eq, Decidable.not_not]

/-- After any history `ops` on a freshly constructed generator, for any
    of the six options (`hdef`: its built-in default is `b`), any attribute dict of a tag call:
    `_pop_toggle` returns the attributes without the option and exactly the decision of the
    four-level rule — provided every value given for the option is an option value and no level
    says `auto` while an outer level says on/off. -/
theorem toggle_resolution (T : Tables) (R : RenderCfg) (markup : Str) (settings : List (Str × CVal))
    (g0 : Gen) (hinit : Gen.init T markup settings = .ok g0) (ops : List Op)
    (key : Str) (b : Bool) (hdef : optionDefaultOK T key b = true) (attrs : Attrs)
    (htv : troolValued T (runS T R g0 (initHist settings) ops).2 key = true)
    (hns : noShadowingAuto b (levelTrools T (runS T R g0 (initHist settings) ops).2 key) = true) :
    popToggle T key attrs (runGen T R g0 ops).ctx =
      .ok (Dict.erase attrs key,
           resolve b (T.parseTrool ((Dict.get? attrs key).getD .maybe))
             (levelTrools T (runS T R g0 (initHist settings) ops).2 key)) := by
  rw [toggle_doc_iff T R markup settings g0 hinit ops key b hdef attrs htv]
  rintro ⟨_, hs⟩
  rw [← noShadowingAuto_false_iff, hns] at hs
  exact absurd hs (by simp)

theorem toggle_resolution_doc (T : Tables) (R : RenderCfg) (markup : Str) (settings : List (Str × CVal))
    (g0 : Gen) (hinit : Gen.init T markup settings = .ok g0) (ops : List Op)
    (key : Str) (b : Bool) (hdef : optionDefaultOK T key b = true) (attrs : Attrs)
    (htv : troolValued T (runS T R g0 (initHist settings) ops).2 key = true)
    (hns : noShadowingAuto b (levelTrools T (runS T R g0 (initHist settings) ops).2 key) = true) :
    popToggle T key attrs (runGen T R g0 ops).ctx =
      .ok (Dict.erase attrs key,
           resolve b (T.parseTrool ((Dict.get? attrs key).getD .maybe))
             (levelTrools T (runS T R g0 (initHist settings) ops).2 key)) :=
  toggle_resolution T R markup settings g0 hinit ops key b hdef attrs htv hns

/-- the documented witness is a shadowing history: `[auto, off]` with built-in default on -/
theorem kf_shadowing : ShadowingAuto true (levelTrools Tables.current
    (runS Tables.current RenderCfg.current kfGen (initHist kfSettings) kfOps).2 "auto_name".toList) :=
  ⟨[], [some .no], false, by decide +kernel, by simp, by decide +kernel, by decide +kernel⟩

/-- `C19_Full` refuted through `toggle_doc_iff`: the documented witness is a shadowing history -/
theorem C19_full_fails_of_iff : ¬ C19_Full := by
  intro hfull
  have h := hfull "xhtml".toList kfSettings kfGen kfGen_init kfOps "auto_name".toList true (by decide +kernel) []
    (by decide +kernel)
  rw [toggle_doc_iff Tables.current RenderCfg.current "xhtml".toList kfSettings kfGen kfGen_init kfOps
    "auto_name".toList true (by decide +kernel) [] (by decide +kernel)] at h
  exact h ⟨by decide +kernel, kf_shadowing⟩

/-- an int stored for an option: the exact rule says AttributeError … -/
example : codeRule Tables.current true .maybe (some (.int 5)) = .error .attributeError := by decide +kernel
/-- … unless the tag decides by itself -/
example : codeRule Tables.current true .no (some (.int 5)) = .ok (false, false) := by decide +kernel
/-- last explicit assignment: generator `off`, block `on`, then `set(auto)` in the block → default -/
example : lastExplicit [⟨[("k".toList, .bool true), ("k".toList, .maybe)]⟩, ⟨[("k".toList, .bool false)]⟩] "k".toList
    = some .maybe := by decide +kernel
example : assignments [⟨[("k".toList, .bool true), ("k".toList, .maybe)]⟩, ⟨[("k".toList, .bool false)]⟩] "k".toList
    = [.bool false, .bool true, .maybe] := by decide +kernel
example : codeRuleL true .maybe [some .maybe, some .no] = (true, false) := by decide +kernel
example : resolve true .maybe [some .maybe, some .no] = (false, false) := by decide +kernel
/-- an inner auto above an outer on/off that EQUALS the default is not a difference -/
example : ¬ ShadowingAuto true [some .maybe, some .yes] := by
  rw [← noShadowingAuto_false_iff]; decide +kernel

end Flatland.C19.Proofs
