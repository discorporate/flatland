/-
C09 — positional: slot `i` of a List is named `i` after every list-protocol call (successful or
raising, any member schema), so flat names and `find('<i>')` address member `i`.
-/
import Proofs.C09
import Proofs.Lemmas.TreeBuild
namespace Flatland.C09.Proofs
open Flatland.Tree Flatland.PyList Flatland.C09 Flatland.C09.Spec
open Flatland.C08.Proofs (Appends SeqShape seqStep_shape seqFin)

theorem positional_renumber (n : Node) (ks : List Node) : Positional (n.withKids (renumber ks)) := by
  intro _
  simp [slotNames, map_key_renumber]

def WellNumbered (ks : List Node) : Prop :=
  ks.map Node.key = (List.range ks.length).map (fun k => (toString k).toList)

theorem wn_nil : WellNumbered [] := rfl

theorem wn_renumber (ks : List Node) : WellNumbered (renumber ks) := by
  unfold WellNumbered; rw [map_key_renumber, length_renumber]

theorem wn_append {ks : List Node} (h : WellNumbered ks) (id lst : Nat) (w : Node) :
    WellNumbered (ks ++ [mkSlot id lst ks.length w]) := by
  unfold WellNumbered at *
  simp [List.range_succ, h, mkSlot, Node.key, Node.ni]

theorem wn_set {ks : List Node} (h : WellNumbered ks) (k : Nat) (slot : Node) (hk : ks[k]? = some slot)
    (x : List Node) : WellNumbered (ks.set k (slot.withKids x)) := by
  unfold WellNumbered at *
  rw [List.map_set, List.length_set, ← h]
  have : (slot.withKids x).key = slot.key := by cases slot; rfl
  rw [this]
  apply List.ext_getElem?
  intro j
  by_cases hj : k = j
  · subst hj
    by_cases hlt : k < ks.length
    · have hg := List.getElem?_eq_getElem hlt
      rw [hg] at hk; cases hk
      simp [hlt]
    · simp [hlt]
  · simp [hj]

theorem wn_appendEl (n : Node) (hl : n.kind = .list) (h : WellNumbered n.kids) (w : Node) (next : Nat) :
    WellNumbered (appendEl n w next).1.kids ∧ (appendEl n w next).1.kind = .list := by
  unfold appendEl
  simp only [hl, if_true, kids_withKids]
  exact ⟨wn_append h _ _ _, by cases n; exact hl⟩

theorem appends_wn {m : Schema} {n n' : Node} {k k' : Nat} {used : List Arg} (h : Appends m n k used n' k')
    (hl : n.kind = .list) (hw : WellNumbered n.kids) : WellNumbered n'.kids := by
  induction h with
  | done => exact hw
  | bump a _ ih => exact ih hl hw
  | step _ _ ih => exact ih (wn_appendEl _ hl hw _ _).2 (wn_appendEl _ hl hw _ _).1

theorem wn_defaultSlots (mk : Nat → SetR) (lst : Nat) (k idx next : Nat) :
    (defaultSlotsWith mk lst k idx next).1.map Node.key =
      (List.range' idx (defaultSlotsWith mk lst k idx next).1.length).map (fun j => (toString j).toList) := by
  induction k generalizing idx next with
  | zero => rfl
  | succ k ih =>
    rw [defaultSlotsWith]
    dsimp only
    split
    · simp [mkSlot, Node.key, Node.ni]
    · simp only [List.map_cons, List.length_cons, List.range'_succ, ih]
      simp [mkSlot, Node.key, Node.ni]

theorem wn_defaultSlotsWith (mk : Nat → SetR) (lst : Nat) (k next : Nat) :
    WellNumbered (defaultSlotsWith mk lst k 0 next).1 := by
  unfold WellNumbered
  rw [wn_defaultSlots, List.range_eq_range']

theorem wnElem : ElemInv (fun n => n.kind = .list → WellNumbered n.kids) where
  scalar _ _ h := h
  leaf _ _ _ := wn_nil
  append := fun {n w} next _ hn _ hl => by
    have hk : (appendEl n w next).1.kind = n.kind := kind_of_hdr (appendEl_hdr n w next)
    exact (wn_appendEl n (hk ▸ hl) (hn (hk ▸ hl)) w next).1
  fields hk _ hl := (not_seq_of_map hk (.inl hl)).elim
  dictDefault := fun {i s ks} _ hk _ _ hl => by
    have : s.kind = .list := hl
    rw [hk] at this; cases this
  withParent := fun {x} p h hl => by cases x; exact h hl
  slots mk k next _ _ _ _ := wn_defaultSlotsWith mk _ k next

theorem wn_setNode (n : Node) (hl : n.kind = .list) (raw : Raw) (pol : Option Policy) (next : Nat) :
    WellNumbered (setNode n raw pol next).node.kids := by
  cases n with
  | mk i s kids =>
    -- `Sequence.set` starts with `del self[:]`: the call does not look at the items
    rw [setNode_seq i s kids raw pol next (.inl hl), ← setNode_seq i s [] raw pol next (.inl hl)]
    exact wnElem.setNode raw _ pol next (fun _ => wn_nil) (by rw [kind_of_hdr (setNode_hdr _ raw pol next)]; exact hl)

theorem wn_setDefault (n : Node) (hl : n.kind = .list) (h : WellNumbered n.kids) (next : Nat) :
    WellNumbered (setDefault n next).node.kids :=
  wnElem.setDefault n next (fun _ => h) (by rw [kind_of_hdr (setDefault_hdr n next)]; exact hl)

theorem seqShape_positional {n : Node} {next : Nat} {op : SeqOp} {r : StepR} (h : SeqShape n next op r)
    (hl : n.kind = .list) (hw : WellNumbered n.kids) : WellNumbered r.node.kids := by
  cases h with
  | keep => exact hw
  | place | drop => subst_vars; rw [kids_withKids, seqFin, if_pos hl]; exact wn_renumber _
  | grow _ hch => exact appends_wn hch hl hw
  | slotElem _ _ hk => rw [kids_withKids]; exact wn_set hw _ _ hk _
  | slotSet _ _ _ hk => rw [kids_withKids]; exact wn_set hw _ _ hk _
  | set => exact wn_setNode n hl _ _ _
  | setDefault => exact wn_setDefault n hl hw _

/-- C09, the clause `positional`: a List whose slots are named by their positions keeps them so under
    every call, successful or raising. -/
theorem positional_step (n : Node) (hl : n.kind = .list) (h : WellNumbered n.kids) (op : SeqOp) (next : Nat) :
    WellNumbered (seqStep n op next).node.kids :=
  seqShape_positional (seqStep_shape n op next) hl h

end Flatland.C09.Proofs
