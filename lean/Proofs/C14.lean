/-
C14 — path expressions select what the documented path syntax denotes.

Model A = Flatland/Path.lean, spec B = Flatland/Spec/C14.lean.  `Uni strict ops` /
`UniSteps strict steps` = the evaluation can raise one kind of error only: no slice step written as 0
(only LookupError), or non-strict lookups (only ValueError).  With strict lookups AND a zero step,
which error is met first depends on the order of evaluation; the theorems with `Uni` leave that case
out, the `_gen` ones state the precedence the code has (`denOrd` on op lists, `denoteR` on the AST); the
theorems with `Uni` are their corollaries (`denOrd_forget_of_uni`, `denoteR_forget_of_uni`) — all but
`denOps_compile`, where spec B's step-by-step `denote` meets the depth-first readings: that is the bind
law of `flatMapM`, which holds only where all errors are the same, and `denoteR_forget_of_uni` rests on it.

Trusted, not proved: that `scan` is `_tokenize_re.findall` and `pyInt`/`pySlice` are Python's
`int()`/slicing (pinned regex text, generated Unicode tables, correspondence on every run incl.
the exhaustive enumeration of all strings of length <= 4/5 over the path alphabet).
-/
import Flatland.Path
import Flatland.Spec.C14
import Proofs.Lemmas.C14Work
import Proofs.Lemmas.C14Compile
import Proofs.Lemmas.C14Canon
import Proofs.Lemmas.C14Print
import Proofs.Lemmas.C14Tok
import Proofs.Lemmas.C14Order
namespace Flatland.C14.Proofs
open Flatland.Path Flatland.C14.Spec Flatland.Path.Lemmas

/-- **evaluator = denotation with explicit error precedence**, every op list, strict or not, zero
    slice steps or not: the FIFO work list computes the depth-first reading; when several steps of
    the evaluation fail, the error raised is the one at the smallest slice depth, and among those
    the first in sequence order (`denOrd`). -/
theorem evalOps_denotes_gen (root : Node) (strict : Bool) (ops : List Op) (el : Pos) :
    evalOps root strict ops el = (denOrd root strict ops 0 el).forget := by
  have := work_level_gen root strict ops 0 [el]
  rw [flatMapR_singleton] at this
  exact this

theorem denOrd_forget_of_uni (root : Node) (strict : Bool) (ops : List Op) (el : Pos)
    (hz : Uni strict ops) :
    (denOrd root strict ops 0 el).forget = denOps root strict ops el :=
  denOrd_forget_of_uni' root strict ops hz 0 el

theorem evalOps_denotes (root : Node) (strict : Bool) (ops : List Op) (el : Pos)
    (hz : Uni strict ops) :
    evalOps root strict ops el = denOps root strict ops el := by
  rw [evalOps_denotes_gen, denOrd_forget_of_uni root strict ops el hz]

/-- `[:][:]` on a list of two lists: document order, level by level -/
example : (match evalOps (.mk .list (some []) [] [.mk .list (some []) [] [.mk .scalar (some []) [] [], .mk .scalar (some []) [] []], .mk .list (some []) [] [.mk .scalar (some []) [] []]])
      true [.slice none none none, .slice none none none] [] with
    | .ok l => l == [[0, 0], [0, 1], [1, 0]]
    | .error _ => false) = true := by
  rw [evalOps_denotes _ _ _ _ (Or.inl (by decide))]
  decide

theorem evalOps_denotes_cor (root : Node) (strict : Bool) (ops : List Op) (el : Pos)
    (hz : Uni strict ops) :
    evalOps root strict ops el = denOps root strict ops el :=
  evalOps_denotes root strict ops el hz

/-- the witness that the precedence matters, and that it is by depth first: a Dict whose first field
    `x` is a Dict holding the List `a` and whose second field `y` is an empty Dict; `[:]/a` … on it -/
def mixedTree : Node :=
  .mk .map (some []) [] [.mk .map (some ['x']) ['x'] [.mk .list (some ['a']) ['a'] [.mk .scalar (some []) [] []]],
                  .mk .map (some ['y']) ['y'] []]

/-- `[:]/a[::0]` strict: the lookup of `a` fails below `y` (second in sequence order, depth 1), the
    zero step is reached below `x/a` (first in sequence order, depth 1 too): ValueError, the earlier
    one.  A step-by-step reading over the whole selection (`denote`) would meet the LookupError first. -/
example : evalOps mixedTree true [.slice none none none, .name (some ['a']), .slice none none (some 0)] []
    = .error .value := by
  rw [evalOps_denotes_gen]; decide

/-- a zero step one level down: in `[:]/a[:][::0]` with a failing `a` below `y`, the
    LookupError (depth 1) beats the ValueError (depth 2) although it comes later in sequence order -/
example : evalOps mixedTree true
    [.slice none none none, .name (some ['a']), .slice none none none, .slice none none (some 0)] []
    = .error .lookup := by
  rw [evalOps_denotes_gen]; decide

/-- the plain depth-first reading `denOps` would say ValueError there (first in sequence order) — the
    reason `evalOps_denotes` needs `Uni` and `evalOps_denotes_gen` needs `denOrd` -/
example : denOps mixedTree true
    [.slice none none none, .name (some ['a']), .slice none none none, .slice none none (some 0)] []
    = .error .value := by decide

/-- the outcome of `find` given the evaluation result -/
def findResOf (single strict : Bool) (r : Except Err (List Pos)) : FindRes :=
  match r with
  | .error e => .err e
  | .ok res => if single then singleOf strict (.ok res) else .many res

theorem find_error (root : Node) (start : Pos) (path : Str) (single strict : Bool) (e : Err)
    (ht : tokenize path = .error e) : find root start path single strict = .err e := by
  unfold find; rw [ht]

theorem find_eq (root : Node) (start : Pos) (path : Str) (single strict : Bool) (ops : List Op)
    (ht : tokenize path = .ok ops) :
    find root start path single strict = findResOf single strict (evalOps root strict ops start) := by
  unfold find
  rw [ht]
  dsimp only
  cases evalOps root strict ops start with
  | error e => rfl
  | ok res =>
    cases single with
    | false => rfl
    | true =>
      match res with
      | [] => rfl
      | [p] => rfl
      | p :: q :: r => rfl

/-- **`find` = the documented reading of the compiled path**, for every string that compiles, every
    tree, start and `single` — whenever the evaluation can raise only one kind of error (`Uni`: no
    slice step written as zero, or non-strict lookups) -/
theorem find_denotes (root : Node) (start : Pos) (path : Str) (single strict : Bool) (ops : List Op)
    (ht : tokenize path = .ok ops) (hu : Uni strict ops) :
    find root start path single strict = findResOf single strict (denOps root strict ops start) := by
  rw [find_eq _ _ _ _ _ _ ht, evalOps_denotes root strict ops start hu]

/-- **`find` = the `single` table of the ordered reading of the compiled path**: every string that
    compiles, every tree, start, `single`, `strict` — no hypothesis on zero steps -/
theorem find_denotes_gen (root : Node) (start : Pos) (path : Str) (single strict : Bool) (ops : List Op)
    (ht : tokenize path = .ok ops) :
    find root start path single strict
      = findResOf single strict (denOrd root strict ops 0 start).forget := by
  rw [find_eq _ _ _ _ _ _ ht, evalOps_denotes_gen root strict ops start]

/-- the `single=True` table (sole match, `None` for none, `LookupError` for several when strict,
    else the first) — by construction: it restates the `match` in the model's `find`, composed
    with `find_denotes` -/
theorem single_spec (root : Node) (start : Pos) (path : Str) (strict : Bool) (ops : List Op)
    (ht : tokenize path = .ok ops) (hu : Uni strict ops) :
    find root start path true strict =
      match denOps root strict ops start with
      | .error e => .err e
      | .ok [] => .one none
      | .ok [p] => .one (some p)
      | .ok (p :: _ :: _) => if strict then .err .lookup else .one (some p) := by
  rw [find_denotes _ _ _ _ _ _ ht hu]
  simp only [findResOf]
  cases denOps root strict ops start with
  | error e => rfl
  | ok res =>
    match res with
    | [] => rfl
    | [p] => rfl
    | p :: q :: r => rfl

/-- `[:]` with `single=True, strict=True` on a Dict with two fields raises -/
example : (match findResOf true true (denOps (.mk .map (some []) [] [.mk .scalar (some ['a']) ['a'] [], .mk .scalar (some ['b']) ['b'] []]) true
      [.slice none none none] []) with
    | .err .lookup => true
    | _ => false) = true := by decide

theorem stepDen_onlyErr (root : Node) (strict : Bool) (s : Step) (hs : s.wf = true ∨ strict = false)
    (el : Pos) : OnlyErr (errOf strict) (stepDen root strict s el) := by
  intro e h
  -- an error of a step is an error of its compiled op
  refine denOps_onlyErr root strict [compileStep s] (hs.imp (fun h => ?_) id) el e ?_
  · exact (Bool.and_eq_true _ _).mpr ⟨compileStep_stepOk s h, rfl⟩
  · rw [denOps_step, h]; rfl

/-- the steps raise one kind of error only: none is written with stride 0, or lookups are non-strict -/
def UniSteps (strict : Bool) (steps : List Step) : Prop := steps.all Step.wf = true ∨ strict = false

theorem uni_compile_steps (strict : Bool) (steps : List Step) (h : UniSteps strict steps) :
    Uni strict (steps.map compileStep) := h.imp (compile_noZero steps) id

/-- depth-first on the compiled steps = spec B's step-by-step reading over the whole selection -/
theorem denOps_steps (root : Node) (strict : Bool) :
    ∀ (steps : List Step), UniSteps strict steps → ∀ cur : List Pos,
      flatMapM (denOps root strict (steps.map compileStep)) cur = denoteSteps root strict steps cur
  | [], _, cur => flatMapM_pure cur
  | s :: r, hwf, cur => by
    have hs : s.wf = true ∨ strict = false := hwf.imp (fun h => ((Bool.and_eq_true _ _).mp h).1) id
    have hr : UniSteps strict r := hwf.imp (fun h => ((Bool.and_eq_true _ _).mp h).2) id
    have hfun : denOps root strict ((s :: r).map compileStep)
        = fun el => andThen (stepDen root strict s el) (flatMapM (denOps root strict (r.map compileStep))) :=
      funext (fun el => denOps_step root strict s _ el)
    rw [hfun, flatMapM_bind _ _ (stepDen_onlyErr root strict s hs)
      (denOps_onlyErr root strict _ (uni_compile_steps strict r hr))]
    simp only [denoteSteps]
    cases flatMapM (stepDen root strict s) cur with
    | error e => rfl
    | ok next => exact denOps_steps root strict r hr next

/-- **compiled AST = denotation**, for every AST that raises one kind of error only (no `Canon` needed) -/
theorem denOps_compile (root : Node) (strict : Bool) (p : Spec.Path) (hwf : UniSteps strict p.steps)
    (el : Pos) :
    denOps root strict (compile p) el = denote p root el strict := by
  unfold compile denote
  rw [← denOps_steps root strict p.steps hwf, flatMapM_singleton]
  cases p.top <;> rfl

theorem uni_compile (strict : Bool) (p : Spec.Path) (h : UniSteps strict p.steps) : Uni strict (compile p) := by
  refine h.imp (fun h => ?_) id
  have := compile_noZero p.steps h
  unfold compile
  cases p.top
  · exact this
  · exact this

theorem uniSteps_cancel (strict : Bool) (p : Spec.Path) (h : UniSteps strict p.steps) :
    UniSteps strict (cancel p).steps := h.imp (cancel_wf p) id

theorem canonicalize_sound (root : Node) (strict : Bool) (p : Spec.Path) (hc : Canon p = true) (el : Pos) :
    denOps root strict (canonicalize (compile p)) el = denOps root strict (compile p) el :=
  congrFun ((denOps_reading root strict).canonicalize_canon p hc) el

theorem canonicalize_soundR (root : Node) (strict : Bool) (p : Spec.Path) (hc : Canon p = true) (d : Nat) (el : Pos) :
    denOrd root strict (canonicalize (compile p)) d el = denOrd root strict (compile p) d el :=
  congrFun (congrFun ((denOrd_reading root strict).canonicalize_canon p hc) el) d

/-- what the code evaluates is the cancelled path -/
theorem denOrd_canonicalize (root : Node) (strict : Bool) (p : Spec.Path) (d : Nat) (el : Pos) :
    denOrd root strict (canonicalize (compile p)) d el = denOrd root strict (compile (cancel p)) d el :=
  congrFun (congrFun ((denOrd_reading root strict).canonicalize p) el) d

theorem denoteStepsR_compile (root : Node) (strict : Bool) : ∀ (steps : List Step) (d : Nat) (el : Pos),
    denOrd root strict (steps.map compileStep) d el = denoteStepsR root strict steps d el
  | [], d, el => by simp [denOrd, denoteStepsR]
  | s :: r, d, el => by
    rw [List.map_cons, denOrd_step, stepThen, denoteStepsR]
    have : ∀ d', denOrd root strict (r.map compileStep) d' = denoteStepsR root strict r d' :=
      fun d' => funext (denoteStepsR_compile root strict r d')
    cases stepDen root strict s el with
    | error e => rfl
    | ok next => simp only [this]

/-- **compiled AST = ranked denotation** (`denOps_compile` without `UniSteps`) -/
theorem denoteR_compile (root : Node) (strict : Bool) (p : Spec.Path) (el : Pos) :
    denOrd root strict (compile p) 0 el = denoteR p root el strict := by
  unfold compile denoteR
  rw [← denoteStepsR_compile]
  cases p.top with
  | true => simp [denOrd]
  | false => simp

theorem denoteR_forget_of_uni (root : Node) (strict : Bool) (p : Spec.Path)
    (hwf : UniSteps strict p.steps) (el : Pos) :
    (denoteR p root el strict).forget = denote p root el strict := by
  rw [← denoteR_compile, denOrd_forget_of_uni _ _ _ _ (uni_compile strict p hwf), denOps_compile _ _ _ hwf]

/-- **evaluator ∘ canonicalize ∘ compile = ranked denotation** on the Canon domain, with no hypothesis
    on the errors: also WHICH exception is raised -/
theorem eval_denotes_gen (root : Node) (strict : Bool) (p : Spec.Path) (hc : Canon p = true) (el : Pos) :
    evalOps root strict (canonicalize (compile p)) el = (denoteR p root el strict).forget := by
  rw [evalOps_denotes_gen, canonicalize_soundR _ _ _ hc, denoteR_compile]

theorem eval_denotes_raw_gen (root : Node) (strict : Bool) (p : Spec.Path) (el : Pos) :
    evalOps root strict (compile p) el = (denoteR p root el strict).forget := by
  rw [evalOps_denotes_gen, denoteR_compile]

/-- **evaluator ∘ canonicalize ∘ compile = denotation** on the Canon domain (for paths that can
    raise one kind of error only: no step written with stride 0, or non-strict lookups) -/
theorem eval_denotes (root : Node) (strict : Bool) (p : Spec.Path)
    (hwf : UniSteps strict p.steps) (hc : Canon p = true) (el : Pos) :
    evalOps root strict (canonicalize (compile p)) el = denote p root el strict := by
  rw [eval_denotes_gen _ _ _ hc, denoteR_forget_of_uni _ _ _ hwf]

/-- the same without `_canonicalize` (paths without `.`/`..` are not canonicalised), no `Canon` needed -/
theorem eval_denotes_raw (root : Node) (strict : Bool) (p : Spec.Path)
    (hwf : UniSteps strict p.steps) (el : Pos) :
    evalOps root strict (compile p) el = denote p root el strict := by
  rw [eval_denotes_raw_gen, denoteR_forget_of_uni _ _ _ hwf]

/-- non-vacuity: `../l[1:]/x` is Canon and well-formed -/
example : Canon ⟨false, [.up, .name ['l'], .slice (some 1) none none, .name ['x']]⟩ = true ∧
    ([Step.up, .name ['l'], .slice (some 1) none none, .name ['x']].all Step.wf) = true := by decide

/-- the property without the `Canon` restriction -/
def C14_Full : Prop :=
  ∀ (root : Node) (strict : Bool) (p : Spec.Path) (el : Pos), p.steps.all Step.wf = true →
    evalOps root strict (canonicalize (compile p)) el = denote p root el strict

/-- KF-C14-a: `nosuch/..`, strict, on a Dict without such a field: the documented reading raises
    LookupError, the code (which cancels `nosuch/..` first) returns the start element -/
theorem C14_full_fails : ¬ C14_Full := by
  intro h
  have := h (.mk .map (some []) [] [.mk .scalar (some ['a']) ['a'] []]) true ⟨false, [.name ['n'], .up]⟩ [] (by decide)
  rw [evalOps_denotes _ _ _ _ (Or.inl (by decide))] at this
  have h1 : denOps (.mk .map (some []) [] [.mk .scalar (some ['a']) ['a'] []]) true
      (canonicalize (compile ⟨false, [.name ['n'], .up]⟩)) [] = .ok [[]] := by decide
  have h2 : denote ⟨false, [.name ['n'], .up]⟩ (.mk .map (some []) [] [.mk .scalar (some ['a']) ['a'] []]) [] true
      = .error .lookup := by decide
  rw [h1, h2] at this
  cases this

/-- every path: the evaluator on the canonicalised compiled path = the ranked denotation of the
    cancelled path, with no hypothesis on the errors -/
theorem eval_cancel_denotes_gen (root : Node) (strict : Bool) (p : Spec.Path) (el : Pos) :
    evalOps root strict (canonicalize (compile p)) el = (denoteR (cancel p) root el strict).forget := by
  rw [evalOps_denotes_gen, denOrd_canonicalize, denoteR_compile]

/-- **C14 for every path, with the code's actual reading**: the evaluator on the
    canonicalised compiled path = spec B's denotation of the cancelled path.  On the Canon domain
    this is the reading of the path itself (`eval_denotes`); outside it is KF-C14-a. -/
theorem eval_cancel_denotes (root : Node) (strict : Bool) (p : Spec.Path)
    (hwf : UniSteps strict p.steps) (el : Pos) :
    evalOps root strict (canonicalize (compile p)) el = denote (cancel p) root el strict := by
  rw [eval_cancel_denotes_gen, denoteR_forget_of_uni _ _ _ (uniSteps_cancel strict p hwf)]

theorem denoteR_cancel_canon (root : Node) (strict : Bool) (p : Spec.Path) (hc : Canon p = true) (el : Pos) :
    denoteR (cancel p) root el strict = denoteR p root el strict := by
  rw [← denoteR_compile, ← denoteR_compile]
  exact congrFun (congrFun ((denOrd_reading root strict).cancel_canon p hc) el) 0

/-- **tokenizer ∘ printer, whole concrete syntax**: every well-formed concrete path — leading and
    trailing slash, `..`/`.` anywhere, names with minimal or full escaping, `[n]` or `/n`,
    `[-n]`, `[a:b]`, `[a:b:c]` with any omitted bounds, bracket steps attached directly or with a
    slash — whose integers stay within `int()`'s digit limit tokenizes to its compiled op list,
    canonicalised exactly when it contains `.` or `..`. -/
theorem tokenize_print (p : CPath) (hwf : p.wf = true) (hfit : ∀ c ∈ p.steps, StepFits c.step) :
    tokenize (print p) = .ok
      (if p.steps.any (fun c => c.step.isUp || c.step.isHere) then canonicalize (compile p.abstract)
       else compile p.abstract) := by
  have hdots : p.steps.all (fun c => c.step.down) = !p.steps.any (fun c => c.step.isUp || c.step.isHere) := by
    simp only [down_eq, List.not_any_eq_all_not]
  have key : ∀ prev st, prev ≠ some '\\' → ∃ l, tokLoop st (scan prev (printSteps true p.steps ++
      (if p.trail && !p.steps.isEmpty then ['/'] else []))) =
      .ok { toks := (p.steps.map (fun c => compileStep c.step)).reverse ++ st.toks, last := l,
            canonical := st.canonical && p.steps.all (fun c => c.step.down) } := fun prev st hp =>
    read_steps _ p.steps true prev st ((wfSteps_trail p.trail p.steps).trans hwf) hfit (fun _ => hp) nofun
      (fun _ h => by rw [h]; exact Bool.and_false _)
  unfold tokenize print
  rw [List.append_assoc, compile_abstract]
  cases p.top with
  | false =>
    obtain ⟨l, h⟩ := key none {} nofun
    rw [if_neg Bool.false_ne_true, List.nil_append, h, hdots]
    simp only [Bool.true_and, List.reverse_reverse, List.append_nil]
    cases p.steps.any (fun c => c.step.isUp || c.step.isHere) <;> rfl
  | true =>
    obtain ⟨l, h⟩ := key (some '/') { toks := [.top], last := some ['/'] } (by decide)
    rw [if_pos rfl, List.singleton_append, scan_slash none _ nofun, tokLoop, tokStep_slash_first {} rfl]
    simp only [h, hdots]
    simp only [Bool.true_and, List.reverse_append, List.reverse_reverse, List.reverse_cons, List.reverse_nil,
      List.nil_append, List.singleton_append]
    cases p.steps.any (fun c => c.step.isUp || c.step.isHere) <;> rfl

theorem canon_of_noDots : ∀ (steps : List Step) (seen : Bool),
    steps.any (fun s => s.isUp || s.isHere) = false → canonFrom seen steps = true
  | [], _, _ => rfl
  | .up :: _, _, h => Bool.noConfusion h
  | .here :: _, _, h => Bool.noConfusion h
  | .name _ :: r, _, h => canon_of_noDots r true h
  | .negidx _ :: r, _, h => canon_of_noDots r true h
  | .slice _ _ _ :: r, _, h => canon_of_noDots r true h

/-- every reading of the op list a printed path tokenizes to is that of the compiled cancelled path -/
theorem reading_printed {α : Type} {D : List Op → Pos → α} (hD : Reading D) (p : CPath) :
    D (if p.steps.any (fun c => c.step.isUp || c.step.isHere) then canonicalize (compile p.abstract)
       else compile p.abstract) = D (compile (cancel p.abstract)) := by
  split
  · exact hD.canonicalize _
  · next hno =>
    have hno' : p.abstract.steps.any (fun s => s.isUp || s.isHere) = false := by
      rw [CPath.abstract, List.any_map]; exact Bool.eq_false_iff.mpr hno
    exact (hD.cancel_canon _ (canon_of_noDots _ false hno')).symm

theorem findResOf_forget (p : Spec.Path) (root : Node) (start : Pos) (single strict : Bool) :
    findResOf single strict (denoteR p root start strict).forget = findSpecR p root start single strict := by
  simp only [findResOf, findSpecR]
  cases (denoteR p root start strict).forget with
  | error e => cases single <;> rfl
  | ok res => cases single <;> rfl

/-- **end to end, every spellable path, every `strict`, zero steps or not** (no `Canon`, no
    `UniSteps`): `find` on the printed path = the ranked reading of the cancelled AST, including
    which exception is raised when several are reachable -/
theorem find_print_cancel_gen (root : Node) (start : Pos) (p : CPath) (single strict : Bool)
    (hwf : p.wf = true) (hfit : ∀ c ∈ p.steps, StepFits c.step) :
    find root start (print p) single strict = findSpecR (cancel p.abstract) root start single strict := by
  rw [find_denotes_gen _ _ _ _ _ _ (tokenize_print p hwf hfit),
    congrFun (congrFun (reading_printed (denOrd_reading root strict) p) start) 0,
    denoteR_compile, findResOf_forget]

/-- **end to end on the Canon domain**, no `UniSteps`: `find` on the printed path = the ranked reading
    of the AST itself -/
theorem find_print_denotes_gen (root : Node) (start : Pos) (p : CPath) (single strict : Bool)
    (hwf : p.wf = true) (hfit : ∀ c ∈ p.steps, StepFits c.step) (hc : Canon p.abstract = true) :
    find root start (print p) single strict = findSpecR p.abstract root start single strict := by
  rw [find_print_cancel_gen _ _ _ _ _ hwf hfit]
  simp only [findSpecR, denoteR_cancel_canon _ _ _ hc]

theorem findSpecR_of_uni (root : Node) (start : Pos) (p : Spec.Path) (single strict : Bool)
    (hu : UniSteps strict p.steps) :
    findSpecR p root start single strict = findSpec p root start single strict := by
  simp only [findSpecR, findSpec, denoteR_forget_of_uni _ _ _ hu]

/-- **end to end, every spellable path** (no Canon restriction): `find` on the printed path =
    spec B's reading of the *cancelled* AST — the exact content of KF-C14-a -/
theorem find_print_cancel (root : Node) (start : Pos) (p : CPath) (single strict : Bool)
    (hwf : p.wf = true) (hfit : ∀ c ∈ p.steps, StepFits c.step) (hu : UniSteps strict p.abstract.steps) :
    find root start (print p) single strict = findSpec (cancel p.abstract) root start single strict := by
  rw [find_print_cancel_gen _ _ _ _ _ hwf hfit, findSpecR_of_uni _ _ _ _ _ (uniSteps_cancel strict _ hu)]

/-- **end to end**: `find` on the printed path = spec B's reading of the AST, on the Canon domain,
    for paths that can raise one kind of error only (no step written with stride 0, or non-strict) -/
theorem find_print_denotes (root : Node) (start : Pos) (p : CPath) (single strict : Bool)
    (hwf : p.wf = true) (hfit : ∀ c ∈ p.steps, StepFits c.step) (hc : Canon p.abstract = true)
    (hu : UniSteps strict p.abstract.steps) :
    find root start (print p) single strict = findSpec p.abstract root start single strict := by
  rw [find_print_denotes_gen _ _ _ _ _ hwf hfit hc, findSpecR_of_uni _ _ _ _ _ hu]

/-- **non-strict lookups never raise**: without `strict`, every op list (without a zero
    stride) evaluates to a list -/
theorem lax_never_raises (root : Node) : ∀ (ops : List Op) (el : Pos), NoZero ops = true →
    ∃ res, denOps root false ops el = .ok res := by
  intro ops el hz
  cases h : denOps root false ops el with
  | ok res => exact ⟨res, rfl⟩
  | error e =>
    rcases denOps_error root false ops el e h with ⟨_, hs, _⟩ | ⟨_, hn⟩
    · cases hs
    · rw [hz] at hn; cases hn

/-- `find(path, strict=False)` never raises LookupError, for every path string that compiles (a zero
    stride still raises ValueError) -/
theorem find_lax_never_lookup (root : Node) (start : Pos) (path : Str) (single : Bool) (ops : List Op)
    (ht : tokenize path = .ok ops) : find root start path single false ≠ .err .lookup := by
  rw [find_denotes _ _ _ _ _ _ ht (Or.inr rfl)]
  cases hr : denOps root false ops start with
  | error e =>
    have : e = .value := denOps_onlyErr root false ops (Or.inr rfl) start e hr
    subst this
    intro h; cases h
  | ok res =>
    cases single with
    | false => intro h; cases h
    | true =>
      match res with
      | [] => intro h; cases h
      | [p] => intro h; cases h
      | p :: q :: r => intro h; cases h

/-- **when the strict lookup succeeds, the non-strict one returns the same elements** -/
theorem strict_ok_eq_lax (root : Node) : ∀ (ops : List Op) (el : Pos) (res : List Pos),
    denOps root true ops el = .ok res → denOps root false ops el = .ok res
  | [], el, res, h => h
  | .top :: r, _, res, h => strict_ok_eq_lax root r [] res h
  | .up :: r, el, res, h => strict_ok_eq_lax root r el.dropLast res h
  | .here :: r, el, res, h => strict_ok_eq_lax root r el res h
  | .name d :: r, el, res, h => by
    simp only [denOps] at h ⊢
    cases hi : indexAt root el d with
    | some i => rw [hi] at h; exact strict_ok_eq_lax root r _ res h
    | none => rw [hi] at h; simp at h
  | .slice a b c :: r, el, res, h => by
    simp only [denOps] at h ⊢
    split at h
    · simp at h
    · next hc =>
      simp only [hc, Bool.false_eq_true, if_false]
      exact flatMapM_congr_ok _ _ _ res (fun x _ y hy => strict_ok_eq_lax root r x y hy) h

def Op.notName : Op → Bool | .name _ => false | _ => true

/-- **slices, negative indexes, `..`, `.` and `/` never raise**, strict or not: an op list
    without NAME steps always evaluates to a list -/
theorem no_names_never_raises (root : Node) (strict : Bool) : ∀ (ops : List Op) (el : Pos),
    NoZero ops = true → ops.all Op.notName = true → ∃ res, denOps root strict ops el = .ok res := by
  intro ops el hz hn
  cases h : denOps root strict ops el with
  | ok res => exact ⟨res, rfl⟩
  | error e =>
    rcases denOps_error root strict ops el e h with ⟨_, _, d, hd⟩ | ⟨_, hn'⟩
    · cases List.all_eq_true.mp hn _ hd
    · rw [hz] at hn'; cases hn'

/-- **"in sequence order"**: on the Canon domain, with ascending slice strides, the selected
    elements are strictly increasing in document order — so there are no duplicates either -/
theorem denote_sorted (root : Node) (strict : Bool) (p : Spec.Path) (hc : Canon p = true)
    (hasc : p.steps.all Step.ascending = true) (el : Pos) (res : List Pos)
    (h : denote p root el strict = .ok res) :
    res.Pairwise (fun a b => posLt a b = true) := by
  -- ascending strides are not zero, so `denote` is the forgetful image of the depth-first reading
  have hu : UniSteps strict p.steps :=
    Or.inl (List.all_eq_true.2 fun s hs => wf_of_ascending (List.all_eq_true.1 hasc s hs))
  rw [← denoteR_forget_of_uni _ _ _ hu] at h
  cases hr : denoteR p root el strict with
  | err d e => rw [hr] at h; cases h
  | ok l => rw [hr] at h; cases h; exact (denoteStepsR_sorted root strict p.steps false 0 _ _ hc hasc hr).1

/-- what `find` returns on a printed `Canon` path with ascending strides is strictly increasing in
    document order (`denoteStepsR_sorted`) -/
theorem find_sorted (root : Node) (start : Pos) (p : CPath) (strict : Bool) (res : List Pos)
    (hwf : p.wf = true) (hfit : ∀ c ∈ p.steps, StepFits c.step) (hc : Canon p.abstract = true)
    (hasc : p.abstract.steps.all Step.ascending = true)
    (h : find root start (print p) false strict = .many res) :
    res.Pairwise (fun a b => posLt a b = true) := by
  rw [find_print_denotes_gen root start p false strict hwf hfit hc] at h
  simp only [findSpecR, Bool.false_eq_true, if_false] at h
  cases hd : denoteR p.abstract root start strict with
  | err d e => rw [hd] at h; cases h
  | ok l =>
    rw [hd] at h
    cases h
    exact (denoteStepsR_sorted root strict _ false 0 _ _ hc hasc hd).1

/-- `[::0]`: the concrete path the grammar's "zero step" denotes -/
def zeroStepPath : CPath := ⟨false, false, [⟨.slice none none (some (some 0)), {}⟩]⟩

theorem print_zeroStepPath : print zeroStepPath = ['[', ':', ':', '0', ']'] := by
  simp [print, zeroStepPath, printSteps, CStep.text, optIntStr, intStr, natStr_zero]

/-- `_parse_slice` keeps an explicit step 0 (`int(segs[2]) if segs[2] else 1`) — an instance of
    `tokenize_print` -/
theorem zero_stride_stays_zero :
    tokenize (print zeroStepPath) = .ok [.slice none none (some 0)] := by
  have hfit : ∀ c ∈ zeroStepPath.steps, StepFits c.step := by
    intro c hc
    simp only [zeroStepPath, List.mem_singleton] at hc
    subst hc
    exact ⟨trivial, trivial, intFits_zero⟩
  have := tokenize_print zeroStepPath (by decide) hfit
  simpa [zeroStepPath, CPath.abstract, compile, compileStep, Step.isUp, Step.isHere] using this

/-- **a step written as zero raises `ValueError` as soon as it is reached**, strict or not, exactly
    as the Python slice `a:b:0` of spec B does -/
theorem zero_step_raises (root : Node) (start : Pos) (single strict : Bool) :
    find root start (print zeroStepPath) single strict = .err .value ∧
    findSpec zeroStepPath.abstract root start single strict = .err .value := by
  constructor
  · unfold find
    rw [zero_stride_stays_zero]
    simp only [evalOps]
    rw [work_cons]
    simp [runCtx]
  · cases single <;>
      simp [findSpec, denote, denoteSteps, flatMapM, stepDen, Step.stride, zeroStepPath, CPath.abstract, singleOf]

/-- the property with a zero step in its quantifier, on the path `[::0]` -/
def C14_ZeroStep : Prop :=
  ∀ (root : Node) (start : Pos) (single strict : Bool),
    find root start (print zeroStepPath) single strict = findSpec zeroStepPath.abstract root start single strict

/-- KF-C14-b, closed by 9884fd3 -/
theorem C14_zero_step_ok : C14_ZeroStep := by
  intro root start single strict
  obtain ⟨h1, h2⟩ := zero_step_raises root start single strict
  rw [h1, h2]

/-- every spellable Canon path containing zero steps, under non-strict lookups:
    `find` = spec B, `ValueError` included (an instance of `find_print_denotes`) -/
theorem find_print_denotes_lax (root : Node) (start : Pos) (p : CPath) (single : Bool)
    (hwf : p.wf = true) (hfit : ∀ c ∈ p.steps, StepFits c.step) (hc : Canon p.abstract = true) :
    find root start (print p) single false = findSpec p.abstract root start single false :=
  find_print_denotes root start p single false hwf hfit hc (Or.inr rfl)

/-- a name step written as a segment (not as `[n]`), for a name the grammar can spell -/
def NameSeg (c : CStep) : Prop := ∃ s, c.step = .name s ∧ c.sp.bracket = false ∧ GoodName s = true

theorem wfSteps_names : ∀ cs : List CStep, (∀ c ∈ cs, NameSeg c) → wfSteps false cs = true
  | [], _ => rfl
  | [c], h => by
    obtain ⟨s, hs, _, hg⟩ := h c List.mem_cons_self
    have hne : (!s.isEmpty) = true := ((Bool.and_eq_true _ _).mp hg).1
    simp only [wfSteps, CStep.wfLast, hs, hne, Bool.false_eq_true, if_false]
  | c :: c' :: r, h => by
    obtain ⟨s, hs, _, hg⟩ := h c List.mem_cons_self
    have ih := wfSteps_names (c' :: r) (fun x hx => h x (List.mem_cons_of_mem _ hx))
    simp only [wfSteps, CStep.wf, hs, hg, ih, Bool.and_self]

/-- **tokenizer ∘ printer on name paths** (absolute or relative, any number of steps, any
    spellable names, minimal or full escaping): the op list is exactly the compiled AST —
    in particular escaped `/ [ ] .` are literal name characters and `\.`/`\.\.` are names -/
theorem tokenize_print_names (top : Bool) (cs : List CStep) (h : ∀ c ∈ cs, NameSeg c) :
    tokenize (print ⟨top, false, cs⟩) = .ok (compile (CPath.abstract ⟨top, false, cs⟩)) := by
  -- the case of `tokenize_print` without `.`/`..`: name steps are well-formed, fit, and are not dots
  have hfit : ∀ c ∈ cs, StepFits c.step := fun c hc => by
    obtain ⟨s, hs, _, _⟩ := h c hc
    rw [hs]; trivial
  have hdots : cs.any (fun c => c.step.isUp || c.step.isHere) = false := by
    rw [List.any_eq_false]
    intro c hc
    obtain ⟨s, hs, _, _⟩ := h c hc
    rw [hs]; exact Bool.false_ne_true
  rw [tokenize_print ⟨top, false, cs⟩ (wfSteps_names cs h) hfit]
  simp only [hdots, Bool.false_eq_true, if_false]

/-- non-vacuity: `/a\/b/\./x\\.y` (names `a/b`, `.`, `x\.y`) -/
example : NameSeg ⟨.name ['a', '/', 'b'], {}⟩ ∧ NameSeg ⟨.name ['.'], {}⟩ ∧
    NameSeg ⟨.name ['x', '\\', '.', 'y'], {}⟩ :=
  ⟨⟨_, rfl, rfl, by decide⟩, ⟨_, rfl, rfl, by decide⟩, ⟨_, rfl, rfl, by decide⟩⟩

end Flatland.C14.Proofs
