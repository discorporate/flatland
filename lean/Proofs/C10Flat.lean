/-
C10 on the flat route (`set_flat` / `from_flat`), over the shared flat model `Flatland/Flat.lean`: the mapping
invariant `FlatInv` (keys declared and pairwise distinct, exactly the declared names for a Dict / Compound, the
required ones present for a 'required' SparseDict, every member of the shape its field's class builds) holds of
`cls()` and is kept by `set_flat` with ANY pair list: keys that address nothing, keys that merely share a
prefix with a field name (`startswith`), `None` keys handed down by a list.
-/
import Flatland.C10Flat
import Proofs.C02
namespace Flatland.C10.Flat
open Flatland.Flat Flatland.Flat.Proofs

theorem shape_blank (f : Schema) : shapeOK f (blank f) = true := by
  cases f with
  | dict n o mode fs => cases mode <;> simp [blank, shapeOK]
  | _ => simp [blank, shapeOK]

theorem shape_ite {c : Prop} [Decidable c] {f : Schema} {a b : Elem} (ha : shapeOK f a = true) (hb : shapeOK f b = true) :
    shapeOK f (if c then a else b) = true := by
  split
  · exact ha
  · exact hb

theorem shape_setFlat (env : Env) (sep : Str) (f : Schema) (e : Elem) (ps : Pairs) (h : shapeOK f e = true) :
    shapeOK f (setFlat env sep f e ps) = true := by
  cases f with
  | leaf n o k => rw [setFlat]; split <;> first | rfl | exact h
  | dict n o mode fs => rw [setFlat]; exact shape_ite h rfl
  | compound n o k fs => rw [setFlat]; exact shape_ite h rfl
  | list n o p mx m =>
    rw [setFlat]
    dsimp only
    exact shape_ite rfl (shape_ite rfl (shape_ite rfl rfl))
  | array n o p m => rw [setFlat]; exact shape_ite rfl rfl
  | joined n o k m => rw [setFlat]; split <;> first | rfl | exact h

/-- one turn of the loop keeps the invariant: an upsert under a declared name, of the field's shape -/
theorem turn_inv (env : Env) (sep : Str) {d r : Bool} {fields : List Schema} (hn : (declared fields).Nodup)
    {f : Schema} (hf : f ∈ fields) {ms : List (Str × Elem)} (h : FlatInv d r fields ms) (accum : List (Str × Str)) :
    FlatInv d r fields (stepM env sep f ms accum) := by
  have typed : ∀ p ∈ stepM env sep f ms accum, ∃ g ∈ fields, fname g = p.1 ∧ shapeOK g p.2 = true := by
    intro p hp
    rcases mem_stepM hp with h1 | ⟨child, hc, rfl⟩
    · exact h.typed p h1
    · refine ⟨f, hf, rfl, shape_setFlat env sep f child _ ?_⟩
      rcases hc with hc | rfl
      · obtain ⟨g, hg, hgn, hgs⟩ := h.typed _ hc
        rwa [Lists.eq_of_nodup_map fname hn hg hf hgn] at hgs
      · exact shape_blank f
  rw [stepM_eq] at typed ⊢
  split
  · exact h
  · rename_i hemp
    rw [if_neg hemp] at typed
    have hfd : fname f ∈ declared fields := List.mem_map_of_mem hf
    generalize setFlat env sep f _ _ = v at typed ⊢
    have hk : ∀ x, x ∈ mkeys (Assoc.set ms (f.name.getD []) v) ↔ x = fname f ∨ x ∈ mkeys ms := fun x => Assoc.mem_keys_set
    refine ⟨fun k hk' => ((hk k).mp hk').elim (· ▸ hfd) (h.declared k), Assoc.nodup_set h.nodup _ _, fun hd => ?_,
      fun hr g hg ho => (hk _).mpr (.inr (h.required hr g hg ho)), typed⟩
    have hin : fname f ∈ mkeys ms := by rw [h.exact hd]; exact hfd
    exact (Assoc.keys_set ms _ _).trans ((if_pos hin).trans (h.exact hd))

theorem setFields_inv (env : Env) (sep : Str) {d r : Bool} {fields : List Schema} (hn : (declared fields).Nodup)
    (poss : List (Str × Str)) (fs : List Schema) (ms : List (Str × Elem)) (hsub : ∀ f ∈ fs, f ∈ fields)
    (h : FlatInv d r fields ms) : FlatInv d r fields (setFields env sep fs ms poss) :=
  setFields_ind env sep poss fs ms (fun f hf _ acc hm => turn_inv env sep hn (hsub f hf) hm acc) h

/-- `set_flat(pairs)` with any pair list keeps the mapping invariant. -/
theorem setFlat_inv (env : Env) (sep : Str) (name : Option Str) (o : Bool) (mode : DictMode) (fields : List Schema)
    (hn : (declared fields).Nodup) (ms : List (Str × Elem)) (h : FlatInv (isDense mode) (isReq mode) fields ms)
    (ps : Pairs) :
    ∃ ms', setFlat env sep (.dict name o mode fields) (.dict ms) ps = .dict ms' ∧
      FlatInv (isDense mode) (isReq mode) fields ms' := by
  rw [setFlat]
  split
  · exact ⟨ms, rfl, h⟩
  · exact ⟨_, rfl, setFields_inv env sep hn _ fields ms (fun f hf => hf) h⟩

/-- The same for a Compound (`Compound._set_flat` is `Mapping._set_flat`). -/
theorem setFlat_inv_compound (env : Env) (sep : Str) (name : Option Str) (o : Bool) (k : Nat) (fields : List Schema)
    (hn : (declared fields).Nodup) (ms : List (Str × Elem)) (h : FlatInv true false fields ms) (ps : Pairs) :
    ∃ ms', setFlat env sep (.compound name o k fields) (.dict ms) ps = .dict ms' ∧ FlatInv true false fields ms' := by
  rw [setFlat_compound]
  exact setFlat_inv env sep name o .dense fields hn ms h ps

/-- A freshly constructed Dict / SparseDict satisfies the invariant. -/
theorem blank_inv (name : Option Str) (o : Bool) (mode : DictMode) (fields : List Schema) (hn : (declared fields).Nodup) :
    ∃ ms, blank (.dict name o mode fields) = .dict ms ∧ FlatInv (isDense mode) (isReq mode) fields ms := by
  refine ⟨_, blank_dict_members name o mode fields, ?_⟩
  -- the members are blank ones under the names of the minimum fields, a sublist of the declared ones
  have hk : mkeys (blankSel (Spec.isReq mode) fields) = declared (fields.filter (Spec.isReq mode)) := by
    rw [blankSel_eq, mkeys, List.map_map]; rfl
  refine ⟨fun k hk' => ?_, ?_, fun hd => ?_, fun hr f hf ho => ?_, fun p hp => ?_⟩
  · rw [hk] at hk'
    exact (List.Sublist.map _ List.filter_sublist).subset hk'
  · rw [hk]; exact hn.sublist (List.Sublist.map _ List.filter_sublist)
  · cases mode with
    | dense => exact hk.trans (congrArg declared (List.filter_eq_self.mpr fun _ _ => rfl))
    | _ => cases hd
  · cases mode with
    | sparseReq => exact hk ▸ List.mem_map_of_mem (List.mem_filter.mpr ⟨hf, by simp [Spec.isReq, ho]⟩)
    | _ => cases hr
  · obtain ⟨f, hf, _, rfl⟩ := mem_blankSel.mp hp
    exact ⟨f, hf, rfl, shape_blank f⟩

theorem fromFlat_inv (env : Env) (sep : Str) (name : Option Str) (o : Bool) (mode : DictMode) (fields : List Schema)
    (hn : (declared fields).Nodup) (ps : List (Str × Str)) :
    ∃ ms, fromFlat env sep (.dict name o mode fields) ps = .dict ms ∧ FlatInv (isDense mode) (isReq mode) fields ms := by
  obtain ⟨ms0, hb, h0⟩ := blank_inv name o mode fields hn
  unfold fromFlat
  rw [hb]
  exact setFlat_inv env sep name o mode fields hn ms0 h0 _

theorem fromFlat_keys_declared (env : Env) (sep : Str) (name : Option Str) (o : Bool) (mode : DictMode)
    (fields : List Schema) (hn : (declared fields).Nodup) (ps : List (Str × Str)) :
    ∀ k ∈ mkeys (membersOf (fromFlat env sep (.dict name o mode fields) ps)), k ∈ declared fields := by
  obtain ⟨ms, he, h⟩ := fromFlat_inv env sep name o mode fields hn ps
  rw [he]; exact h.declared

theorem fromFlat_keys_nodup (env : Env) (sep : Str) (name : Option Str) (o : Bool) (mode : DictMode)
    (fields : List Schema) (hn : (declared fields).Nodup) (ps : List (Str × Str)) :
    (mkeys (membersOf (fromFlat env sep (.dict name o mode fields) ps))).Nodup := by
  obtain ⟨ms, he, h⟩ := fromFlat_inv env sep name o mode fields hn ps
  rw [he]; exact h.nodup

theorem fromFlat_required_present (env : Env) (sep : Str) (name : Option Str) (o : Bool)
    (fields : List Schema) (hn : (declared fields).Nodup) (ps : List (Str × Str)) :
    ∀ f ∈ fields, f.opt = false → fname f ∈ mkeys (membersOf (fromFlat env sep (.dict name o .sparseReq fields) ps)) := by
  obtain ⟨ms, he, h⟩ := fromFlat_inv env sep name o .sparseReq fields hn ps
  rw [he]; exact h.required rfl

theorem fromFlat_keys_exact (env : Env) (sep : Str) (name : Option Str) (o : Bool)
    (fields : List Schema) (hn : (declared fields).Nodup) (ps : List (Str × Str)) :
    mkeys (membersOf (fromFlat env sep (.dict name o .dense fields) ps)) = declared fields := by
  obtain ⟨ms, he, h⟩ := fromFlat_inv env sep name o .dense fields hn ps
  rw [he]; exact h.exact rfl

def exEnv : Env := { norm := fun _ t => t, compose := fun _ _ => [], joinedMembers := fun _ _ => [], ndZeros := [48], maxDigits := 4300 }
def exFields : List Schema := [.leaf (some ['a']) false 0, .leaf (some ['a', 'b']) true 0]

/-- `SparseDict.of(a, ab).using(minimum_fields='required').named('m').from_flat([('m_abz','1'), ('m_zz','2'), ('q_a','3')])`:
    'abz' starts with both field names — both members are materialised; 'zz' and 'q_a' add nothing -/
example : mkeys (membersOf (fromFlat exEnv ['_'] (.dict (some ['m']) false .sparseReq exFields)
    [(['m', '_', 'a', 'b', 'z'], ['1']), (['m', '_', 'z', 'z'], ['2']), (['q', '_', 'a'], ['3'])])) = [['a'], ['a', 'b']] := by
  decide +kernel

example : (mkeys (membersOf (fromFlat exEnv ['_'] (.dict (some ['m']) false .sparseReq exFields)
    [(['m', '_', 'a', 'b', 'z'], ['1']), (['m', '_', 'z', 'z'], ['2'])]))).Nodup :=
  fromFlat_keys_nodup exEnv ['_'] _ _ _ exFields (by decide) _

end Flatland.C10.Flat
