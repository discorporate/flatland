/-
C07 — `flattenCode = flattenTree` needs C08's invariant and `Slotted`: what a duplicated identity (aliasing, as it looks in
the nested model), a stale parent pointer (what a rejected `Sequence.__setitem__` / `insert` leaves behind, KF-C07-c) and a
List item that is not a ListSlot do to `flatten()`.
-/
import Proofs.C07TreeCodeHist
namespace Flatland.C07Tree.Proofs
open Flatland.Tree Flatland.PyList Flatland.C08 Flatland.C08.Spec Flatland.C08.Proofs Flatland.C07Tree

def wStr : Schema := .mk { cid := 2, kind := .string, name := some ['s'] } .none []
def wLa : Schema := .mk { cid := 3, kind := .list, name := some ['a'] } .none [wStr]
def wLb : Schema := .mk { cid := 4, kind := .list, name := some ['b'] } .none [wStr]
def wD : Schema := .mk { cid := 1, kind := .dict } .none [wLa, wLb]
def wLeaf (id p : Nat) (u : Str) : Node := .mk { id := id, parent := some p, val := .str u, u := u } wStr []
def wSlot (id p : Nat) (name : Str) (el : Node) : Node := .mk { id := id, parent := some p, key := name } slotSchema [el]

/-- `Dict.of(List.named('a').of(String.named('s')), List.named('b').of(…))({a:['p'], b:['q']})`
    in which the two Lists carry the SAME identity 2 -/
def exDupId : Node :=
  .mk { id := 1, parent := none } wD
    [.mk { id := 2, parent := some 1, key := ['a'] } wLa [wSlot 3 2 ['0'] (wLeaf 4 3 ['p'])],
     .mk { id := 2, parent := some 1, key := ['b'] } wLb [wSlot 5 2 ['0'] (wLeaf 6 5 ['q'])]]

/-- the same value with distinct identities, but the member of `b` keeps a stale parent pointer to
    the slot of `a` -/
def exStalePtr : Node :=
  .mk { id := 1, parent := none } wD
    [.mk { id := 2, parent := some 1, key := ['a'] } wLa [wSlot 3 2 ['0'] (wLeaf 4 3 ['p'])],
     .mk { id := 5, parent := some 1, key := ['b'] } wLb [wSlot 6 5 ['0'] (wLeaf 7 3 ['q'])]]

/-- the well-formed tree -/
def exGood : Node :=
  .mk { id := 1, parent := none } wD
    [.mk { id := 2, parent := some 1, key := ['a'] } wLa [wSlot 3 2 ['0'] (wLeaf 4 3 ['p'])],
     .mk { id := 5, parent := some 1, key := ['b'] } wLb [wSlot 6 5 ['0'] (wLeaf 7 6 ['q'])]]

/-- a List whose item is a String element stored under the key "0" instead of a ListSlot -/
def exNoSlot : Node :=
  .mk { id := 1, parent := none } wLa
    [.mk { id := 2, parent := some 1, key := ['0'], val := .str ['p'], u := ['p'] } wStr
       [wLeaf 3 2 ['q']]]

/-- Negation witness, unique identities.  Well-parented (as far as pointers can be: both Lists
    answer to identity 2), parentless root, slotted — but one identity twice: the `seen` set drops
    the second List with the member below it; `flatten()` loses the pair `b_0_s`. -/
theorem dupId_drops_subtree :
    wp exDupId = true ∧ exDupId.parent = none ∧ Slotted exDupId ∧ ¬ UniqueIds exDupId ∧
    flattenTree ['_'] exDupId = [("a_0_s".toList, ['p']), ("b_0_s".toList, ['q'])] ∧
    flattenCode [exDupId] 64 ['_'] exDupId = [("a_0_s".toList, ['p'])] := by
  refine ⟨by decide +kernel, rfl, slotted_of_dps (by decide +kernel), by unfold UniqueIds; decide +kernel,
    by decide +kernel, by decide +kernel⟩

/-- Negation witness, well-parentedness.  Unique identities, parentless root, slotted, every
    List numbered by position (`dp`) — but ONE stale parent pointer: the upward walk of
    `flattened_name` names the chain of the other List; `flatten()` emits the key `a_0_s` twice and
    `b_0_s` not at all. -/
theorem stalePtr_wrong_chain :
    UniqueIds exStalePtr ∧ exStalePtr.parent = none ∧ Slotted exStalePtr ∧ dp exStalePtr = true ∧ wp exStalePtr = false ∧
    flattenTree ['_'] exStalePtr = specFlatten ['_'] exStalePtr ∧
    flattenTree ['_'] exStalePtr = [("a_0_s".toList, ['p']), ("b_0_s".toList, ['q'])] ∧
    flattenCode [exStalePtr] 64 ['_'] exStalePtr = [("a_0_s".toList, ['p']), ("a_0_s".toList, ['q'])] := by
  refine ⟨by unfold UniqueIds; decide +kernel, rfl, slotted_of_dps (by decide +kernel), by decide +kernel,
    by decide +kernel, flattenTree_positional _ _ (by decide +kernel), by decide +kernel, by decide +kernel⟩

theorem exNoSlot_tree : flattenTree ['_'] exNoSlot = [("a_0_s".toList, ['q'])] := by
  decide +kernel

theorem exNoSlot_code : flattenCode [exNoSlot] 64 ['_'] exNoSlot = [("a_s_s".toList, ['q'])] := by
  decide +kernel

/-- Negation witness, `Slotted`.  `TreeOK`-shaped (well-parented, unique identities, parentless
    root) but the List's item is not a ListSlot: the structural walk reads its stored key "0", the
    pointer walk its `.name` "s". -/
theorem notSlotted_wrong_name :
    wp exNoSlot = true ∧ exNoSlot.parent = none ∧ UniqueIds exNoSlot ∧ ¬ Slotted exNoSlot ∧
    flattenTree ['_'] exNoSlot ≠ flattenCode [exNoSlot] 64 ['_'] exNoSlot := by
  refine ⟨by decide +kernel, rfl, by unfold UniqueIds; decide +kernel, ?_, ?_⟩
  · intro h
    have := h exNoSlot (self_mem_nodes _) (by decide +kernel) _ (List.mem_cons_self)
    revert this; decide +kernel
  · rw [exNoSlot_tree, exNoSlot_code]; decide +kernel

/-- the statement without C08's invariant, kept visible … -/
def FlattenCode_Unconditional : Prop :=
  ∀ (sep : Str) (n : Node) (fuel : Nat), height n ≤ fuel → flattenCode [n] fuel sep n = flattenTree sep n

/-- … and refuted (by either C08 violation) -/
theorem flattenCode_unconditional_fails : ¬ FlattenCode_Unconditional :=
  fun h => absurd (h ['_'] exStalePtr 64 (by decide +kernel)) (by decide +kernel)

/-- with the invariant the same shape satisfies the theorem, and the theorem gives its keys -/
example : flattenCode [exGood] 64 ['_'] exGood = [("a_0_s".toList, ['p']), ("b_0_s".toList, ['q'])] := by
  rw [flattenCode_eq_flattenTree_of [] 64 ['_'] (by decide +kernel) rfl (by unfold UniqueIds; decide +kernel)
    (slotted_of_dps (by decide +kernel)) (by decide +kernel)]
  decide +kernel

end Flatland.C07Tree.Proofs
