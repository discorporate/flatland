/-
C17 — the frame MECHANISM refines model A: INSTANCE views (`_InstanceLookup` over `local`,
attached instances; detached instances are plain dicts on both sides).
-/
import Proofs.C17FramesWrite
namespace Flatland.C17.Frames.Proofs
open Flatland.C17 Flatland.C17.Spec Flatland.C17.Proofs Flatland.C17.Frames

theorem iReader_eq (a : State) (f : Frame) (c : ClassId) (s : DescId) :
    iReader a f c s = iReaderOf f (tFrames a c s) := rfl

theorem mem_localItems_of_get? (f : Frame) (k : Key) (v : Val) (h : AList.get? f k = some (.val v)) :
    k ∈ (localItems f).map (·.1) := by
  have hm := mem_of_get? f k (.val v) h
  refine List.mem_map.2 ⟨(k, v), ?_, rfl⟩
  exact List.mem_filterMap.2 ⟨(k, .val v), hm, rfl⟩

theorem mem_keys_filter (L : List (Key × Val)) (q : Key → Bool) (k : Key) :
    k ∈ (L.filter (fun kv => q kv.1)).map (·.1) ↔ k ∈ L.map (·.1) ∧ q k = true := by
  simp only [List.mem_map, List.mem_filter]
  constructor
  · rintro ⟨kv, ⟨hm, hq⟩, rfl⟩; exact ⟨⟨kv, hm, rfl⟩, hq⟩
  · rintro ⟨⟨kv, hm, rfl⟩, hq⟩; exact ⟨kv, ⟨hm, hq⟩, rfl⟩

/-- whatever read-only method is called through an instance view: computed over `local` and the class
    frames its consumer actually pulled (none at all when `local` decides), it returns what it returns
    over `local` and ALL class frames -/
theorem iread_cutF (f : Frame) (fs : List Frame) (o : Op) :
    (match iPullOf f o with
      | some p => dictLikeRead (iReaderOf f (cutF p fs)) o
      | none => dictLikeRead (iReaderOf f []) o) = dictLikeRead (iReaderOf f fs) o := by
  cases o with
  | getitem k | get k dflt =>
    simp only [iPullOf, AList.hasKey]
    rcases Option.eq_none_or_eq_some (AList.get? f k) with hk | ⟨sl, hk⟩
    · simp only [hk, Option.isSome_none, Bool.false_eq_true, if_false, dictLikeRead, iReaderOf, lookup_cutF]
    · simp only [hk, Option.isSome_some, if_true, dictLikeRead, iReaderOf]
      cases sl <;> rfl
  | contains k =>
    simp only [iPullOf]
    cases hk : AList.get? f k with
    | none =>
      simp only [dictLikeRead, iReaderOf, List.map_append]
      refine congrArg (fun b => some (Res.bool b)) (decide_eq_decide.mpr ?_)
      simp only [List.mem_append, mem_keys_filter _ (fun k => !(AList.hasKey f k)), mem_keys_cutF]
    | some sl =>
      cases sl with
      | deleted => simp only [cutF_allP]
      | val v =>
        have hm := mem_localItems_of_get? f k v hk
        simp only [dictLikeRead, iReaderOf, List.map_append, List.mem_append, hm, true_or]
  | items | keys | values | copy | bool | eq | ne => simp only [iPullOf, pullOf, cutF_allP]
  | _ => rfl

theorem Ref_insts {σ : FState} {a : State} (h : Ref σ a) (g : List Inst → List Inst)
    (hwf : WF { a with insts := g a.insts }) :
    Ref { σ with insts := g σ.insts } { a with insts := g a.insts } where
  sim :=
    { classes := h.sim.classes
      ndesc := h.sim.ndesc
      insts := congrArg g h.sim.insts
      owner := h.sim.owner
      other := h.sim.other }
  inv := ⟨hwf, NoShared_congr rfl h.inv.ns, AllCoherent_congr rfl h.inv.co⟩
  finv := ⟨h.finv.noAlias, h.finv.map_lt, h.finv.objs_len, h.finv.objs_lt⟩

theorem Ref_setInst {σ : FState} {a : State} (h : Ref σ a) (i : InstId) (y : Inst)
    (hy : y.cls < a.classes.length) : Ref (Frames.setInst σ i y) (C17.setInst a i y) :=
  Ref_insts h (fun l => l.set i y) (WF_setInst a h.inv.wf i y hy)

theorem iGetF_refines {σ : FState} {a : State} (h : Ref σ a) (f : Frame) (c : ClassId)
    (hc : c < a.classes.length) (s : DescId) (hd : a.descOf c = some s) (k : Key) :
    (iGetF σ f c (σ.objOf s) k).2 = iGet a f c s k ∧ Ref (iGetF σ f c (σ.objOf s) k).1 a := by
  unfold iGetF iGet
  cases AList.get? f k with
  | none => exact tGetF_refines h c hc s hd k
  | some sl => cases sl <;> exact ⟨rfl, h⟩

/-- the new `local`, the result, and the class store, which the method only reads (possibly materialising
    the owner's frame): `a` stays -/
theorem iWrite_refines {σ : FState} {a : State} (h : Ref σ a) (f : Frame) (c : ClassId)
    (hc : c < a.classes.length) (s : DescId) (hd : a.descOf c = some s) (o : Op) :
    (iWriteF σ f c (σ.objOf s) o).2.1 = (iWrite a f c s o).1 ∧
    (iWriteF σ f c (σ.objOf s) o).2.2 = (iWrite a f c s o).2 ∧
    Ref (iWriteF σ f c (σ.objOf s) o).1 a := by
  have hget : (fun k => (iGetF σ f c (σ.objOf s) k).2) = iGet a f c s :=
    funext fun k => (iGetF_refines h f c hc s hd k).1
  obtain ⟨hitems, href⟩ := tItemsF_refines h c hc s hd
  rw [iWriteF_eq, iWrite_eq, hget, hitems]
  exact ⟨rfl, rfl, afterRead_ind (fun τ => Ref τ a) h (fun k => (iGetF_refines h f c hc s hd k).2) href o⟩

theorem instOp_storage_refines {σ : FState} {a : State} (h : Ref σ a) (i : InstId) (x : Inst) (f : Frame)
    (hx : a.insts[i]? = some x) (hl : x.loc = .storage f) (s : DescId) (hd : a.descOf x.cls = some s)
    (o : Op) :
    (instOpF σ i o).2 = (instOp a i o).2 ∧ Ref (instOpF σ i o).1 (instOp a i o).1 := by
  have hc : x.cls < a.classes.length := h.inv.wf.inst_lt i x hx
  simp only [instOpF, instOp, ← h.sim.insts, ← h.sim.descOf, hx, hl, hd]
  cases hr : isRead o with
  | true =>
    obtain ⟨res, hres⟩ := Option.isSome_iff_exists.mp ((dictLikeRead_isSome (iReader a f x.cls s) o).trans hr)
    have hcut := iread_cutF f (tFrames a x.cls s) o
    rw [← iReader_eq, hres] at hcut
    simp only [if_true, hres]
    cases hp : iPullOf f o with
    | none =>
      rw [hp] at hcut
      simp only [hcut, Option.getD_some]
      exact ⟨trivial, h⟩
    | some p =>
      rw [hp] at hcut
      simp only [(pull_refines h x.cls hc s hd p).1, hcut, Option.getD_some]
      exact ⟨trivial, (pull_refines h x.cls hc s hd p).2⟩
  | false =>
    obtain ⟨hf, hres, href⟩ := iWrite_refines h f x.cls hc s hd o
    simp only [Bool.false_eq_true, if_false, isRead_false o hr, hf, hres]
    exact ⟨trivial, Ref_setInst href i _ hc⟩

/-- every method through an instance view — attached (reads: `local` first, the class lookup pulled only
    as far as needed; writes: into `local`, incl. the `clear()` quirk KF-C17-a, which both models have)
    or detached (a plain dict) -/
theorem instOp_refines {σ : FState} {a : State} (h : Ref σ a) (i : InstId) (o : Op) :
    (instOpF σ i o).2 = (instOp a i o).2 ∧ Ref (instOpF σ i o).1 (instOp a i o).1 := by
  cases hx : a.insts[i]? with
  | none =>
    have hx' : σ.insts[i]? = none := by rw [← h.sim.insts]; exact hx
    simp only [instOpF, instOp, hx, hx']
    exact ⟨trivial, h⟩
  | some x =>
    have hx' : σ.insts[i]? = some x := by rw [← h.sim.insts]; exact hx
    have hc : x.cls < a.classes.length := h.inv.wf.inst_lt i x hx
    cases hl : x.loc with
    | plain m =>
      simp only [instOpF, instOp, hx, hx', hl]
      exact ⟨trivial, Ref_setInst h i _ hc⟩
    | storage f =>
      cases hd : a.descOf x.cls with
      | none =>
        have hd' : σ.descOf x.cls = none := by rw [← h.sim.descOf]; exact hd
        simp only [instOpF, instOp, hx, hx', hl, hd, hd']
        exact ⟨trivial, h⟩
      | some s => exact instOp_storage_refines h i x f hx hl s hd o

theorem instRead_refines {σ : FState} {a : State} (h : Ref σ a) (i : InstId) (o : Op) :
    (instOpF σ i o).2 = (instOp a i o).2 := (instOp_refines h i o).1

theorem instWrite_refines {σ : FState} {a : State} (h : Ref σ a) (i : InstId) (o : Op) :
    Ref (instOpF σ i o).1 (instOp a i o).1 := (instOp_refines h i o).2

end Flatland.C17.Frames.Proofs
