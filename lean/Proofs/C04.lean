/-
C04 — set() reports one coherent outcome: return, value, u and signal agree.
Model A: Flatland/Scalar.lean.  Spec B: Flatland/Spec/C04.lean.
Second half (model Flatland/C04.lean): the signal log of `set()` on every element kind, and the flag of a
container as the conjunction of its members' flags.
-/
import Flatland.Scalar
import Flatland.C04
import Flatland.Spec.C04
import Flatland.Generated.C04Tables
import Proofs.Lemmas.C04Reset
import Proofs.Lemmas.ExceptBasic
namespace Flatland.C04.Proofs
open Flatland.Scalar Flatland.Scalar.Spec

theorem pyTables_ok : Flatland.Generated.C04.pyTables.OK := by decide +kernel

/-- C04 for a scalar: whenever `set(x)` completes, flag, value, u and the signal agree (`set_flag`, `set_success`,
    `set_failure` and `set_signals` in one statement).  This holds by construction of the model: `setScalar` is
    written branch by branch like `Scalar.set`; that the code refines it is the correspondence. -/
theorem set_coherent (E : Env) (k : Kind) (x : Native) (r : SetResult)
    (h : setScalar E k x = .ok r) : Outcome E k x r := by
  unfold setScalar at h
  cases ha : adapt E k x with
  | error e => simp [ha] at h
  | ok ov =>
    cases ov with
    | some v =>
      simp only [ha] at h
      cases hu : uOfValue E k v with
      | error e => simp [hu] at h
      | ok u =>
        simp only [hu, Except.ok.injEq] at h
        subst h
        exact ⟨⟨fun _ => ⟨v, ha⟩, fun _ => rfl⟩, fun _ => ⟨v, ha, rfl, hu⟩, by simp, rfl, rfl⟩
    | none =>
      simp only [ha] at h
      cases hu : uOfFailed E.T x with
      | error e => simp [hu] at h
      | ok u =>
        simp only [hu, Except.ok.injEq] at h
        subst h
        exact ⟨⟨by simp, fun ⟨v, hv⟩ => by rw [ha] at hv; simp at hv⟩, by simp, fun _ => ⟨rfl, hu⟩, rfl, rfl⟩

theorem set_flag (E : Env) (k : Kind) (x : Native) (r : SetResult) (h : setScalar E k x = .ok r) :
    r.flag = true ↔ ∃ v, adapt E k x = .ok (some v) := (set_coherent E k x r h).flag_iff_adapted

theorem set_success (E : Env) (k : Kind) (x : Native) (r : SetResult) (h : setScalar E k x = .ok r)
    (hf : r.flag = true) :
    ∃ v, adapt E k x = .ok (some v) ∧ r.st.value = v ∧ uOfValue E k v = .ok r.st.u :=
  (set_coherent E k x r h).success hf

theorem set_failure (E : Env) (k : Kind) (x : Native) (r : SetResult) (h : setScalar E k x = .ok r)
    (hf : r.flag = false) : r.st.value = .none ∧ uOfFailed E.T x = .ok r.st.u :=
  (set_coherent E k x r h).failure hf

theorem set_signals (E : Env) (k : Kind) (x : Native) (r : SetResult) (h : setScalar E k x = .ok r) :
    r.signals = [r.flag] := (set_coherent E k x r h).signal_once

set_option exponentiation.threshold 5000 in
example : setScalar ⟨Flatland.Generated.C04.pyTables, fun _ _ => some none⟩ (.integer true 0) (.str " 12 ".toList)
    = .ok ⟨⟨.str " 12 ".toList, .int 12, "12".toList⟩, true, [true]⟩ :=
  Ex.toOption_eq_some_iff.mp (by decide +kernel)

/-- an environment whose opaque conversions always fail (enough for kinds without float/Decimal) -/
def plainEnv : Env := ⟨Flatland.Generated.C04.pyTables, fun _ _ => some none⟩

/-- C04, `set()` does not raise, outside KF-C04-a: for every kind and every constructible input (`Native.WF`)
    none of whose ints exceeds CPython's int→str digit limit (`NoHuge`), `set` completes. -/
theorem set_total_partial (E : Env) (hT : E.T.OK) (hE : EnvTotal E) (k : Kind) (x : Native)
    (hx : NoHuge E.T x = true) (hwf : Native.WF x = true) : ∃ r, setScalar E k x = .ok r :=
  set_total E hT hE k x hx hwf

theorem set_total_text (E : Env) (hT : E.T.OK) (hE : EnvTotal E) (k : Kind) (s : Str) :
    ∃ r, setScalar E k (.str s) = .ok r :=
  set_total E hT hE k (.str s) rfl rfl

/-- the full first clause of the property: set() never raises -/
def C04_Full_total : Prop :=
  ∀ (k : Kind) (x : Native), Native.WF x = true → ∃ r, setScalar plainEnv k x = .ok r

set_option exponentiation.threshold 5000 in
/-- KF-C04-a: `Integer().set(10**4300)` raises ValueError inside serialize -/
theorem C04_total_fails : ¬ C04_Full_total := by
  intro h
  obtain ⟨r, hr⟩ := h (.integer true 0) (.int (10 ^ 4300)) rfl
  have : setScalar plainEnv (.integer true 0) (.int (10 ^ 4300)) = .error .valueError := by
    simp [setScalar, adapt, checkSigned, uOfValue, serialize, pyFmtInt, intFits, plainEnv,
      Flatland.Generated.C04.pyTables]
  rw [this] at hr
  cases hr

set_option exponentiation.threshold 5000 in
example : NoHuge Flatland.Generated.C04.pyTables (.int 12345) = true := by
  simp [NoHuge, intFits, Flatland.Generated.C04.pyTables]

/-- C04, setting the text again, outside KF-C04-c (`Coherent`, `CoherentNone`): after a successful `set`, setting
    `.u` again completes and reproduces the same `.u` — for every kind, Float and Decimal included given a
    text-stable conversion table (`OpaqueOK`) -/
theorem reset_text_all_partial (E : Env) (hT : E.T.OK) (k : Kind) (hst : OpaqueOK E k) (x : Native) (r : SetResult)
    (hc : Coherent k = true) (hcn : r.st.value = .none → CoherentNone k = true) (hw : WidthOK E.T k = true)
    (hx : NoHuge E.T x = true) (hwf : Native.WF x = true)
    (h : setScalar E k x = .ok r) (hf : r.flag = true) :
    ∃ r', setScalar E k (.str r.st.u) = .ok r' ∧ r'.st.u = r.st.u := by
  obtain ⟨v, ha, hval, hu⟩ := set_success E k x r h hf
  exact (reset_u_all E hT k hst hc hw x v r.st.u hx hwf ha hu (fun hn => hcn (hval.trans hn))).set

/-- `CoherentNone` is not needed: text never adapts to None -/
theorem norm_idem_all (E : Env) (hT : E.T.OK) (hE : EnvTotal E) (k : Kind) (hst : OpaqueOK E k)
    (hc : Coherent k = true) (hw : WidthOK E.T k = true) (s : Str) :
    norm E k (norm E k s) = norm E k s := by
  cases hr : setScalar E k (.str s) with
  | error e => simp only [norm, hr]
  | ok r =>
    have hn : norm E k s = r.st.u := by simp only [norm, hr]
    rw [hn]
    exact (TextFixed.of_set E hT k hst hc hw s r hr).norm

theorem opaqueOK_of_modelled (E : Env) (k : Kind) (hm : Modelled k = true) : OpaqueOK E k := by
  induction k with
  | float sg => cases hm
  | decimal sg => cases hm
  | constrained c vd ih => exact ih hm
  | _ => trivial

theorem reset_text_partial (E : Env) (hT : E.T.OK) (k : Kind) (x : Native) (r : SetResult)
    (hm : Modelled k = true) (hc : Coherent k = true) (hcn : r.st.value = .none → CoherentNone k = true)
    (hw : WidthOK E.T k = true) (hx : NoHuge E.T x = true) (hwf : Native.WF x = true)
    (h : setScalar E k x = .ok r) (hf : r.flag = true) :
    ∃ r', setScalar E k (.str r.st.u) = .ok r' ∧ r'.st.u = r.st.u :=
  reset_text_all_partial E hT k (opaqueOK_of_modelled E k hm) x r hc hcn hw hx hwf h hf

theorem norm_idem (E : Env) (hT : E.T.OK) (hE : EnvTotal E) (k : Kind)
    (hm : Modelled k = true) (hc : Coherent k = true) (hw : WidthOK E.T k = true) (s : Str) :
    norm E k (norm E k s) = norm E k s :=
  norm_idem_all E hT hE k (opaqueOK_of_modelled E k hm) hc hw s

/-- C04, the value after setting the text again, outside KF-C04-b/c/d (`ExactInput`, `Coherent`, not None): for the
    exactly serialising kinds the value is reproduced, with a True flag, by setting `.u`. -/
theorem reset_value_partial (E : Env) (hT : E.T.OK) (k : Kind) (x : Native) (r : SetResult)
    (hm : Modelled k = true) (hc : Coherent k = true) (hw : WidthOK E.T k = true)
    (hx : NoHuge E.T x = true) (hwf : Native.WF x = true) (hex : ExactInput k x = true)
    (h : setScalar E k x = .ok r) (hf : r.flag = true) (hne : r.st.value ≠ .none) :
    ∃ r', setScalar E k (.str r.st.u) = .ok r' ∧ r'.st.u = r.st.u ∧ r'.st.value = r.st.value ∧
      r'.flag = true := by
  obtain ⟨v, ha, hval, hu⟩ := set_success E k x r h hf
  have hv := (adapt_adapts E hT k x v hx hwf ha).resolve_left fun hn => hne (hval.trans hn.2)
  have h1 := reset_value_value E hT k hm hc hw x v r.st.u hv (hv.exact hex) hu
  exact ⟨⟨⟨.str r.st.u, v, r.st.u⟩, true, [true]⟩, by simp [setScalar, h1, hu], rfl, hval.symm, rfl⟩

/-- the table check is sound: what the runner (and, independently, the harness) evaluates on the
    recorded conversions of a case is the hypothesis `OpaqueStable` for the environment of that case -/
theorem opaqueStableOn_sound (T : Tables) (entries : List (Bool × Native × Option Tok)) (dec : Bool)
    (hdec : ∃ e ∈ entries, e.1 = dec) (h : opaqueStableOn T entries = true) :
    OpaqueStable ⟨T, tableConv entries⟩ dec := by
  simp only [opaqueStableOn, Bool.and_eq_true, List.all_eq_true] at h
  obtain ⟨h1, h2⟩ := h
  obtain ⟨e0, he0, rfl⟩ := hdec
  constructor
  · have := h1 e0 he0
    cases hc : tableConv entries e0.1 (.str []) with
    | none => simp [hc] at this
    | some o => cases o with
      | none => exact hc
      | some t => simp [hc] at this
  · intro x t hx
    simp only [tableConv, Option.map_eq_some_iff] at hx
    obtain ⟨e, hfind, het⟩ := hx
    have hmem := List.mem_of_find?_eq_some hfind
    have hd : e.1 = e0.1 := by
      have := List.find?_some hfind
      simp only [Bool.and_eq_true, beq_iff_eq] at this
      exact this.1
    have := h2 e hmem
    rw [het] at this
    simp only at this
    rw [hd] at this
    cases hc : tableConv entries e0.1 (.str (strip T (tokText t))) with
    | none => simp [hc] at this
    | some o =>
      cases o with
      | none => exact Or.inl hc
      | some t' =>
        simp only [hc, beq_iff_eq] at this
        exact Or.inr ⟨t', hc, this⟩

/-- the full re-set clause: no hypothesis on the Boolean configuration -/
def C04_Full_reset_u : Prop :=
  ∀ (k : Kind) (x : Native) (r : SetResult), Modelled k = true → Native.WF x = true →
    setScalar plainEnv k x = .ok r → r.flag = true →
    ∃ r', setScalar plainEnv k (.str r.st.u) = .ok r' ∧ r'.st.u = r.st.u

/-- KF-C04-c: `Boolean(true_synonyms=('',))`: False has text '' which adapts to True / '1' -/
theorem C04_reset_u_fails : ¬ C04_Full_reset_u := by
  intro h
  obtain ⟨r', h1, h2⟩ := h (.boolean ['1'] [] [[]] []) (.bool false)
    ⟨⟨.bool false, .bool false, []⟩, true, [true]⟩ rfl rfl
    (by simp [setScalar, adapt, pyTruthy, uOfValue, serialize]) rfl
  simp [setScalar, adapt, uOfValue, serialize, pyTruthy] at h1
  subst h1
  simp at h2

/-- the full value clause: no hypothesis on the native input -/
def C04_Full_reset_value : Prop :=
  ∀ (k : Kind) (x : Native) (r : SetResult), Modelled k = true → Coherent k = true → Native.WF x = true →
    setScalar plainEnv k x = .ok r → r.flag = true → r.st.value ≠ .none →
    ∃ r', setScalar plainEnv k (.str r.st.u) = .ok r' ∧ r'.st.value = r.st.value

/-- KF-C04-b: `Time().set(time(1,2,3,5))` has text '01:02:03', which adapts to time(1,2,3) -/
theorem C04_reset_value_fails : ¬ C04_Full_reset_value := by
  intro h
  have hs : setScalar plainEnv (.time true) (.time 1 2 3 5) =
      .ok ⟨⟨.time 1 2 3 5, .time 1 2 3 5, timeText 1 2 3⟩, true, [true]⟩ := by
    simp [setScalar, adapt, uOfValue, serialize]
  obtain ⟨r', h1, h2⟩ := h (.time true) (.time 1 2 3 5) _ rfl rfl (by decide) hs rfl (by simp)
  have hv := reset_value_value plainEnv pyTables_ok (.time true) rfl rfl rfl (.time 1 2 3 0) (.time 1 2 3 0) (timeText 1 2 3)
    ⟨1, 2, 3, 0, rfl, by decide, Or.inl rfl⟩ rfl (by simp [uOfValue, serialize])
  simp only at h1 h2
  simp [setScalar, hv, uOfValue, serialize] at h1
  subst h1
  simp at h2

/-- the value clause read literally, None included -/
def C04_Full_reset_value_none : Prop :=
  ∀ (k : Kind) (x : Native) (r : SetResult), Modelled k = true → Coherent k = true → CoherentNone k = true →
    Native.WF x = true → setScalar plainEnv k x = .ok r → r.flag = true →
    ∃ r', setScalar plainEnv k (.str r.st.u) = .ok r' ∧ r'.st.value = r.st.value

/-- KF-C04-d: `String().set(None)` has value None and text `''`; `String().set('')` has value `''` -/
theorem C04_reset_none_fails : ¬ C04_Full_reset_value_none := by
  intro h
  obtain ⟨r', h1, h2⟩ := h (.string true) .none ⟨⟨.none, .none, []⟩, true, [true]⟩ rfl rfl rfl rfl
    (by simp [setScalar, adapt, uOfValue]) rfl
  simp [setScalar, adapt, uOfValue, serialize, strip_nil] at h1
  subst h1
  simp at h2

example : Coherent Flatland.Generated.C04.booleanDefault = true := by decide +kernel
example : CoherentNone Flatland.Generated.C04.booleanDefault = true := by decide +kernel

/-- the hypotheses of `reset_text_partial` / `reset_value_partial` hold for, e.g., an Enum over a
    zero-padded unsigned Integer given a padded full-width text -/
example :
    let k : Kind := .constrained (.integer false 4) (.oneOf [.int 7, .int 42])
    Modelled k = true ∧ Coherent k = true ∧ CoherentNone k = true ∧ WidthOK Flatland.Generated.C04.pyTables k = true ∧
    NoHuge Flatland.Generated.C04.pyTables (.str " ４２ ".toList) = true ∧ Native.WF (.str " ４２ ".toList) = true ∧
    ExactInput k (.str " ４２ ".toList) = true := by
  decide +kernel
example : ExactInput (.date true) (.date 2020 1 2) = true := rfl

open Flatland.C04

theorem prefixSigs_ne (i : Nat) (sigs : List Sig) : ∀ s ∈ prefixSigs i sigs, s.1 ≠ some [] := by
  intro s hs
  unfold prefixSigs at hs
  obtain ⟨t, _, rfl⟩ := List.mem_map.mp hs
  cases t.1 <;> simp

theorem mergeCalls_ne (runs : List (Nat × ChildRun)) (n : Nat) :
    ∀ c ∈ mergeCalls runs n, ∀ s ∈ c.2, s.1 ≠ some [] := by
  intro c hc s hs
  unfold mergeCalls at hc
  obtain ⟨j, _, hj⟩ := List.mem_filterMap.mp hc
  obtain ⟨⟨i, r⟩, _, hr⟩ := List.exists_of_findSome?_eq_some hj
  simp only [Option.map_eq_some_iff] at hr
  obtain ⟨call, _, rfl⟩ := hr
  exact prefixSigs_ne i _ s hs

theorem scalarSetTrace_eq (E : Env) (k : Kind) (old : SState) (x : Native) :
    scalarSetTrace E k old x =
      (match setScalar E k x with
       | .ok r => .ok (r.st, r.flag, [(r.flag, r.st)])
       | .error e => .error e) := by
  unfold scalarSetTrace setScalar
  cases adapt E k x with
  | error e => rfl
  | ok ov =>
    cases ov with
    | some v => simp only; cases uOfValue E k v <;> rfl
    | none => simp only; cases uOfFailed E.T x <;> rfl

theorem scalarSetTrace_sigs (E : Env) (k : Kind) (old : SState) (x : Native) (st : SState) (flag : Bool)
    (sigs : List (Bool × SState)) (h : scalarSetTrace E k old x = .ok (st, flag, sigs)) :
    sigs = [(flag, st)] := by
  rw [scalarSetTrace_eq] at h
  cases hs : setScalar E k x with
  | error e => simp [hs] at h
  | ok r =>
    simp only [hs, Except.ok.injEq, Prod.mk.injEq] at h
    obtain ⟨rfl, rfl, rfl⟩ := h
    rfl

theorem keepPieces_ne (prune : Bool) (l : List (SState × Bool × List (Bool × SState))) (i : Nat) :
    ∀ s ∈ (keepPieces prune l i).2, s.1 ≠ some [] := by
  induction l generalizing i with
  | nil => intro s hs; simp [keepPieces] at hs
  | cons r rest ih =>
    intro s hs
    simp only [keepPieces] at hs
    split at hs
    · rcases List.mem_append.mp hs with h | h
      · obtain ⟨p, _, rfl⟩ := List.mem_map.mp h; simp
      · exact ih i s h
    · rcases List.mem_append.mp hs with h | h
      · obtain ⟨p, _, rfl⟩ := List.mem_map.mp h; simp
      · exact ih (i + 1) s h

/-- C04, the signal: a completed `set()` of any element kind logs exactly one entry for that element, as the
    last entry, with `adapted` equal to the returned flag and with the element's final state as the state a
    listener sees at that moment; the entries before it belong to elements below it.  The model performs the
    assignments and the `send` of each branch in the order of the code; moving a `send` before an assignment
    in the model makes this proof fail. -/
theorem signals_spec (E : Env) (S : Schema) (old : Elem) (x : Input) (out : SetOut)
    (h : setElem E S old x = .ok out) :
    ∃ pre, out.sigs = pre ++ [(some [], out.flag, out.elem)] ∧ ∀ s ∈ pre, s.1 ≠ some [] := by
  cases S with
  | scalar k =>
    cases x with
    | leaf n =>
      simp only [setElem] at h
      split at h
      · simp at h
      · rename_i st' flag sigs hs
        simp only [Except.ok.injEq] at h
        subst h
        refine ⟨[], ?_, by simp⟩
        rw [scalarSetTrace_sigs E k _ n st' flag sigs hs]
        rfl
    | list xs => simp [setElem] at h
    | dict ps => simp [setElem] at h
  | seq m =>
    simp only [setElem] at h
    split at h
    · simp only [Except.ok.injEq] at h; subst h; exact ⟨[], rfl, by simp⟩
    · split at h
      · simp at h
      · simp only [Except.ok.injEq] at h; subst h
        refine ⟨_, rfl, ?_⟩
        intro s hs
        obtain ⟨⟨i, o⟩, _, hi⟩ := List.mem_flatMap.mp hs
        exact prefixSigs_ne i _ s hi
  | dict pol names fields =>
    simp only [setElem] at h
    split at h
    · simp only [Except.ok.injEq] at h; subst h; exact ⟨[], rfl, by simp⟩
    · split at h
      · simp at h
      · split at h
        · simp at h
        · simp only [Except.ok.injEq] at h; subst h
          refine ⟨_, rfl, ?_⟩
          intro s hs
          obtain ⟨c, hc, hi⟩ := List.mem_flatMap.mp hs
          exact mergeCalls_ne _ _ c hc s hi
  | date ky km kd =>
    cases x with
    | leaf n =>
      simp only [setElem] at h
      split at h
      · simp at h
      · simp only [Except.ok.injEq] at h; subst h; exact ⟨[], rfl, by simp⟩
      · split at h
        · simp only [Except.ok.injEq] at h; subst h
          refine ⟨_, rfl, ?_⟩
          intro s hs
          simp only [List.mem_append] at hs
          rcases hs with (hs | hs) | hs
          · exact prefixSigs_ne _ _ s hs
          · exact prefixSigs_ne _ _ s hs
          · exact prefixSigs_ne _ _ s hs
        all_goals simp at h
    | list xs => simp [setElem] at h
    | dict ps => simp [setElem] at h
  | joined sep sp prune k =>
    simp only [setElem] at h
    split at h
    · simp at h
    · simp only [Except.ok.injEq] at h; subst h; exact ⟨[], rfl, by simp⟩
    · split at h
      · simp at h
      · simp only [Except.ok.injEq] at h; subst h
        exact ⟨_, rfl, keepPieces_ne _ _ _⟩

theorem signal_after_final (E : Env) (S : Schema) (old : Elem) (x : Input) (out : SetOut)
    (h : setElem E S old x = .ok out) : out.sigs.getLast? = some (some [], out.flag, out.elem) := by
  obtain ⟨pre, hs, _⟩ := signals_spec E S old x out h
  rw [hs]; simp

def depth1 : Option (List Nat) → Bool
  | some [_] => true
  | _ => false

/-- the `adapted` flags signalled by the direct children, in order -/
def directFlags (sigs : List Sig) : List Bool := (sigs.filter fun s => depth1 s.1).map (·.2.1)

theorem directFlags_append (a b : List Sig) : directFlags (a ++ b) = directFlags a ++ directFlags b := by
  simp [directFlags]

theorem directFlags_root (b : Bool) (e : Elem) : directFlags [(some [], b, e)] = [] := by simp [directFlags, depth1]

/-- `h` is what `signals_spec` says of a completed child `set()` -/
theorem directFlags_prefix (i : Nat) (sigs : List Sig) (flag : Bool) (snap : Elem)
    (h : ∃ pre, sigs = pre ++ [(some [], flag, snap)] ∧ ∀ s ∈ pre, s.1 ≠ some []) :
    directFlags (prefixSigs i sigs) = [flag] := by
  obtain ⟨pre, rfl, hpre⟩ := h
  unfold prefixSigs directFlags
  rw [List.map_append, List.filter_append]
  have h1 : List.filter (fun s : Sig => depth1 s.1) (List.map (fun s : Sig => (s.1.map (i :: ·), s.2)) pre) = [] := by
    apply List.filter_eq_nil_iff.mpr
    intro s hs
    obtain ⟨t, ht, rfl⟩ := List.mem_map.mp hs
    have := hpre t ht
    cases hp : t.1 with
    | none => simp [depth1]
    | some l =>
      cases l with
      | nil => exact absurd hp this
      | cons a l' => simp [depth1]
  rw [h1]
  simp [depth1]

theorem directFlags_flatMap {α} (l : List α) (f : α → List Sig) (g : α → Bool)
    (h : ∀ a ∈ l, directFlags (f a) = [g a]) : directFlags (l.flatMap f) = l.map g := by
  induction l with
  | nil => rfl
  | cons a t ih =>
    rw [List.flatMap_cons, directFlags_append, h a (by simp), ih (fun b hb => h b (List.mem_cons_of_mem _ hb))]
    rfl

/-- `Sequence.set` on an iterable returns the conjunction of the `adapted` flags its
    members signalled -/
theorem seq_flag (E : Env) (m : Schema) (old : Elem) (x : Input) (out : SetOut) (items : List Input)
    (hit : iterItems x = some items) (h : setElem E (.seq m) old x = .ok out) :
    out.flag = (directFlags out.sigs).all id := by
  simp only [setElem, hit] at h
  split at h
  · simp at h
  · simp only [Except.ok.injEq] at h
    subst h
    simp only [directFlags_append, directFlags_root, List.append_nil]
    rw [directFlags_flatMap _ _ (fun p => p.2.flag)]
    · simp [List.all_map, Function.comp_def]
    · rintro ⟨i, o⟩ ho
      apply directFlags_prefix
      -- (i, o) is the result of a member's set()
      obtain ⟨⟨j, r⟩, hr, hjr⟩ := List.mem_filterMap.mp ho
      obtain ⟨⟨j', y⟩, _, hy⟩ := List.mem_map.mp hr
      simp only [Prod.mk.injEq] at hy
      obtain ⟨rfl, rfl⟩ := hy
      cases hres : setElem E m (blank m) y with
      | error e => simp [hres] at hjr
      | ok o' =>
        simp only [hres, Option.some.injEq, Prod.mk.injEq] at hjr
        obtain ⟨rfl, rfl⟩ := hjr
        exact signals_spec E m (blank m) y o' hres

theorem mem_indexed {α} (l : List α) (p : Nat × α) (h : p ∈ indexed l) : p.2 ∈ l := by
  unfold indexed at h
  exact (List.of_mem_zip h).2

theorem directFlags_keepPieces (prune : Bool) (l : List (SState × Bool × List (Bool × SState))) (i : Nat)
    (h : ∀ r ∈ l, r.2.2 = [(r.2.1, r.1)]) :
    directFlags (keepPieces prune l i).2 = (keepPieces prune l i).1.map (·.2) := by
  induction l generalizing i with
  | nil => rfl
  | cons r rest ih =>
    have hr := h r (by simp)
    have ih' := fun j => ih j (fun x hx => h x (List.mem_cons_of_mem _ hx))
    simp only [keepPieces]
    split
    · simp only [directFlags_append, hr, ih' i]
      simp [directFlags, depth1]
    · simp only [directFlags_append, hr, ih' (i + 1)]
      simp [directFlags, depth1]

/-- `JoinedString.set` that gets as far as its pieces (any input but a
    non-iterable) returns the conjunction of the flags signalled by the members it KEPT (a pruned
    piece signals from outside the tree and does not count) -/
theorem joined_flag (E : Env) (sep : Str) (sp : Splitter) (prune : Bool) (k : Kind) (old : Elem) (x : Input)
    (out : SetOut) (h : setElem E (.joined sep sp prune k) old x = .ok out)
    (hne : out.sigs ≠ [(some [], false, Elem.joined [])] ∨ out.flag = true) :
    out.flag = (directFlags out.sigs).all id := by
  simp only [setElem] at h
  split at h
  · simp at h
  · simp only [Except.ok.injEq] at h
    subst h
    simp at hne
  · split at h
    · simp at h
    · simp only [Except.ok.injEq] at h
      subst h
      simp only [directFlags_append, directFlags_root, List.append_nil]
      rw [directFlags_keepPieces]
      · simp [List.all_map, Function.comp_def]
      · intro r hr
        obtain ⟨o, ho, hor⟩ := List.mem_filterMap.mp hr
        obtain ⟨v, _, rfl⟩ := List.mem_map.mp ho
        cases hres : scalarSetTrace E k blankState v with
        | error e => simp [hres] at hor
        | ok r' =>
          simp only [hres, Option.some.injEq] at hor
          subst hor
          obtain ⟨st, flag, sigs⟩ := r'
          exact scalarSetTrace_sigs E k _ v st flag sigs hres

theorem runSets_calls (step : Elem → Input → Except CRaise SetOut) (e : Elem) (inputs : List (Nat × Input)) :
    ∀ c ∈ (runSets step e inputs).calls, ∃ e' x out, step e' x = .ok out ∧ c.2 = (out.flag, out.sigs) := by
  induction inputs generalizing e with
  | nil => intro c hc; simp [runSets] at hc
  | cons p rest ih =>
    obtain ⟨j, x⟩ := p
    intro c hc
    simp only [runSets] at hc
    cases hs : step e x with
    | error r => simp [hs] at hc
    | ok out =>
      simp only [hs, List.mem_cons] at hc
      rcases hc with rfl | hc
      · exact ⟨e, x, out, hs, rfl⟩
      · exact ih out.elem c hc

theorem setFields_runs (E : Env) (names : List Str) (fields : List Schema) (pairs : List (Native × Input)) (i : Nat) :
    ∀ p ∈ setFields E names fields pairs i, ∀ c ∈ p.2.calls,
      ∃ f e' x out, setElem E f e' x = .ok out ∧ c.2 = (out.flag, out.sigs) := by
  induction names generalizing fields i with
  | nil => intro p hp; simp [setFields] at hp
  | cons n ns ih =>
    cases fields with
    | nil => intro p hp; simp [setFields] at hp
    | cons f fs =>
      intro p hp c hc
      simp only [setFields, List.mem_cons] at hp
      rcases hp with rfl | hp
      · obtain ⟨e', x, out, h1, h2⟩ := runSets_calls _ _ _ c hc
        exact ⟨f, e', x, out, h1, h2⟩
      · exact ih fs (i + 1) p hp c hc

/-- a `Dict.set` that reaches its member loop returns the conjunction of the flags
    signalled by the member `set()` calls it made -/
theorem dict_flag (E : Env) (pol : Policy) (names : List Str) (fields : List Schema) (old : Elem) (x : Input)
    (out : SetOut) (pairs : List (Native × Input)) (hp : toPairs x = some pairs)
    (h : setElem E (.dict pol names fields) old x = .ok out) :
    out.flag = (directFlags out.sigs).all id := by
  simp only [setElem, hp] at h
  split at h
  · simp at h
  · split at h
    · simp at h
    · simp only [Except.ok.injEq] at h
      subst h
      simp only [directFlags_append, directFlags_root, List.append_nil]
      rw [directFlags_flatMap _ _ (fun c => c.1)]
      · simp [List.all_map, Function.comp_def]
      · rintro ⟨flag, sigs⟩ hc
        unfold mergeCalls at hc
        obtain ⟨j, _, hj⟩ := List.mem_filterMap.mp hc
        obtain ⟨⟨i, r⟩, hr, hcall⟩ := List.exists_of_findSome?_eq_some hj
        simp only [Option.map_eq_some_iff, Prod.mk.injEq] at hcall
        obtain ⟨call, hfind, rfl, rfl⟩ := hcall
        have hmem : call ∈ r.calls := List.mem_of_find?_eq_some hfind
        obtain ⟨f, e', y, o, h1, h2⟩ := setFields_runs E names fields pairs 0 (i, r) hr call hmem
        rw [h2]
        exact directFlags_prefix i o.sigs o.flag o.elem (signals_spec E f e' y o h1)

/-- a Dict with a String field and a list-of-Strings field, set from a pair list that names `a`
    twice: children's entries first (in loop order), the Dict's own entry last -/
example :
    (setElem plainEnv (.dict .subset ["a".toList, "l".toList] [.scalar (.string false), .seq (.scalar (.string false))])
        (blank (.dict .subset ["a".toList, "l".toList] [.scalar (.string false), .seq (.scalar (.string false))]))
        (.list [.list [.leaf (.str "a".toList), .leaf (.str "x".toList)],
                .list [.leaf (.str "l".toList), .list [.leaf (.str "p".toList), .leaf (.str "q".toList)]],
                .list [.leaf (.str "a".toList), .leaf .none]])).toOption.map (fun o => (o.flag, o.sigs.map fun s => (s.1, s.2.1))) =
      some (true, [(some [0], true), (some [1, 0], true), (some [1, 1], true), (some [1], true), (some [0], true), (some [], true)]) := by
  decide +kernel

end Flatland.C04.Proofs
