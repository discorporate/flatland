/-
C07 on the tree model, along histories: after every step of every history of the modelled calls, started from a tree built
by any construction route (`Constructed`), what `flatten()` emits — keys joined from STORED slot names — is the positional
specification (`c07_positional_histories`).
-/
import Proofs.C07NodupExamples
import Proofs.C07TreeExamples
import Proofs.C07TreeInv
namespace Flatland.C07Tree.Proofs
open Flatland.Tree Flatland.PyList Flatland.C08 Flatland.C07Tree

/-- In the state reached by any history of calls from a deep-positional tree,
    `flatten()` is the positional specification. -/
theorem flatten_positional_history (sep : Str) (hs : List HOp) (s : HState)
    (hops : ∀ h ∈ hs, Inv.OpArgsDP h.op) (hd : Inv.dps s.root = true) :
    flattenTree sep (hrun s hs).root = specFlatten sep (hrun s hs).root :=
  flattenTree_positional sep _ (Inv.hrun_dp hs s hops hd)

theorem flatten_positional_after_every_step (sep : Str) (hs : List HOp) (s : HState)
    (hops : ∀ h ∈ hs, Inv.OpArgsDP h.op) (hd : Inv.dps s.root = true) (k : Nat) :
    flattenTree sep (hrun s (hs.take k)).root = specFlatten sep (hrun s (hs.take k)).root :=
  flattenTree_positional sep _ (Inv.hrun_dp_prefix hs s hops hd k)

/-- after every step `flatten()` is the flat model's `flatten` of the abstracted tree, so `flatten_compositional`,
    `keys_are_paths`, `keys_unique_paths` speak about every tree a history reaches -/
theorem flatten_flat_after_every_step (sep : Str) (hs : List HOp) (s : HState)
    (hops : ∀ h ∈ hs, Inv.OpArgsDP h.op) (hd : Inv.dps s.root = true) (k : Nat) :
    flattenTree sep (hrun s (hs.take k)).root = Flatland.Flat.flattenNode sep (toFNode (hrun s (hs.take k)).root) :=
  flattenTree_eq_flat sep _ (Inv.hrun_dp_prefix hs s hops hd k)

/-- the states a history can start from: the construction routes of the executor
    (`TreeJson.initState`: `schema()`, `schema(value)`, `schema().set(value)`,
    `schema.from_defaults()`, `schema().set_default()`) -/
inductive Constructed (sc : Schema) : HState → Prop
  | ctor (next : Nat) : Constructed sc ⟨(blank sc none [] next).1, (blank sc none [] next).2⟩
  | ctorValue (raw : Raw) (next : Nat) (e : Node) (n1 : Nat) (h : construct sc raw none [] next = (.ok e, n1)) :
      Constructed sc ⟨e, n1⟩
  | set (raw : Raw) (next : Nat) :
      Constructed sc ⟨(setNode (blank sc none [] next).1 raw none (blank sc none [] next).2).node,
                      (setNode (blank sc none [] next).1 raw none (blank sc none [] next).2).next⟩
  | fromDefaults (next : Nat) :
      Constructed sc ⟨(fromDefaults sc none [] next).node, (fromDefaults sc none [] next).next⟩
  | setDefault (next : Nat) :
      Constructed sc ⟨(setDefault (blank sc none [] next).1 (blank sc none [] next).2).node,
                      (setDefault (blank sc none [] next).1 (blank sc none [] next).2).next⟩

theorem constructed_dps {sc : Schema} {s : HState} (h : Constructed sc s) : Inv.dps s.root = true := by
  cases h with
  | ctor next => exact Inv.blank_dps sc none [] next
  | ctorValue raw next e n1 h => exact Inv.construct_dps sc raw none [] next e n1 h
  | set raw next => exact Inv.setNode_dps raw _ none _ (Inv.blank_dps sc none [] next)
  | fromDefaults next => exact Inv.fromDefaults_dps sc none [] next
  | setDefault next => exact Inv.setDefault_dps _ _ (Inv.blank_dps sc none [] next)

/-- C07, positional clause, over histories.  For every schema of the tree model, every
    construction route, every history of calls on any elements of the tree (Element arguments
    being deep-positional trees themselves) and every separator: after the construction and after
    every call, `flatten()` names every list member on the path of every key by its CURRENT index. -/
theorem c07_positional_histories (sc : Schema) (s : HState) (hc : Constructed sc s) (sep : Str) (hs : List HOp)
    (hops : ∀ h ∈ hs, Inv.OpArgsDP h.op) (k : Nat) :
    flattenTree sep (hrun s (hs.take k)).root = specFlatten sep (hrun s (hs.take k)).root :=
  flatten_positional_after_every_step sep hs s hops (constructed_dps hc) k

/-- the same for C09's executor (`C09.run`: a history of list-protocol calls on the sequence itself) -/
theorem flatten_positional_run (sep : Str) (ops : List SeqOp) : ∀ (s : Flatland.C09.SState),
    Inv.dps s.node = true → (∀ op ∈ ops, Inv.SeqArgsDP op) →
    flattenTree sep (Flatland.C09.run s ops).node = specFlatten sep (Flatland.C09.run s ops).node := by
  suffices h : ∀ (s : Flatland.C09.SState), Inv.dps s.node = true → (∀ op ∈ ops, Inv.SeqArgsDP op) →
      Inv.dps (Flatland.C09.run s ops).node = true from
    fun s hd ho => flattenTree_positional sep _ (Inv.dp_of_dps _ (h s hd ho))
  induction ops with
  | nil => intro s hd _; exact hd
  | cons op ops ih =>
    intro s hd ho
    have : Flatland.C09.run s (op :: ops) = Flatland.C09.run (Flatland.C09.step s op) ops := by
      simp [Flatland.C09.run]
    rw [this]
    exact ih _ (Inv.seqStep_dps s.node hd op (ho op (by simp)) s.next) (fun o h => ho o (by simp [h]))

theorem exStart_constructed : Constructed exLoD exStart := by
  have hok : (construct exLoD (.list [dv ['b'] [1, 2], dv ['a'] [3], dv ['c'] []]) none [] 1).1.isOk = true := by
    decide +kernel
  unfold exStart
  split
  · next h => exact .ctorValue _ _ _ _ h
  · next h => rw [h] at hok; cases hok

example (k : Nat) : flattenTree ['_'] (hrun exStart (exHist.take k)).root = specFlatten ['_'] (hrun exStart (exHist.take k)).root :=
  c07_positional_histories exLoD exStart exStart_constructed ['_'] exHist
    (by intro h hh
        simp only [exHist, List.mem_cons, List.not_mem_nil, or_false] at hh
        rcases hh with rfl | rfl | rfl <;> trivial) k

end Flatland.C07Tree.Proofs
