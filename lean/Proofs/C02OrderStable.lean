/-
C02 — "order-free", the stable version (`order_free_stable`, Proofs/C02Order.lean): the hereditary
reading of its hypothesis cannot be replaced by the plain one — "the pairs of every KEY keep their
relative order" — (`order_free_stable_full_fails`: in a List of Arrays `l_0` and `l_00` are different
keys for the same Array, KF-C02-a's neighbour; swapping them keeps every per-key sub-sequence and
swaps the members), and it is not vacuous (`exStable`).
-/
import Proofs.C02Order
namespace Flatland.Flat.Proofs
open Flatland.Flat

theorem order_free_of_stable (env : Env) (sep : Str) (s : Schema) (ps ps' : List (Str × Str))
    (h : HNodup env sep s (wrap ps)) (hp : ps.Perm ps') :
    fromFlat env sep s ps = fromFlat env sep s ps' :=
  order_free env sep s ps ps' h hp

/-- the pairs of every key keep their relative order -/
def KeySame (ps ps' : List (Str × Str)) : Prop :=
  ∀ k : Str, ps.filter (fun p => p.1 == k) = ps'.filter (fun p => p.1 == k)

/-- the plain reading: a permutation that keeps the relative order of the pairs of every KEY -/
def C02_stable_Full : Prop :=
  ∀ (env : Env) (sep : Str) (s : Schema), wf s = true → ∀ (ps ps' : List (Str × Str)),
    HNodupA env sep s (wrap ps) → ps.Perm ps' → KeySame ps ps' →
    fromFlat env sep s ps = fromFlat env sep s ps'

/-- a List of Arrays: `l_0` and `l_00` are different keys for the members of the SAME Array;
    swapping them keeps every per-key sub-sequence and swaps the members -/
theorem order_free_stable_full_fails : ¬ C02_stable_Full := by
  intro h
  have := h exEnv "_".toList
    (.list (some "l".toList) false true 1024 (.array none false true (.leaf none false 0))) (by decide +kernel)
    [("l_0".toList, "a".toList), ("l_00".toList, "b".toList)]
    [("l_00".toList, "b".toList), ("l_0".toList, "a".toList)]
    (by simp only [HNodupA]; intro i; trivial) (List.Perm.swap _ _ _)
    (by
      intro k
      by_cases h1 : k = "l_0".toList
      · subst h1; decide +kernel
      · by_cases h2 : k = "l_00".toList
        · subst h2; decide +kernel
        · have e1 : ¬ ['l', '_', '0'] = k := fun h => h1 h.symm
          have e2 : ¬ ['l', '_', '0', '0'] = k := fun h => h2 h.symm
          simp [e1, e2])
  -- both keys address slot 0, whose Array takes its members in the order of the pairs
  change Elem.list [.array [.leaf "a".toList, .leaf "b".toList]]
    = Elem.list [.array [.leaf "b".toList, .leaf "a".toList]] at this
  simp at this

/-- Dict{ a: Array[String], z: String } -/
def exStableS : Schema :=
  .dict none false .dense
    [ .array (some "a".toList) false true (.leaf none false 0), .leaf (some "z".toList) false 0 ]

/-- `z` may move past the Array's pairs; the Array's pairs keep their order -/
theorem exStable :
    fromFlat exEnv "_".toList exStableS
        [("z".toList, "1".toList), ("a".toList, "x".toList), ("a".toList, "y".toList)]
      = fromFlat exEnv "_".toList exStableS
        [("a".toList, "x".toList), ("z".toList, "1".toList), ("a".toList, "y".toList)] := by
  apply order_free_stable
  · simp only [exStableS, HNodupA, HNodupAFields, and_true, true_and]
    decide +kernel
  · exact List.Perm.swap _ _ _
  · simp only [exStableS, ASame, ASameFields, and_true]
    decide +kernel

/-- … and `order_free` does not apply to it: `a` occurs twice -/
example : ¬ HNodup exEnv "_".toList exStableS
    (wrap [("z".toList, "1".toList), ("a".toList, "x".toList), ("a".toList, "y".toList)]) := by
  simp only [exStableS, HNodup, HNodupFields, and_true]
  decide +kernel

/-- … and swapping the Array's own pairs does change the result (the hypothesis `ASame` is needed) -/
example : fromFlat exEnv "_".toList exStableS [("a".toList, "x".toList), ("a".toList, "y".toList)]
    ≠ fromFlat exEnv "_".toList exStableS [("a".toList, "y".toList), ("a".toList, "x".toList)] := by
  simp [fromFlat, setFlat, setFields, blank, blankFields, wrap, possibles, lookup, replace, membersOf, isPrefix,
    arrayNamed, arrayRemainder, truthy, exEnv, exStableS, Schema.name]

end Flatland.Flat.Proofs
