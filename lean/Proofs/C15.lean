/-
C15 — built-in validators decide their documented predicate and explain failures.
Class by class, the Boolean the code returns is compared with the docstring's predicate
(`decides_iff`: the note takes care of itself); `decides_partial` collects the classes, the three
URL validators coming from `Proofs/C15Url.lean` and `IsEmail` being decided relative to the opaque
idna conversion.  Then what a failing run records (`messages`, `false_verdict_records_one`).
-/
import Flatland.C15
import Flatland.Spec.C15
import Proofs.Lemmas.C15Luhn
import Proofs.Lemmas.C15Order
import Proofs.Lemmas.C15Sets
import Proofs.C16
import Proofs.Lemmas.C15Messages
import Proofs.Lemmas.C15Email
import Proofs.C15Url
import Proofs.Lemmas.ExceptBasic
namespace Flatland.C15.Proofs
open Flatland.C16 Flatland.C15 Flatland.C15.Spec

theorem decides_present (e : View) (d) (hd : documented .present e = some d) :
    Decides .present e d := by
  cases hd
  rw [decides_iff]
  simp only [verdict]
  cases e.u <;> rfl

theorem decides_isTrue (e : View) (d) (hd : documented .isTrue e = some d) :
    Decides .isTrue e d := by
  cases hd
  exact decides_iff.2 (answer_unless _)

theorem decides_isFalse (e : View) (d) (hd : documented .isFalse e = some d) :
    Decides .isFalse e d := by
  cases hd
  exact decides_iff.2 (answer_when _)

theorem decides_converted (e : View) (d) (hd : documented .converted e = some d) :
    Decides .converted e d := by
  cases hd
  exact decides_iff.2 (answer_if _)

theorem decides_valueIn (o) (e : View) (d) (hd : documented (.valueIn o) e = some d) :
    Decides (.valueIn o) e d := by
  cases hd
  simpa only [pyEq_same] using (decides_iff (v := .valueIn o) (e := e)).2 (answer_unless _)

theorem isPrefixOf_eq_take (s l : Str) : s.isPrefixOf l = (l.take s.length == s) := by
  rw [Bool.eq_iff_iff, List.isPrefixOf_iff_prefix, List.prefix_iff_eq_take, beq_iff_eq, eq_comm]

theorem any_range_succ (n : Nat) (f : Nat → Bool) :
    (List.range (n + 1)).any f = (f 0 || (List.range n).any (fun i => f (i + 1))) := by
  rw [List.range_succ_eq_map]
  simp [List.any_map, Function.comp_def]

theorem infixOf_eq (s c : Str) :
    infixOf s c = (List.range (c.length + 1)).any (fun i => (c.drop i).take s.length == s) := by
  induction c with
  | nil =>
    cases s <;> simp [infixOf]
  | cons x xs ih =>
    rw [infixOf, ih, isPrefixOf_eq_take]
    rw [show (x :: xs).length + 1 = (xs.length + 1) + 1 from rfl, any_range_succ (xs.length + 1)]
    simp

theorem decides_valueInText (c) (e : View) (d) (hd : documented (.valueInText c) e = some d) :
    Decides (.valueInText c) e d := by
  -- the model's `found`, with the value still to be analysed
  have h : answer (verdict (.valueInText c) e) = .ok _ := answer_unless _
  rw [decides_iff]
  cases hv : e.value with
  | str s =>
    simp only [documented, hv, ← infixOf_eq] at hd h
    cases hd
    exact h
  | _ =>
    simp only [documented, hv] at hd h
    cases hd
    exact h

theorem decides_shorterThan (m) (e : View) (d) (hd : documented (.shorterThan m) e = some d) :
    Decides (.shorterThan m) e d := by
  cases hd
  exact decides_iff.2 (answer_test.trans (by simp [← decide_not]))

theorem decides_longerThan (m) (e : View) (d) (hd : documented (.longerThan m) e = some d) :
    Decides (.longerThan m) e d := by
  cases hd
  exact decides_iff.2 (answer_test.trans (by simp [← decide_not]))

theorem decides_lengthBetween (lo hi) (e : View) (d)
    (hd : documented (.lengthBetween lo hi) e = some d) : Decides (.lengthBetween lo hi) e d := by
  cases hd
  exact decides_iff.2 (answer_test.trans (by simp [← decide_not, Bool.decide_and]))

/-- shared shape of the four one-bound comparisons: the model compares with `op`, which the
    order lemmas identify with a test `t` on the specification's three-valued order -/
theorem decides_compare (v : V) (e : View) (bound : Val) (d : Bool)
    (op : Except Raise Bool) (t : Ordering → Bool)
    (hop : ∀ o, cmp e.value bound = some o → op = .ok (t o))
    (hverdict : verdict v e =
      if e.value == .none then fail "failure"
      else op >>= fun r => if !r then fail "failure" else pass)
    (hdoc : (if e.value == .none then some false else (cmp e.value bound).map t) = some d) :
    Decides v e d := by
  rw [decides_iff, hverdict, answer_ite, answer_bind_test]
  by_cases hv : (e.value == .none) = true
  · rw [if_pos hv] at hdoc ⊢; cases hdoc; rfl
  · rw [if_neg hv] at hdoc ⊢
    cases hc : cmp e.value bound <;> rw [hc] at hdoc <;> cases hdoc
    exact hop _ hc

theorem decides_valueLessThan (b) (e : View) (d)
    (hd : documented (.valueLessThan b) e = some d) : Decides (.valueLessThan b) e d :=
  decides_compare _ e b d (pyLt e.value b) (· == .lt) (fun o h => (py_cmp _ _ o h).1)
    (by simp only [verdict]) (by simpa [documented] using hd)

theorem decides_valueAtMost (b) (e : View) (d)
    (hd : documented (.valueAtMost b) e = some d) : Decides (.valueAtMost b) e d :=
  decides_compare _ e b d (pyLe e.value b) (· != .gt) (fun o h => (py_cmp _ _ o h).2.2.1)
    (by simp only [verdict]) (by simpa [documented] using hd)

theorem decides_valueGreaterThan (b) (e : View) (d)
    (hd : documented (.valueGreaterThan b) e = some d) : Decides (.valueGreaterThan b) e d :=
  decides_compare _ e b d (pyLt b e.value) (· == .gt) (fun o h => (py_cmp _ _ o h).2.1)
    (by simp only [verdict]) (by simpa [documented] using hd)

theorem decides_valueAtLeast (b) (e : View) (d)
    (hd : documented (.valueAtLeast b) e = some d) : Decides (.valueAtLeast b) e d :=
  decides_compare _ e b d (pyLe b e.value) (· != .lt) (fun o h => (py_cmp _ _ o h).2.2.2)
    (by simp only [verdict]) (by simpa [documented] using hd)

/-- shared shape of the two-bound comparison, inclusive or exclusive: both comparisons are the
    test `t` on the specification's order; the second is made only if the first holds -/
theorem decides_chained (v : V) (e : View) (lo hi : Val) (d : Bool) (key : String)
    (op : Val → Val → Except Raise Bool) (t : Ordering → Bool)
    (hop : ∀ a b o, cmp a b = some o → op a b = .ok (t o))
    (hverdict : verdict v e =
      if e.value == .none then fail key
      else match chained (op lo e.value) (op e.value hi) with
        | .error r => .error r
        | .ok ok => if !ok then fail key else pass)
    (hdoc : (if e.value == .none then some false
      else match cmp lo e.value, cmp e.value hi with
        | some a, some b => some (t a && t b)
        | some a, none => if t a then none else some false
        | none, _ => none) = some d) :
    Decides v e d := by
  rw [decides_iff, hverdict, answer_ite]
  by_cases hv : (e.value == .none) = true
  · rw [if_pos hv] at hdoc ⊢; cases hdoc; rfl
  · rw [if_neg hv] at hdoc ⊢
    cases ha : cmp lo e.value with
    | none => rw [ha] at hdoc; cases hdoc
    | some a =>
      rw [hop _ _ a ha]
      cases hb : cmp e.value hi with
      | none =>
        -- the upper bound does not compare: a promise only below the lower bound
        simp only [ha, hb] at hdoc
        split at hdoc <;> cases hdoc
        rename_i hta
        simp only [Bool.not_eq_true] at hta
        simp only [hta, chained]; rfl
      | some b =>
        simp only [ha, hb, Option.some.injEq] at hdoc
        subst hdoc
        rw [hop _ _ b hb]
        cases t a <;> cases t b <;> rfl

theorem decides_valueBetween (lo hi inc) (e : View) (d)
    (hd : documented (.valueBetween lo hi inc) e = some d) :
    Decides (.valueBetween lo hi inc) e d := by
  cases inc
  · exact decides_chained _ e lo hi d "failure_exclusive" pyLt (· == .lt)
      (fun a b o h => (py_cmp a b o h).1)
      (by simp only [verdict, Bool.false_eq_true, if_false]; rfl)
      (by simp only [documented, Bool.false_eq_true, if_false] at hd; exact hd)
  · exact decides_chained _ e lo hi d "failure_inclusive" pyLe (· != .gt)
      (fun a b o h => (py_cmp a b o h).2.2.1)
      (by simp only [verdict, if_true]; rfl) (by simp only [documented, if_true] at hd; exact hd)

theorem allResolved_eq_some {fields : List (Option FieldView)} {l : List FieldView} :
    allResolved fields = some l ↔ fields = l.map some := by
  induction fields generalizing l with
  | nil => cases l <;> simp [allResolved]
  | cons f rest ih =>
    cases f with
    | none => cases l <;> simp [allResolved]
    | some f =>
      cases l with
      | nil => simp [allResolved]
      | cons g l' =>
        simp only [allResolved, ih, Option.map_eq_some_iff, List.map_cons, List.cons.injEq,
          Option.some.injEq]
        exact ⟨fun ⟨_, h, hl⟩ => ⟨hl.1, hl.2 ▸ h⟩, fun ⟨hf, h⟩ => ⟨_, h, hf, rfl⟩⟩

theorem resolveFields_map_some (l : List FieldView) : resolveFields (l.map some) = .ok l := by
  induction l with
  | nil => rfl
  | cons f l ih => simp only [List.map_cons, resolveFields, ih]

theorem resolveFields_of_allResolved (fields : List (Option FieldView)) (l : List FieldView)
    (h : allResolved fields = some l) : resolveFields fields = .ok l := by
  cases allResolved_eq_some.1 h; exact resolveFields_map_some l

theorem mem_of_allResolved (fields : List (Option FieldView)) (l : List FieldView)
    (h : allResolved fields = some l) (g : FieldView) (hg : g ∈ l) : some g ∈ fields := by
  cases allResolved_eq_some.1 h; exact List.mem_map.2 ⟨g, hg, rfl⟩

theorem labelsJoin_ok (l : List Val) (h : ∀ v ∈ l, ∃ s, v = .str s) :
    ∃ r, labelsJoin l = .ok r := by
  induction l with
  | nil => exact ⟨[], rfl⟩
  | cons v rest ih =>
    obtain ⟨s, hs⟩ := h v (by simp)
    subst hs
    obtain ⟨r, hr⟩ := ih (fun v hv => h v (by simp [hv]))
    cases rest with
    | nil => exact ⟨s, rfl⟩
    | cons w ws =>
      exact ⟨s ++ [',', ' '] ++ r, by simp [labelsJoin, hr, bind, Except.bind, pure, Except.pure]⟩

theorem decides_mapEqual (k : EqKind) (e : View) (d)
    (hd : documented (.mapEqual k) e = some d) : Decides (.mapEqual k) e d := by
  rw [decides_iff]
  simp only [documented] at hd
  cases hm : allResolved e.fields with
  | none => rw [hm] at hd; cases hd
  | some l =>
    rw [hm] at hd
    cases l with
    | nil => cases hd
    | cons first rest =>
      cases htl : textLabels (first :: rest) <;>
        simp only [htl, Bool.not_false, Bool.not_true, if_true, Bool.false_eq_true, if_false,
          Option.some.injEq, reduceCtorEq] at hd
      subst hd
      -- the failure message needs the labels joined: they are texts
      obtain ⟨r, hr⟩ := labelsJoin_ok (((first :: rest).dropLast).map (·.label)) (by
        intro v hv
        obtain ⟨g, hg, rfl⟩ := List.mem_map.1 hv
        have := List.all_eq_true.1 htl g (List.dropLast_subset _ hg)
        cases hl : g.label <;> simp [hl] at this
        exact ⟨_, rfl⟩)
      simp only [verdict, resolveFields_of_allResolved e.fields _ hm, bind, Except.bind, hr]
      cases k <;> simp only [← pyEq_same] <;> exact answer_if _

theorem decides_notDuplicated (e : View) (d)
    (hd : documented .notDuplicated e = some d) : Decides .notDuplicated e d := by
  rw [decides_iff]
  cases hp : e.hasParent <;> cases hpos : e.pos <;>
    simp only [documented, hp, hpos, Option.some.injEq, reduceCtorEq] at hd
  rename_i p
  have hloop := dupLoop_valid (e.value, e.u) p e.siblings 0 true (Nat.zero_le _)
  simp only [Bool.true_and, Nat.sub_zero, pyEq_same] at hloop
  rw [← hd, ← hloop]
  simp only [verdict, hp, hpos, Bool.not_true, Bool.false_eq_true, if_false]
  exact answer_unless _

/-- an element none of whose *earlier* siblings compares equal is never
    reported, whatever follows it — only second and later occurrences are marked -/
theorem notdup_first_kept (e : View) (p : Nat) (hp : e.hasParent = true) (hpos : e.pos = some p)
    (hfirst : ∀ s ∈ e.siblings.take p, (same e.value s.1 && e.u == s.2) = false) :
    verdict .notDuplicated e = pass := by
  have hd : documented .notDuplicated e = some true := by
    simp only [documented, hp, hpos, Option.some.injEq, Bool.not_eq_true']
    rw [List.any_eq_false]
    intro s hs
    simpa using hfirst s hs
  obtain ⟨note, hv, hn⟩ := decides_notDuplicated e true hd
  have : note = none := hn.1 rfl
  subst this
  exact hv

theorem decides_hasAtLeast (m) (e : View) (d)
    (hd : documented (.hasAtLeast m) e = some d) : Decides (.hasAtLeast m) e d := by
  rw [decides_iff]
  cases hs : e.isSequence <;> cases hl : e.valueLen <;> simp [documented, hs, hl] at hd
  rename_i n
  subst hd
  simp only [verdict, hs, hl, answer_ite, answer_pass, answer_fail, answer_error]
  by_cases h0 : m = 0
  · subst h0; simp
  · by_cases h : m ≤ (n : Int)
    · have : ¬ (n : Int) < m := by omega
      simp [h0, h, this]
    · have : (n : Int) < m := by omega
      simp [h0, h, this]

theorem decides_hasAtMost (m) (e : View) (d)
    (hd : documented (.hasAtMost m) e = some d) : Decides (.hasAtMost m) e d := by
  rw [decides_iff]
  by_cases hneg : m < 0 <;> cases hs : e.isSequence <;> cases hl : e.valueLen <;>
    simp [documented, hs, hl, hneg] at hd <;> subst hd <;>
    simp only [verdict, hs, hl, answer_test, Bool.not_true, Bool.false_eq_true, if_false]
  · simp
  · rename_i n
    congr 1
    by_cases h : (n : Int) ≤ m
    · have : ¬ m < (n : Int) := by omega
      simp [h, this]
    · have : m < (n : Int) := by omega
      have : n ≠ 0 := by omega
      simp [*]

theorem decides_hasBetween (lo hi) (e : View) (d)
    (hd : documented (.hasBetween lo hi) e = some d) : Decides (.hasBetween lo hi) e d := by
  rw [decides_iff]
  cases hs : e.isSequence <;>
    simp only [documented, hs, Bool.not_true, Bool.not_false, Bool.false_eq_true, if_false, if_true,
      Option.some.injEq, reduceCtorEq] at hd
  subst hd
  simp only [verdict, hs, Bool.not_true, Bool.false_eq_true, if_false, Bool.decide_and]
  exact answer_if _

theorem memKey_schema (keys : List Str) (k : Val) :
    memKey k (schemaVals keys) = declared keys k := by
  unfold memKey schemaVals declared
  rw [List.any_map]
  congr; funext a; simp [pyEq_same]

theorem memKey_given (ks : List Val) (a : Str) : memKey (.str a) ks = given ks a := by
  unfold memKey given
  congr; funext k; exact pyEq_same _ _

theorem all_schema_given (keys : List Str) (ks : List Val) :
    (schemaVals keys).all (fun k => memKey k ks) = keys.all (given ks) := by
  simp only [schemaVals, List.all_map, Function.comp_def, memKey_given]

theorem decides_setWithKnownFields (e : View) (d)
    (hd : documented .setWithKnownFields e = some d) : Decides .setWithKnownFields e d := by
  rw [decides_iff]
  cases hr : e.raw <;> simp only [documented, hr, Option.some.injEq] at hd <;> subst hd <;>
    simp only [verdict, hr, answer_pass]
  rw [answer_if, diffKeys_isEmpty]
  simp only [memKey_schema]

theorem decides_setWithAllFields (e : View) (d)
    (hd : documented .setWithAllFields e = some d) : Decides .setWithAllFields e d := by
  rw [decides_iff]
  cases hr : e.raw <;> simp only [documented, hr, Option.some.injEq] at hd <;> subst hd <;>
    simp only [verdict, hr, answer_pass]
  rename_i ks
  have hsk : sameKeySet ks (schemaVals e.schemaKeys) =
      (ks.all (declared e.schemaKeys) && e.schemaKeys.all (given ks)) := by
    simp only [sameKeySet, memKey_schema, all_schema_given]
  rw [← hsk, answer_if]
  cases hsame : sameKeySet ks (schemaVals e.schemaKeys) with
  | true => simp
  | false =>
    rw [hsk] at hsame
    simp [diffKeys_isEmpty, memKey_schema, all_schema_given, Bool.and_comm, hsame]

theorem decides_luhn10 (e : View) (d) (hd : documented .luhn10 e = some d) :
    Decides .luhn10 e d := by
  rw [decides_iff]
  cases hv : e.value <;> simp only [documented, hv, numOf, Option.some.injEq, reduceCtorEq] at hd <;>
    subst hd <;> simp only [verdict, hv, numOf, answer_fail, answer_if, luhn10Check_eq] <;> simp

theorem decides_isEmail (nl : Bool) (e : View) (d)
    (hd : documented (.isEmail nl) e = some d) : Decides (.isEmail nl) e d := by
  rw [decides_iff]
  cases hv : e.value <;> simp only [documented, hv, Option.some.injEq, reduceCtorEq] at hd <;>
    subst hd
  · simp only [verdict, hv]; rfl
  · rw [verdict_isEmail_str nl e _ hv]; exact answer_if _

/-- the length assertions are applied to the *converted* domain.
    Whatever the address looks like as text (in particular however short its domain is before
    conversion), if the IDN form is longer than 253 characters — or one of its dot-separated
    components longer than 63 — the verdict is false with the `invalid` message. -/
theorem isEmail_length_on_idna (nl : Bool) (e : View) (addr d : Str)
    (hv : e.value = .str addr) (hi : e.idna = some d)
    (hlong : 253 < d.length ∨ ∃ l ∈ splitOnChar '.' d, 63 < l.length) :
    verdict (.isEmail nl) e = fail "invalid" := by
  rw [verdict_isEmail_str nl e addr hv, if_neg]
  intro h
  obtain ⟨d', hd', h253, h63⟩ := emailDocumented_idna h
  cases hi.symm.trans hd'
  rcases hlong with h | ⟨l, hl, h⟩
  · omega
  · have := h63 l hl; omega

/-- conversely an accepted address has a converted domain of at most 253 characters whose
    components have at most 63 -/
theorem isEmail_accepts_short_idna (nl : Bool) (e : View) (addr : Str)
    (hv : e.value = .str addr) (hp : verdict (.isEmail nl) e = pass) :
    ∃ d, e.idna = some d ∧ d.length ≤ 253 ∧ ∀ l ∈ splitOnChar '.' d, l.length ≤ 63 := by
  rw [verdict_isEmail_str nl e addr hv] at hp
  split at hp
  · exact emailDocumented_idna ‹_›
  · cases hp

/-- non-vacuity: a 8-character text domain whose (supposed) conversion has 254 characters -/
example :
    verdict (.isEmail true)
      { value := .str "bob@snow.com".toList, idna := some (List.replicate 254 'a') } =
      fail "invalid" :=
  isEmail_length_on_idna true _ "bob@snow.com".toList (List.replicate 254 'a') rfl rfl
    (Or.inl (by rw [List.length_replicate]; omega))

/-- for every validator class, every parameterisation and every element view:
    whenever the documentation makes a promise (`documented v e = some d`), the validator
    returns exactly the verdict `d`, without raising, and calls `note_error` iff `d` is false —
    except for `HTTPURLValidator` on an element without a value that is promised False
    (KF-C15-a) and the other open finding collected in `Spec.excluded` (KF-C15-g: `''` listed in
    `allowed_schemes`). -/
theorem decides_partial (v : V) (e : View) (d : Bool) (hd : documented v e = some d)
    (hk : Excluded v e d = false) : Decides v e d := by
  cases v with
  | present => exact decides_present e d hd
  | isTrue => exact decides_isTrue e d hd
  | isFalse => exact decides_isFalse e d hd
  | converted => exact decides_converted e d hd
  | valueIn o => exact decides_valueIn o e d hd
  | valueInText c => exact decides_valueInText c e d hd
  | shorterThan m => exact decides_shorterThan m e d hd
  | longerThan m => exact decides_longerThan m e d hd
  | lengthBetween a b => exact decides_lengthBetween a b e d hd
  | valueLessThan b => exact decides_valueLessThan b e d hd
  | valueAtMost b => exact decides_valueAtMost b e d hd
  | valueGreaterThan b => exact decides_valueGreaterThan b e d hd
  | valueAtLeast b => exact decides_valueAtLeast b e d hd
  | valueBetween a b i => exact decides_valueBetween a b i e d hd
  | mapEqual k => exact decides_mapEqual k e d hd
  | notDuplicated => exact decides_notDuplicated e d hd
  | hasAtLeast m => exact decides_hasAtLeast m e d hd
  | hasAtMost m => exact decides_hasAtMost m e d hd
  | hasBetween a b => exact decides_hasBetween a b e d hd
  | setWithKnownFields => exact decides_setWithKnownFields e d hd
  | setWithAllFields => exact decides_setWithAllFields e d hd
  | luhn10 => exact decides_luhn10 e d hd
  | isEmail nl => exact decides_isEmail nl e d hd
  | urlValidator s p => exact decides_urlValidator_partial s p e d hd hk
  | httpURL ap r f => exact decides_httpURL_partial ap r f e d hd hk
  | urlCanonicalizer ds => exact decides_urlCanonicalizer ds e d hd

/-- non-vacuity: an Integer that did not convert (`value None`, text kept in `u`) against
    `ValueLessThan(4)` — documented false, and the model says so -/
example :
    let e : View := { value := .none, u := "abc".toList, label := .str "n".toList }
    documented (.valueLessThan (.int 4)) e = some false ∧
    (verdict (.valueLessThan (.int 4)) e).toOption.map (·.1) = some false := by decide +kernel

/-- the property as stated, with no side condition -/
def C15_Full : Prop :=
  ∀ (v : V) (e : View) (d : Bool), documented v e = some d → Decides v e d

/-- the strongest true restriction: everything outside `Spec.excluded` (KF-C15-a, KF-C15-g) -/
theorem C15_partial :
    ∀ (v : V) (e : View) (d : Bool), documented v e = some d → Excluded v e d = false →
      Decides v e d := decides_partial

/-- the full statement is false of the code as it is: `HTTPURLValidator()` on an element without
    a value returns True although the required scheme and hostname cannot be there (KF-C15-a) -/
theorem C15_full_fails : ¬ C15_Full := fun h =>
  C15_HttpFull_fails (fun _ _ _ e d hd => h _ e d hd)

/-- it stays false with KF-C15-a set aside: KF-C15-g (`C15_empty_scheme_always_blocked`)
    refutes it on an element that holds a text -/
theorem C15_full_fails_with_value :
    ¬ (∀ (v : V) (e : View) (d : Bool), e.value ≠ .none → documented v e = some d → Decides v e d) :=
  fun h => C15_UrlFull_fails (fun s p e d hd => by
    cases hv : e.value with
    | none =>
      simp [documented, hv] at hd; subst hd
      exact decides_iff.2 (by simp only [verdict, hv]; rfl)
    | _ => exact h _ e d (by simp [hv]) hd)

/-- witness of the fixed D-C15-7: `MapEqual` with its own default transform on two equal
    fields returns True -/
example :
    let f : FieldView := { value := .str "x".toList, u := "x".toList, label := .str "a".toList }
    (verdict (.mapEqual .element) { fields := [some f, some f] }).toOption.map (·.1) = some true := by
  decide +kernel

/-- witness of the fixed D-C15-6: a raw key that is not text is reported as unexpected, by its
    `str()` -/
theorem setWith_nontext_key_reported :
    (verdict .setWithKnownFields { raw := .pairs [.int 1], schemaKeys := ["a".toList] }).toOption.map
      (fun r => (r.1, r.2.map (·.info))) =
    some (false, some [("unexpected".toList, .str ['1']), ("n_unexpected".toList, .int 1)]) := by
  decide +kernel

/-- witness of the fixed D-C15-5: raw items that are not pairs are treated like a raw value that
    is not iterable — deemed valid, no exception -/
theorem setWith_bad_pairs_valid (e : View) (h : e.raw = .badPairs) :
    verdict .setWithKnownFields e = pass ∧ verdict .setWithAllFields e = pass := by
  simp [verdict, h]

/-- apart from the canonicalising URL validator no validator changes the
    element's value — for the values the model follows the code on (`inModel`: `HTTPURLValidator`
    on a text or no value; every other class on every value) -/
theorem value_preserved (v : V) (e : View) (_hm : inModel v e = true) (h : ∀ ds, v ≠ .urlCanonicalizer ds) :
    valueAfter v e = e.value := by
  cases v <;> first | rfl | exact absurd rfl (h _)

theorem addError_spec (errors : List Str) (s : Str) :
    addError errors s = if s ∈ errors then errors else errors ++ [s] := by
  unfold addError
  by_cases h : s ∈ errors
  · simp [h]
  · simp [h]

theorem envOf_no_translator (v : V) (e : View) (info : List (Str × Val)) :
    findTransformer (envOf v e info).uState (envOf v e info).uAnc (envOf v e info).uBuiltin =
      .ok none := rfl

/-- whatever `expand_message` returns in the model's environment is the complete expansion of
    the text chosen *for this message* (for a plain message: the message itself; for a triple:
    the form selected by the count) -/
theorem expansion_of_chosen (v : V) (e : View) (info : List (Str × Val)) (msg : Msg) (s : Str)
    (hx : expandMessage (envOf v e info) msg = .ok s) :
    ∃ text segs, chooseMessage (envOf v e info) none msg = .ok text ∧
      (∀ t, msg = .plain t → text = t) ∧
      parseFmt text = .ok segs ∧
      (∀ k ∈ placeholdersOf segs, (rawLookup (envOf v e info).targets k).isSome = true) ∧
      s = Flatland.C16.Proofs.expansion
        (fun k => (rawLookup (envOf v e info).targets k).getD .none) segs := by
  obtain ⟨u, text, segs, hu, hc, hp, hdef, hs⟩ :=
    Flatland.C16.Proofs.expandMessage_ok_expansion _ _ _ hx
  rw [envOf_no_translator] at hu
  cases hu
  refine ⟨text, segs, hc, ?_, hp, hdef, hs⟩
  rintro t rfl
  rw [Flatland.C16.Proofs.chooseMessage_plain] at hc
  cases hc; rfl

/-- a run that returns records nothing on a true verdict; on a false verdict it
    looks up the validator's own message attribute `n.key` in the table and — unless that
    message is the empty text, in which case nothing is recorded — records exactly the complete
    expansion `s` of the text chosen for *that* message (every placeholder resolved in the
    validator's environment and replaced), `add_error` dropping it only if the very same text
    is already there. -/
theorem messages (table : List BuiltinMsg) (v : V) (e : View) (errors : List Str) (o : Outcome)
    (h : runWith table v e errors = .ok o) :
    ∃ note, verdict v e = .ok (o.verdict, note) ∧ o.value = valueAfter v e ∧
      (note = none → o.errors = errors) ∧
      (∀ n, note = some n → ∃ msg, messageOf table v.className n.key = some msg ∧
        ((msg.truthy = false ∧ o.errors = errors) ∨
         (msg.truthy = true ∧ ∃ s text segs, expandMessage (envOf v e n.info) msg = .ok s ∧
           chooseMessage (envOf v e n.info) none msg = .ok text ∧
           (∀ t, msg = .plain t → text = t) ∧
           parseFmt text = .ok segs ∧
           (∀ k ∈ placeholdersOf segs, (rawLookup (envOf v e n.info).targets k).isSome = true) ∧
           s = Flatland.C16.Proofs.expansion
             (fun k => (rawLookup (envOf v e n.info).targets k).getD .none) segs ∧
           o.errors = (if s ∈ errors then errors else errors ++ [s])))) := by
  have hends := verdict_ends v e
  generalize hr : verdict v e = r at hends
  cases hends with
  | error => rw [runWith, hr] at h; cases h
  | pass =>
    rw [runWith_pass hr] at h
    cases h
    exact ⟨none, rfl, rfl, fun _ => rfl, nofun⟩
  | @fail k i _ =>
    rw [runWith_note (b := false) (n := ⟨k, i⟩) hr] at h
    cases hm : messageOf table v.className k with
    | none => rw [hm] at h; cases h
    | some msg =>
      rw [hm] at h
      obtain ⟨errs, hn, rfl⟩ := Flatland.Ex.map_eq_ok_iff.1 h
      refine ⟨some ⟨k, i⟩, rfl, rfl, nofun, ?_⟩
      rintro _ ⟨⟩
      refine ⟨msg, hm, ?_⟩
      rw [Flatland.C16.Proofs.noteError_eq] at hn
      cases ht : msg.truthy <;> rw [ht] at hn
      · cases hn; exact .inl ⟨rfl, rfl⟩
      · obtain ⟨s, hx, rfl⟩ := Flatland.Ex.map_eq_ok_iff.1 hn
        obtain ⟨text, segs, hc, hpl, hp, hdef, hs⟩ := expansion_of_chosen v e i msg s hx
        exact .inr ⟨rfl, s, text, segs, hx, hc, hpl, hp, hdef, hs, addError_spec errors s⟩

/-- exactly one message on failure (shipped templates): a documented false verdict always
    completes; the validator's own message attribute exists in the regenerated table, and the
    error list afterwards is the old one plus exactly the complete expansion `s` of the text
    chosen for that message — unless the very same text `s` was already recorded. -/
theorem false_verdict_records_one (v : V) (e : View) (errors : List Str)
    (hd : documented v e = some false) (hk : Excluded v e false = false) :
    ∃ n o msg text segs s, verdict v e = .ok (false, some n) ∧
      messageOf Flatland.Generated.C16.builtinMessages v.className n.key = some msg ∧
      chooseMessage (envOf v e n.info) none msg = .ok text ∧
      (∀ t, msg = .plain t → text = t) ∧
      parseFmt text = .ok segs ∧
      (∀ k ∈ placeholdersOf segs, (rawLookup (envOf v e n.info).targets k).isSome = true) ∧
      s = Flatland.C16.Proofs.expansion
        (fun k => (rawLookup (envOf v e n.info).targets k).getD .none) segs ∧
      run v e errors = .ok o ∧ o.verdict = false ∧ o.value = valueAfter v e ∧
      o.errors = (if s ∈ errors then errors else errors ++ [s]) := by
  obtain ⟨note, hv, hiff⟩ := decides_partial v e false hd hk
  cases note with
  | none => exact absurd (hiff.2 rfl) (by simp)
  | some n =>
    obtain ⟨o, msg, s, hm, hx, ho, hb, hval, herr⟩ := messages_total v e errors false n hv
    obtain ⟨text, segs, hc, hpl, hp, hdef, hs⟩ := expansion_of_chosen v e n.info msg s hx
    exact ⟨n, o, msg, text, segs, s, hv, hm, hc, hpl, hp, hdef, hs, ho, hb, hval,
      by rw [herr]; exact addError_spec errors s⟩

theorem true_verdict_records_nothing (table : List BuiltinMsg) (v : V) (e : View)
    (errors : List Str) (o : Outcome) (d : Bool)
    (hd : documented v e = some d) (hk : Excluded v e d = false)
    (h : runWith table v e errors = .ok o) (ht : o.verdict = true) :
    o.errors = errors := by
  obtain ⟨note, hv, _, hnone, _⟩ := messages table v e errors o h
  obtain ⟨note', hv', hiff⟩ := decides_partial v e d hd hk
  rw [hv] at hv'
  cases hv'
  exact hnone (hiff.1 ht)

/-- independence from validation state: whatever `.valid` flags and recorded errors the
    siblings (earlier list members, sibling fields) carry, every validator's verdict, message and
    resulting value are the same — in particular `NotDuplicated` judges by the siblings' VALUES
    only (a sibling rejected earlier, by this or another validator, still counts as the first
    occurrence) -/
theorem verdict_ignores_validation_state (v : V) (e : View) (st : List (Option Bool × Nat)) :
    verdict v { e with siblingState := st } = verdict v e ∧
    valueAfter v { e with siblingState := st } = valueAfter v e ∧
    documented v { e with siblingState := st } = documented v e := by
  refine ⟨?_, ?_, ?_⟩ <;> cases v <;> rfl

theorem notdup_ignores_valid (e : View) (st : List (Option Bool × Nat)) :
    verdict .notDuplicated { e with siblingState := st } = verdict .notDuplicated e :=
  (verdict_ignores_validation_state .notDuplicated e st).1

/-- a validator reporting through `note_warning` does to the warnings list
    exactly what it would do to the errors list through `note_error` — so `messages`,
    `messages_total` and `false_verdict_records_one` hold verbatim for warnings -/
theorem warn_eq_error (table : List BuiltinMsg) (v : V) (e : View) (l : List Str) :
    runWarnWith table v e l = runWith table v e l := rfl

end Flatland.C15.Proofs
