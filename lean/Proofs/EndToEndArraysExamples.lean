/-
END TO END with Arrays: non-vacuity, and the scope witnesses.
-/
import Proofs.EndToEndArrays
import Proofs.EndToEndExamples
namespace Flatland.EndToEnd.Proofs
open Flatland.Flat Flatland.Flat.Spec Flatland.Flat.Proofs Flatland.EndToEnd
open Flatland.C12 Flatland.C12.Proofs
open Flatland.Markup (Tables Attrs sChecked)

private def s (x : String) : Str := x.toList

/-- Dict{ a: Array[String], z: String }: the Array is declared BEFORE the scalar -/
def exAS : Schema :=
  .dict none false .dense
    [ .array (some (s "a")) false true (.leaf none false 0), .leaf (some (s "z")) false 0 ]

def exAE : Elem := .dict [ (s "a", .array [ .leaf (s "x"), .leaf (s "y") ]), (s "z", .leaf (s "1")) ]

/-- two checked checkboxes `a=x`, `a=y`, then a text input `z=1` -/
def exAT : FormTree :=
  .dict none [ .array (some (s "a")) false [s "x", s "y"] .checkboxes [[], []],
               .text (some (s "z")) (s "1") (.input (some (s "text"))) [] ]

theorem exA_linked : linked exEnvB exAS exAE exAT = true := by
  rw [linked, ← resolveE_eq]; decide +kernel

/-- document order: the Array's pairs first … -/
theorem exA_pairs : formPairs [] exAT = [(s "a", s "x"), (s "a", s "y"), (s "z", s "1")] := by decide +kernel

/-- … `flatten()` is breadth first: the scalar first (document order ≠ `flatten()` order) -/
theorem exA_flatten : flatten exEnvB usep exAS exAE = [(s "z", s "1"), (s "a", s "x"), (s "a", s "y")] := by
  rw [flatten_eq_flattenE]; decide +kernel

/-- every hypothesis of `end_to_end_arrays_partial` holds (all by evaluation) … -/
theorem exA_hypsA : hypsA Tables.current exEnvB exAS exAE exAT = true := by
  simp only [hypsA, exA_linked, exA_flatten, exA_pairs, Bool.true_and]
  decide +kernel

/-- … while `narrowB`, `hnodupB`, `hypsN` and `hyps` all fail: neither `end_to_end_partial` nor
    `end_to_end_narrow_partial` applies -/
theorem exA_only_arrays_applies :
    narrowB exAS exAE = false ∧
    hnodupB exEnvB usep exAS (wrap (formPairs [] exAT ++ uncheckedPairs [] exAT)) = false ∧
    hypsN Tables.current exEnvB exAS exAE exAT = false ∧ hyps Tables.current exEnvB exAS exAE exAT = false := by
  have h1 : narrowB exAS exAE = false := by decide +kernel
  have h2 : hnodupB exEnvB usep exAS (wrap (formPairs [] exAT ++ uncheckedPairs [] exAT)) = false := by decide +kernel
  refine ⟨h1, h2, ?_, ?_⟩
  · simp only [hypsN, h1, Bool.and_false, Bool.false_and]
  · simp only [hyps, h2, Bool.and_false, Bool.false_and]

/-- the rebuilt tree computed directly from the document-order pairs: the members in member order -/
theorem exA_fromFlat : fromFlat exEnvB usep exAS [(s "a", s "x"), (s "a", s "y"), (s "z", s "1")] = exAE :=
  eq_of_elemBeq _ _ (by decide +kernel)

/-- non-vacuity, both sides evaluated: the browser posts the three pairs in document order, the
    theorem says `from_flat` of them is `prS e`, and that is the element itself -/
theorem exA_end_to_end :
    browserSubmit (seenOf Tables.current freshGen.ctx) (some 0) (renderForm [] exAT)
        = .ok [(s "a", s "x"), (s "a", s "y"), (s "z", s "1")] ∧
    fromFlat exEnvB usep exAS [(s "a", s "x"), (s "a", s "y"), (s "z", s "1")]
        = prS exEnvB usep false exAS exAE ∧
    prS exEnvB usep false exAS exAE = exAE := by
  obtain ⟨_, hf, hsub, _⟩ := hypsA_unpack exA_hypsA
  have hp := form_roundtrip_fresh exAT hf hsub
  rw [exA_pairs] at hp
  have h := end_to_end_arrays_partial exEnvB exAS exAE exAT exA_hypsA _ hp
  exact ⟨hp, h, by rw [← h]; exact exA_fromFlat⟩

/-- `order_free_canonical` on it: `z` moves past the Array's pairs -/
example : fromFlat exEnvB usep exAS (flatten exEnvB usep exAS exAE)
    = fromFlat exEnvB usep exAS (formPairs [] exAT) := by
  obtain ⟨hl, _, _, hw, hroot, hok, henv, hs, hun, hks⟩ := hypsA_unpack exA_hypsA
  have hperm := flatten_perm_formPairs hl
  rw [hun, List.append_nil] at hperm
  exact order_free_canonical exEnvB usep exAS exAE hs henv hw hroot hok _ (keySameB_sound hperm hks)

/-- unchecked boxes and Arrays do not combine.  The same schema with a Boolean: `dropSafe` is false (because of the Array), so a form with the box
    unchecked meets neither `hyps` (`hnodupB` fails: two members) nor `hypsA` (an unchecked box) -/
def exABS : Schema :=
  .dict none false .dense
    [ .array (some (s "a")) false true (.leaf none false 0), .leaf (some (s "b")) false 1 ]
def exABE : Elem := .dict [ (s "a", .array [ .leaf (s "x"), .leaf (s "y") ]), (s "b", .leaf []) ]
def exABT : FormTree :=
  .dict none [ .array (some (s "a")) false [s "x", s "y"] .checkboxes [[], []],
               .bool (some (s "b")) (s "1") [] [] ]

theorem exAB_outside :
    dropSafe exEnvB exABS = false ∧ uncheckedPairs [] exABT = [(s "b", [])] ∧
    hyps Tables.current exEnvB exABS exABE exABT = false ∧
    hypsA Tables.current exEnvB exABS exABE exABT = false := by
  refine ⟨by decide +kernel, by decide +kernel, ?_, ?_⟩
  · have hn : hnodupB exEnvB usep exABS (wrap (formPairs [] exABT ++ uncheckedPairs [] exABT)) = false := by
      decide +kernel
    simp only [hyps, hn, Bool.and_false, Bool.false_and]
  · have hu : (uncheckedPairs [] exABT).isEmpty = false := by decide +kernel
    simp only [hypsA, hu, Bool.and_false, Bool.false_and]

/-- (the conclusion is true of it all the same — oracle and correspondence cover it, no theorem does) -/
example : fromFlat exEnvB usep exABS (formPairs [] exABT) = exABE :=
  eq_of_elemBeq _ _ (by decide +kernel)

/-- `DateYYYYMMDD`-like: Compound{ year, month, day } holding its three members -/
def exDateS : Schema :=
  .compound (some (s "d")) false 0
    [ .leaf (some (s "year")) false 0, .leaf (some (s "month")) false 0, .leaf (some (s "day")) false 0 ]
def exDateE : Elem :=
  .dict [ (s "year", .leaf (s "2024")), (s "month", .leaf (s "1")), (s "day", .leaf (s "2")) ]

/-- scope: a Compound with members is linked to no form … -/
theorem exDate_not_linked (t : FormTree) : linked exEnvB exDateS exDateE t = false := by
  cases h : linked exEnvB exDateS exDateE t with
  | false => rfl
  | true =>
    have := compound_not_linked exEnvB _ _ _ _ exDateE t h
    simp [resolveMembers, resolveOne, membersOf, exDateE, Schema.name, s] at this

/-- … nor is a Dict that holds one -/
theorem exDateDict_not_linked (t : FormTree) :
    linked exEnvB (.dict none false .dense [exDateS]) (.dict [ (s "d", exDateE) ]) t = false := by
  cases h : linked exEnvB (.dict none false .dense [exDateS]) (.dict [ (s "d", exDateE) ]) t with
  | false => rfl
  | true =>
    have := linked_formLike exEnvB _ _ t h
    simp [resolve, resolveMembers, resolveOne, membersOf, exDateS, exDateE, formLike, formLikeL, Schema.name, s]
      at this

end Flatland.EndToEnd.Proofs
