/-
C03 — exported native value re-imports to an equal element: `reimport` and its corollaries, for every
well-formed schema over table-driven leaf-likes, under the hypothesis `leafStable` on the leaves that occur
in the result (a decidable function the runner evaluates on the tables extracted from the real classes).
`reimport_needs_leafIdem` is the witness that the hypothesis is needed (KF-C03-a).
-/
import Flatland.C03
import Proofs.Lemmas.Assoc
import Proofs.Lemmas.ListBasic
namespace Flatland.C03.Proofs
open Flatland.C03

def namesOf : List Schema → List (Option Str)
  | [] => []
  | f :: fs => f.name :: namesOf fs

mutual
/-- Dict fields are named and distinct; a SparseDict is not combined with the 'strict' policy (a
    blank sparse member could never satisfy it) -/
def wf : Schema → Bool
  | .leaf .. => true
  | .dict _ _ mode policy fields =>
    wfL fields && (namesOf fields).all Option.isSome && decide (namesOf fields).Nodup &&
      (decide (mode = .dense) || decide (policy ≠ .strict))
  | .seq _ _ member => wf member
def wfL : List Schema → Bool
  | [] => true
  | f :: fs => wf f && wfL fs
end

theorem wfL_iff (fs : List Schema) : wfL fs = true ↔ ∀ f ∈ fs, wf f = true := by
  induction fs with
  | nil => simp [wfL]
  | cons g gs ih => simp [wfL, ih]

theorem wf_dict {n : Option Str} {o : Bool} {mode : DictMode} {policy : Policy} {fields : List Schema}
    (h : wf (.dict n o mode policy fields) = true) :
    (∀ f ∈ fields, wf f = true) ∧ (namesOf fields).all Option.isSome = true ∧ (namesOf fields).Nodup ∧
      (mode = .dense ∨ policy ≠ .strict) := by
  simpa only [wf, Bool.and_eq_true, Bool.or_eq_true, decide_eq_true_eq, wfL_iff, and_assoc] using h

theorem schema_induct {P : Schema → Prop} (leaf : ∀ n o k, P (.leaf n o k))
    (seq : ∀ n o member, P member → P (.seq n o member))
    (dict : ∀ n o mode policy fields, (∀ f ∈ fields, P f) → P (.dict n o mode policy fields)) (s : Schema) : P s :=
  Schema.rec (motive_1 := P) (motive_2 := fun fs => ∀ f ∈ fs, P f) leaf dict seq
    (fun _ h => nomatch h) (fun _ _ h hs f hf => (List.mem_cons.mp hf).elim (· ▸ h) (hs f)) s

theorem wf_induct {P : Schema → Prop} (leaf : ∀ n o k, P (.leaf n o k))
    (seq : ∀ n o member, wf member = true → P member → P (.seq n o member))
    (dict : ∀ n o mode policy fields, wf (.dict n o mode policy fields) = true → (∀ f ∈ fields, P f) →
      P (.dict n o mode policy fields)) (s : Schema) : wf s = true → P s := by
  induction s using schema_induct with
  | leaf n o k => exact fun _ => leaf n o k
  | seq n o member ih =>
    intro hw
    have hm : wf member = true := by simpa only [wf] using hw
    exact seq n o member hm (ih hm)
  | dict n o mode policy fields ih =>
    exact fun hw => dict n o mode policy fields hw fun f hf => ih f hf ((wf_dict hw).1 f hf)

/- The model's list recursions are `map`, `filter`, `find?` and `Assoc.get` / `Assoc.replace`; what is needed of them
   comes from there. -/

theorem namesOf_eq (fs : List Schema) : namesOf fs = fs.map (·.name) := by
  induction fs with
  | nil => rfl
  | cons f fs ih => rw [namesOf, ih, List.map_cons]

theorem fieldNames_eq_map (fs : List Schema) : fieldNames fs = fs.map (fun f => f.name.getD []) := by
  induction fs with
  | nil => rfl
  | cons f fs ih => rw [fieldNames, ih, List.map_cons]

theorem findField_eq (key : Str) (fs : List Schema) : findField key fs = fs.find? (fun f => f.name = some key) := by
  induction fs with
  | nil => rfl
  | cons f fs ih => by_cases h : f.name = some key <;> simp [findField, ih, h]

theorem lookup_eq (key : Str) (ms : List (Str × Elem)) : lookup key ms = Assoc.get ms key :=
  Assoc.get_unique (fun ms k => lookup k ms) (fun _ => rfl) (fun _ _ _ _ => rfl) ms key

theorem replace_eq (key : Str) (e : Elem) (ms : List (Str × Elem)) : replace key e ms = Assoc.replace ms key e := by
  induction ms with
  | nil => rfl
  | cons p ps ih =>
    obtain ⟨k, x⟩ := p
    by_cases h : k = key <;> simp [replace, Assoc.replace, ih, h]

/-- the member `_reset()` builds for a field -/
abbrev entry (env : Env) (f : Schema) : Str × Elem := (f.name.getD [], blank env f)

theorem blankFields_eq_map (env : Env) (fs : List Schema) : blankFields env fs = fs.map (entry env) := by
  induction fs with
  | nil => rfl
  | cons f fs ih => rw [blankFields, ih, List.map_cons]

theorem blankRequired_eq (env : Env) (fs : List Schema) :
    blankRequired env fs = (fs.filter (fun f => !f.opt)).map (entry env) := by
  induction fs with
  | nil => rfl
  | cons f fs ih => cases h : f.opt <;> simp [blankRequired, ih, h]

theorem blankMs_sublist (env : Env) (mode : DictMode) (fs : List Schema) :
    ∃ gs : List Schema, gs.Sublist fs ∧ blankMs env mode fs = gs.map (entry env) := by
  cases mode with
  | dense => exact ⟨fs, List.Sublist.refl _, blankFields_eq_map env fs⟩
  | sparse => exact ⟨[], List.nil_sublist _, rfl⟩
  | sparseReq => exact ⟨_, List.filter_sublist, blankRequired_eq env fs⟩

theorem name_getD (f : Schema) (fs : List Schema) (hs : (namesOf fs).all Option.isSome = true)
    (hf : f ∈ fs) : f.name = some (f.name.getD []) := by
  have := List.all_eq_true.mp hs f.name (namesOf_eq fs ▸ List.mem_map_of_mem hf)
  cases hn : f.name with
  | none => rw [hn] at this; cases this
  | some x => rfl

theorem map_some_fieldNames (fs : List Schema) (h : (namesOf fs).all Option.isSome = true) :
    (fieldNames fs).map some = namesOf fs := by
  rw [fieldNames_eq_map, namesOf_eq, List.map_map]
  exact List.map_congr_left (fun f hf => (name_getD f fs h hf).symm)

theorem findField_of_mem (fs : List Schema) (hn : (namesOf fs).Nodup) (f : Schema) (hf : f ∈ fs)
    (key : Str) (hk : f.name = some key) : findField key fs = some f := by
  rw [findField_eq]
  exact Lists.find?_key_of_mem (·.name) (namesOf_eq fs ▸ hn) hf hk

theorem findField_mem (fs : List Schema) (key : Str) (f : Schema) (h : findField key fs = some f) :
    f ∈ fs ∧ f.name = some key := by
  rw [findField_eq] at h
  exact ⟨List.mem_of_find?_eq_some h, by simpa using List.find?_some h⟩

theorem findField_key (fs : List Schema) (key : Str) (f : Schema) (h : findField key fs = some f) :
    key ∈ fieldNames fs := by
  obtain ⟨hf, hk⟩ := findField_mem fs key f h
  rw [fieldNames_eq_map]
  exact List.mem_map.mpr ⟨f, hf, by rw [hk]; rfl⟩

theorem setOne_eq (env : Env) (fs : List Schema) (key : Str) (cur : Option Elem) (v : Native) :
    setOne env fs key cur v
      = (findField key fs).map (fun f => setNative env f (cur.getD (blank env f)) v) := by
  induction fs with
  | nil => simp [setOne, findField]
  | cons g gs ih =>
    unfold setOne findField
    split
    · simp
    · exact ih

theorem lookup_none_of_not_mem (key : Str) (ms : List (Str × Elem)) (h : key ∉ ms.map (·.1)) :
    lookup key ms = none :=
  (lookup_eq key ms).trans (Assoc.get_eq_none_iff.2 h)

theorem lookup_mem (key : Str) (ms : List (Str × Elem)) (e : Elem) (h : lookup key ms = some e) :
    (key, e) ∈ ms :=
  Assoc.mem_of_get ((lookup_eq key ms).symm.trans h)

theorem replace_keys (key : Str) (e : Elem) (ms : List (Str × Elem)) :
    (replace key e ms).map (·.1) = ms.map (·.1) := by
  rw [replace_eq]; exact Assoc.keys_replace ms key e

theorem mem_replace (key : Str) (e : Elem) (ms : List (Str × Elem)) (p : Str × Elem)
    (h : p ∈ replace key e ms) : p = (key, e) ∨ p ∈ ms := by
  rw [replace_eq, Assoc.replace_eq] at h
  split at h
  · exact Assoc.mem_set h
  · exact .inr h

theorem valueMembers_eq_map (ms : List (Str × Elem)) :
    value.valueMembers ms = ms.map (fun p => (Native.text p.1, value p.2)) := by
  induction ms with
  | nil => rfl
  | cons p ps ih => obtain ⟨k, e⟩ := p; simp only [value.valueMembers, ih, List.map_cons]

theorem valueMembers_keys (ms : List (Str × Elem)) :
    (value.valueMembers ms).map (·.1) = ms.map (fun p => Native.text p.1) := by
  rw [valueMembers_eq_map, List.map_map]; rfl

theorem lookup_skip_pre (key : Str) (b : Elem) (pre rest : List (Str × Elem))
    (h : key ∉ pre.map (·.1)) : lookup key (pre ++ (key, b) :: rest) = some b :=
  (lookup_eq key _).trans (Assoc.get_eq_some_iff.2 ⟨pre, rest, rfl, h⟩)

theorem replace_skip_pre (key : Str) (b e : Elem) (pre rest : List (Str × Elem))
    (h : key ∉ pre.map (·.1)) :
    replace key e (pre ++ (key, b) :: rest) = pre ++ (key, e) :: rest := by
  rw [replace_eq, Assoc.replace_append_of_not_mem h, Assoc.replace, if_pos rfl]

theorem blank_dict (env : Env) (n : Option Str) (o : Bool) (mode : DictMode) (policy : Policy)
    (fields : List Schema) : blank env (.dict n o mode policy fields) = .dict (blankMs env mode fields) := by
  cases mode <;> simp [blank, blankMs]

theorem blankFields_keys (env : Env) (fs : List Schema) : (blankFields env fs).map (·.1) = fieldNames fs := by
  rw [blankFields_eq_map, fieldNames_eq_map, List.map_map]; rfl

theorem fieldNames_nodup (fs : List Schema) (hs : (namesOf fs).all Option.isSome = true)
    (hn : (namesOf fs).Nodup) : (fieldNames fs).Nodup := by
  rw [← map_some_fieldNames fs hs, List.Nodup, List.pairwise_map] at hn
  exact hn.imp (fun hne e => hne (congrArg some e))

theorem blankMs_nodup (env : Env) (mode : DictMode) (fields : List Schema)
    (hs : (namesOf fields).all Option.isSome = true) (hn : (namesOf fields).Nodup) :
    ((blankMs env mode fields).map (·.1)).Nodup := by
  obtain ⟨gs, hsub, heq⟩ := blankMs_sublist env mode fields
  rw [heq, List.map_map]
  have := fieldNames_nodup fields hs hn
  rw [fieldNames_eq_map] at this
  exact this.sublist (hsub.map _)

theorem blankMs_is_blank (env : Env) (mode : DictMode) (fields : List Schema)
    (hs : (namesOf fields).all Option.isSome = true) (hn : (namesOf fields).Nodup)
    (p : Str × Elem) (hp : p ∈ blankMs env mode fields) :
    ∃ f, f ∈ fields ∧ findField p.1 fields = some f ∧ p.2 = blank env f := by
  obtain ⟨gs, hsub, heq⟩ := blankMs_sublist env mode fields
  rw [heq] at hp
  obtain ⟨g, hg, rfl⟩ := List.mem_map.mp hp
  have hg := hsub.subset hg
  exact ⟨g, hg, findField_of_mem fields hn g hg _ (name_getD g fields hs hg), rfl⟩

/-- distinct keys, the keys `_reset()` leaves first and in place -/
def KeysOk (B ms : List (Str × Elem)) : Prop :=
  (ms.map (·.1)).Nodup ∧ (ms.map (·.1)).take B.length = B.map (·.1)

theorem keysOk_prefix {B ms : List (Str × Elem)} (hk : KeysOk B ms) : B.map (·.1) <+: ms.map (·.1) :=
  List.prefix_iff_eq_take.mpr (by rw [List.length_map]; exact hk.2.symm)

mutual
/-- the element conforms to the schema: Dict members are keyed by field names, keys distinct,
    the always-present ones first, in declaration order -/
def Shaped (env : Env) : Schema → Elem → Prop
  | .leaf .., .leaf .. => True
  | .dict _ _ mode _ fields, .dict ms => KeysOk (blankMs env mode fields) ms ∧ ShapedMs env fields ms
  | .seq _ _ member, .seq ms => ShapedL env member ms
  | _, _ => False
def ShapedMs (env : Env) (fields : List Schema) : List (Str × Elem) → Prop
  | [] => True
  | (k, m) :: rest =>
    (match findField k fields with
     | some f => Shaped env f m
     | none => False) ∧ ShapedMs env fields rest
def ShapedL (env : Env) (member : Schema) : List Elem → Prop
  | [] => True
  | m :: rest => Shaped env member m ∧ ShapedL env member rest
end

theorem shapedMs_iff (env : Env) (fields : List Schema) (ms : List (Str × Elem)) :
    ShapedMs env fields ms ↔ ∀ p ∈ ms, ∃ f, findField p.1 fields = some f ∧ Shaped env f p.2 := by
  induction ms with
  | nil => simp [ShapedMs]
  | cons p ps ih =>
    obtain ⟨k, m⟩ := p
    simp only [ShapedMs, ih, List.mem_cons, forall_eq_or_imp]
    cases findField k fields <;>
      simp only [false_and, reduceCtorEq, exists_const, Option.some.injEq, exists_eq_left']

theorem shapedL_iff (env : Env) (member : Schema) (ms : List Elem) :
    ShapedL env member ms ↔ ∀ m ∈ ms, Shaped env member m := by
  induction ms with
  | nil => simp [ShapedL]
  | cons p ps ih => simp [ShapedL, ih]

theorem leafStableMs_iff (env : Env) (nf : Bool) (fields : List Schema) (ms : List (Str × Elem)) :
    leafStableMs env nf fields ms = true
      ↔ ∀ p ∈ ms, ∃ f, findField p.1 fields = some f ∧ leafStable env nf f p.2 = true := by
  induction ms with
  | nil => simp [leafStableMs]
  | cons p ps ih =>
    obtain ⟨k, m⟩ := p
    simp only [leafStableMs, Bool.and_eq_true, ih, List.mem_cons, forall_eq_or_imp]
    cases findField k fields <;>
      simp only [Bool.false_eq_true, false_and, reduceCtorEq, exists_const, Option.some.injEq, exists_eq_left']

theorem leafStableL_iff (env : Env) (nf : Bool) (member : Schema) (ms : List Elem) :
    leafStableL env nf member ms = true ↔ ∀ m ∈ ms, leafStable env nf member m = true := by
  induction ms with
  | nil => simp [leafStableL]
  | cons p ps ih => simp [leafStableL, ih]

/-- the members while `Dict.set` runs: keys as `KeysOk`, every member satisfies `P` for its field -/
structure Inv (fields : List Schema) (P : Schema → Elem → Prop) (B ms : List (Str × Elem)) : Prop where
  keys : KeysOk B ms
  mem : ∀ p ∈ ms, ∃ f, findField p.1 fields = some f ∧ P f p.2

theorem shaped_dict_iff (env : Env) (n : Option Str) (o : Bool) (mode : DictMode) (policy : Policy)
    (fields : List Schema) (ms : List (Str × Elem)) :
    Shaped env (.dict n o mode policy fields) (.dict ms)
      ↔ Inv fields (Shaped env) (blankMs env mode fields) ms := by
  simp only [Shaped, shapedMs_iff]
  exact ⟨fun h => ⟨h.1, h.2⟩, fun h => ⟨h.keys, h.mem⟩⟩

theorem shaped_seq_iff (env : Env) (n : Option Str) (o : Bool) (member : Schema) (ms : List Elem) :
    Shaped env (.seq n o member) (.seq ms) ↔ ∀ m ∈ ms, Shaped env member m := by
  simp only [Shaped, shapedL_iff]

theorem shaped_dict_inv {env : Env} {n : Option Str} {o : Bool} {mode : DictMode} {policy : Policy}
    {fields : List Schema} {cur : Elem} (h : Shaped env (.dict n o mode policy fields) cur) :
    ∃ ms, cur = .dict ms ∧ Inv fields (Shaped env) (blankMs env mode fields) ms := by
  cases cur with
  | dict ms => exact ⟨ms, rfl, (shaped_dict_iff ..).mp h⟩
  | leaf v u p => simp [Shaped] at h
  | seq ms => simp [Shaped] at h

theorem shaped_seq_inv {env : Env} {n : Option Str} {o : Bool} {member : Schema} {cur : Elem}
    (h : Shaped env (.seq n o member) cur) : ∃ ms, cur = .seq ms ∧ ∀ m ∈ ms, Shaped env member m := by
  cases cur with
  | seq ms => exact ⟨ms, rfl, (shaped_seq_iff ..).mp h⟩
  | leaf v u p => simp [Shaped] at h
  | dict ms => simp [Shaped] at h

theorem Inv.lookup {fields : List Schema} {P : Schema → Elem → Prop} {B ms : List (Str × Elem)} {k : Str} {f : Schema}
    {m : Elem} (hg : Inv fields P B ms) (hl : lookup k ms = some m) (hf : findField k fields = some f) : P f m :=
  let ⟨_, hf', hp⟩ := hg.mem (k, m) (lookup_mem k ms m hl)
  Option.some.inj (hf.symm.trans hf') ▸ hp

theorem inv_replace {fields : List Schema} {P : Schema → Elem → Prop} {B ms : List (Str × Elem)} {k : Str}
    {f : Schema} {e : Elem} (hg : Inv fields P B ms) (hf : findField k fields = some f) (hP : P f e) :
    Inv fields P B (replace k e ms) := by
  refine ⟨⟨by rw [replace_keys]; exact hg.keys.1, by rw [replace_keys]; exact hg.keys.2⟩, fun p hp => ?_⟩
  rcases mem_replace k e ms p hp with rfl | hp
  · exact ⟨f, hf, hP⟩
  · exact hg.mem p hp

theorem forall_mem_set {α} {P : α → Prop} {ms : List α} (i : Nat) {m' : α} (hs : ∀ m ∈ ms, P m) (hm' : P m') :
    ∀ m ∈ ms.set i m', P m := fun m hm =>
  (List.mem_or_eq_of_mem_set hm).elim (hs m) (fun e => e ▸ hm')

theorem inv_setPairs (env : Env) (fields : List Schema) (P : Schema → Elem → Prop) (B : List (Str × Elem))
    (hblank : ∀ key f, findField key fields = some f → P f (blank env f))
    (hstep : ∀ key f, findField key fields = some f → ∀ cur v e fl, P f cur →
      setNative env f cur v = .ok (e, fl) → P f e) :
    ∀ (kvs : List (Native × Native)) (cur ms : List (Str × Elem)) (fl : Bool), Inv fields P B cur →
      setPairs env fields cur kvs = .ok (ms, fl) → Inv fields P B ms := by
  intro kvs
  induction kvs with
  | nil =>
    intro cur ms fl hg h
    simp only [setPairs, Except.ok.injEq, Prod.mk.injEq] at h
    rw [← h.1]; exact hg
  | cons kv rest ih =>
    intro cur ms fl hg h
    obtain ⟨key, v⟩ := kv
    unfold setPairs at h
    split at h
    · simp at h
    · split at h
      · rename_i k _
        rw [setOne_eq] at h
        cases hff : findField k fields with
        | none => simp only [hff, Option.map_none] at h; exact ih cur ms fl hg h
        | some f =>
          simp only [hff, Option.map_some] at h
          have hPcur : P f ((lookup k cur).getD (blank env f)) := by
            cases hl : lookup k cur with
            | none => exact hblank k f hff
            | some old => exact hg.lookup hl hff
          cases hr : setNative env f ((lookup k cur).getD (blank env f)) v with
          | error err => simp [hr] at h
          | ok ef =>
            obtain ⟨e, f1⟩ := ef
            simp only [hr] at h
            have hPe := hstep k f hff _ v e f1 hPcur hr
            split at h
            · rename_i ms'' f' hrest
              simp only [Except.ok.injEq, Prod.mk.injEq] at h
              obtain ⟨hms, _⟩ := h
              subst hms
              apply ih _ _ _ _ hrest
              cases hl : lookup k cur with
              | some old => exact inv_replace hg hff hPe
              | none =>
                simp only
                have hnot : k ∉ cur.map (·.1) := Assoc.get_eq_none_iff.1 ((lookup_eq k cur).symm.trans hl)
                rw [← Assoc.set_of_not_mem hnot e]
                refine ⟨⟨Assoc.nodup_set hg.keys.1 k e, ?_⟩, fun p hp => ?_⟩
                · rw [Assoc.set_of_not_mem hnot e, List.map_append,
                    List.take_append_of_le_length (by simpa using (keysOk_prefix hg.keys).length_le)]
                  exact hg.keys.2
                · exact (Assoc.mem_set hp).elim (fun h => h ▸ ⟨f, hff, hPe⟩) (hg.mem p)
            · simp at h
      · exact ih cur ms fl hg h

theorem inv_blank (env : Env) (mode : DictMode) (fields : List Schema) (P : Schema → Elem → Prop)
    (hs : (namesOf fields).all Option.isSome = true) (hn : (namesOf fields).Nodup)
    (hblank : ∀ f ∈ fields, P f (blank env f)) :
    Inv fields P (blankMs env mode fields) (blankMs env mode fields) := by
  refine ⟨⟨blankMs_nodup env mode fields hs hn, List.take_of_length_le (by simp)⟩, ?_⟩
  intro p hp
  obtain ⟨f, hf, hff, he⟩ := blankMs_is_blank env mode fields hs hn p hp
  exact ⟨f, hff, by rw [he]; exact hblank f hf⟩

theorem setMembers_mem (env : Env) (member : Schema) :
    ∀ (xs : List Native) (ms : List Elem) (fl : Bool), setMembers env member xs = .ok (ms, fl) →
      ∀ m ∈ ms, ∃ x f, setNative env member (blank env member) x = .ok (m, f) := by
  intro xs
  induction xs with
  | nil =>
    intro ms fl h
    simp only [setMembers, Except.ok.injEq, Prod.mk.injEq] at h
    intro m hm; rw [← h.1] at hm; simp at hm
  | cons x xs ih =>
    intro ms fl h
    simp only [setMembers] at h
    cases h1 : setNative env member (blank env member) x with
    | error r => simp [h1] at h
    | ok ef =>
      obtain ⟨e, f⟩ := ef
      simp only [h1] at h
      cases h2 : setMembers env member xs with
      | error r => simp [h2] at h
      | ok esf =>
        obtain ⟨es, f'⟩ := esf
        simp only [h2, Except.ok.injEq, Prod.mk.injEq] at h
        intro m hm
        rw [← h.1] at hm
        rcases List.mem_cons.mp hm with rfl | hm
        · exact ⟨x, f, h1⟩
        · exact ih es f' h2 m hm

theorem shaped_blank (env : Env) : ∀ s : Schema, wf s = true → Shaped env s (blank env s) := by
  apply wf_induct
  · intro n o k; simp [blank, Shaped]
  · intro n o member _ _; simp [blank, Shaped, ShapedL]
  · intro n o mode policy fields hw ih
    obtain ⟨_, hsome, hnd, _⟩ := wf_dict hw
    rw [blank_dict]
    exact (shaped_dict_iff ..).mpr (inv_blank env mode fields (Shaped env) hsome hnd ih)

/-- what `set()` leaves is shaped, unless it is the state before with the flag False (a Dict given something
    `to_pairs` rejects returns before `_reset()`) -/
theorem shaped_or_kept (env : Env) : ∀ (s : Schema), wf s = true →
    ∀ (cur : Elem) (x : Native) (e : Elem) (fl : Bool),
      setNative env s cur x = .ok (e, fl) → Shaped env s e ∨ (e = cur ∧ fl = false) := by
  apply wf_induct
  · intro n o k cur x e fl h
    simp only [setNative, Except.ok.injEq, Prod.mk.injEq] at h
    rw [← h.1]; simp [Shaped]
  · intro n o member hw ih cur x e fl h
    left
    simp only [setNative] at h
    cases hit : iterate x with
    | none =>
      simp only [hit, Except.ok.injEq, Prod.mk.injEq] at h
      rw [← h.1]; simp [Shaped, ShapedL]
    | some xs =>
      simp only [hit] at h
      cases hm : setMembers env member xs with
      | error r =>
        cases r <;> simp only [hm, Except.ok.injEq, Prod.mk.injEq, reduceCtorEq] at h
        rw [← h.1]; simp [Shaped, ShapedL]
      | ok msf =>
        obtain ⟨ms, f⟩ := msf
        simp only [hm, Except.ok.injEq, Prod.mk.injEq] at h
        rw [← h.1]
        apply (shaped_seq_iff ..).mpr
        intro m hmm
        obtain ⟨x', f', hx'⟩ := setMembers_mem env member xs ms f hm m hmm
        exact (ih _ x' m f' hx').elim id (fun h => h.1 ▸ shaped_blank env member hw)
  · intro n o mode policy fields hw ih cur x e fl h
    obtain ⟨hwl, hsome, hnd, _⟩ := wf_dict hw
    simp only [setNative] at h
    cases htp : toPairs x with
    | none =>
      simp only [htp, Except.ok.injEq, Prod.mk.injEq] at h
      exact .inr ⟨h.1.symm, h.2.symm⟩
    | some kvs =>
      left
      simp only [htp] at h
      cases hpr : policyRaise policy fields (kvs.map (·.1)) with
      | some r => simp [hpr] at h
      | none =>
        simp only [hpr] at h
        cases hsp : setPairs env fields (blankMs env mode fields) kvs with
        | error r => simp [hsp] at h
        | ok msf =>
          obtain ⟨ms, f⟩ := msf
          simp only [hsp, Except.ok.injEq, Prod.mk.injEq] at h
          rw [← h.1]
          have hblank : ∀ f ∈ fields, Shaped env f (blank env f) :=
            fun f hf => shaped_blank env f (hwl f hf)
          exact (shaped_dict_iff ..).mpr (inv_setPairs env fields (Shaped env) _
            (fun key f hf => hblank f (findField_mem fields key f hf).1)
            (fun key f hf cur v e fl hc h =>
              (ih f (findField_mem fields key f hf).1 cur v e fl h).elim id (fun h => h.1 ▸ hc))
            kvs _ ms f (inv_blank env mode fields (Shaped env) hsome hnd hblank) hsp)

theorem shaped_set (env : Env) : ∀ (s : Schema), wf s = true →
    ∀ (cur : Elem) (x : Native) (e : Elem) (fl : Bool), Shaped env s cur →
      setNative env s cur x = .ok (e, fl) → Shaped env s e :=
  fun s hw cur x e fl hc h => (shaped_or_kept env s hw cur x e fl h).elim id (fun h => h.1 ▸ hc)

/-- `s` rebuilds `e` from `e.value` on a fresh element; with `nf` the flag is True as well -/
def Rebuilds (env : Env) (nf : Bool) (s : Schema) (e : Elem) : Prop :=
  ∃ b, setNative env s (blank env s) (value e) = .ok (e, b) ∧ (nf = true → b = true)

/-- re-importing the exported members of a mapping, pair by pair: `done` is rebuilt, `todo` is still to come;
    of the members `_reset()` left, those not reached yet (`Brest`) are blank and lead the keys of `todo` -/
theorem rebuild_split (env : Env) (nf : Bool) (fields : List Schema) :
    ∀ (todo done Brest : List (Str × Elem)),
      ((done ++ todo).map (·.1)).Nodup → Brest.map (·.1) <+: todo.map (·.1) →
      (∀ p ∈ Brest, ∀ f, findField p.1 fields = some f → p.2 = blank env f) →
      (∀ p ∈ todo, ∃ f, findField p.1 fields = some f ∧ Rebuilds env nf f p.2) →
      ∃ b, setPairs env fields (done ++ Brest) (value.valueMembers todo) = .ok (done ++ todo, b)
        ∧ (nf = true → b = true) := by
  intro todo
  induction todo with
  | nil =>
    intro done Brest _ hpre _ _
    have hnil : Brest = [] := by simpa using hpre
    subst hnil
    exact ⟨true, by simp [value.valueMembers, setPairs], fun _ => rfl⟩
  | cons p todo ih =>
    obtain ⟨k, m⟩ := p
    intro done Brest hnd hpre hB hst
    obtain ⟨f, hff, bj, hbj, hbjt⟩ := hst (k, m) List.mem_cons_self
    have hnotin : k ∉ done.map (·.1) := by
      intro hin
      rw [List.map_append] at hnd
      exact (List.nodup_append.mp hnd).2.2 k hin k (by simp) rfl
    have hnd' : (((done ++ [(k, m)]) ++ todo).map (·.1)).Nodup := by
      simpa only [List.append_assoc, List.cons_append, List.nil_append] using hnd
    have hst' := fun p hp => hst p (List.mem_cons_of_mem _ hp)
    cases Brest with
    | nil =>
      -- past the members `_reset()` left: a fresh member is set, and appended
      obtain ⟨b', hb', hbt'⟩ := ih (done ++ [(k, m)]) [] hnd' List.nil_prefix (fun _ h => nomatch h) hst'
      refine ⟨bj && b', ?_, fun h => by rw [hbjt h, hbt' h]; rfl⟩
      simp only [List.append_nil, List.append_assoc, List.cons_append, List.nil_append] at hb' ⊢
      simp only [value.valueMembers, setPairs, hashable, Bool.true_eq_false, if_false, setOne_eq, hff,
        Option.map_some, lookup_none_of_not_mem _ _ hnotin, Option.getD_none, hbj, hb']
    | cons q Brest =>
      -- a member `_reset()` left sits at this position: it is set, and replaced
      obtain ⟨k0, b0⟩ := q
      obtain ⟨hk0, hpre'⟩ := List.cons_prefix_cons.mp hpre
      simp only at hk0
      subst hk0
      have hb0 : b0 = blank env f := hB (k0, b0) List.mem_cons_self f hff
      subst hb0
      obtain ⟨b', hb', hbt'⟩ := ih (done ++ [(k0, m)]) Brest hnd' hpre'
        (fun p hp => hB p (List.mem_cons_of_mem _ hp)) hst'
      refine ⟨bj && b', ?_, fun h => by rw [hbjt h, hbt' h]; rfl⟩
      simp only [List.append_assoc, List.cons_append, List.nil_append] at hb'
      simp only [value.valueMembers, setPairs, hashable, Bool.true_eq_false, if_false, setOne_eq, hff,
        Option.map_some, lookup_skip_pre _ _ _ _ hnotin, Option.getD_some, hbj,
        replace_skip_pre _ _ _ _ _ hnotin, hb']

theorem rebuild (env : Env) (nf : Bool) (fields : List Schema) (B ms : List (Str × Elem))
    (hk : KeysOk B ms)
    (hB : ∀ p ∈ B, ∀ f, findField p.1 fields = some f → p.2 = blank env f)
    (hst : ∀ p ∈ ms, ∃ f, findField p.1 fields = some f ∧ Rebuilds env nf f p.2) :
    ∀ (n j : Nat), j + n = ms.length →
      ∃ b, setPairs env fields (ms.take j ++ B.drop j) ((value.valueMembers ms).drop j) = .ok (ms, b)
        ∧ (nf = true → b = true) := by
  intro n j _
  have hpre : (B.drop j).map (·.1) <+: (ms.drop j).map (·.1) := by
    obtain ⟨t, ht⟩ := keysOk_prefix hk
    rw [List.map_drop, List.map_drop, ← ht, List.drop_append]
    exact List.prefix_append ..
  have h := rebuild_split env nf fields (ms.drop j) (ms.take j) (B.drop j)
    (by rw [List.take_append_drop]; exact hk.1) hpre
    (fun p hp => hB p (List.mem_of_mem_drop hp)) (fun p hp => hst p (List.mem_of_mem_drop hp))
  rwa [List.take_append_drop, valueMembers_eq_map, List.map_drop, ← valueMembers_eq_map] at h

theorem policy_ok (env : Env) (mode : DictMode) (policy : Policy) (fields : List Schema)
    (hpol : mode = .dense ∨ policy ≠ .strict) (ms : List (Str × Elem))
    (hk : KeysOk (blankMs env mode fields) ms)
    (hm : ∀ p ∈ ms, ∃ f, findField p.1 fields = some f) :
    policyRaise policy fields (ms.map (fun p => Native.text p.1)) = none := by
  have hextra : (ms.map (fun p => Native.text p.1)).all (isField fields) = true := by
    apply List.all_eq_true.mpr
    intro k hkm
    obtain ⟨p, hp, rfl⟩ := List.mem_map.mp hkm
    obtain ⟨f, hf⟩ := hm p hp
    have := findField_key fields p.1 f hf
    simpa [isField] using this
  have hhash : (ms.map (fun p => Native.text p.1)).all hashable = true := by
    apply List.all_eq_true.mpr
    intro k hkm
    obtain ⟨p, _, rfl⟩ := List.mem_map.mp hkm
    simp [hashable]
  unfold policyRaise
  simp only [hextra, hhash, Bool.not_true, Bool.false_eq_true, if_false]
  cases policy with
  | subset => rfl
  | duck => rfl
  | off => rfl
  | strict =>
    rcases hpol with hmd | hp
    · subst hmd
      have hpre := hk.2
      simp only [blankMs, blankFields_keys] at hpre
      have hmiss : (fieldNames fields).all
          (fun n => (ms.map (fun p => Native.text p.1)).any (isText n)) = true := by
        apply List.all_eq_true.mpr
        intro n hn
        have : n ∈ (ms.map (·.1)).take (blankFields env fields).length := by rw [hpre]; exact hn
        have := List.mem_of_mem_take this
        obtain ⟨p, hp, rfl⟩ := List.mem_map.mp this
        apply List.any_eq_true.mpr
        exact ⟨Native.text p.1, List.mem_map.mpr ⟨p, hp, rfl⟩, by simp [isText]⟩
      simp only [hmiss, Bool.not_true, Bool.false_eq_true, if_false]
    · exact absurd rfl hp

theorem setMembers_rebuild (env : Env) (nf : Bool) (member : Schema) :
    ∀ (ms : List Elem), (∀ m ∈ ms, Rebuilds env nf member m) →
      ∃ b, setMembers env member (value.valueList ms) = .ok (ms, b) ∧ (nf = true → b = true) := by
  intro ms
  induction ms with
  | nil => intro _; exact ⟨true, by simp [value.valueList, setMembers], fun _ => rfl⟩
  | cons m ms ih =>
    intro h
    obtain ⟨b1, h1, ht1⟩ := h m (by simp)
    obtain ⟨b2, h2, ht2⟩ := ih (fun m' hm' => h m' (List.mem_cons_of_mem _ hm'))
    refine ⟨b1 && b2, ?_, fun hn => by rw [ht1 hn, ht2 hn]; rfl⟩
    simp only [value.valueList, setMembers, h1, h2]

theorem rebuilds_of_shaped (env : Env) (nf : Bool) : ∀ (s : Schema), wf s = true →
    ∀ (e : Elem), Shaped env s e → leafStable env nf s e = true → Rebuilds env nf s e := by
  apply wf_induct
  · intro n o k e hs hl
    cases e with
    | leaf v u p =>
      simp only [leafStable, Bool.and_eq_true, decide_eq_true_eq, Bool.or_eq_true,
        Bool.not_eq_true'] at hl
      refine ⟨(env.adapt k (env.blankLeaf k) v).1, ?_, ?_⟩
      · simp only [value, setNative, blank, leafStateOf, hl.1]
      · intro hn
        rcases hl.2 with h | h
        · rw [hn] at h; cases h
        · exact h
    | dict ms => simp [Shaped] at hs
    | seq ms => simp [Shaped] at hs
  · intro n o member hw ih e hs hl
    obtain ⟨ms, rfl, hs'⟩ := shaped_seq_inv hs
    simp only [leafStable] at hl
    have hl' := (leafStableL_iff env nf member ms).mp hl
    obtain ⟨b, hb, hbt⟩ := setMembers_rebuild env nf member ms (fun m hm => ih m (hs' m hm) (hl' m hm))
    exact ⟨b, by simp only [value, setNative, iterate, hb], hbt⟩
  · intro n o mode policy fields hw ih e hs hl
    obtain ⟨hwl, hsome, hnd, hpol⟩ := wf_dict hw
    obtain ⟨ms, rfl, hg⟩ := shaped_dict_inv hs
    simp only [leafStable] at hl
    have hl' := (leafStableMs_iff env nf fields ms).mp hl
    have hst : ∀ p ∈ ms, ∃ f, findField p.1 fields = some f ∧ Rebuilds env nf f p.2 := by
      intro p hp
      obtain ⟨f, hf, hsf⟩ := hg.mem p hp
      obtain ⟨f', hf', hlf⟩ := hl' p hp
      rw [hf] at hf'
      cases hf'
      exact ⟨f, hf, ih f (findField_mem fields p.1 f hf).1 p.2 hsf hlf⟩
    have hB : ∀ p ∈ blankMs env mode fields, ∀ f, findField p.1 fields = some f → p.2 = blank env f := by
      intro p hp f hf
      obtain ⟨g, _, hg, he⟩ := blankMs_is_blank env mode fields hsome hnd p hp
      rw [hf] at hg
      cases hg
      exact he
    have hpolok := policy_ok env mode policy fields hpol ms hg.keys (fun p hp => (hg.mem p hp).imp (fun _ h => h.1))
    obtain ⟨b, hreb, hbt⟩ := rebuild_split env nf fields ms [] _ hg.keys.1 (keysOk_prefix hg.keys) hB hst
    simp only [List.nil_append] at hreb
    exact ⟨b, by simp only [value, setNative, toPairs, valueMembers_keys, hpolok, hreb], hbt⟩

theorem rebuilds_of_shapedL (env : Env) (nf : Bool) : ∀ (fs : List Schema), wfL fs = true → ∀ f ∈ fs,
    ∀ (e : Elem), Shaped env f e → leafStable env nf f e = true → Rebuilds env nf f e :=
  fun fs hw f hf => rebuilds_of_shaped env nf f ((wfL_iff fs).mp hw f hf)

theorem rebuilds_of_set (env : Env) (nf : Bool) (s : Schema) (hw : wf s = true) (cur : Elem) (x : Native) (e : Elem)
    (h : setNative env s cur x = .ok (e, true)) (hl : leafStable env nf s e = true) : Rebuilds env nf s e :=
  rebuilds_of_shaped env nf s hw e ((shaped_or_kept env s hw cur x e true h).elim id (fun h => nomatch h.2)) hl

/-- C03: if `set(x)` reported full adaptation on an element and left it in state `e`, and the
    leaves that occur in `e` re-adapt to their own state (`leafStable`, evaluated per case on the
    tables of the real classes), then a fresh element of the same schema set with `e.value` is in
    the very same state — equal `.value`, `.u`, `==`, `flatten()` and everything else a state
    determines.  The flag of the second `set()` is not claimed.  The state `cur` before may be any:
    the proof is `rebuilds_of_set` and does not use `hc` (with `hc`, `shaped_set` gives the same for
    a `set()` that reported False). -/
theorem reimport (env : Env) (s : Schema) (hw : wf s = true) (cur : Elem) (hc : Shaped env s cur)
    (x : Native) (e : Elem) (h : setNative env s cur x = .ok (e, true))
    (hl : leafStable env false s e = true) :
    ∃ b, setNative env s (blank env s) (value e) = .ok (e, b) :=
  (rebuilds_of_set env false s hw cur x e h hl).imp fun _ => And.left

/-- the case the property names first: the element was fresh -/
theorem reimport_fresh (env : Env) (s : Schema) (hw : wf s = true)
    (x : Native) (e : Elem) (h : setNative env s (blank env s) x = .ok (e, true))
    (hl : leafStable env false s e = true) :
    ∃ b, setNative env s (blank env s) (value e) = .ok (e, b) :=
  reimport env s hw _ (shaped_blank env s hw) x e h hl

/-- if the leaves of `e` also report True on their own exported value, so does the container -/
theorem reimport_true (env : Env) (s : Schema) (hw : wf s = true) (cur : Elem) (hc : Shaped env s cur)
    (x : Native) (e : Elem) (h : setNative env s cur x = .ok (e, true))
    (hl : leafStable env true s e = true) :
    setNative env s (blank env s) (value e) = .ok (e, true) := by
  obtain ⟨b, hb, ht⟩ := rebuilds_of_set env true s hw cur x e h hl
  rw [ht rfl] at hb; exact hb

theorem reimport_value (env : Env) (s : Schema) (hw : wf s = true) (cur : Elem) (hc : Shaped env s cur)
    (x : Native) (e : Elem) (h : setNative env s cur x = .ok (e, true))
    (hl : leafStable env false s e = true) :
    ∃ e' b, setNative env s (blank env s) (value e) = .ok (e', b) ∧ value e' = value e := by
  obtain ⟨b, hb⟩ := reimport env s hw cur hc x e h hl
  exact ⟨e, b, hb, rfl⟩

/-! `Shaped` is an invariant of everything that happens to an element (`shaped_history`): the steps of
`Flatland.C03.Step` (a `set()` or an item assignment anywhere in the tree) keep it; states that come from elsewhere
(`set_flat()`) are checked with the function `shapedB`. -/

theorem keysOkB_iff (B ms : List (Str × Elem)) : keysOkB B ms = true ↔ KeysOk B ms := by
  simp [keysOkB, KeysOk]

mutual
theorem shapedB_iff (env : Env) : ∀ (s : Schema) (e : Elem), shapedB env s e = true ↔ Shaped env s e
  | .leaf .., .leaf .. => by simp [shapedB, Shaped]
  | .leaf .., .dict _ => by simp [shapedB, Shaped]
  | .leaf .., .seq _ => by simp [shapedB, Shaped]
  | .dict .., .leaf .. => by simp [shapedB, Shaped]
  | .dict .., .seq _ => by simp [shapedB, Shaped]
  | .seq .., .leaf .. => by simp [shapedB, Shaped]
  | .seq .., .dict _ => by simp [shapedB, Shaped]
  | .dict _ _ mode _ fields, .dict ms => by
    simp only [shapedB, Shaped, Bool.and_eq_true, keysOkB_iff, shapedMsB_iff env fields ms]
  | .seq _ _ member, .seq ms => by
    simp only [shapedB, Shaped, shapedLB_iff env member ms]
theorem shapedMsB_iff (env : Env) (fields : List Schema) :
    ∀ ms : List (Str × Elem), shapedMsB env fields ms = true ↔ ShapedMs env fields ms
  | [] => by simp [shapedMsB, ShapedMs]
  | (k, m) :: rest => by
    simp only [shapedMsB, ShapedMs, Bool.and_eq_true, shapedMsB_iff env fields rest]
    cases hf : findField k fields with
    | none => simp
    | some f => simp only [shapedB_iff env f m]
theorem shapedLB_iff (env : Env) (member : Schema) :
    ∀ ms : List Elem, shapedLB env member ms = true ↔ ShapedL env member ms
  | [] => by simp [shapedLB, ShapedL]
  | m :: rest => by
    simp only [shapedLB, ShapedL, Bool.and_eq_true, shapedB_iff env member m, shapedLB_iff env member rest]
end

theorem shaped_updateAt (env : Env) (op : Schema → Elem → Except StepRaise (Elem × Bool))
    (hop : ∀ s, wf s = true → ∀ cur e fl, Shaped env s cur → op s cur = .ok (e, fl) → Shaped env s e) :
    ∀ (path : List Key) (s : Schema), wf s = true → ∀ (cur e : Elem) (fl : Bool), Shaped env s cur →
      updateAt op s cur path = .ok (e, fl) → Shaped env s e := by
  intro path
  induction path with
  | nil =>
    intro s hw cur e fl hc h
    simp only [updateAt] at h
    exact hop s hw cur e fl hc h
  | cons key rest ih =>
    intro s hw cur e fl hc h
    cases s with
    | leaf n o k => simp [updateAt] at h
    | dict n o mode policy fields =>
      obtain ⟨ms, rfl, hg⟩ := shaped_dict_inv hc
      cases key with
      | idx i => simp [updateAt] at h
      | name k =>
        simp only [updateAt] at h
        cases hl : lookup k ms with
        | none => simp [hl] at h
        | some m =>
          cases hf : findField k fields with
          | none => simp [hl, hf] at h
          | some f =>
            simp only [hl, hf] at h
            cases hu : updateAt op f m rest with
            | error r => simp [hu] at h
            | ok mf =>
              obtain ⟨m', fl'⟩ := mf
              simp only [hu, Except.ok.injEq, Prod.mk.injEq] at h
              have hwf : wf f = true := (wf_dict hw).1 f (findField_mem fields k f hf).1
              rw [← h.1]
              exact (shaped_dict_iff ..).mpr (inv_replace hg hf (ih f hwf m m' fl' (hg.lookup hl hf) hu))
    | seq n o member =>
      obtain ⟨ms, rfl, hs⟩ := shaped_seq_inv hc
      cases key with
      | name k => simp [updateAt] at h
      | idx i =>
        simp only [updateAt] at h
        cases hg : ms[i]? with
        | none => simp [hg] at h
        | some m =>
          simp only [hg] at h
          cases hu : updateAt op member m rest with
          | error r => simp [hu] at h
          | ok mf =>
            obtain ⟨m', fl'⟩ := mf
            simp only [hu, Except.ok.injEq, Prod.mk.injEq] at h
            simp only [wf] at hw
            rw [← h.1]
            exact (shaped_seq_iff ..).mpr
              (forall_mem_set i hs (ih member hw m m' fl' (hs m (List.mem_of_getElem? hg)) hu))

theorem shaped_liftSet (env : Env) (x : Native) (s : Schema) (hw : wf s = true) (cur e : Elem) (fl : Bool)
    (hc : Shaped env s cur) (h : liftSet (setNative env s cur x) = .ok (e, fl)) : Shaped env s e := by
  cases hr : setNative env s cur x with
  | error r => simp [liftSet, hr] at h
  | ok p =>
    simp only [liftSet, hr, Except.ok.injEq] at h
    subst h
    exact shaped_set env s hw cur x e fl hc hr

theorem shaped_itemAssign (env : Env) (key : Key) (fresh : Bool) (x : Native) (s : Schema)
    (hw : wf s = true) (cur e : Elem) (fl : Bool) (hc : Shaped env s cur)
    (h : itemAssign env key fresh x s cur = .ok (e, fl)) : Shaped env s e := by
  cases s with
  | leaf n o k => cases cur <;> simp [itemAssign] at h
  | dict n o mode policy fields =>
    obtain ⟨ms, rfl, hg⟩ := shaped_dict_inv hc
    cases key with
    | idx i => simp [itemAssign] at h
    | name k =>
      simp only [itemAssign] at h
      split at h
      · simp at h
      · cases hsp : setPairs env fields ms [(Native.text k, x)] with
        | error r => simp [hsp] at h
        | ok msf =>
          obtain ⟨ms', f'⟩ := msf
          simp only [hsp, Except.ok.injEq, Prod.mk.injEq] at h
          have hwl := (wf_dict hw).1
          rw [← h.1]
          exact (shaped_dict_iff ..).mpr (inv_setPairs env fields (Shaped env) _
            (fun key f hf => shaped_blank env f (hwl f (findField_mem fields key f hf).1))
            (fun key f hf => shaped_set env f (hwl f (findField_mem fields key f hf).1))
            _ ms ms' f' hg hsp)
  | seq n o member =>
    obtain ⟨ms, rfl, hms⟩ := shaped_seq_inv hc
    simp only [wf] at hw
    cases key with
    | name k => simp [itemAssign] at h
    | idx i =>
      simp only [itemAssign] at h
      split at h
      · cases hs : setNative env member (blank env member) x with
        | error r => simp [hs] at h
        | ok mf =>
          obtain ⟨m, f'⟩ := mf
          simp only [hs] at h
          split at h
          · simp only [Except.ok.injEq, Prod.mk.injEq] at h
            rw [← h.1]
            exact (shaped_seq_iff ..).mpr (forall_mem_set i hms
              (shaped_set env member hw _ x m f' (shaped_blank env member hw) hs))
          · simp at h
      · cases hg : ms[i]? with
        | none => simp [hg] at h
        | some m =>
          simp only [hg] at h
          cases hs : setNative env member m x with
          | error r => simp [hs] at h
          | ok mf =>
            obtain ⟨m', f'⟩ := mf
            simp only [hs, Except.ok.injEq, Prod.mk.injEq] at h
            rw [← h.1]
            exact (shaped_seq_iff ..).mpr (forall_mem_set i hms
              (shaped_set env member hw m x m' f' (hms m (List.mem_of_getElem? hg)) hs))

theorem shaped_applyStep (env : Env) (s : Schema) (hw : wf s = true) (cur : Elem) (st : Step)
    (e : Elem) (fl : Bool) (hc : Shaped env s cur) (h : applyStep env s cur st = .ok (e, fl)) :
    Shaped env s e := by
  cases st with
  | set path x =>
    exact shaped_updateAt env _ (fun s' hw' c e' fl' hc' h' => shaped_liftSet env x s' hw' c e' fl' hc' h')
      path s hw cur e fl hc h
  | setItem path key fresh x =>
    exact shaped_updateAt env _ (fun s' hw' c e' fl' hc' h' => shaped_itemAssign env key fresh x s' hw' c e' fl' hc' h')
      path s hw cur e fl hc h

theorem shaped_history (env : Env) (s : Schema) (hw : wf s = true) :
    ∀ (steps : List Step) (cur e : Elem), Shaped env s cur → runSteps env s cur steps = .ok e →
      Shaped env s e := by
  intro steps
  induction steps with
  | nil =>
    intro cur e hc h
    simp only [runSteps, Except.ok.injEq] at h
    rw [← h]; exact hc
  | cons st rest ih =>
    intro cur e hc h
    simp only [runSteps] at h
    cases ha : applyStep env s cur st with
    | error r => simp [ha] at h
    | ok ef =>
      obtain ⟨e1, f1⟩ := ef
      simp only [ha] at h
      exact ih e1 e (shaped_applyStep env s hw cur st e1 f1 hc ha) h

/-- C03 after any history: the element was built fresh and then went through any sequence of `set()` calls and
    item assignments anywhere in its tree (none of which raised); if the `set(x)` that follows reports True, its
    exported value rebuilds it on a fresh element.  `rebuilds_of_set` asks nothing of the state before, so `hr`
    (and `ho` below) is not used. -/
theorem reimport_history (env : Env) (s : Schema) (hw : wf s = true) (steps : List Step) (cur : Elem)
    (hr : runSteps env s (blank env s) steps = .ok cur)
    (x : Native) (e : Elem) (h : setNative env s cur x = .ok (e, true))
    (hl : leafStable env false s e = true) :
    ∃ b, setNative env s (blank env s) (value e) = .ok (e, b) :=
  (rebuilds_of_set env false s hw cur x e h hl).imp fun _ => And.left

/-- the same from a state that was observed (after `set_flat()`, after a step that raised) and
    passed the check `shapedB`, followed by any further history -/
theorem reimport_observed (env : Env) (s : Schema) (hw : wf s = true) (obs : Elem)
    (ho : shapedB env s obs = true) (steps : List Step) (cur : Elem)
    (hr : runSteps env s obs steps = .ok cur)
    (x : Native) (e : Elem) (h : setNative env s cur x = .ok (e, true))
    (hl : leafStable env false s e = true) :
    ∃ b, setNative env s (blank env s) (value e) = .ok (e, b) :=
  (rebuilds_of_set env false s hw cur x e h hl).imp fun _ => And.left

/-- a toy leaf table: texts are kept as they are, None gives an empty leaf; anything else is
    rejected -/
def exEnv : Env :=
  { adapt := fun _ _ x => match x with
      | .text s => (true, .text s, s, [])
      | .none => (true, .none, [], [])
      | _ => (false, .none, [], [])
    blankLeaf := fun _ => (.none, [], []) }

def exSchema : Schema :=
  .dict none false .sparse .subset
    [.leaf (some "a".toList) false 0, .seq (some "l".toList) false (.leaf none false 0)]

def exElem : Elem :=
  .dict [("l".toList, .seq [.leaf (.text "x".toList) "x".toList [], .leaf .none [] []])]

/-- the premises of `reimport_fresh` are met by a partially specified SparseDict holding a list,
    given as a list of pairs (a 2-tuple here) -/
example : setNative exEnv exSchema (blank exEnv exSchema)
        (.list [.tuple [.text "l".toList, .list [.text "x".toList, .none]]]) = .ok (exElem, true)
    ∧ wf exSchema = true ∧ leafStable exEnv false exSchema exElem = true := by
  refine ⟨?_, by decide +kernel, ?_⟩
  · simp [exSchema, exElem, setNative, toPairs, iterate, unpackPairs, policyRaise, fieldNames, isField,
      hashable, Schema.name, blank, blankMs, setPairs, setOne, lookup, setMembers, exEnv]
  · simp [exSchema, exElem, leafStable, leafStableMs, leafStableL, findField, Schema.name, exEnv]

/-- the adapt table the harness extracts from the real DateYYYYMMDD: an unparseable text gives
    (True, None, '', ['', '', '']); None gives False and leaves the state as it is; a date is
    taken.  "Every adapted input re-adapts with the flag True" and "a fresh leaf set with its
    own value reports True" are false of it; `leafStable` holds on what it builds. -/
def dateEnv : Env :=
  { adapt := fun _ st x => match x with
      | .text _ => (true, .none, [], [[], [], []])
      | .atom d => (true, .atom d, d, [d, d, d])
      | _ => (false, st)
    blankLeaf := fun _ => (.none, [], [[], [], []]) }

def dateSchema : Schema := .dict none false .dense .subset [.leaf (some "d".toList) false 0]

def dateElem : Elem := .dict [("d".toList, .leaf .none [] [[], [], []])]

/-- `reimport` applies to `{'d': 'garbage'}` on a Dict holding a DateYYYYMMDD-like leaf … -/
example : setNative dateEnv dateSchema (blank dateEnv dateSchema)
        (.dict [(.text "d".toList, .text "garbage".toList)]) = .ok (dateElem, true)
    ∧ wf dateSchema = true ∧ leafStable dateEnv false dateSchema dateElem = true := by
  refine ⟨?_, by decide +kernel, ?_⟩
  · simp [dateSchema, dateElem, setNative, toPairs, policyRaise, fieldNames, isField, hashable,
      Schema.name, blank, blankMs, blankFields, setPairs, setOne, lookup, replace, dateEnv]
  · simp [dateSchema, dateElem, leafStable, leafStableMs, findField, Schema.name, dateEnv]

/-- … where the flag of the second `set()` is False (so no theorem that promises True applies:
    the table is not idempotent with flags) while the state is rebuilt, as `reimport` says -/
example : setNative dateEnv dateSchema (blank dateEnv dateSchema) (value dateElem) = .ok (dateElem, false)
    ∧ (dateEnv.adapt 0 (dateEnv.blankLeaf 0) (dateEnv.adapt 0 (dateEnv.blankLeaf 0) (.text "garbage".toList)).2.1).1
        = false
    ∧ leafStable dateEnv true dateSchema dateElem = false := by
  refine ⟨?_, by simp [dateEnv], ?_⟩
  · simp [dateSchema, dateElem, value, value.valueMembers, setNative, toPairs, policyRaise, fieldNames,
      isField, hashable, Schema.name, blank, blankMs, blankFields, setPairs, setOne, lookup,
      replace, dateEnv, leafStateOf]
  · simp [dateSchema, dateElem, leafStable, leafStableMs, findField, Schema.name, dateEnv]

def dupSchema : Schema :=
  .dict none false .dense .subset
    [.dict (some "m".toList) false .dense .subset [.leaf (some "a".toList) false 0]]

/-- a member set twice through a duplicate key keeps the state of the first `set()` when the second
    value is not dict-like (`Dict.set` returns False before `_reset()`); the premises of `reimport`
    do not hold for that input (flag False), the element is shaped all the same -/
example : setNative exEnv dupSchema (blank exEnv dupSchema)
      (.list [.list [.text "m".toList, .dict [(.text "a".toList, .text "x".toList)]],
              .text "m7".toList])
    = .ok (.dict [("m".toList, .dict [("a".toList, .leaf (.text "x".toList) "x".toList [])])], false) := by
  simp [dupSchema, setNative, toPairs, iterate, unpackPairs, policyRaise, fieldNames, isField,
    hashable, Schema.name, blank, blankMs, blankFields, setPairs, setOne, lookup, replace, exEnv]

/-- an Integer-like leaf table: numbers (atoms) are taken, None empties the leaf, a text that is no
    number is kept as the text with the value None and the flag False -/
def intEnv : Env :=
  { adapt := fun _ _ x => match x with
      | .atom d => (true, .atom d, d, [])
      | .none => (true, .none, [], [])
      | .text t => (false, .none, t, [])
      | _ => (false, .none, [], [])
    blankLeaf := fun _ => (.none, [], []) }

/-- `Dict.named('p').of(Integer.named('x'), Integer.named('y'))`, default policy -/
def pointSchema : Schema :=
  .dict (some "p".toList) false .dense .subset
    [.leaf (some "x".toList) false 0, .leaf (some "y".toList) false 0]

/-- the point after `el['x'].set('abc'); el['y'] = 3` (or after `set_flat([('p_x', 'abc'),
    ('p_y', '3')])`): `x` holds the value None and the text 'abc' -/
def staleCur : Elem :=
  .dict [("x".toList, .leaf .none "abc".toList []), ("y".toList, .leaf (.atom "3".toList) "3".toList [])]

def afterPartial : Elem :=
  .dict [("x".toList, .leaf .none [] []), ("y".toList, .leaf (.atom "2".toList) "2".toList [])]

/-- that state is what a member's own `set()` and an item assignment build from a fresh point … -/
example : runSteps intEnv pointSchema (blank intEnv pointSchema)
      [.set [.name "x".toList] (.text "abc".toList), .setItem [] (.name "y".toList) false (.atom "3".toList)]
    = .ok staleCur := by
  simp [runSteps, applyStep, updateAt, itemAssign, liftSet, pointSchema, staleCur, setNative, blank, blankFields,
    Schema.name, lookup, findField, replace, setPairs, setOne, hashable, intEnv]

theorem staleCur_shaped : shapedB intEnv pointSchema staleCur = true := by
  simp [pointSchema, staleCur, shapedB, shapedMsB, keysOkB, blankMs, blankFields, findField, Schema.name]

theorem staleCur_partial :
    setNative intEnv pointSchema staleCur (.dict [(.text "y".toList, .atom "2".toList)]) = .ok (afterPartial, true) := by
  simp [pointSchema, staleCur, afterPartial, setNative, toPairs, policyRaise, fieldNames, isField, hashable,
    Schema.name, blankMs, blankFields, blank, setPairs, setOne, lookup, replace, intEnv]

theorem afterPartial_stable : leafStable intEnv false pointSchema afterPartial = true := by
  simp [pointSchema, afterPartial, leafStable, leafStableMs, findField, Schema.name, intEnv]

/-- … it is not the fresh state, it is shaped, and the partial `set({'y': 2})` under the 'subset'
    policy reports True on it: `Dict.set` resets the members first, so the stale text 'abc' of `x`
    is gone from the result (a member that kept it would show in `.u`, `==` and `flatten()`, not
    in `.value`) -/
example : staleCur ≠ blank intEnv pointSchema
    ∧ shapedB intEnv pointSchema staleCur = true
    ∧ setNative intEnv pointSchema staleCur (.dict [(.text "y".toList, .atom "2".toList)]) = .ok (afterPartial, true)
    ∧ wf pointSchema = true ∧ leafStable intEnv false pointSchema afterPartial = true :=
  ⟨by simp [staleCur, pointSchema, blank, blankFields, intEnv], staleCur_shaped, staleCur_partial, by decide +kernel,
    afterPartial_stable⟩

/-- so `reimport` speaks about exactly this situation: the exported value `{'x': None, 'y': 2}`
    rebuilds the element on a fresh point -/
example : ∃ b, setNative intEnv pointSchema (blank intEnv pointSchema) (value afterPartial) = .ok (afterPartial, b) :=
  reimport intEnv pointSchema (by decide +kernel) staleCur ((shapedB_iff intEnv pointSchema staleCur).mp staleCur_shaped)
    (.dict [(.text "y".toList, .atom "2".toList)]) afterPartial staleCur_partial afterPartial_stable

/-- the counter-model of the defect "skip `_reset()` on an element whose own `set()` was never
    called": the member `x` is kept, the exported value is the same `{'x': None, 'y': 2}`, and the
    re-import builds a different element (text '' instead of 'abc') -/
example :
    let kept : Elem := .dict [("x".toList, .leaf .none "abc".toList []), ("y".toList, .leaf (.atom "2".toList) "2".toList [])]
    value kept = value afterPartial ∧
      setNative intEnv pointSchema (blank intEnv pointSchema) (value kept) = .ok (afterPartial, true) ∧
      kept ≠ afterPartial := by
  refine ⟨by simp [value, value.valueMembers, afterPartial], ?_, by simp [afterPartial]⟩
  simp [pointSchema, afterPartial, value, value.valueMembers, setNative, toPairs, policyRaise, fieldNames, isField,
    hashable, Schema.name, blankMs, blankFields, blank, setPairs, setOne, lookup, replace, intEnv]

/-- KF-C03-a in the model: a leaf whose value does not re-adapt to its own state (a pruning
    JoinedString holding an empty member text: the list ['a', ' ', 'b'] gives the parts
    'a', '', 'b' and the value 'a,,b', which splits and prunes into 'a', 'b') -/
def badEnv : Env :=
  { adapt := fun _ _ x => match x with
      | .list _ => (true, .text "a,,b".toList, "a,,b".toList, ["a".toList, [], "b".toList])
      | .text _ => (true, .text "a,b".toList, "a,b".toList, ["a".toList, "b".toList])
      | _ => (true, .none, [], [])
    blankLeaf := fun _ => (.none, [], []) }

/-- without `leafStable` the re-import builds a different element, whatever flag one allows -/
theorem reimport_needs_leafIdem :
    ∃ x e, setNative badEnv (.leaf none false 0) (blank badEnv (.leaf none false 0)) x = .ok (e, true) ∧
      leafStable badEnv false (.leaf none false 0) e = false ∧
      ∀ b, setNative badEnv (.leaf none false 0) (blank badEnv (.leaf none false 0)) (value e) ≠ .ok (e, b) := by
  refine ⟨.list [], .leaf (.text "a,,b".toList) "a,,b".toList ["a".toList, [], "b".toList], ?_, ?_, ?_⟩
  · simp [setNative, badEnv]
  · simp [leafStable, badEnv]
  · intro b
    simp [setNative, value, badEnv]

end Flatland.C03.Proofs
