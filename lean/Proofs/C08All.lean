/-
C08 — every list- and dict-protocol call keeps `wp` of the element it is applied to: `wp` is an invariant of the shapes the
calls end in (`wpItems`, `wpKid`), hence `c08_full` along histories.  `parents`, `root`, `path` follow from `wp` under unique
ids (`navinv_of_wp`); the construction routes (`inv_init`); non-vacuity on two histories.
-/
import Proofs.C08Build
import Proofs.C08MapShape
namespace Flatland.C08.Proofs
open Flatland.Tree Flatland.PyList Flatland.C08 Flatland.C08.Spec

def SeqArgsWP : SeqOp → Prop
  | .append a | .insert _ a | .setitem _ a => ArgWP a
  | .extend as | .iadd as | .setslice _ as => ∀ a ∈ as, ArgWP a
  | _ => True

theorem elems_of_argWP {as : List Arg} (h : ∀ a ∈ as, ArgWP a) : ∀ e ∈ as.flatMap argElems, wp e = true :=
  fun _ he => h _ (mem_argElems_flatMap he)

theorem argElems_wp {a : Arg} (h : ArgWP a) : ∀ e ∈ argElems a, wp e = true := by
  cases a with
  | plain r => intro e he; cases he
  | elem e' => intro e he; rw [List.mem_singleton.mp he]; exact h

theorem placedSeq_wp {op : SeqOp} (hop : SeqArgsWP op) : ∀ e ∈ placedSeq op, wp e = true := by
  cases op with
  | append a | insert _ a | setitem _ a => exact argElems_wp hop
  | extend as | iadd as | setslice _ as => exact elems_of_argWP hop
  | _ => intro e he; cases he

theorem setitem_slot_wp {slot el' : Node} (hp : el'.parent = some slot.id) (hw : wp el' = true) :
    wp (slot.withKids [el']) = true := by
  rw [wp_withKids]
  intro x hx
  rw [List.mem_singleton.mp hx]; exact ⟨hp, hw⟩

theorem setNode_kidsWP {n : Node} (hw : wp n = true) (raw : Raw) (pol : Option Policy) (next : Nat) :
    KidsWP n.id (setNode n raw pol next).node.kids := by
  have := (wp_iff _).mp (setNode_wp raw n pol next hw)
  rwa [id_of_hdr (setNode_hdr n raw pol next)] at this

theorem setDefault_kidsWP {n : Node} (hw : wp n = true) (next : Nat) : KidsWP n.id (setDefault n next).node.kids := by
  have := (wp_iff _).mp (setDefault_wp n next hw)
  rwa [id_of_hdr (setDefault_hdr n next)] at this

theorem wpItems {n : Node} (hw : wp n = true) : ItemInv n (fun e => wp e = true) (fun k => k.parent = some n.id ∧ wp k = true) where
  withKey s h := by rw [parent_withKey, wp_withKey]; exact h
  slot _ _ id nm h := wp_mkSlot id n.id nm _ h
  direct _ _ h := by rw [parent_withParent, wp_withParent]; exact ⟨rfl, h⟩
  built _ h := construct_wp _ _ _ _ _ _ _ h
  slotElem _ _ _ hs he :=
    ⟨by rw [parent_withKids]; exact hs.1, setitem_slot_wp (parent_withParent _ _) (by rw [wp_withParent]; exact he)⟩
  slotSet _ slot el r next hs hel := by
    have hel' := (wp_iff slot).mp hs.2 el (List.mem_of_mem_head? hel)
    exact ⟨by rw [parent_withKids]; exact hs.1,
      setitem_slot_wp (parent_eq_of_hdr (setNode_hdr el r none next) hel'.1) (setNode_wp r el none next hel'.2)⟩
  set r next := setNode_kidsWP hw r none next
  setDefault next := setDefault_kidsWP hw next

theorem SeqShape.wp_node {n : Node} {next : Nat} {op : SeqOp} {r : StepR} (h : SeqShape n next op r) (hw : wp n = true)
    (hop : ∀ e ∈ placedSeq op, wp e = true) : wp r.node = true := by
  rw [wp_iff, id_of_hdr h.hdr]
  exact h.forall_items (wpItems hw) ((wp_iff n).mp hw) hop

theorem seqStep_wp_all (n : Node) (hw : wp n = true) (op : SeqOp) (hop : SeqArgsWP op) (next : Nat) :
    wp (seqStep n op next).node = true :=
  (seqStep_shape n op next).wp_node hw (placedSeq_wp hop)

def MapArgsWP : MapOp → Prop
  | .setitem _ a => ArgWP a
  | .updateArgs kvs => ∀ p ∈ kvs, ArgWP p.2
  | _ => True

theorem wp_withScalar (x : Node) (v : Val) (u : Str) : wp (x.withScalar v u) = wp x := by cases x; rfl
theorem parent_withScalar (x : Node) (v : Val) (u : Str) : (x.withScalar v u).parent = x.parent := by cases x; rfl

theorem setChild_ok (child : Node) (a : Arg) (next : Nat) (hw : wp child = true) :
    (setChild child a next).node.parent = child.parent ∧ wp (setChild child a next).node = true := by
  unfold setChild
  split
  · exact ⟨(parent_of_hdr (setNode_hdr _ _ _ _)).1, setNode_wp _ _ _ _ hw⟩
  · split
    · exact ⟨parent_withScalar _ _ _, by rw [wp_withScalar]; exact hw⟩
    · exact ⟨rfl, hw⟩

theorem wpKid (pid : Nat) : KidInv pid (fun e => wp e = true) (fun c => c.parent = some pid ∧ wp c = true) where
  placed key he := by rw [parent_withKey, parent_withParent, wp_withKey, wp_withParent]; exact ⟨rfl, he⟩
  scalar f key next v u := by
    rw [parent_withScalar, wp_withScalar]
    exact ⟨(hdr_id_parent (blank_hdr _ (some pid) key next)).2, blank_wp _ _ _ _⟩
  built hc := ⟨(hdr_id_parent (construct_hdr _ _ (some pid) _ _ _ (by rw [hc]))).2, construct_wp _ _ _ _ _ _ _ hc⟩
  defaulted f key next d :=
    ⟨parent_eq_of_hdr (setNode_hdr _ d none _) (parent_withParent _ _),
      setNode_wp _ _ none _ (by rw [wp_withParent]; exact blank_wp _ _ _ _)⟩
  setChild a next hc := by
    have := setChild_ok _ a next hc.2
    exact ⟨this.1.trans hc.1, this.2⟩
  fresh subs b next := blankFields_wp subs pid b next

theorem wp_of_hdr_eq {r n : Node} (h : r.hdr = n.hdr) : r.id = n.id := id_of_hdr h

theorem placedMap_wp {op : MapOp} (hop : MapArgsWP op) : ∀ e ∈ placedMap op, wp e = true := by
  cases op with
  | setitem k a => exact argElems_wp hop
  | updateArgs kvs =>
    intro e he
    obtain ⟨p, hp, hep⟩ := List.mem_flatMap.mp he
    exact argElems_wp (hop p hp) e hep
  | _ => intro e he; cases he

theorem MapShape.wp_node {n : Node} {next : Nat} {op : MapOp} {r : StepR} (h : MapShape n next op r) (hw : wp n = true)
    (hop : ∀ e ∈ placedMap op, wp e = true) : r.node.hdr = n.hdr ∧ wp r.node = true := by
  refine ⟨h.hdr, ?_⟩
  rw [wp_iff, id_of_hdr h.hdr]
  exact h.forall_kids (wpKid n.id) ((wp_iff n).mp hw) hop (fun raw pol => setNode_kidsWP hw raw pol next)
    (setDefault_kidsWP hw next)

theorem mapStep_wp (n : Node) (hw : wp n = true) (op : MapOp) (hop : MapArgsWP op) (next : Nat) :
    (mapStep n op next).node.hdr = n.hdr ∧ wp (mapStep n op next).node = true :=
  (mapStep_shape n op next).wp_node hw (placedMap_wp hop)

theorem good_all (op : Op) (hop : OpArgsWP op) : Good op := by
  intro n next hw
  rcases nodeStep_cases n op next with ⟨o, rfl, _, h⟩ | ⟨o, rfl, _, h⟩ | h <;> rw [h]
  · exact ⟨(seqStep_shape n o next).hdr, seqStep_wp_all n hw o (by cases o <;> first | exact hop | trivial) next⟩
  · exact mapStep_wp n hw o (by cases o <;> first | exact hop | trivial) next
  · exact ⟨rfl, hw⟩

/-- `C08_Full` holds (stored-pointer clause, every call of the model, trees of any depth). -/
theorem c08_full : C08_Full := by
  intro s hs hw hr hargs
  exact hrun_treeinv hs s (fun h hh => good_all h.op (hargs h hh)) hw hr

/-- list-protocol calls every *placed* argument of which is an Element (well-parented
    inside); searching calls may take anything; no `set` / `set_default` / `*=` -/
def ElemOnly : SeqOp → Prop
  | .append (.elem e) | .insert _ (.elem e) | .setitem _ (.elem e) => wp e = true
  | .extend as | .iadd as | .setslice _ as => ∀ a ∈ as, ∃ e, a = .elem e ∧ wp e = true
  | .append (.plain _) | .insert _ (.plain _) | .setitem _ (.plain _) | .set _ | .setDefault | .imul _ => False
  | _ => True

theorem opArgsWP_of_elemOnly {o : SeqOp} (h : ElemOnly o) : OpArgsWP (.seq o) := by
  cases o with
  | append a | insert _ a | setitem _ a => cases a <;> first | exact h | exact h.elim
  | extend as | iadd as | setslice _ as =>
    intro a ha; obtain ⟨e, rfl, he⟩ := h a ha; exact he
  | _ => trivial

/-- The instance of `c08_full` for histories of `ElemOnly` list-protocol calls. -/
theorem c08_histories_partial (hs : List HOp) (s : HState)
    (hcov : ∀ h ∈ hs, ∃ o, h.op = .seq o ∧ ElemOnly o) (hw : wp s.root = true) (hr : s.root.parent = none) :
    TreeInv (hrun s hs).root := by
  apply c08_full s hs hw hr
  intro h hh
  obtain ⟨o, ho, hel⟩ := hcov h hh
  rw [ho]; exact opArgsWP_of_elemOnly hel


theorem mem_nodes_trans : ∀ (r p c : Node), p ∈ nodes r → c ∈ nodes p → c ∈ nodes r :=
  fun r p c hp hc =>
    forall_nodes (P := fun x => ∀ c ∈ nodes x, c ∈ nodes r)
      (fun p hp k hk c hc => hp c (by rw [nodes_eq]; exact List.mem_cons_of_mem _ (mem_nodesL_iff.mpr ⟨k, hk, hc⟩)))
      r (fun _ h => h) p hp c hc

theorem mem_nodesL_trans : ∀ (ks : List Node) (p c : Node), p ∈ nodesL ks → c ∈ nodes p → c ∈ nodesL ks := by
  intro ks p c hp hc
  obtain ⟨k, hk, hpk⟩ := mem_nodesL_iff.mp hp
  exact mem_nodesL_iff.mpr ⟨k, hk, mem_nodes_trans k p c hpk hc⟩

theorem mem_nodesL_of_mem {ks : List Node} {c : Node} (h : c ∈ ks) : c ∈ nodesL ks :=
  mem_nodesL_iff.mpr ⟨c, h, self_mem_nodes c⟩

theorem kid_mem_nodes {p c : Node} (h : c ∈ p.kids) : c ∈ nodes p := by
  rw [nodes_eq]; exact List.mem_cons_of_mem _ (mem_nodesL_of_mem h)

theorem anc_mem_nodes {root x : Node} {as : List Node} (h : Anc root x as) : x ∈ nodes root := by
  induction h with
  | root => exact self_mem_nodes root
  | kid _ hc ih => exact mem_nodes_trans _ _ _ ih (kid_mem_nodes hc)

/-- `pool`: the detached objects of the store, looked at only for identities the tree does not have -/
theorem deref_eq {root p : Node} (pool : List Node) (hu : UniqueIds root) (hp : p ∈ nodes root) :
    deref (root :: pool) p.id = some p := by
  unfold deref
  rw [List.flatMap_cons, List.find?_append]
  cases hf : (nodes root).find? (fun n => n.id == p.id) with
  | none => simpa using List.find?_eq_none.mp hf p hp
  | some q =>
    have hid : q.id = p.id := by simpa using List.find?_some hf
    rw [Lists.eq_of_nodup_map Node.id hu (List.mem_of_find?_eq_some hf) hp hid]; rfl

theorem parentsOf_eq {root : Node} (pool : List Node) (hw : wp root = true) (hr : root.parent = none)
    (hu : UniqueIds root) {x : Node} {as : List Node} (h : Anc root x as) :
    ∀ fuel, as.length ≤ fuel → parentsOf (root :: pool) fuel x = as := by
  induction h with
  | root =>
    intro fuel _
    cases fuel with
    | zero => rfl
    | succ f => simp [parentsOf, hr]
  | @kid p c as' hp hc ih =>
    intro fuel hf
    cases fuel with
    | zero => simp at hf
    | succ f =>
      have hcp : c.parent = some p.id := ((wp_iff _).mp (wp_of_anc hp hw) c hc).1
      rw [parentsOf]
      simp only [hcp, deref_eq pool hu (anc_mem_nodes hp)]
      rw [ih f (by simpa using hf)]

/-- In a well-parented tree with unique ids whose root has no parent,
    `parents`, `root` and `path` of every node are what the shape of the tree says. -/
theorem navinv_of_wp {root : Node} (hw : wp root = true) (hr : root.parent = none) (hu : UniqueIds root) :
    NavInv root := by
  intro x as h fuel hf
  have hp := parentsOf_eq [] hw hr hu h fuel hf
  refine ⟨hp, ?_, by rw [pathOf, hp]⟩
  rw [rootOf, hp]
  rcases anc_last h with ⟨h1, h2⟩ | h1
  · rw [h1, h2]; rfl
  · rw [h1]; rfl


/-- Every construction route of the model yields a well-parented tree whose root
    has no parent: `schema()`, `schema(value)` (when it does not raise), `schema.from_defaults()`,
    and `set(value)` / `set_default()` on such a tree. -/
theorem inv_init (s : Schema) (key : Str) (next : Nat) :
    (wp (blank s none key next).1 = true ∧ (blank s none key next).1.parent = none) ∧
    (∀ raw e n1, construct s raw none key next = (.ok e, n1) → wp e = true ∧ e.parent = none) ∧
    (wp (fromDefaults s none key next).node = true ∧ (fromDefaults s none key next).node.parent = none) ∧
    (∀ (n : Node) raw pol nx, wp n = true → n.parent = none →
        wp (setNode n raw pol nx).node = true ∧ (setNode n raw pol nx).node.parent = none) ∧
    (∀ (n : Node) nx, wp n = true → n.parent = none →
        wp (setDefault n nx).node = true ∧ (setDefault n nx).node.parent = none) := by
  refine ⟨⟨blank_wp _ _ _ _, (hdr_id_parent (blank_hdr s none key next)).2⟩, ?_, ?_, ?_, ?_⟩
  · intro raw e n1 h
    exact ⟨construct_wp s raw none key next e n1 h, (hdr_id_parent (construct_hdr s raw none key next e (by rw [h]))).2⟩
  · exact ⟨fromDefaults_wp _ _ _ _, (hdr_id_parent (fromDefaults_hdr s none key next)).2⟩
  · intro n raw pol nx hw hp
    exact ⟨setNode_wp raw n pol nx hw, parent_eq_of_hdr (setNode_hdr n raw pol nx) hp⟩
  · intro n nx hw hp
    exact ⟨setDefault_wp n nx hw, parent_eq_of_hdr (setDefault_hdr n nx) hp⟩

def exI : Schema := .mk { cid := 2, kind := .integer } .none []
def exLS : Schema := .mk { cid := 1, kind := .list } .none [exI]
/-- `List.of(Integer)([1, 2])`: slots 2 and 4 hold elements 3 and 5 -/
def exTree : Node := .mk { id := 1, parent := none } exLS
  [mkSlot 2 1 0 (.mk { id := 3, parent := none, val := .int 1, u := ['1'] } exI []),
   mkSlot 4 1 1 (.mk { id := 5, parent := none, val := .int 2, u := ['2'] } exI [])]

def exHist : List HOp :=
  [⟨1, .seq (.pop none)⟩, ⟨1, .seq (.insert 0 (.elem (.mk { id := 9, parent := some 77, val := .int 7, u := ['7'] } exI [])))⟩,
   ⟨1, .seq .reverse⟩, ⟨1, .seq (.delitem 5)⟩]

example : wp exTree = true := by decide

example : TreeInv (hrun ⟨exTree, 100⟩ exHist).root := by
  apply c08_histories_partial exHist ⟨exTree, 100⟩ _ (by decide) rfl
  intro h hh
  simp only [exHist, List.mem_cons, List.not_mem_nil, or_false] at hh
  rcases hh with rfl | rfl | rfl | rfl
  · exact ⟨_, rfl, trivial⟩
  · exact ⟨_, rfl, (by show wp _ = true; decide)⟩
  · exact ⟨_, rfl, trivial⟩
  · exact ⟨_, rfl, trivial⟩

/-- the placed element (id 9, stale pointer 77) now points to its new slot, which points to the list -/
example : ((hrun ⟨exTree, 100⟩ exHist).root.kids.map (fun s => (s.parent, s.kids.map (fun e => (e.id, e.parent))))) =
    [(some 1, [(3, some 2)]), (some 1, [(9, some 100)])] := by decide

def exDictS2 : Schema := .mk { cid := 10, kind := .dict, name := some ['d'] } .none
  [.mk { cid := 11, kind := .integer, name := some ['x'] } .none [], .mk { cid := 12, kind := .list, name := some ['y'] } .none [exI]]
def exLoD : Schema := .mk { cid := 13, kind := .list } .none [exDictS2]
/-- `List.of(Dict.of(Integer.named('x'), List.named('y').of(Integer)))()` -/
def exRoot : Node := (blank exLoD none [] 1).1

/-- plain values wrapped by a Dict member schema, a nested target, a dict-protocol call, `*=`, `set` -/
def exHist2 : List HOp :=
  [⟨1, .seq (.append (.plain (.dict [(['x'], .int 1), (['y'], .list [.int 2, .int 3])])))⟩,
   ⟨1, .seq (.imul 2)⟩,
   ⟨3, .map (.setitem ['y'] (.plain (.list [.int 7])))⟩,
   ⟨3, .map (.ior (.dict [(['x'], .str ['9'])]))⟩,
   ⟨1, .seq (.insert 0 (.elem (.mk { id := 900, parent := some 77 } exDictS2 [])))⟩,
   ⟨1, .seq (.set (.list [.dict [(['x'], .int 5), (['y'], .list [])]]))⟩]

example : TreeInv (hrun ⟨exRoot, 2⟩ exHist2).root :=
  c08_full ⟨exRoot, 2⟩ exHist2 (blank_wp _ _ _ _) rfl (by
    intro h hh
    simp only [exHist2, List.mem_cons, List.not_mem_nil, or_false] at hh
    rcases hh with rfl | rfl | rfl | rfl | rfl | rfl <;> first | trivial | (show wp _ = true; decide))

example : (ids (hrun ⟨exRoot, 2⟩ exHist2).root).length = 5 := by decide +kernel

end Flatland.C08.Proofs
