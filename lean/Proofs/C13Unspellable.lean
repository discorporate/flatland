/-
C13, empty path steps at the first level, for EVERY tree.  Since 05c4adc `fq_name()` emits the empty step
for a child of a mapping that has no name (`name is None`, stored under the key `None`) AND for one named
`''`, with a slash of its own when the step comes last: both have `fq_name()` `//` directly below the root,
and `find('//')` looks the empty step up under the key `None`: the unnamed field is found
(`find_fq_unnamed`), the one named `''` is not (KF-C13-b, `C13_empty_name_fails_top_partial`: the lookup
raises, or finds the unnamed sibling).  Deeper positions: `Proofs/C13Empty.lean`.
-/
import Proofs.C13
import Proofs.C13Empty
namespace Flatland.C13.Proofs
open Flatland.Path Flatland.C13.Spec

theorem fqName_empty_top (k : Kind) (ky : Option Str) (nm : Str) (kids : List Node) (i : Nat) (c : Node)
    (hk : k ≠ .list ∧ k ≠ .array) (hc : kids[i]? = some c) (hn : c.name = []) :
    fqName (.mk k ky nm kids) [i] = ['/', '/'] := by
  have hs : segText k i c = [] := by
    cases k with
    | list => exact absurd rfl hk.1
    | array => exact absurd rfl hk.2
    | _ => simp only [segText, hn]; rfl
  rw [fqName_eq]
  simp only [segs, hc, hs]
  rfl

/-- `find('//')`: the root's child stored under the key `None` -/
theorem find_slash2 (root : Node) (start : Pos) (strict : Bool) :
    find root start ['/', '/'] false strict =
      match root.index none with
      | some j => .many [[j]]
      | none => if strict then .err .lookup else .many [] := by
  rw [find_top root start _ _ strict tokenize_slash2 rfl]
  simp only [runCtx, indexAt, Node.get?]
  cases root.index none with
  | some j => rfl
  | none => cases strict <;> rfl

/-- **an unnamed first-level field is found by its `fq_name()`** (05c4adc), in every tree whose root is
    a mapping holding it under the key `None`, from every start, strict or not -/
theorem find_fq_unnamed (ky : Option Str) (nm : Str) (kids : List Node) (start : Pos) (strict : Bool)
    (i : Nat) (c : Node) (hc : kids[i]? = some c) (hn : c.name = [])
    (hkey : findName none kids = some i) :
    find (.mk .map ky nm kids) start (fqName (.mk .map ky nm kids) [i]) false strict = .many [[i]] :=
  find_fq_empty _ start [i] strict (by simp [PathOK', hc, stepOK', nameKey, hn, hkey])

/-- **KF-C13-b at the first level, for every tree**: a first-level field of a mapping that is NOT the
    one stored under `None` (e.g. one named `''`, stored under `''`) but emits the empty step breaks the
    inverse law, from every start element.  (`_partial`: first level only.) -/
theorem C13_empty_name_fails_top_partial (ky : Option Str) (nm : Str) (kids : List Node) (start : Pos)
    (i : Nat) (c : Node) (hc : kids[i]? = some c) (hn : c.name = [])
    (hkey : findName none kids ≠ some i) :
    isInverseAt (.mk .map ky nm kids) start [i] = false :=
  C13_empty_name_fails _ start [i] (by simp [SpellOK', hc, stepSpell']) (by simp [emptyNamedFrom, hc, hn, hkey])

/-- non-vacuity: the witness of `C13_full_fails` is an instance -/
example : isInverseAt witnessEmpty [] [0] = false :=
  C13_empty_name_fails_top_partial _ ['r'] _ [] 0 _ rfl rfl (by decide)

/-- the tree `Dict.of(Dict.of(String.named('x')), String.named('b'))`: the unnamed inner Dict -/
def witnessUnnamed : Node :=
  .mk .map none [] [.mk .map none [] [.mk .scalar (some ['x']) ['x'] []], .mk .scalar (some ['b']) ['b'] []]

/-- non-vacuity of `find_fq_unnamed`: `d[None].fq_name() == '//'` finds exactly `d[None]`, from `d['b']` -/
example : fqName witnessUnnamed [0] = ['/', '/'] ∧
    find witnessUnnamed [1] (fqName witnessUnnamed [0]) false true = .many [[0]] :=
  ⟨by decide, find_fq_unnamed none [] _ [1] true 0 _ rfl rfl (by decide)⟩

/-- what the model emits for the other trees of the repair: `//x`, `/l/0//`, `///y` -/
example : fqName witnessUnnamed [0, 0] = ['/', '/', 'x'] := by decide
example : fqName (.mk .map none [] [.mk .list (some ['l']) ['l'] [.mk .map none [] [.mk .map none [] []]]]) [0, 0, 0]
    = ['/', 'l', '/', '0', '/', '/'] := by
  rw [fqName_eq]
  simp only [segs, List.getElem?_cons_zero, segText, Lemmas.natStr_zero]
  decide
example : fqName (.mk .map none [] [.mk .map none [] [.mk .map none [] [.mk .scalar (some ['y']) ['y'] []]]]) [0, 0, 0]
    = ['/', '/', '/', 'y'] := by decide
/-- the spec's restriction admits unnamed fields and still excludes a field named `''` -/
example : addressable witnessUnnamed [0, 0] = true ∧ spellable witnessUnnamed [0] = true ∧
    addressable witnessEmpty [0] = false ∧ spellable witnessEmpty [0] = false := by decide

end Flatland.C13.Proofs
