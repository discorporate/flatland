/-
C10 — Mapping elements hold exactly the schema's fields, always as elements.  `mapinv_step` / `mapinv_run`: the
invariant `MapInv` (Flatland/Spec/C10.lean) is preserved by every dict-protocol call, accepted or rejected.
`undeclared_rejected`: a call naming an undeclared key raises and leaves the mapping untouched.

The invariants of a mapping read the headers of its children only.  `KidsEdit` lists what the
mutators do to those (`mapStep_edit`; a whole history is one edit, `run_edit`), and each invariant
is proved of `KidsEdit` once: `KidsEdit.ki` here, `KidsEdit.nodup` in Proofs/C10Nodup.lean.
-/
import Flatland.C10
import Flatland.Spec.C10
import Proofs.Lemmas.ListBasic
import Proofs.Lemmas.TreeHdr
import Proofs.C08MapShape
namespace Flatland.C10.Proofs
open Flatland.Tree Flatland.PyList Flatland.C10 Flatland.C10.Spec
open Flatland.C08.Spec (placedMap)
open Flatland.C08.Proofs (NewKid ItemShape ItemSteps MapShape mapSetItem_shape
  mapStep_shape setNode_shape setDefault_shape freshKids)

theorem hdr_parts {a b : Node} (h : a.hdr = b.hdr) :
    a.id = b.id ∧ a.parent = b.parent ∧ a.sch = b.sch ∧ a.key = b.key ∧
      a.ni.optOv = b.ni.optOv ∧ a.ni.nameOv = b.ni.nameOv := by
  simp only [Node.hdr, Prod.mk.injEq] at h; exact h

theorem hdr_eq_parts {c : Node} {id : Nat} {p : Option Nat} {s : Schema} {k : Str} {o : Option Bool} {nm : Option Str}
    (h : c.hdr = (id, p, s, k, o, nm)) :
    c.id = id ∧ c.parent = p ∧ c.sch = s ∧ c.key = k ∧ c.ni.optOv = o ∧ c.ni.nameOv = nm := by
  simp only [Node.hdr, Prod.mk.injEq] at h; exact h

def KidOK (pid : Nat) (subs : List Schema) (c : Node) : Prop :=
  c.parent = some pid ∧ c.sch ∈ subs ∧ c.key = c.sch.key ∧ c.ni.nameOv = none

theorem kidOK_of_hdr {pid : Nat} {subs : List Schema} {a b : Node} (h : a.hdr = b.hdr) (hb : KidOK pid subs b) :
    KidOK pid subs a := by
  obtain ⟨_, hp, hs, hk, _, hn⟩ := hdr_parts h
  unfold KidOK at *
  rw [hp, hs, hk, hn]; exact hb

theorem kidOK_fresh {pid : Nat} {subs : List Schema} {c : Node} {id : Nat} {f : Schema}
    (h : c.hdr = (id, some pid, f, f.key, none, none)) (hf : f ∈ subs) : KidOK pid subs c := by
  obtain ⟨_, hp, hs, hk, _, hn⟩ := hdr_eq_parts h
  exact ⟨hp, by rw [hs]; exact hf, by rw [hk, hs], hn⟩

theorem hdr_withParent {x : Node} {id : Nat} {p : Option Nat} {s : Schema} {k : Str} {o : Option Bool} {nm : Option Str}
    (h : x.hdr = (id, p, s, k, o, nm)) (q : Option Nat) : (x.withParent q).hdr = (id, q, s, k, o, nm) := by
  cases x with
  | mk i sc ks =>
    simp only [Node.hdr, Node.withParent, Node.id, Node.ni, Node.parent, Node.sch, Node.key, Node.kids, Prod.mk.injEq] at *
    exact ⟨h.1, trivial, h.2.2⟩

def keep (b : Bool) (f : Schema) : Bool := !(b && f.info.optional)

/-- the header of the child `_reset()` stores for field `f`, without its identity -/
def fieldHdr (pid : Nat) (f : Schema) : Option Nat × Schema × Str × Option Bool × Option Str := (some pid, f, f.key, none, none)

theorem blankFields_hdrs (subs : List Schema) (pid : Nat) (b : Bool) : ∀ next,
    (blankFields subs pid b next).1.map (fun c => c.hdr.2) = (subs.filter (keep b)).map (fieldHdr pid) := by
  induction subs with
  | nil => intro _; rfl
  | cons f fs ih =>
    intro next
    rw [blankFields, List.filter_cons, keep]
    cases (b && f.info.optional)
    · simp only [Bool.false_eq_true, if_false, Bool.not_false, if_true, List.map_cons, ih, blank_hdr]; rfl
    · exact ih next

theorem defaultFields_hdrs (subs : List Schema) (pid : Nat) (b : Bool) : ∀ next,
    (defaultFields subs pid b next).1.map (fun c => c.hdr.2) = (subs.filter (keep b)).map (fieldHdr pid) := by
  induction subs with
  | nil => intro _; rfl
  | cons f fs ih =>
    intro next
    rw [defaultFields, List.filter_cons, keep]
    cases (b && f.info.optional)
    · simp only [Bool.false_eq_true, if_false, Bool.not_false, if_true, List.map_cons]
      split
      · -- a raising field: the blank child `_reset()` made (or what `set_default` left of it), then blank children
        simp only [List.map_cons, blankFields_hdrs]
        cases b <;> simp only [Bool.false_eq_true, if_false, if_true, blank_hdr, fromDefaults_hdr] <;> rfl
      · simp only [List.map_cons, ih, fromDefaults_hdr]; rfl
    · exact ih next

theorem kidsOK_of_hdrs {pid : Nat} {subs : List Schema} {b : Bool} {ks : List Node}
    (h : ks.map (fun c => c.hdr.2) = (subs.filter (keep b)).map (fieldHdr pid)) :
    (∀ c ∈ ks, KidOK pid subs c) ∧ ks.map Node.key = (subs.filter (keep b)).map Schema.key := by
  refine ⟨fun c hc => ?_, ?_⟩
  · obtain ⟨f, hf, he⟩ := List.mem_map.mp (h ▸ List.mem_map_of_mem (f := fun c : Node => c.hdr.2) hc)
    simp only [fieldHdr, Node.hdr, Prod.mk.injEq] at he
    obtain ⟨hp, hs, hk, _, hn⟩ := he
    exact ⟨hp.symm, hs ▸ (List.mem_filter.mp hf).1, by rw [← hk, ← hs], hn.symm⟩
  · have := congrArg (List.map (fun t : Option Nat × Schema × Str × Option Bool × Option Str => t.2.2.1)) h
    simpa [List.map_map, Function.comp_def, Node.hdr, fieldHdr] using this

theorem blankFields_ok (subs : List Schema) (pid : Nat) (b : Bool) (next : Nat) :
    (∀ c ∈ (blankFields subs pid b next).1, KidOK pid subs c) ∧
    (blankFields subs pid b next).1.map Node.key = (subs.filter (keep b)).map Schema.key :=
  kidsOK_of_hdrs (blankFields_hdrs subs pid b next)

theorem defaultFields_ok (subs : List Schema) (pid : Nat) (b : Bool) (next : Nat) :
    (∀ c ∈ (defaultFields subs pid b next).1, KidOK pid subs c) ∧
    (defaultFields subs pid b next).1.map Node.key = (subs.filter (keep b)).map Schema.key :=
  kidsOK_of_hdrs (defaultFields_hdrs subs pid b next)

theorem findKid_some {kids : List Node} {k : Str} {c : Node} (h : findKid kids k = some c) :
    c ∈ kids ∧ c.key = k := by
  unfold findKid at h
  exact ⟨List.mem_of_find?_eq_some h, by simpa using List.find?_some h⟩

theorem findKid_none {kids : List Node} {k : Str} (h : findKid kids k = none) : k ∉ kids.map Node.key := by
  unfold findKid at h
  intro hm
  obtain ⟨c, hc, hk⟩ := List.mem_map.mp hm
  have := List.find?_eq_none.mp h c hc
  simp [hk] at this

theorem fieldFor_some {subs : List Schema} {k : Str} {f : Schema} (h : fieldFor subs k = some f) :
    f ∈ subs ∧ f.key = k := by
  unfold fieldFor at h
  exact ⟨List.mem_of_find?_eq_some h, by simpa using List.find?_some h⟩

theorem fieldFor_none {subs : List Schema} {k : Str} (h : fieldFor subs k = none) : k ∉ subs.map Schema.key := by
  unfold fieldFor at h
  intro hm
  obtain ⟨c, hc, hk⟩ := List.mem_map.mp hm
  have := List.find?_eq_none.mp h c hc
  simp [hk] at this

theorem replaceKid_keys (kids : List Node) (k : Str) (new : Node) (hn : new.key = k) :
    (replaceKid kids k new).map Node.key = kids.map Node.key := by
  unfold replaceKid
  induction kids with
  | nil => rfl
  | cons c cs ih =>
    simp only [List.map_cons, ih]
    by_cases h : (c.key == k) = true
    · simp only [h, if_true, hn]; simp at h; rw [h]
    · simp only [h]; rfl

theorem mem_replaceKid {kids : List Node} {k : Str} {new x : Node} (h : x ∈ replaceKid kids k new) :
    x ∈ kids ∨ x = new := by
  unfold replaceKid at h
  obtain ⟨c, hc, hx⟩ := List.mem_map.mp h
  split at hx
  · exact .inr hx.symm
  · exact .inl (hx ▸ hc)

/-- the three key facts about a candidate children list of mapping `n` -/
structure KI (n : Node) (kids : List Node) : Prop where
  ok : ∀ c ∈ kids, KidOK n.id n.sch.subs c
  dense : n.kind = .dict → kids.map Node.key = n.sch.subs.map Schema.key
  required : n.kind = .sparse → n.sch.info.minreq = true →
    ∀ f ∈ n.sch.subs, f.info.optional = false → f.key ∈ kids.map Node.key

theorem mapInv_iff (n : Node) : MapInv n ↔ KI n n.kids :=
  ⟨fun h => ⟨h.kids, h.dense, h.required⟩, fun h => ⟨h.ok, h.dense, h.required⟩⟩

theorem mapInv_of_hdr {n r : Node} (h : r.hdr = n.hdr) (hk : KI n r.kids) : MapInv r := by
  obtain ⟨hid, _, hs, _⟩ := hdr_parts h
  have hkind : r.kind = n.kind := by unfold Node.kind; rw [hs]
  refine ⟨?_, ?_, ?_⟩
  · intro c hc; rw [hid, hs]; exact hk.ok c hc
  · intro hd; rw [hs]; exact hk.dense (hkind ▸ hd)
  · intro hsp hm; rw [hs] at hm ⊢; exact hk.required (hkind ▸ hsp) hm

theorem KI.absent {n : Node} {ks : List Node} (h : KI n ks) {k : Str} (hund : fieldFor n.sch.subs k = none) :
    findKid ks k = none := by
  cases hc : findKid ks k with
  | none => rfl
  | some c =>
    obtain ⟨hcm, hck⟩ := findKid_some hc
    obtain ⟨_, hmem, hkey, _⟩ := h.ok c hcm
    exact absurd (List.mem_map.mpr ⟨c.sch, hmem, by rw [← hkey, hck]⟩) (fieldFor_none hund)

/-- a children list whose keys extend the old ones (same keys for a Dict) with well-formed
    children keeps the key facts -/
theorem KI.extend {n : Node} {kids kids' : List Node} (h : KI n kids)
    (hok : ∀ c ∈ kids', KidOK n.id n.sch.subs c)
    (hsup : ∀ k ∈ kids.map Node.key, k ∈ kids'.map Node.key)
    (hdense : (∀ f ∈ n.sch.subs, f.key ∈ kids.map Node.key) → kids'.map Node.key = kids.map Node.key) :
    KI n kids' := by
  refine ⟨hok, ?_, ?_⟩
  · intro hd
    have hk := h.dense hd
    rw [hdense (fun f hf => by rw [hk]; exact List.mem_map_of_mem hf), hk]
  · intro hs hm f hf ho
    exact hsup _ (h.required hs hm f hf ho)

def MapKind (n : Node) : Prop := n.kind = .dict ∨ n.kind = .sparse

theorem filter_keep_false (subs : List Schema) : subs.filter (keep false) = subs := by
  apply List.filter_eq_self.mpr; intro f _; rfl

/-- the children `_reset()` leaves -/
def resetKids (n : Node) (next : Nat) : List Node × Nat :=
  if n.kind = .dict then blankFields n.sch.subs n.id false next
  else if n.sch.info.minreq then blankFields n.sch.subs n.id true next
  else ([], next)

theorem setDefaultKids_hdr (kids : List Node) (next : Nat) :
    (setDefaultKids kids next).1.map Node.hdr = kids.map Node.hdr := by
  induction kids generalizing next with
  | nil => rfl
  | cons k ks ih =>
    rw [setDefaultKids]
    dsimp only
    split
    · simp [setDefault_hdr]
    · simp [setDefault_hdr, ih]

theorem KI_of_map_hdr {n : Node} {a b : List Node} (hab : a.map Node.hdr = b.map Node.hdr) (h : KI n b) : KI n a := by
  have hkeys := keys_of_map_hdr hab
  refine ⟨fun c hc => ?_, fun hd => hkeys ▸ h.dense hd, fun hs hm f hf ho => hkeys ▸ h.required hs hm f hf ho⟩
  obtain ⟨c', hc', he⟩ := List.mem_map.mp (hab ▸ List.mem_map_of_mem (f := Node.hdr) hc)
  exact kidOK_of_hdr he.symm (h.ok c' hc')

theorem setChild_hdr (child : Node) (a : Arg) (next : Nat) : (setChild child a next).node.hdr = child.hdr := by
  unfold setChild
  split
  · exact setNode_hdr _ _ _ _
  · split <;> rfl

/-- an Element argument that passes `isinstance(value, field_schema)` is an instance of the
    field class itself — not of a renamed subclass (see `C10_Full` below) -/
def ArgExact (n : Node) (k : Str) (a : Arg) : Prop :=
  match a with
  | .elem e => ∀ f, fieldFor n.sch.subs k = some f → isInstance e f = true →
      e.sch = f ∧ e.ni.nameOv = none
  | .plain _ => True

theorem kidOK_placed {n : Node} {e : Node} {f : Schema} {key : Str} (hf : f ∈ n.sch.subs) (hfk : f.key = key)
    (hes : e.sch = f ∧ e.ni.nameOv = none) :
    KidOK n.id n.sch.subs ((e.withParent (some n.id)).withKey key) := by
  cases e with
  | mk i s ks =>
    obtain ⟨hes, hn⟩ := hes
    simp only [Node.sch] at hes
    refine ⟨rfl, ?_, ?_, hn⟩
    · show s ∈ n.sch.subs; rw [hes]; exact hf
    · show key = s.key; rw [hes, hfk]

theorem placed_key (e : Node) (p : Option Nat) (key : Str) : ((e.withParent p).withKey key).key = key := by
  cases e; rfl

theorem KI.subst {n : Node} {ks : List Node} (h : KI n ks) {key : Str} {new : Node} (hk : new.key = key)
    (hok : KidOK n.id n.sch.subs new) : KI n (replaceKid ks key new) := by
  have hkeys := replaceKid_keys ks key new hk
  refine h.extend ?_ (by rw [hkeys]; exact fun k hk => hk) (fun _ => hkeys)
  intro c hc
  rcases mem_replaceKid hc with h1 | h1
  · exact h.ok c h1
  · rw [h1]; exact hok

theorem KI.replace {n : Node} (h : KI n n.kids) {key : Str} {new : Node} (hk : new.key = key)
    (hok : KidOK n.id n.sch.subs new) : KI n (replaceKid n.kids key new) := h.subst hk hok

theorem KI.snoc {n : Node} {ks : List Node} (h : KI n ks) {new : Node} (hnot : new.key ∉ ks.map Node.key)
    (hok : KidOK n.id n.sch.subs new) : KI n (ks ++ [new]) := by
  refine h.extend ?_ (fun k hk => by simp only [List.map_append, List.mem_append]; exact .inl hk) ?_
  · intro c hc
    rcases List.mem_append.mp hc with h1 | h1
    · exact h.ok c h1
    · simp only [List.mem_singleton] at h1; rw [h1]; exact hok
  · intro hall
    exact absurd (hok.2.2.1 ▸ hall new.sch hok.2.1) hnot

theorem KI.append {n : Node} (h : KI n n.kids) {new : Node} (hnot : new.key ∉ n.kids.map Node.key)
    (hok : KidOK n.id n.sch.subs new) : KI n (n.kids ++ [new]) := h.snoc hnot hok

theorem newKid_hdr {n : Node} {key : Str} {next : Nat} {a : Arg} {x : Node} {n1 : Nat} (h : NewKid n key next a x n1) :
    ∃ f, fieldFor n.sch.subs key = some f ∧
      ((∃ e, a = .elem e ∧ isInstance e f = true ∧ x = (e.withParent (some n.id)).withKey key) ∨
        ∃ id, x.hdr = (id, some n.id, f, key, none, none)) := by
  cases h with
  | placed hf hi => exact ⟨_, hf, .inl ⟨_, rfl, hi, rfl⟩⟩
  | scalar hf ha => exact ⟨_, hf, .inr ⟨next, by rw [withScalar_hdr, blank_hdr]⟩⟩
  | built hf hc => exact ⟨_, hf, .inr ⟨next, construct_hdr _ _ _ _ _ _ (by rw [hc])⟩⟩
  | defaulted hf => exact ⟨_, hf, .inr ⟨next, by rw [setNode_hdr, hdr_withParent (blank_hdr _ _ _ _)]⟩⟩

theorem mem_eraseKey {kids : List Node} {k : Str} {c : Node} (h : c ∈ eraseKey kids k) : c ∈ kids ∧ c.key ≠ k := by
  unfold eraseKey at h
  obtain ⟨h1, h2⟩ := List.mem_filter.mp h
  exact ⟨h1, by simpa using h2⟩

theorem mem_keys_eraseKey {kids : List Node} {k k' : Str} (h : k' ∈ kids.map Node.key) (hne : k' ≠ k) :
    k' ∈ (eraseKey kids k).map Node.key := by
  obtain ⟨c, hc, hk⟩ := List.mem_map.mp h
  exact List.mem_map.mpr ⟨c, List.mem_filter.mpr ⟨hc, by simp [hk, hne]⟩, hk⟩

/-- field names are distinct (`Dict.of` raises otherwise) -/
def FieldsNodup (n : Node) : Prop := (n.sch.subs.map Schema.key).Nodup

theorem argExact_congr {n r : Node} (h : r.hdr = n.hdr) (k : Str) (a : Arg) : ArgExact r k a ↔ ArgExact n k a := by
  have hs : r.sch = n.sch := (hdr_parts h).2.2.1
  cases a <;> simp [ArgExact, hs]

def Fresh (pid : Nat) (s : Schema) (b : Bool) (ks : List Node) : Prop :=
  (∀ c ∈ ks, KidOK pid s.subs c) ∧ ks.map Node.key = (s.subs.filter (keep b)).map Schema.key

/-- a Dict gets all its fields back, a SparseDict its required ones or none -/
def IsReset (pid : Nat) (s : Schema) (ks : List Node) : Prop :=
  (∃ b, (s.kind = .dict → b = false) ∧ Fresh pid s b ks) ∨ (ks = [] ∧ s.kind = .sparse ∧ s.info.minreq = false)

/-- the child stored under `k` for the field `f`: a new element of the class, or an Element of
    the class that the caller handed in (`E k e`: what is known of such an Element) -/
def Stored (pid : Nat) (E : Str → Node → Prop) (k : Str) (f : Schema) (x : Node) : Prop :=
  (∃ id, x.hdr = (id, some pid, f, k, none, none)) ∨
    ∃ e, isInstance e f = true ∧ E k e ∧ x = (e.withParent (some pid)).withKey k

theorem Stored.key {pid : Nat} {E : Str → Node → Prop} {k : Str} {f : Schema} {x : Node} (h : Stored pid E k f x) :
    x.key = k := by
  rcases h with ⟨id, h⟩ | ⟨e, _, _, rfl⟩
  · exact (hdr_eq_parts h).2.2.2.1
  · exact placed_key _ _ _

/-- the children of the mapping with identity `pid` and class `s`, before and after -/
inductive KidsEdit (pid : Nat) (s : Schema) (E : Str → Node → Prop) : List Node → List Node → Prop
  | refl (ks : List Node) : KidsEdit pid s E ks ks
  /-- every child is worked on in place (`set_default` of a Dict, `Compound.set`) -/
  | hdrs {ks ks' : List Node} (h : ks'.map Node.hdr = ks.map Node.hdr) : KidsEdit pid s E ks ks'
  | reset {ks ks' : List Node} (h : IsReset pid s ks') : KidsEdit pid s E ks ks'
  /-- `dict.__contains__` said no: a child for a declared field is appended -/
  | add {ks : List Node} {k : Str} {f : Schema} {x : Node} (hk : k ∉ ks.map Node.key)
      (hf : fieldFor s.subs k = some f) (hx : Stored pid E k f x) : KidsEdit pid s E ks (ks ++ [x])
  /-- the child under `k` is set in place, or gives way to an Element of the field's class -/
  | put {ks : List Node} {k : Str} {c x : Node} (hc : findKid ks k = some c)
      (hx : x.hdr = c.hdr ∨ ∃ f, fieldFor s.subs k = some f ∧ Stored pid E k f x) :
      KidsEdit pid s E ks (replaceKid ks k x)
  /-- `del` / `pop` on a SparseDict: no required field is stored under `k` -/
  | erase {ks : List Node} {k : Str} (hs : s.kind = .sparse)
      (hreq : s.info.minreq = true → ∀ f ∈ s.subs, f.info.optional = false → f.key ≠ k) :
      KidsEdit pid s E ks (eraseKey ks k)
  | trans {a b c : List Node} : KidsEdit pid s E a b → KidsEdit pid s E b c → KidsEdit pid s E a c

theorem stored_ok {n : Node} {E : Str → Node → Prop} {k : Str} {f : Schema} {x : Node}
    (hE : ∀ k e, E k e → ArgExact n k (.elem e))
    (hf : fieldFor n.sch.subs k = some f) (hx : Stored n.id E k f x) : KidOK n.id n.sch.subs x := by
  rcases hx with ⟨id, hx⟩ | ⟨e, hi, he, rfl⟩
  · exact kidOK_fresh (by rw [(fieldFor_some hf).2]; exact hx) (fieldFor_some hf).1
  · exact kidOK_placed (fieldFor_some hf).1 (fieldFor_some hf).2 (hE k e he f hf hi)

theorem IsReset.ki {n : Node} {ks : List Node} (h : IsReset n.id n.sch ks) : KI n ks := by
  rcases h with ⟨b, hb, hfr⟩ | ⟨rfl, hs, hm⟩
  · refine ⟨hfr.1, fun hd => by rw [hfr.2, hb hd, filter_keep_false], fun _ _ f hf ho => ?_⟩
    rw [hfr.2]
    exact List.mem_map_of_mem (List.mem_filter.mpr ⟨hf, by simp [keep, ho]⟩)
  · refine ⟨fun c hc => (by cases hc), fun hd => ?_, fun _ hm' => ?_⟩
    · rw [show n.kind = .sparse from hs] at hd; cases hd
    · rw [hm] at hm'; cases hm'

theorem KidsEdit.ki {n : Node} {E : Str → Node → Prop} {ks ks' : List Node} (h : KidsEdit n.id n.sch E ks ks')
    (hE : ∀ k e, E k e → ArgExact n k (.elem e)) : KI n ks → KI n ks' := by
  induction h with
  | refl => exact id
  | hdrs h => exact KI_of_map_hdr h
  | reset h => exact fun _ => h.ki
  | add hk hf hx => exact fun hki => hki.snoc (by rw [hx.key]; exact hk) (stored_ok hE hf hx)
  | @put ks k c x hc hx =>
    intro hki
    obtain ⟨hcm, hck⟩ := findKid_some hc
    rcases hx with hx | ⟨f, hf, hx⟩
    · exact hki.subst (by rw [key_of_hdr hx]; exact hck) (kidOK_of_hdr hx (hki.ok c hcm))
    · exact hki.subst hx.key (stored_ok hE hf hx)
  | @erase ks k hs hreq =>
    intro hki
    refine ⟨fun c hc => hki.ok c (mem_eraseKey hc).1, fun hd => ?_, ?_⟩
    · rw [show n.kind = .sparse from hs] at hd; cases hd
    · intro hsp hm f hf ho
      exact mem_keys_eraseKey (hki.required hsp hm f hf ho) (hreq hm f hf ho)
  | trans _ _ ih1 ih2 => exact fun hki => ih2 (ih1 hki)

def ArgE (E : Str → Node → Prop) (k : Str) : Arg → Prop
  | .elem e => E k e
  | .plain _ => True

def OpE (E : Str → Node → Prop) : MapOp → Prop
  | .setitem k a => ArgE E k a
  | .updateArgs kvs => ∀ p ∈ kvs, ArgE E p.1 p.2
  | _ => True

theorem freshKids_isReset (i : NInfo) (s : Schema) (hk : s.kind = .dict ∨ s.kind = .sparse) (next : Nat) :
    IsReset i.id s (freshKids i s next).1 := by
  unfold freshKids
  split
  · exact .inl ⟨false, fun _ => rfl, blankFields_ok s.subs i.id false next⟩
  · rename_i hd
    split
    · exact .inl ⟨true, fun h => absurd h hd, blankFields_ok s.subs i.id true next⟩
    · rename_i hm
      exact .inr ⟨rfl, hk.resolve_left hd, by simpa using hm⟩

theorem blank_isReset (s : Schema) (hk : s.kind = .dict ∨ s.kind = .sparse) (parent : Option Nat) (key : Str)
    (next : Nat) : IsReset (blank s parent key next).1.id (blank s parent key next).1.sch (blank s parent key next).1.kids := by
  cases s with
  | mk info dflt subs =>
    have hki : info.kind = .dict ∨ info.kind = .sparse := hk
    have hfr := fun b => blankFields_ok subs next b (next + 1)
    unfold blank
    rcases hki with hd | hd <;> simp only [hd]
    · exact .inl ⟨false, fun _ => rfl, hfr false⟩
    · split
      · have hnd : (Schema.mk info dflt subs).kind = .dict → true = false := fun h => by
          rw [show (Schema.mk info dflt subs).kind = .sparse from hd] at h; cases h
        exact .inl ⟨true, hnd, hfr true⟩
      · rename_i hm
        exact .inr ⟨rfl, hd, (by simpa using hm : info.minreq = false)⟩

theorem setPairs_edit (pid : Nat) (s : Schema) (E : Str → Node → Prop) (kvs : List (Str × Raw)) :
    ∀ (kids : List Node) (next : Nat), KidsEdit pid s E kids (setPairs pid s.subs kids kvs next).1 := by
  induction kvs with
  | nil => intro kids next; exact .refl _
  | cons kv rest ih =>
    intro kids next
    obtain ⟨k, v⟩ := kv
    rw [setPairs]
    cases hf : fieldFor s.subs k with
    | none => exact ih kids next
    | some f =>
      cases hc : findKid kids k with
      | some child =>
        have hr : KidsEdit pid s E kids (replaceKid kids k (setNode child v none next).node) :=
          .put hc (.inl (setNode_hdr child v none next))
        simp only
        cases hres : (setNode child v none next).res with
        | error e => exact hr
        | ok c => exact hr.trans (ih _ _)
      | none =>
        have hr : KidsEdit pid s E kids
            (kids ++ [(setNode ((blank f none k next).1.withParent (some pid)) v none (blank f none k next).2).node]) :=
          .add (findKid_none hc) hf (.inl ⟨next, by rw [setNode_hdr, hdr_withParent (blank_hdr _ _ _ _)]⟩)
        simp only
        cases hres : (setNode ((blank f none k next).1.withParent (some pid)) v none (blank f none k next).2).res with
        | error e => exact hr
        | ok c => exact hr.trans (ih _ _)

theorem setNode_map_edit (n : Node) (hk : MapKind n) (E : Str → Node → Prop) (raw : Raw) (pol : Option Policy)
    (next : Nat) : KidsEdit n.id n.sch E n.kids (setNode n raw pol next).node.kids := by
  cases n with
  | mk i s kids =>
    have hs := setNode_shape i s kids raw pol next
    generalize setNode (.mk i s kids) raw pol next = r at hs ⊢
    cases hs with
    | same => exact .refl _
    | emptied hs | rebuilt hs => exact (not_seq_of_map hk hs).elim
    | pairs => exact .trans (.reset (freshKids_isReset i s hk next)) (setPairs_edit i.id s E _ _ _)

theorem setDefault_map_edit (n : Node) (hk : MapKind n) (E : Str → Node → Prop) (next : Nat) :
    KidsEdit n.id n.sch E n.kids (setDefault n next).node.kids := by
  cases n with
  | mk i s kids =>
    have hkind : s.kind = .dict ∨ s.kind = .sparse := hk
    have hs := setDefault_shape i s kids next
    generalize setDefault (.mk i s kids) next = r at hs ⊢
    cases hs with
    | same => exact .refl _
    | set => exact setNode_map_edit (.mk i s kids) hk E _ _ _
    | slots hl => exact (not_seq_of_map hkind (.inl hl)).elim
    | items ha | emptied ha => exact (not_seq_of_map hkind (.inr ha)).elim
    | kids => exact .hdrs (setDefaultKids_hdr kids next)
    | @fields b hb =>
      refine .reset (.inl ⟨b, fun hd => ?_, defaultFields_ok s.subs i.id b next⟩)
      rcases hb with ⟨_, rfl⟩ | ⟨hsp, _⟩
      · rfl
      · rw [show (Node.mk i s kids).sch.kind = .sparse from hsp] at hd; cases hd
    | cleared hsp hm => exact .reset (.inr ⟨rfl, hsp, hm⟩)

theorem itemShape_edit {n : Node} {next : Nat} {key : Str} {a : Arg} {r : StepR} (h : ItemShape n next key a r)
    {E : Str → Node → Prop} (ha : ArgE E key a) : KidsEdit n.id n.sch E n.kids r.node.kids := by
  cases h with
  | keep => exact .refl _
  | add hs hnone hx =>
    rw [kids_withKids]
    obtain ⟨f, hf, hx'⟩ := newKid_hdr hx
    refine .add (findKid_none hnone) hf ?_
    rcases hx' with ⟨e, rfl, hi, rfl⟩ | ⟨id, hid⟩
    · exact .inr ⟨e, hi, ha, rfl⟩
    · exact .inl ⟨id, hid⟩
  | put hae hs hc hf hi =>
    subst hae
    rw [kids_withKids]
    exact .put hc (.inr ⟨_, hf, .inr ⟨_, hi, ha, rfl⟩⟩)
  | @update child out hc =>
    rw [kids_withKids]
    exact .put hc (.inl (setChild_hdr child a next))

theorem itemSteps_edit {E : Str → Node → Prop} {n : Node} {k : Nat} {used : List (Str × Arg)} {r : StepR}
    (h : ItemSteps n k used r) (ha : ∀ p ∈ used, ArgE E p.1 p.2) : KidsEdit n.id n.sch E n.kids r.node.kids := by
  induction h with
  | done => exact .refl _
  | stop h he => exact itemShape_edit h (ha _ (List.mem_singleton_self _))
  | step h hok hrest ih =>
    have h1 := itemShape_edit h (ha _ (List.mem_cons_self ..))
    have h2 := ih (fun p hp => ha p (List.mem_cons_of_mem _ hp))
    rw [(hdr_parts h.hdr).1, sch_of_hdr h.hdr] at h2
    exact h1.trans h2

theorem mapShape_edit {n : Node} {next : Nat} {op : MapOp} {r : StepR} (h : MapShape n next op r) (hk : MapKind n)
    (hnd : FieldsNodup n) {E : Str → Node → Prop} (hop : OpE E op) : KidsEdit n.id n.sch E n.kids r.node.kids := by
  cases h with
  | keep => exact .refl _
  | item hopq h => subst hopq; exact itemShape_edit h hop
  | default hopq hs h => exact itemShape_edit h trivial
  | @erase k out hs hopt =>
    rw [kids_withKids]
    -- the field `keyOptional` reads is the only one under `k`, and it is optional
    refine .erase hs (fun hm f hf ho hfk => ?_)
    have hko := hopt hm
    unfold keyOptional at hko
    cases hff : fieldFor n.sch.subs k with
    | none => exact fieldFor_none hff (hfk ▸ List.mem_map_of_mem hf)
    | some g =>
      rw [hff] at hko
      obtain ⟨hgm, hgk⟩ := fieldFor_some hff
      rw [Lists.eq_of_nodup_map Schema.key hnd hgm hf (by rw [hgk, hfk])] at hko
      simp only [ho] at hko
      cases hko
  | reset =>
    simp only [mapReset_eq, kids_withKids]
    exact .reset (freshKids_isReset n.ni n.sch hk next)
  | items h hpl hopq hpre =>
    refine itemSteps_edit h (fun p hp => ?_)
    have hplain : placedMap op = [] → ArgE E p.1 p.2 := by
      intro hnil
      obtain ⟨k, a⟩ := p
      cases a with
      | plain v => trivial
      | elem e =>
        have := hpl.subset (List.mem_flatMap.mpr ⟨_, hp, List.mem_singleton_self e⟩)
        rw [hnil] at this; cases this
    rcases hopq with ⟨pos, kw, rfl⟩ | ⟨raw, rfl⟩ | ⟨kvs, rfl, _⟩
    · exact hplain rfl
    · exact hplain rfl
    · obtain ⟨rest, hr⟩ := hpre kvs rfl
      exact hop p (hr ▸ List.mem_append_left _ hp)
  | set => exact setNode_map_edit n hk E _ _ _
  | setDefault => exact setDefault_map_edit n hk E _

theorem mapStep_edit (n : Node) (hk : MapKind n) (hnd : FieldsNodup n) {E : Str → Node → Prop} (op : MapOp)
    (hop : OpE E op) (next : Nat) : KidsEdit n.id n.sch E n.kids (mapStep n op next).node.kids :=
  mapShape_edit (mapStep_shape n op next) hk hnd hop

theorem run_hdr (ops : List MapOp) : ∀ (n : Node) (next : Nat), (run ⟨n, next⟩ ops).node.hdr = n.hdr := by
  induction ops with
  | nil => intro n next; rfl
  | cons op ops ih => intro n next; exact (ih _ _).trans (mapStep_shape n op next).hdr

theorem run_edit {E : Str → Node → Prop} (ops : List MapOp) : ∀ (n : Node) (next : Nat), MapKind n → FieldsNodup n →
    (∀ op ∈ ops, OpE E op) → KidsEdit n.id n.sch E n.kids (run ⟨n, next⟩ ops).node.kids := by
  induction ops with
  | nil => intro n next _ _ _; exact .refl _
  | cons op ops ih =>
    intro n next hk hnd hops
    have hh := (mapStep_shape n op next).hdr
    have h2 := ih (mapStep n op next).node (mapStep n op next).next
      (by unfold MapKind; rw [kind_of_hdr hh]; exact hk) (by unfold FieldsNodup; rw [sch_of_hdr hh]; exact hnd)
      (fun o ho => hops o (List.mem_cons_of_mem _ ho))
    rw [(hdr_parts hh).1, sch_of_hdr hh] at h2
    exact (mapStep_edit n hk hnd op (hops op (List.mem_cons_self ..)) next).trans h2

def OpExact (n : Node) : MapOp → Prop
  | .setitem k a => ArgExact n k a
  | .updateArgs kvs => ∀ p ∈ kvs, ArgExact n p.1 p.2
  | _ => True

theorem argE_exact {n : Node} {k : Str} {a : Arg} (h : ArgExact n k a) :
    ArgE (fun k e => ArgExact n k (.elem e)) k a := by
  cases a with
  | plain _ => trivial
  | elem e => exact h

theorem opE_exact {n : Node} {op : MapOp} (hop : OpExact n op) : OpE (fun k e => ArgExact n k (.elem e)) op := by
  cases op with
  | setitem k a => exact argE_exact hop
  | updateArgs kvs => exact fun p hp => argE_exact (hop p hp)
  | _ => trivial

theorem mapSetItem_ok (n : Node) (h : KI n n.kids) (key : Str) (a : Arg) (ha : ArgExact n key a) (next : Nat) :
    (mapSetItem n key a next).node.hdr = n.hdr ∧ KI n (mapSetItem n key a next).node.kids :=
  ⟨(mapSetItem_shape n key a next).hdr,
    (itemShape_edit (mapSetItem_shape n key a next) (argE_exact ha)).ki (fun _ _ h => h) h⟩

theorem mapStep_ok (n : Node) (hk : MapKind n) (hnd : FieldsNodup n) (h : KI n n.kids) (op : MapOp)
    (hop : OpExact n op) (next : Nat) :
    (mapStep n op next).node.hdr = n.hdr ∧ KI n (mapStep n op next).node.kids :=
  ⟨(mapStep_shape n op next).hdr, (mapStep_edit n hk hnd op (opE_exact hop) next).ki (fun _ _ h => h) h⟩

/-- Every dict-protocol call — accepted or rejected — preserves the mapping
    invariant (hypothesis on Element arguments: `OpExact`). -/
theorem mapinv_step {n : Node} (h : MapInv n) (hk : MapKind n) (hnd : FieldsNodup n) (op : MapOp)
    (hop : OpExact n op) (next : Nat) : MapInv (mapStep n op next).node := by
  have := mapStep_ok n hk hnd ((mapInv_iff n).mp h) op hop next
  exact mapInv_of_hdr this.1 this.2

/-- the hypothesis on Element arguments, stated against the (constant) class of the mapping -/
def ArgExactS (s : Schema) (k : Str) : Arg → Prop
  | .elem e => ∀ f, fieldFor s.subs k = some f → isInstance e f = true →
      e.sch = f ∧ e.ni.nameOv = none
  | .plain _ => True

def OpExactS (s : Schema) : MapOp → Prop
  | .setitem k a => ArgExactS s k a
  | .updateArgs kvs => ∀ p ∈ kvs, ArgExactS s p.1 p.2
  | _ => True

theorem argExact_of_S {n : Node} {k : Str} {a : Arg} (h : ArgExactS n.sch k a) : ArgExact n k a := by
  cases a <;> first | exact h | trivial

theorem opExact_of_S {n : Node} {op : MapOp} (h : OpExactS n.sch op) : OpExact n op := by
  cases op with
  | setitem k a => exact argExact_of_S h
  | updateArgs kvs => exact fun p hp => argExact_of_S (h p hp)
  | _ => trivial

theorem run_ki (ops : List MapOp) (n : Node) (next : Nat) (h : MapInv n) (hk : MapKind n) (hnd : FieldsNodup n)
    (hops : ∀ op ∈ ops, OpExactS n.sch op) : KI n (run ⟨n, next⟩ ops).node.kids :=
  (run_edit ops n next hk hnd (fun op ho => opE_exact (opExact_of_S (hops op ho)))).ki (fun _ _ h => h)
    ((mapInv_iff n).mp h)

theorem run_ok (ops : List MapOp) (n : Node) (next : Nat) (h : MapInv n) (hk : MapKind n) (hnd : FieldsNodup n)
    (hops : ∀ op ∈ ops, OpExactS n.sch op) :
    (run ⟨n, next⟩ ops).node.hdr = n.hdr ∧ MapInv (run ⟨n, next⟩ ops).node :=
  ⟨run_hdr ops n next, mapInv_of_hdr (run_hdr ops n next) (run_ki ops n next h hk hnd hops)⟩

/-- The invariant holds in every state a history of calls reaches. -/
theorem mapinv_run (ops : List MapOp) :
    ∀ (n : Node) (next : Nat), MapInv n → MapKind n → FieldsNodup n → (∀ op ∈ ops, OpExactS n.sch op) →
      MapInv (run ⟨n, next⟩ ops).node :=
  fun n next h hk hnd hops => (run_ok ops n next h hk hnd hops).2

/-- A freshly constructed mapping (`schema()`: `_reset()` has run) satisfies the invariant. -/
theorem mapinv_init (s : Schema) (hk : s.kind = .dict ∨ s.kind = .sparse) (parent : Option Nat) (key : Str)
    (next : Nat) : MapInv (blank s parent key next).1 :=
  (mapInv_iff _).mpr (blank_isReset s hk parent key next).ki

theorem named_after_key {n : Node} (h : MapInv n) (hf : FieldsNamed n.sch) : NamedAfterKey n := by
  intro c hc
  obtain ⟨_, hmem, hkey, hnov⟩ := h.kids c hc
  obtain ⟨hns, nm, hnm⟩ := hf c.sch hmem
  rw [hkey]
  have hk : ¬ c.kind = .slot := hns
  simp [Node.name, hk, hnov, Schema.key, Schema.name, hnm]

theorem mapSetItem_undeclared {n : Node} (h : KI n n.kids) {k : Str} (hund : fieldFor n.sch.subs k = none)
    (a : Arg) (next : Nat) : mapSetItem n k a next = excOut n next .typeError := by
  have hnot := h.absent hund
  unfold mapSetItem
  by_cases hs : n.kind = .sparse <;> simp [hs, hnot, hund]

/-- Item assignment, deletion, pop, setdefault and get naming a key
    the schema does not declare raise TypeError/KeyError and leave the mapping exactly as it was. -/
theorem undeclared_rejected {n : Node} (h : MapInv n) (k : Str) (hund : fieldFor n.sch.subs k = none) (next : Nat)
    (op : MapOp) (hop : (∃ a, op = .setitem k a) ∨ op = .delitem k ∨ op = .pop k ∨ (∃ d, op = .setdefault k d) ∨ op = .get k) :
    (mapStep n op next).node = n ∧
    ((mapStep n op next).out = .exc .typeError ∨ (mapStep n op next).out = .exc .keyError) := by
  have hki := (mapInv_iff n).mp h
  have hnot := hki.absent hund
  rcases hop with ⟨a, rfl⟩ | rfl | rfl | ⟨d, rfl⟩ | rfl
  · rw [show mapStep n (.setitem k a) next = mapSetItem n k a next from rfl, mapSetItem_undeclared hki hund]
    exact ⟨rfl, .inl rfl⟩
  · by_cases hs : n.kind = .sparse <;> by_cases hm : n.sch.info.minreq = true <;>
      simp [mapStep, hs, hm, hnot, hund, keyOptional, excOut]
  · simp [mapStep, hnot, excOut]
  · by_cases hs : n.kind = .sparse <;> simp [mapStep, hs, hnot, hund, excOut]
  · simp [mapStep, hnot, excOut]

/-!
`C10_Full`: `mapinv_step` for *every* argument.  False of the code: `SparseDict.__setitem__`
stores any `isinstance(value, field_schema)` element, so an instance of a renamed subclass
(`field_schema.named('zz')`) ends up under the key with a foreign class and name (KF-C10-a). -/

def C10_Full : Prop :=
  ∀ (n : Node) (op : MapOp) (next : Nat), MapInv n → MapKind n → FieldsNodup n → MapInv (mapStep n op next).node

def exA : Schema := .mk { cid := 2, kind := .string, name := some ['a'] } .none []
def exS : Schema := .mk { cid := 1, kind := .sparse } .none [exA]
/-- `SparseDict.of(String.named('a'))()` -/
def exSparse : Node := (blank exS none [] 1).1
/-- `String.named('a').named('zz')('v')` -/
def exRenamed : Node :=
  .mk { id := 7, parent := none, val := .str ['v'], u := ['v'] }
    (.mk { cid := 9, isa := [2], kind := .string, name := some ['z', 'z'] } .none []) []

theorem C10_full_fails : ¬ C10_Full := by
  intro hfull
  have h := hfull exSparse (.setitem ['a'] (.elem exRenamed)) 10 (mapinv_init exS (Or.inr rfl) none [] 1)
    (Or.inr rfl) (by unfold FieldsNodup; decide)
  have hk := h.kids ((exRenamed.withParent (some 1)).withKey ['a'])
    (by show _ ∈ [(exRenamed.withParent (some 1)).withKey ['a']]; simp)
  have hm : ((exRenamed.withParent (some 1)).withKey ['a']).sch ∈ [exA] := hk.2.1
  simp only [List.mem_singleton] at hm
  have : ((exRenamed.withParent (some 1)).withKey ['a']).sch.info.cid = exA.info.cid := by rw [hm]
  exact absurd this (by decide)

/-!
Instance-level `optional=` (KF-C10-b, repaired in /repo 6e22928).  `SparseDict.__delitem__` / `pop` used to
read `self[key].optional` — the *member*: an element of exactly the field class built with `optional=True`
(`A('v', optional=True)`), once adopted under a required key, made that key deletable.  They now consult
the field schema (`keyOptional`), so `ArgExact` does not mention `optional=`: `mapinv_run` covers such
arguments. -/

def exSR : Schema := .mk { cid := 1, kind := .sparse, minreq := true } .none [exA]
/-- `S = SparseDict.of(A).using(minimum_fields='required'); s = S()` -/
def exSparseReq : Node := (blank exSR none [] 1).1
/-- `A('v', optional=True)`: `type(e) is A` -/
def exOptInst : Node := .mk { id := 7, parent := none, val := .str ['v'], u := ['v'], optOv := some true } exA []

def exOptHist : List MapOp := [.setitem ['a'] (.elem exOptInst), .delitem ['a'], .pop ['a']]

/-- `s['a'] = A('v', optional=True); del s['a']; s.pop('a')`:
    the invariant — in particular "always its required fields" — holds afterwards -/
theorem required_survives_optional_member : MapInv (run ⟨exSparseReq, 10⟩ exOptHist).node := by
  apply mapinv_run exOptHist exSparseReq 10 (mapinv_init exSR (Or.inr rfl) none [] 1) (Or.inr rfl)
    (by unfold FieldsNodup; decide)
  intro op hop
  simp only [exOptHist, List.mem_cons, List.not_mem_nil, or_false] at hop
  rcases hop with rfl | rfl | rfl
  · intro f hf _
    have : fieldFor exSparseReq.sch.subs ['a'] = some exA := rfl
    rw [this] at hf
    cases hf; exact ⟨rfl, rfl⟩
  · trivial
  · trivial

example : keys (run ⟨exSparseReq, 10⟩ exOptHist).node = [['a']] := by decide +kernel
example : (mapStep (mapStep exSparseReq (.setitem ['a'] (.elem exOptInst)) 10).node (.delitem ['a']) 20).out
    = .exc .typeError := rfl

def exDS : Schema :=
  .mk { cid := 1, kind := .dict } .none
    [.mk { cid := 2, kind := .integer, name := some ['x'] } .none [],
     .mk { cid := 3, kind := .string, name := some ['y'], optional := true } .none []]
/-- `Dict.of(Integer.named('x'), String.named('y'))()` -/
def exDict : Node := (blank exDS none [] 1).1

def exMapOps : List MapOp :=
  [.setitem ['x'] (.plain (.str ['7'])), .ior (.dict [(['y'], .int 3), (['q'], .int 1)]), .pop ['x'],
   .set (.dict [(['x'], .int 1)]) (some (some .strict)), .clear, .update (some (.pairs [(['y'], .none)])) []]

example : MapInv (run ⟨exDict, 10⟩ exMapOps).node :=
  mapinv_run exMapOps exDict 10 (mapinv_init exDS (Or.inl rfl) none [] 1) (Or.inl rfl)
    (by unfold FieldsNodup; decide) (by intro op hop; simp [exMapOps] at hop; rcases hop with rfl | rfl | rfl | rfl | rfl | rfl <;> trivial)

example : keys (run ⟨exDict, 10⟩ exMapOps).node = [['x'], ['y']] := by decide +kernel
example : (mapStep exDict (.setitem ['q'] (.plain (.int 1))) 10).out = .exc .typeError := rfl

/-- an Element of the field class that belongs to another container (stored parent 99) assigned
    onto a key that is already present, by item assignment and through `update`: it is adopted
    and its stored parent becomes the mapping (id 1) -/
def exOwned : Node := .mk { id := 50, parent := some 99, val := .str ['v'], u := ['v'] } exA []

example : ((mapStep (mapStep exSparse (.setitem ['a'] (.plain (.int 1))) 10).node
    (.setitem ['a'] (.elem exOwned)) 20).node.kids.map (fun c => (c.id, c.parent))) = [(50, some 1)] := by decide +kernel

example : ((mapStep (mapStep exSparse (.setitem ['a'] (.plain (.int 1))) 10).node
    (.updateArgs [(['a'], .elem exOwned)]) 20).node.kids.map (fun c => (c.id, c.parent))) = [(50, some 1)] := by decide +kernel

end Flatland.C10.Proofs
