/-
C15, URL validators: `URLValidator`, `HTTPURLValidator`, `URLCanonicalizer` decide the predicate
their docstrings state over the parsed parts (`Flatland/Spec/C15.lean`), for every parse record,
every `urlparse`/`urlunparse` table and every parameterisation: `URLCanonicalizer` in full, the
other two outside one open finding each (KF-C15-g: no scheme and `''` listed; KF-C15-a: no value),
whose witnesses refute the full statements.  What is promised about the canonical RESULT holds
only when the rebuilt text parses back (KF-C15-e).
-/
import Flatland.C15
import Flatland.Spec.C15
import Proofs.Lemmas.C15Ends
namespace Flatland.C15.Proofs
open Flatland.C16 Flatland.C15 Flatland.C15.Spec

/-- what is promised for one validator on one view: it returns the verdict `d` (no exception)
    and makes a `note_error` call exactly when `d` is false -/
def Decides (v : V) (e : View) (d : Bool) : Prop :=
  ∃ note, verdict v e = .ok (d, note) ∧ (d = true ↔ note = none)

/-- the note takes care of itself (`verdict_ends`): what is promised is a promise about the
    returned Boolean -/
theorem decides_iff {v e d} : Decides v e d ↔ answer (verdict v e) = .ok d := by
  unfold Decides answer
  cases hv : verdict v e with
  | error r =>
    constructor
    · rintro ⟨_, h, _⟩; cases h
    · intro h; cases h
  | ok p =>
    obtain ⟨b, note⟩ := p
    constructor
    · rintro ⟨_, h, _⟩; cases h; rfl
    · intro h; cases h; exact ⟨note, rfl, (verdict_ends v e).noted hv⟩

theorem urlPartsLoop_eq (allowed : List Str) (u : Six) (parts : List UrlPart) :
    urlPartsLoop allowed u parts =
      if parts.all (fun part => u.get part == [] || allowed.contains part.name) then pass
      else fail "blocked_part" := by
  induction parts with
  | nil => simp [urlPartsLoop]
  | cons part rest ih =>
    simp only [urlPartsLoop, List.all_cons]
    rw [ih]
    by_cases hA : part.name ∈ allowed <;> by_cases hB : u.get part = [] <;> simp [hA, hB]

theorem urlValidate_eq (schemes allowed : List Str) (lib : UrlLib) (value : Str) :
    urlValidate schemes allowed lib value =
      match lib.urlparse (pyStrip value) with
      | .missing => .error .unsupported
      | .raises _ => fail "bad_format"
      | .ok p =>
        if !(p.six.scheme != [] && (schemes == [['*']] || schemes.contains p.six.scheme)) then
          fail "blocked_scheme"
        else if !(UrlPart.all.all
            (fun part => p.six.get part == [] || allowed.contains part.name)) then
          fail "blocked_part"
        else pass := by
  unfold urlValidate
  cases lib.urlparse (pyStrip value) with
  | missing => rfl
  | raises r => rfl
  | ok p =>
    -- two returns of `blocked_scheme` in a row are one test
    have two {c c' : Bool} {r : Except Raise Verdict} :
        (if c then fail "blocked_scheme" else if c' then fail "blocked_scheme" else r) =
          if (c || c') then fail "blocked_scheme" else r := by cases c <;> rfl
    simp only [urlPartsLoop_eq, two, unless_fail]
    congr 1
    simp only [bne]
    generalize schemes.contains p.six.scheme = a
    generalize (schemes == [['*']]) = b
    generalize (p.six.scheme == []) = c
    cases a <;> cases b <;> cases c <;> rfl

/-- the docstring's scheme test is the code's, outside the class of KF-C15-g -/
theorem schemeAllowed_eq_code (s : List Str) (sch : Str)
    (h : (sch == [] && s != [['*']] && s.contains []) = false) :
    schemeAllowed s sch = (sch != [] && (s == [['*']] || s.contains sch)) := by
  unfold schemeAllowed
  by_cases h1 : s = [['*']]
  · simp [h1]
  · by_cases h2 : sch = []
    · subst h2
      have h1' : (s != [['*']]) = true := by simpa using h1
      simp only [h1', BEq.rfl, Bool.true_and] at h
      have h3 : ([] : Str) ∉ s := by simpa using h
      simp [h1, h3]
    · have h2' : (sch != []) = true := by simpa using h2
      have h1' : (s == [['*']]) = false := by simpa using h1
      simp [h2', h1']

/-- the code's side of KF-C15-g: every URL without a scheme is blocked -/
theorem urlValidate_no_scheme (schemes allowed : List Str) (lib : UrlLib) (value : Str) (q : Parsed)
    (hp : lib.urlparse (pyStrip value) = .ok q) (hs : q.six.scheme = []) :
    urlValidate schemes allowed lib value = fail "blocked_scheme" := by
  simp [urlValidate, hp, hs]

/-- URLValidator decides its docstring's predicate — outside the class of KF-C15-g (`excluded`:
    no scheme, `''` listed in `allowed_schemes`, promised True) -/
theorem decides_urlValidator_partial (s p : List Str) (e : View) (d : Bool)
    (hd : documented (.urlValidator s p) e = some d)
    (hk : excluded (.urlValidator s p) e d = false) : Decides (.urlValidator s p) e d := by
  rw [decides_iff]
  cases hv : e.value <;> simp only [documented, hv, Option.some.injEq, reduceCtorEq] at hd <;>
    try (subst hd; simp only [verdict, hv]; rfl)
  rename_i value
  simp only [verdict, hv, urlValidate_eq]
  simp only [excluded, hv, emptySchemeListed] at hk
  cases hp : e.lib.urlparse (pyStrip value) <;>
    simp only [hp, urlDocumented, reduceCtorEq, Option.some.injEq] at hd hk ⊢
  · subst hd; rfl
  · rename_i q
    subst hd
    cases hq : (q.six.scheme == [] && s != [['*']] && s.contains []) with
    | true =>
      -- in the class: then the promise is False (`hk`), and the code says False (no scheme)
      rw [hq, Bool.and_true] at hk
      have hs : q.six.scheme = [] := by
        simp only [Bool.and_eq_true, beq_iff_eq] at hq; exact hq.1.1
      rw [hk, hs]; rfl
    | false =>
      rw [schemeAllowed_eq_code s q.six.scheme hq]
      generalize (q.six.scheme != [] && (s == [['*']] || s.contains q.six.scheme)) = a
      generalize (UrlPart.all.all fun part => q.six.get part == [] || p.contains part.name) = b
      cases a <;> cases b <;> rfl

/-- the full statement for URLValidator: no side condition -/
def C15_UrlFull : Prop :=
  ∀ s p (e : View) (d : Bool),
    documented (.urlValidator s p) e = some d → Decides (.urlValidator s p) e d

/-- KF-C15-g, witness: `URLValidator(allowed_schemes=('', 'http'))` on `'//h/p'` — the URL's
    (empty) scheme IS present in `allowed_schemes`, every part is allowed: the docstring's
    predicate holds, the validator says False (`blocked_scheme`) -/
theorem C15_empty_scheme_always_blocked :
    let lib : UrlLib := { parse := [("//h/p".toList,
      .inr { six := { netloc := "h".toList, path := "/p".toList }, hostname := .str "h".toList })] }
    let e : View := { value := .str "//h/p".toList, lib := lib }
    let v := V.urlValidator [[], "http".toList] (UrlPart.all.map UrlPart.name)
    documented v e = some true ∧ excluded v e true = true ∧
    (verdict v e).toOption.map (fun r => (r.1, r.2.map (·.key))) = some (false, some "blocked_scheme") := by
  decide +kernel

theorem C15_UrlFull_fails : ¬ C15_UrlFull := by
  intro h
  obtain ⟨note, hv, _⟩ := h _ _ _ true C15_empty_scheme_always_blocked.1
  have := C15_empty_scheme_always_blocked.2.2
  rw [hv] at this
  simp [Except.toOption] at this

/-- `('*', 'x')` is a restriction to the names `*` and `x` (the docstring's wildcard is exactly
    `('*',)`): `http://h/` is blocked, by the docstring and by the code -/
example :
    let lib : UrlLib := { parse := [("http://h/".toList,
      .inr { six := { scheme := "http".toList, netloc := "h".toList, path := "/".toList } })] }
    let e : View := { value := .str "http://h/".toList, lib := lib }
    let v := V.urlValidator [['*'], ['x']] (UrlPart.all.map UrlPart.name)
    documented v e = some false ∧ excluded v e false = false ∧
    (verdict v e).toOption.map (·.1) = some false := by decide +kernel

/-- non-vacuity: `ftp://h/` against `allowed_schemes=('http','https')` is documented false and
    the model notes `blocked_scheme` -/
example :
    let lib : UrlLib := { parse := [("ftp://h/".toList,
      .inr { six := { scheme := "ftp".toList, netloc := "h".toList, path := "/".toList },
             hostname := .str "h".toList })] }
    let e : View := { value := .str "  ftp://h/ ".toList, lib := lib }
    let v := V.urlValidator ["http".toList, "https".toList] (UrlPart.all.map UrlPart.name)
    documented v e = some false ∧ excluded v e false = false ∧
    (verdict v e).toOption.map (fun r => (r.1, r.2.map (·.key))) = some (false, some "blocked_scheme") := by
  decide +kernel

/-- an attribute access of the model, as the documentation's part table shows it -/
def asPart : Except Raise (Option Str) → Option PartVal
  | .error .valueError => some .raises
  | .error _ => none
  | .ok none => some .none
  | .ok (some s) => some (.str s)

theorem asPart_get (v : PartVal) : asPart v.get = some v := by cases v <;> rfl

theorem lookup_cons_ite {α β} [BEq α] [LawfulBEq α] [DecidableEq α] (a k : α) (b : β)
    (l : List (α × β)) : List.lookup k ((a, b) :: l) = if k = a then some b else l.lookup k := by
  by_cases h : k = a
  · simp [List.lookup, h]
  · simp [List.lookup, h, beq_false_of_ne h]

theorem lookup_isSome_of_mem {β} (l : List (Str × β)) (k : Str) (h : k ∈ l.map (·.1)) :
    (l.lookup k).isSome = true := by
  cases hl : l.lookup k with
  | some v => rfl
  | none =>
    obtain ⟨q, hq, rfl⟩ := List.mem_map.1 h
    simpa using List.lookup_eq_none_iff.1 hl q hq

/-- the chain of name tests and the table ask the same questions in the same order; a name
    outside the vocabulary is an AttributeError on one side and no entry on the other -/
theorem attr_lookup (p : Parsed) (k : Str) : asPart (p.attr k) = (partTable p).lookup k := by
  simp only [Parsed.attr, partTable, lookup_cons_ite, List.lookup_nil, apply_ite asPart, asPart_get]
  cases p.port <;> rfl

/-- in particular for every name of the vocabulary -/
theorem attr_table (p : Parsed) (k : Str) (_hk : k ∈ httpVocabulary) :
    asPart (p.attr k) = (partTable p).lookup k :=
  attr_lookup p k

def optPart : Option Str → PartVal
  | none => .none
  | some s => .str s

theorem reqFails_eq (r : Option PartRule) (v : Option Str) :
    reqFails r v = !requiredHolds r (optPart v) := by
  cases r with
  | none => cases v <;> rfl
  | some r =>
    cases r with
    | always =>
      cases v with
      | none => rfl
      | some s => cases s <;> simp [reqFails, requiredHolds, optPart, partPresent]
    | off => cases v <;> rfl
    | oneOf l => cases v <;> simp [reqFails, requiredHolds, optPart]

theorem forbFails_eq (r : Option PartRule) (v : Option Str) :
    forbFails r v = !forbiddenHolds r (optPart v) := by
  cases r with
  | none => cases v <;> rfl
  | some r =>
    cases r with
    | always =>
      cases v with
      | none => simp [forbFails, forbiddenHolds, optPart, partPresent]
      | some s => cases s <;> simp [forbFails, forbiddenHolds, optPart, partPresent]
    | off => cases v <;> rfl
    | oneOf l =>
      cases l with
      | nil => cases v <;> simp [forbFails, forbiddenHolds, optPart]
      | cons a t => cases v <;> simp [forbFails, forbiddenHolds, optPart]

/-- the message one part of the URL earns, by the documentation: unreadable → `bad_format`;
    its `required_parts` entry not met → `required_part`; its `forbidden_parts` entry violated →
    `forbidden_part` -/
def partKey (req forb : List (Str × PartRule)) (table : List (Str × PartVal)) (k : Str) :
    Option String :=
  match table.lookup k with
  | some .raises => some "bad_format"
  | some v =>
    if !requiredHolds (req.lookup k) v then some "required_part"
    else if !forbiddenHolds (forb.lookup k) v then some "forbidden_part"
    else none
  | none => none

/-- is the part fine (the conjunct of `httpPartsDocumented`)? -/
def partOk (req forb : List (Str × PartRule)) (table : List (Str × PartVal)) (k : Str) : Bool :=
  match table.lookup k with
  | some .raises => false
  | some v => requiredHolds (req.lookup k) v && forbiddenHolds (forb.lookup k) v
  | none => true

theorem partKey_none_iff (req forb table k) :
    partKey req forb table k = none ↔ partOk req forb table k = true := by
  unfold partKey partOk
  cases table.lookup k with
  | none => simp
  | some v =>
    cases v with
    | raises => simp
    | none =>
      dsimp only
      cases requiredHolds (req.lookup k) .none <;> cases forbiddenHolds (forb.lookup k) .none <;> simp
    | str s =>
      dsimp only
      cases requiredHolds (req.lookup k) (.str s) <;> cases forbiddenHolds (forb.lookup k) (.str s) <;> simp

theorem partKey_attr (req forb : List (Str × PartRule)) (p : Parsed) (k : Str) :
    partKey req forb (partTable p) k =
      match p.attr k with
      | .error .valueError => some "bad_format"
      | .error _ => none
      | .ok value =>
        if reqFails (req.lookup k) value then some "required_part"
        else if forbFails (forb.lookup k) value then some "forbidden_part"
        else none := by
  simp only [partKey, ← attr_lookup, reqFails_eq, forbFails_eq]
  cases p.attr k with
  | error r => cases r <;> rfl
  | ok value => cases value <;> rfl

/-- the loop, order-free: over known part names the loop returns True iff no part earns a
    message, and otherwise notes the message of the first part (in `all_parts` order) that earns
    one — `required_part` before `forbidden_part` for the same part.  A known name is needed only
    to exclude the AttributeError of `getattr`. -/
theorem httpPartsLoop_eq (req forb : List (Str × PartRule)) (p : Parsed) (parts : List Str)
    (h : ∀ k ∈ parts, k ∈ httpVocabulary) :
    httpPartsLoop req forb p parts =
      match parts.findSome? (partKey req forb (partTable p)) with
      | none => pass
      | some key => fail key := by
  induction parts with
  | nil => rfl
  | cons k rest ih =>
    have hk : (asPart (p.attr k)).isSome = true :=
      attr_lookup p k ▸ lookup_isSome_of_mem (partTable p) k (h k List.mem_cons_self)
    rw [httpPartsLoop, List.findSome?_cons, partKey_attr,
      ih (fun x hx => h x (List.mem_cons_of_mem _ hx))]
    cases hp : p.attr k with
    | error r => cases r <;> first | rfl | (rw [hp] at hk; cases hk)
    | ok value =>
      dsimp only
      split
      · rfl
      · split <;> rfl

theorem findSome_partKey_none_iff (req forb table) (parts : List Str) :
    parts.findSome? (partKey req forb table) = none ↔ parts.all (partOk req forb table) = true := by
  simp only [List.findSome?_eq_none_iff, List.all_eq_true, partKey_none_iff]

theorem httpPartsDocumented_eq (allParts req forb table d)
    (hd : httpPartsDocumented allParts req forb table = some d) :
    (∀ k ∈ allParts, k ∈ httpVocabulary) ∧ d = allParts.all (partOk req forb table) := by
  unfold httpPartsDocumented at hd
  split at hd
  · cases hd
  · rename_i hall
    simp only [Bool.not_eq_true, Bool.not_eq_false'] at hall
    refine ⟨fun k hk => by simpa using (List.all_eq_true.1 hall) k hk, ?_⟩
    simp only [Option.some.injEq] at hd
    rw [← hd]
    rfl

/-- the class of the open findings (for this validator: KF-C15-a; `Spec.excluded`) -/
abbrev Excluded := excluded

/-- on a URL that parses, over known part names, `HTTPURLValidator` notes
    the message of the first part that earns one -/
theorem httpURL_key (ap : List Str) (req forb : List (Str × PartRule)) (e : View) (url : Str)
    (p : Parsed) (hv : e.value = .str url) (hp : e.lib.urlparse url = .ok p)
    (hvoc : ∀ k ∈ ap, k ∈ httpVocabulary) :
    verdict (.httpURL ap req forb) e =
      match ap.findSome? (partKey req forb (partTable p)) with
      | none => pass
      | some key => fail key := by
  simp only [verdict, hv, httpValidate, hp]
  exact httpPartsLoop_eq req forb p ap hvoc

/-- … and so decides "every part of `all_parts` is fine" -/
theorem decides_httpURL_parsed (ap : List Str) (req forb : List (Str × PartRule)) (e : View)
    (url : Str) (p : Parsed) (hv : e.value = .str url) (hp : e.lib.urlparse url = .ok p)
    (hvoc : ∀ k ∈ ap, k ∈ httpVocabulary) :
    Decides (.httpURL ap req forb) e (ap.all (partOk req forb (partTable p))) := by
  rw [decides_iff, httpURL_key ap req forb e url p hv hp hvoc]
  cases hf : ap.findSome? (partKey req forb (partTable p)) with
  | none => rw [(findSome_partKey_none_iff _ _ _ _).1 hf]; rfl
  | some key =>
    have : ap.all (partOk req forb (partTable p)) ≠ true := fun hall => by
      rw [(findSome_partKey_none_iff _ _ _ _).2 hall] at hf; cases hf
    rw [Bool.eq_false_iff.2 this]; rfl

/-- HTTPURLValidator decides its docstring's predicate — outside `excluded`, which for this
    validator is only KF-C15-a (no value ∧ promised False); KF-C15-c / -d are repaired: the code's
    reading of `required_parts` IS the docstring's (`reqFails_eq`) -/
theorem decides_httpURL_partial (ap : List Str) (req forb : List (Str × PartRule)) (e : View)
    (d : Bool) (hd : documented (.httpURL ap req forb) e = some d)
    (hk : Excluded (.httpURL ap req forb) e d = false) : Decides (.httpURL ap req forb) e d := by
  cases hv : e.value <;> simp only [documented, hv, reduceCtorEq] at hd
  · simp only [Excluded, excluded, hv, beq_self_eq_true, Bool.true_and, Bool.not_eq_false'] at hk
    subst hk; exact decides_iff.2 (by simp only [verdict, hv]; rfl)
  · rename_i url
    simp only [httpDocumented] at hd
    cases hp : e.lib.urlparse url <;> simp only [hp, reduceCtorEq] at hd
    · rename_i r
      cases r <;> cases hd
      exact decides_iff.2 (by simp only [verdict, hv, httpValidate, hp]; rfl)
    · obtain ⟨hvoc, rfl⟩ := httpPartsDocumented_eq _ _ _ _ _ hd
      exact decides_httpURL_parsed ap req forb e url _ hv hp hvoc

/-- the class defaults of `required_parts` / `forbidden_parts` -/
def defaultRequired : List (Str × PartRule) :=
  [("scheme".toList, .oneOf ["http".toList, "https".toList]), ("hostname".toList, .always)]
def defaultForbidden : List (Str × PartRule) :=
  [("username".toList, .always), ("password".toList, .always)]

/-- non-vacuity: `http://u@h/` with the defaults is documented false; `forbidden_part` -/
example :
    let lib : UrlLib := { parse := [("http://u@h/".toList,
      .inr { six := { scheme := "http".toList, netloc := "u@h".toList, path := "/".toList },
             username := .str "u".toList, hostname := .str "h".toList })] }
    let e : View := { value := .str "http://u@h/".toList, lib := lib }
    let v := V.httpURL httpPartNames defaultRequired defaultForbidden
    documented v e = some false ∧ Excluded v e false = false ∧
    (verdict v e).toOption.map (fun r => (r.1, r.2.map (·.key))) = some (false, some "forbidden_part") := by
  decide +kernel

/-- the full statement for HTTPURLValidator: no side condition -/
def C15_HttpFull : Prop :=
  ∀ ap req forb (e : View) (d : Bool),
    documented (.httpURL ap req forb) e = some d → Decides (.httpURL ap req forb) e d

/-- KF-C15-a, witness: an element without a value, default parameters: the documentation's
    required scheme and hostname cannot be there, the validator says True and notes nothing -/
theorem http_no_value_accepted :
    documented (.httpURL httpPartNames defaultRequired defaultForbidden) {} = some false ∧
    (verdict (.httpURL httpPartNames defaultRequired defaultForbidden) {}).toOption.map (·.1) =
      some true := by decide +kernel

theorem C15_HttpFull_fails : ¬ C15_HttpFull := by
  intro h
  obtain ⟨note, hv, _⟩ := h httpPartNames defaultRequired defaultForbidden {} false
    http_no_value_accepted.1
  have := http_no_value_accepted.2
  rw [hv] at this
  simp [Except.toOption] at this

/-- the `required` half as it was BEFORE the repair of KF-C15-c / -d (`if value is None` for
    `True`; `elif required:` skips an empty collection) — a counter-model -/
def oldReqFails (required : Option PartRule) (value : Option Str) : Bool :=
  match required with
  | some .always => value.isNone
  | some (.oneOf l) => !l.isEmpty && !(match value with | some s => l.contains s | none => false)
  | some .off => false
  | none => false

/-- the old code did not decide the docstring's reading (KF-C15-c: `True` on a part that is the
    empty text — the six tuple parts are `''`, never None; KF-C15-d: an empty collection), and these
    are the only two places where it differed from the repaired code -/
theorem oldRequired_fails :
    oldReqFails (some .always) (some []) = false ∧ requiredHolds (some .always) (.str []) = false ∧
    (∀ v, oldReqFails (some (.oneOf [])) v = false ∧ requiredHolds (some (.oneOf [])) (optPart v) = false) ∧
    (∀ r v, ¬ (r = some .always ∧ v = some []) → r ≠ some (.oneOf []) → oldReqFails r v = reqFails r v) := by
  refine ⟨rfl, rfl, fun v => by cases v <;> exact ⟨rfl, rfl⟩, ?_⟩
  intro r v h1 h2
  cases r with
  | none => rfl
  | some r =>
    cases r with
    | off => rfl
    | always =>
      cases v with
      | none => rfl
      | some s =>
        cases s with
        | nil => exact absurd ⟨rfl, rfl⟩ h1
        | cons a t => rfl
    | oneOf l =>
      cases l with
      | nil => exact absurd rfl h2
      | cons a t => cases v <;> simp [oldReqFails, reqFails]

/-- regression (former KF-C15-c witness): `required_parts={'path': True}` on `'http://h'` is
    False with `required_part`, as documented -/
example :
    let lib : UrlLib := { parse := [("http://h".toList,
      .inr { six := { scheme := "http".toList, netloc := "h".toList }, hostname := .str "h".toList })] }
    let e : View := { value := .str "http://h".toList, lib := lib }
    let v := V.httpURL httpPartNames [("path".toList, .always)] []
    documented v e = some false ∧ Excluded v e false = false ∧
    (verdict v e).toOption.map (fun r => (r.1, r.2.map (·.key))) = some (false, some "required_part") := by
  decide +kernel

/-- regression (former KF-C15-d witness): `required_parts={'scheme': ()}` on `'ftp://h/'` -/
example :
    let lib : UrlLib := { parse := [("ftp://h/".toList,
      .inr { six := { scheme := "ftp".toList, netloc := "h".toList, path := "/".toList },
             hostname := .str "h".toList })] }
    let e : View := { value := .str "ftp://h/".toList, lib := lib }
    let v := V.httpURL httpPartNames [("scheme".toList, .oneOf [])] []
    documented v e = some false ∧ Excluded v e false = false ∧
    (verdict v e).toOption.map (fun r => (r.1, r.2.map (·.key))) = some (false, some "required_part") := by
  decide +kernel

/-- the documentation's reading of `required_parts` / `forbidden_parts`: "A mapping of part names"
    over urlparse's vocabulary — a rule for ANY part name of the vocabulary that the URL does not
    meet makes the verdict False (default `all_parts`) -/
def C15_HttpRuleHonoured_Full : Prop :=
  ∀ (req forb : List (Str × PartRule)) (e : View) (url : Str) (p : Parsed) (k : Str) (v : PartVal),
    e.value = .str url → e.lib.urlparse url = .ok p → k ∈ httpVocabulary →
    (partTable p).lookup k = some v →
    (requiredHolds (req.lookup k) v = false ∨ forbiddenHolds (forb.lookup k) v = false) →
    ∃ note, verdict (.httpURL httpPartNames req forb) e = .ok (false, note)

/-- for any `all_parts` within the vocabulary: a rule on a name that is in `all_parts` -/
theorem http_rule_honoured_partial (ap : List Str) (req forb : List (Str × PartRule)) (e : View)
    (url : Str) (p : Parsed) (k : Str) (v : PartVal)
    (hv : e.value = .str url) (hp : e.lib.urlparse url = .ok p)
    (hvoc : ∀ k ∈ ap, k ∈ httpVocabulary) (hk : k ∈ ap)
    (hl : (partTable p).lookup k = some v)
    (hr : requiredHolds (req.lookup k) v = false ∨ forbiddenHolds (forb.lookup k) v = false) :
    ∃ note, verdict (.httpURL ap req forb) e = .ok (false, note) := by
  have hbad : partOk req forb (partTable p) k = false := by
    unfold partOk
    rw [hl]
    cases v with
    | raises => rfl
    | none => rcases hr with hr | hr <;> simp [hr]
    | str s => rcases hr with hr | hr <;> simp [hr]
  -- one part that is not fine makes the decided verdict False
  obtain ⟨note, h, _⟩ := decides_httpURL_parsed ap req forb e url p hv hp hvoc
  rw [List.all_eq_false.2 ⟨k, hk, by simp [hbad]⟩] at h
  exact ⟨note, h⟩

/-- generated obligation, on the table regenerated from /repo's current source: the default
    `all_parts` lists exactly the ten documented names ("Defaults to the full 10-tuple of names in
    urlparse's vocabulary for HTTP-like URLs") — false of the code before KF-C15-b was repaired
    (`netloc` was missing) -/
theorem default_all_parts_is_vocabulary :
    (httpPartNames.all (fun k => httpVocabulary.contains k) &&
     httpVocabulary.all (fun k => httpPartNames.contains k)) = true := by decide +kernel

/-- every documented part name's rule is honoured with the default `all_parts`, under the
    DOCSTRING's reading of the rules and with no side condition (true again: KF-C15-b and KF-C15-c /
    -d are repaired) -/
theorem http_rule_honoured : C15_HttpRuleHonoured_Full := by
  intro req forb e url p k v hv hp hk hl hr
  have h := default_all_parts_is_vocabulary
  simp only [Bool.and_eq_true, List.all_eq_true, List.contains_eq_mem, decide_eq_true_eq] at h
  exact http_rule_honoured_partial httpPartNames req forb e url p k v hv hp h.1 (h.2 k hk) hl hr

/-- non-vacuity / the former KF-C15-b witness: False with `required_part` -/
example :
    let p : Parsed := { six := { scheme := "http".toList, netloc := "evil.example".toList,
                                 path := "/".toList }, hostname := .str "evil.example".toList }
    let e : View := { value := .str "http://evil.example/".toList,
                      lib := { parse := [("http://evil.example/".toList, .inr p)] } }
    (verdict (.httpURL httpPartNames [("netloc".toList, .oneOf ["example.com".toList])] []) e).toOption.map
      (fun r => (r.1, r.2.map (·.key))) = some (false, some "required_part") := by decide +kernel

/-- check order with `netloc` in second place (model = code): a URL that violates a `netloc`
    rule and a rule of a LATER part gets the `netloc` message; one that also violates a `scheme`
    rule gets the `scheme` message -/
theorem http_netloc_before_later_parts :
    let p : Parsed := { six := { scheme := "http".toList, netloc := "evil.example".toList,
                                 path := "/".toList }, hostname := .str "evil.example".toList }
    let e : View := { value := .str "http://evil.example/".toList,
                      lib := { parse := [("http://evil.example/".toList, .inr p)] } }
    let forb : List (Str × PartRule) := [("netloc".toList, .oneOf ["evil.example".toList])]
    (verdict (.httpURL httpPartNames [("port".toList, .oneOf ["80".toList])] forb) e).toOption.map
      (fun r => r.2.map (·.key)) = some (some "forbidden_part") ∧
    (verdict (.httpURL httpPartNames [("scheme".toList, .oneOf ["https".toList])] forb) e).toOption.map
      (fun r => r.2.map (·.key)) = some (some "required_part") := by decide +kernel

def urlPartNames : List Str := UrlPart.all.map UrlPart.name

theorem ofName_name (part : UrlPart) : UrlPart.ofName? part.name = some part := by
  cases part <;> decide +kernel

theorem name_beq (a b : UrlPart) : (a.name == b.name) = (a == b) := by
  by_cases h : a = b
  · subst h; simp only [beq_self_eq_true]
  · have : a.name ≠ b.name := fun hn =>
      h (Option.some.inj (by rw [← ofName_name a, hn, ofName_name]))
    rw [beq_false_of_ne this, beq_false_of_ne h]

theorem Six.ext_get {a b : Six} (h : ∀ part, a.get part = b.get part) : a = b := by
  cases a; cases b
  have h1 := h .scheme; have h2 := h .netloc; have h3 := h .path
  have h4 := h .params; have h5 := h .query; have h6 := h .fragment
  simp only [Six.get] at h1 h2 h3 h4 h5 h6
  subst h1 h2 h3 h4 h5 h6; rfl

theorem Six.get_set (u : Six) (p q : UrlPart) (x : Str) :
    (u.set p x).get q = if q = p then x else u.get q := by
  cases p <;> cases q <;> rfl

theorem keptParts_get (ds : List Str) (u : Six) (part : UrlPart) :
    (keptParts ds u).get part = if ds.contains part.name then [] else u.get part := by
  cases part <;> rfl

theorem keptParts_cons (part : UrlPart) (rest : List Str) (u : Six) :
    keptParts (part.name :: rest) u = keptParts rest (u.set part []) := by
  refine Six.ext_get fun q => ?_
  rw [keptParts_get, keptParts_get, Six.get_set, List.contains_cons, name_beq]
  by_cases h : q = part
  · subst h; simp
  · simp [h]

theorem find_isSome_contains {α β} [BEq β] [LawfulBEq β] (f : α → β) (l : List α) (k : β) :
    (l.find? (fun p => f p == k)).isSome = (l.map f).contains k := by
  induction l with
  | nil => rfl
  | cons a t ih =>
    rw [List.find?_cons, List.map_cons, List.contains_cons, BEq.comm (a := k), ← ih]
    cases f a == k <;> rfl

theorem ofName_some {k part} (h : UrlPart.ofName? k = some part) : k = part.name :=
  (by simpa using List.find?_some h : part.name = k).symm

/-- the documentation's test "every name is one of the six" -/
abbrev namesOK (ds : List Str) : Bool := ds.all (fun k => (UrlPart.all.map UrlPart.name).contains k)

theorem names_all_iff (d : List Str) : namesOK d = true ↔ ∀ k ∈ d, k ∈ urlPartNames := by
  simp [urlPartNames]

theorem blankLoop_eq (d : List Str) (u : Six) :
    blankLoop d u = if namesOK d then .ok (keptParts d u) else .error .valueError := by
  induction d generalizing u with
  | nil => cases u; rfl
  | cons k rest ih =>
    simp only [blankLoop, namesOK, List.all_cons, ← find_isSome_contains UrlPart.name UrlPart.all k]
    cases hn : UrlPart.all.find? (fun p => p.name == k) with
    | none => simp only [UrlPart.ofName?, hn]; rfl
    | some part =>
      cases ofName_some hn
      simp only [UrlPart.ofName?, hn, ih, keptParts_cons, namesOK, Option.isSome_some, Bool.true_and]

theorem blankLoop_ok (d : List Str) (u : Six) (h : ∀ k ∈ d, k ∈ urlPartNames) :
    blankLoop d u = .ok (keptParts d u) := by
  rw [blankLoop_eq, if_pos ((names_all_iff d).2 h)]

theorem blankLoop_bad (d : List Str) (u : Six) (h : ¬ ∀ k ∈ d, k ∈ urlPartNames) :
    blankLoop d u = .error .valueError := by
  rw [blankLoop_eq, if_neg fun hc => h ((names_all_iff d).1 hc)]

theorem canonicalize_eq (ds : List Str) (lib : UrlLib) (url : Str) :
    canonicalize ds lib url =
      match lib.urlparse url with
      | .missing => .error .unsupported
      | .raises _ => .ok .badFormat
      | .ok p =>
        if namesOK ds then (lib.urlunparse (keptParts ds p.six)).map .rewritten
        else .error .valueError := by
  unfold canonicalize
  cases lib.urlparse url with
  | missing => rfl
  | raises r => rfl
  | ok p =>
    by_cases h : namesOK ds = true
    · simp only [blankLoop_eq, h, if_true]; cases lib.urlunparse (keptParts ds p.six) <;> rfl
    · simp only [blankLoop_eq, h, if_false, Bool.false_eq_true]

theorem canonicalize_ok (d : List Str) (lib : UrlLib) (url : Str) (p : Parsed) (v : Val)
    (h : ∀ k ∈ d, k ∈ urlPartNames) (hp : lib.urlparse url = .ok p)
    (hu : lib.urlunparse (keptParts d p.six) = .ok v) :
    canonicalize d lib url = .ok (.rewritten v) := by
  rw [canonicalize_eq, hp]
  simp only [(names_all_iff d).2 h, if_true, hu]; rfl

theorem canonicalize_documented (ds : List Str) (lib : UrlLib) (url : Str) (d : Bool)
    (hne : ds.isEmpty = false) (hd : canonDocumented ds (some url) lib = some d) :
    (d = false ∧ (∃ r, lib.urlparse url = .raises r) ∧ canonicalize ds lib url = .ok .badFormat) ∨
    (d = true ∧ ∃ p v, lib.urlparse url = .ok p ∧
      lib.urlunparse (keptParts ds p.six) = .ok v ∧
      canonicalize ds lib url = .ok (.rewritten v)) := by
  simp only [canonDocumented, hne, Bool.false_eq_true, if_false] at hd
  rw [canonicalize_eq]
  cases hp : lib.urlparse url <;> rw [hp] at hd <;> simp only [reduceCtorEq] at hd
  · cases hd; exact .inl ⟨rfl, ⟨_, rfl⟩, rfl⟩
  · split at hd
    · cases hd
    · rename_i hall
      have hall' : namesOK ds = true := by simpa using hall
      cases hu : lib.urlunparse (keptParts ds _) <;> rw [hu] at hd <;> cases hd
      exact .inr ⟨rfl, _, _, rfl, hu, by simp only [hall', if_true, hu]; rfl⟩

theorem decides_urlCanonicalizer (ds : List Str) (e : View) (d : Bool)
    (hd : documented (.urlCanonicalizer ds) e = some d) : Decides (.urlCanonicalizer ds) e d := by
  rw [decides_iff]
  simp only [documented] at hd
  by_cases hempty : ds.isEmpty = true
  · have : d = true := by
      cases hv : e.value <;> rw [hv] at hd <;> simp [canonDocumented, hempty] at hd <;>
        first | exact hd | exact hd.symm
    subst this
    simp [verdict, hempty]
  · have hne : ds.isEmpty = false := by simpa using hempty
    cases hv : e.value with
    | none =>
      rw [hv] at hd
      simp only [canonDocumented, hne, Bool.false_eq_true, if_false, Option.some.injEq] at hd
      subst hd
      simp [verdict, hv]
    | str url =>
      rw [hv] at hd
      rcases canonicalize_documented ds e.lib url d hne hd with ⟨rfl, _, hc⟩ | ⟨rfl, _, _, _, _, hc⟩
      · simp [verdict, hv, hne, hc]
      · simp [verdict, hv, hne, hc]
    | _ => rw [hv] at hd; cases hd

/-- the new value is the rebuild of the kept parts (whenever the documentation makes a
    promise about the call): `canonValue` — `urlunparse` of the parts with every member of
    `discard_parts` emptied, the others as parsed; the old value when there is nothing to do or
    the URL does not parse -/
theorem canonicalizer_value (ds : List Str) (e : View) (d : Bool)
    (hd : documented (.urlCanonicalizer ds) e = some d) :
    valueAfter (.urlCanonicalizer ds) e = canonValue ds e.value e.lib := by
  simp only [documented] at hd
  by_cases hempty : ds.isEmpty = true
  · simp [valueAfter, canonValue, hempty]
  · have hne : ds.isEmpty = false := by simpa using hempty
    cases hv : e.value with
    | none => simp [valueAfter, canonValue, hne, hv]
    | str url =>
      rw [hv] at hd
      rcases canonicalize_documented ds e.lib url d hne hd with
        ⟨_, ⟨r, hp⟩, hc⟩ | ⟨_, p, v, hp, hu, hc⟩
      · simp [valueAfter, canonValue, hne, hv, hc, hp]
      · simp [valueAfter, canonValue, hne, hv, hc, hp, hu]
    | _ => rw [hv] at hd; cases hd

/-- value untouched on failure (and on an exception): whenever the canonicaliser does not
    return True, the element's value is what it was — for the values the model follows the code on
    (`inModel`: a text or no value; on `Integer(0)` the real validator returns True and leaves `b''`) -/
theorem canonicalizer_failure_keeps_value (ds : List Str) (e : View)
    (_hm : inModel (.urlCanonicalizer ds) e = true)
    (h : verdict (.urlCanonicalizer ds) e ≠ pass) :
    valueAfter (.urlCanonicalizer ds) e = e.value := by
  simp only [verdict, valueAfter] at h ⊢
  split
  · rfl
  · rename_i hg
    simp only [hg, Bool.false_eq_true, if_false] at h
    cases hv : e.value with
    | str url =>
      rw [hv] at h
      simp only at h ⊢
      cases hc : canonicalize ds e.lib url with
      | error r => rfl
      | ok c =>
        cases c with
        | badFormat => rfl
        | rewritten v => rw [hc] at h; exact absurd rfl h
    | _ => rfl

theorem keptParts_idem (ds : List Str) (u : Six) : keptParts ds (keptParts ds u) = keptParts ds u :=
  Six.ext_get fun q => by rw [keptParts_get, keptParts_get]; split <;> rfl

/-- a second run changes nothing when the rebuild is stable: if the rebuilt text `r` parses
    back to the parts it was built from (`hstable`, `hsix`: the explicit hypothesis — `urlparse ∘
    urlunparse` is NOT the identity: `canonicalizer_not_idempotent`), canonicalising the canonical
    value returns True and leaves exactly `r` -/
theorem canonicalizer_idempotent_partial (ds : List Str) (e : View) (url r : Str) (p p' : Parsed)
    (hne : ds.isEmpty = false) (hnames : ∀ k ∈ ds, k ∈ urlPartNames)
    (hv : e.value = .str url) (hp : e.lib.urlparse url = .ok p)
    (hr : e.lib.urlunparse (keptParts ds p.six) = .ok (.str r))
    (hstable : e.lib.urlparse r = .ok p') (hsix : p'.six = keptParts ds p.six) :
    valueAfter (.urlCanonicalizer ds) e = .str r ∧
    valueAfter (.urlCanonicalizer ds) { e with value := .str r } = .str r ∧
    verdict (.urlCanonicalizer ds) { e with value := .str r } = pass := by
  have h1 : canonicalize ds e.lib url = .ok (.rewritten (.str r)) :=
    canonicalize_ok ds e.lib url p _ hnames hp hr
  have h2 : canonicalize ds e.lib r = .ok (.rewritten (.str r)) :=
    canonicalize_ok ds e.lib r p' _ hnames hstable (by rw [hsix, keptParts_idem, hr])
  refine ⟨?_, ?_, ?_⟩
  · simp [valueAfter, hne, hv, h1]
  · simp [valueAfter, hne, h2]
  · simp [verdict, hne, h2]

/-- the result has the unwanted parts removed and the others kept (`canonFaithful`, the
    docstring's promise about the RESULT) — under the same explicit hypothesis -/
theorem canonicalizer_faithful_partial (ds : List Str) (e : View) (url r : Str) (p p' : Parsed)
    (hne : ds.isEmpty = false) (hnames : ∀ k ∈ ds, k ∈ urlPartNames)
    (hv : e.value = .str url) (hp : e.lib.urlparse url = .ok p)
    (hr : e.lib.urlunparse (keptParts ds p.six) = .ok (.str r))
    (hstable : e.lib.urlparse r = .ok p') (hsix : p'.six = keptParts ds p.six) :
    canonFaithful ds e.value e.lib = some true ∧ valueAfter (.urlCanonicalizer ds) e = .str r := by
  have hall : ds.all (fun k => (UrlPart.all.map UrlPart.name).contains k) = true :=
    (names_all_iff ds).2 hnames
  refine ⟨?_, (canonicalizer_idempotent_partial ds e url r p p' hne hnames hv hp hr hstable hsix).1⟩
  simp only [canonFaithful, hne, hall, hv, hp, hr, hstable, hsix, Bool.false_eq_true, if_false,
    Bool.not_true, Option.some.injEq, List.all_eq_true, keptParts_get]
  intro part _
  split <;> simp

/-- the parse table of the standard library on `'////'`, `'//'` and `''` -/
def slashLib : UrlLib := { parse := [
  ("////".toList, .inr { six := { path := "//".toList } }),
  ("//".toList, .inr {}),
  ([], .inr {})] }

/-- the canonicaliser is not idempotent and does not keep the kept parts (KF-C15-e), default
    `discard_parts`, standard `urlunparse`: `'////'` → `'//'` → `''`; the path `//` the original has
    is gone from the "canonical" URL although `path` is not among the discarded parts -/
theorem canonicalizer_not_idempotent :
    let ds := ["fragment".toList]
    let e : View := { value := .str "////".toList, lib := slashLib }
    let e1 : View := { value := valueAfter (.urlCanonicalizer ds) e, lib := e.lib }
    valueAfter (.urlCanonicalizer ds) e = .str "//".toList ∧
    valueAfter (.urlCanonicalizer ds) e1 = .str [] ∧
    documented (.urlCanonicalizer ds) e = some true ∧
    canonFaithful ds e.value e.lib = some false := by decide +kernel

/-- the unhypothesised statements are false -/
theorem canonicalizer_idempotent_fails :
    ¬ (∀ (ds : List Str) (e : View), documented (.urlCanonicalizer ds) e = some true →
        valueAfter (.urlCanonicalizer ds) { e with value := valueAfter (.urlCanonicalizer ds) e } =
          valueAfter (.urlCanonicalizer ds) e) := by
  intro h
  have h1 := h ["fragment".toList] { value := .str "////".toList, lib := slashLib }
    canonicalizer_not_idempotent.2.2.1
  have h2 := canonicalizer_not_idempotent.2.1
  have h3 := canonicalizer_not_idempotent.1
  simp only at h2 h3
  rw [h2, h3] at h1
  exact absurd h1 (by decide)

theorem canonicalizer_faithful_fails :
    ¬ (∀ (ds : List Str) (e : View) (b : Bool), canonFaithful ds e.value e.lib = some b → b = true) :=
  fun h => absurd (h _ _ _ canonicalizer_not_idempotent.2.2.2) (by decide)

/-- the canonicaliser can turn a URL `HTTPURLValidator` rejects into one it accepts (KF-C15-e):
    `'http:////evil.example/p#f'` (no host: `required_part`) → `'http://evil.example/p'` -/
theorem canonicalizer_changes_host :
    let lib : UrlLib := { parse := [
      ("http:////evil.example/p#f".toList, .inr { six := { scheme := "http".toList, path := "//evil.example/p".toList, fragment := "f".toList } }),
      ("http://evil.example/p".toList, .inr { six := { scheme := "http".toList, netloc := "evil.example".toList, path := "/p".toList }, hostname := .str "evil.example".toList })] }
    let ds := ["fragment".toList]
    let e : View := { value := .str "http:////evil.example/p#f".toList, lib := lib }
    let e1 : View := { value := valueAfter (.urlCanonicalizer ds) e, lib := e.lib }
    let http := V.httpURL httpPartNames defaultRequired defaultForbidden
    (verdict http e).toOption.map (fun r => (r.1, r.2.map (·.key))) = some (false, some "required_part") ∧
    valueAfter (.urlCanonicalizer ds) e = .str "http://evil.example/p".toList ∧
    (verdict http e1).toOption.map (·.1) = some true ∧
    canonFaithful ds e.value e.lib = some false := by decide +kernel

/-- non-vacuity (standard `urlunparse`): `http://h/p#f` → `http://h/p`, stable -/
example :
    let six : Six := { scheme := "http".toList, netloc := "h".toList, path := "/p".toList }
    let lib : UrlLib := { parse := [
      ("http://h/p#f".toList, .inr { six := { six with fragment := "f".toList }, hostname := .str "h".toList }),
      ("http://h/p".toList, .inr { six := six, hostname := .str "h".toList })] }
    let e : View := { value := .str "http://h/p#f".toList, lib := lib }
    documented (.urlCanonicalizer ["fragment".toList]) e = some true ∧
    canonFaithful ["fragment".toList] e.value e.lib = some true ∧
    valueAfter (.urlCanonicalizer ["fragment".toList]) e = .str "http://h/p".toList ∧
    valueAfter (.urlCanonicalizer ["fragment".toList]) { e with value := .str "http://h/p".toList } =
      .str "http://h/p".toList := by decide +kernel

theorem stdUnparse_no_hash (w : Six) (hf : w.fragment = [])
    (h1 : '#' ∉ w.scheme) (h2 : '#' ∉ w.netloc) (h3 : '#' ∉ w.path) (h4 : '#' ∉ w.params)
    (h5 : '#' ∉ w.query) : '#' ∉ stdUnparse w := by
  unfold stdUnparse stdUnsplit
  generalize usesNetloc.contains w.scheme = un
  simp only [hf, List.isEmpty_nil, Bool.not_true, Bool.false_eq_true, if_false]
  have hpath : '#' ∉ (if (!w.params.isEmpty) = true then w.path ++ [';'] ++ w.params else w.path) := by
    split <;> simp [h3, h4]
  generalize (if (!w.params.isEmpty) = true then w.path ++ [';'] ++ w.params else w.path) = url at hpath ⊢
  have hurl : ∀ c : Bool, '#' ∉ (if c = true then
      ['/', '/'] ++ w.netloc ++ (if (!url.isEmpty && url.take 1 != ['/']) = true then '/' :: url else url)
      else url) := by
    intro c
    split
    · split <;> simp [h2, hpath]
    · exact hpath
  generalize (!w.netloc.isEmpty || (!w.scheme.isEmpty && un && url.take 2 != ['/', '/'])) = c
  have hu := hurl c
  generalize (if c = true then
      ['/', '/'] ++ w.netloc ++ (if (!url.isEmpty && url.take 1 != ['/']) = true then '/' :: url else url)
      else url) = url2 at hu ⊢
  split <;> split <;> simp [h1, h5, hu]

/-- the fragment is dropped: with `fragment` among the discarded parts and no `#` inside the
    other parts (as `urlparse` guarantees for them), the canonical text has no `#` -/
theorem canonical_has_no_fragment (ds : List Str) (u : Six) (hd : "fragment".toList ∈ ds)
    (h : ∀ part, part ≠ .fragment → '#' ∉ u.get part) :
    '#' ∉ stdUnparse (keptParts ds u) := by
  have hk : ∀ part, part ≠ .fragment → '#' ∉ (keptParts ds u).get part := fun part hp => by
    rw [keptParts_get]; split
    · exact List.not_mem_nil
    · exact h part hp
  refine stdUnparse_no_hash _ ?_ (hk .scheme (by decide)) (hk .netloc (by decide))
    (hk .path (by decide)) (hk .params (by decide)) (hk .query (by decide))
  show (keptParts ds u).get .fragment = []
  rw [keptParts_get,
    if_pos (show ds.contains UrlPart.fragment.name = true from List.contains_iff_mem.2 hd)]

end Flatland.C15.Proofs
