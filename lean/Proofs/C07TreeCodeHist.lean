/-
C07 — the LITERAL rendering of `flatten()` along histories: `c07_code_histories` composes C08's history invariant
(`c08_tree_inv`), the positional one (`Inv.hrun_dps`, `c07_positional_histories`) and `flattenCode_eq_flattenTree_of`.
The hypotheses `swf sc` (every mapping class declares each key once; `Dict.of` enforces it) and `HistOK` (Element arguments
internally well-parented, fresh or detached) are inherited from C08's invariant, none is about flatten.  The tree half of
`kok` ("a mapping node holds one child per key") is not a hypothesis on the states reached: it is part of `IdInv`,
established by `treeok_init` and preserved (`hstep_idinv`).
-/
import Proofs.C07TreeCode
import Proofs.C08TreeExamples
namespace Flatland.C07Tree.Proofs
open Flatland.Tree Flatland.PyList Flatland.C08 Flatland.C08.Spec Flatland.C08.Proofs Flatland.C07Tree

theorem histFresh_take : ∀ (hs : List HOp) (s : HState) (k : Nat), HistFresh s hs → HistFresh s (hs.take k)
  | [], _, _, _ => by simp [HistFresh]
  | _ :: _, _, 0, _ => by simp [HistFresh]
  | h :: hs, s, k + 1, hf => by
    simp only [List.take_succ_cons, HistFresh] at hf ⊢
    exact ⟨hf.1, histFresh_take hs (hstep s h) k hf.2⟩

theorem histOK_take {s : HState} {hs : List HOp} (h : HistOK s hs) (k : Nat) : HistOK s (hs.take k) :=
  ⟨fun x hx => h.1 x (List.mem_of_mem_take hx), histFresh_take hs s k h.2⟩

theorem constructed_treeok {sc : Schema} (hsc : swf sc = true) {s : HState} (h : Constructed sc s) : TreeOK s := by
  cases h with
  | ctor next => exact (treeok_init sc hsc [] next).1
  | ctorValue raw next e n1 h => exact (treeok_init sc hsc [] next).2.1 raw e n1 h
  | set raw next =>
    exact (treeok_init sc hsc [] next).2.2.2.1 ⟨(blank sc none [] next).1, (blank sc none [] next).2⟩ raw none
      (treeok_init sc hsc [] next).1
  | fromDefaults next => exact (treeok_init sc hsc [] next).2.2.1
  | setDefault next =>
    exact (treeok_init sc hsc [] next).2.2.2.2 ⟨(blank sc none [] next).1, (blank sc none [] next).2⟩
      (treeok_init sc hsc [] next).1

/-- flattenCode = flattenTree after every step of every history from a `TreeOK`, slotted deep-positional state, in the
    runner's universe `root :: pool`, for every bound ≥ the height of the tree. -/
theorem flattenCode_eq_flattenTree_history (s : HState) (hok : TreeOK s) (hd : Inv.dps s.root = true)
    (hs : List HOp) (hops : ∀ h ∈ hs, Inv.OpArgsDP h.op) (hh : HistOK s hs) (k : Nat) (pool : List Node)
    (fuel : Nat) (hf : height (hrun s (hs.take k)).root ≤ fuel) (sep : Str) :
    flattenCode ((hrun s (hs.take k)).root :: pool) fuel sep (hrun s (hs.take k)).root
      = flattenTree sep (hrun s (hs.take k)).root := by
  have hok' := c08_tree_inv (hs.take k) s hok (histOK_take hh k)
  have hd' := Inv.hrun_dps_prefix hs s hops hd k
  exact flattenCode_eq_flattenTree_of pool fuel sep hok'.wp hok'.rootless hok'.ids.uniq (slotted_of_dps hd') hf

/-- C07 over histories, for the code as written.  For every schema of the tree model that
    declares every mapping key once, every construction route, every history of calls on any
    elements of the tree (Element arguments: fresh or detached, internally well-parented,
    deep-positional), every separator, every prefix length `k`, every pool of detached objects and
    every walk bound ≥ the height of the tree: the LITERAL rendering of `Element.flatten` — a queue
    with a `seen` set of identities, each key computed by walking the STORED `.parent` pointers as
    `flattened_name` does — returns the positional specification: every list member on the path of
    every key is named by its CURRENT index. -/
theorem c07_code_histories (sc : Schema) (hsc : swf sc = true) (s : HState) (hc : Constructed sc s) (sep : Str)
    (hs : List HOp) (hops : ∀ h ∈ hs, Inv.OpArgsDP h.op) (hh : HistOK s hs) (k : Nat) (pool : List Node)
    (fuel : Nat) (hf : height (hrun s (hs.take k)).root ≤ fuel) :
    flattenCode ((hrun s (hs.take k)).root :: pool) fuel sep (hrun s (hs.take k)).root
      = specFlatten sep (hrun s (hs.take k)).root := by
  rw [flattenCode_eq_flattenTree_history s (constructed_treeok hsc hc) (constructed_dps hc) hs hops hh k pool fuel hf sep]
  exact c07_positional_histories sc s hc sep hs hops k

/-- the same with the flat model's `flatten` of the abstracted tree on the right -/
theorem c07_code_flat_histories (sc : Schema) (hsc : swf sc = true) (s : HState) (hc : Constructed sc s) (sep : Str)
    (hs : List HOp) (hops : ∀ h ∈ hs, Inv.OpArgsDP h.op) (hh : HistOK s hs) (k : Nat) (pool : List Node)
    (fuel : Nat) (hf : height (hrun s (hs.take k)).root ≤ fuel) :
    flattenCode ((hrun s (hs.take k)).root :: pool) fuel sep (hrun s (hs.take k)).root
      = Flatland.Flat.flattenNode sep (toFNode (hrun s (hs.take k)).root) := by
  rw [flattenCode_eq_flattenTree_history s (constructed_treeok hsc hc) (constructed_dps hc) hs hops hh k pool fuel hf sep]
  exact flatten_flat_after_every_step sep hs s hops (constructed_dps hc) k

/-- the empty `List.of(Dict.named('d').of(Integer.named('x'), List.named('y').of(Integer)))()` -/
def exC0 : HState := ⟨(blank Flatland.C08.Proofs.exLoD none [] 1000).1, (blank Flatland.C08.Proofs.exLoD none [] 1000).2⟩

def exCHist : List HOp :=
  [⟨1000, .seq (.append (.plain (.dict [(['x'], .int 1), (['y'], .list [.int 2, .int 3])])))⟩,
   ⟨1000, .seq (.insert 0 (.elem Flatland.C08.Proofs.exArg))⟩,
   ⟨1000, .seq .reverse⟩,
   ⟨1000, .seq (.pop (some 0))⟩]

theorem exC0_constructed : Constructed Flatland.C08.Proofs.exLoD exC0 := Constructed.ctor 1000

theorem exCHist_dp : ∀ h ∈ exCHist, Inv.OpArgsDP h.op := by
  intro h hh
  simp only [exCHist, List.mem_cons, List.not_mem_nil, or_false] at hh
  rcases hh with rfl | rfl | rfl | rfl <;> first | trivial | (show Inv.dps _ = true; decide +kernel)

theorem exCHist_ok : HistOK exC0 exCHist := by
  refine ⟨?_, ?_⟩
  · intro h hh
    simp only [exCHist, List.mem_cons, List.not_mem_nil, or_false] at hh
    rcases hh with rfl | rfl | rfl | rfl <;> first | trivial | (show wp _ = true; decide +kernel)
  · unfold exCHist
    simp only [HistFresh, ArgsFresh]
    decide +kernel

example : swf Flatland.C08.Proofs.exLoD = true := by decide +kernel
example : (ids (hrun exC0 (exCHist.take 3)).root).length = 12 := by decide +kernel
example : height (hrun exC0 (exCHist.take 3)).root = 5 := by decide +kernel

/-- the theorem applies after every step, with the runner's walk bound 64 and any pool -/
example (k : Nat) (pool : List Node) :
    flattenCode ((hrun exC0 (exCHist.take k)).root :: pool) 64 ['_'] (hrun exC0 (exCHist.take k)).root
      = specFlatten ['_'] (hrun exC0 (exCHist.take k)).root := by
  apply c07_code_histories _ (by decide +kernel) exC0 exC0_constructed ['_'] exCHist exCHist_dp exCHist_ok k pool 64
  have hb : ∀ j ≤ 4, height (hrun exC0 (exCHist.take j)).root ≤ 64 := by decide +kernel
  rcases Nat.le_total k 4 with h | h
  · exact hb k h
  · rw [List.take_of_length_le (l := exCHist) h]
    exact hb 4 (Nat.le_refl 4)

end Flatland.C07Tree.Proofs
