/-
C09 — Sequence elements behave as Python lists of member elements: `step_refines` / `run_refines`, for a List /
Array / MultiValue over any member schema and every `SeqOp` of the model (`adaptOp` is total), under the guard
`OpOK`.  A member is read as the `(value, u)` structure it compares by (`sig`: for a container member its whole
exported state).

A call that is a list function on the items is shown to be the reference call on the nodes
themselves, compared by `eqv` (`ActsAs`); that the reference list is natural in its items
(`refStep_map`, Proofs/Lemmas/RefNat.lean) carries it to the adapted values.  `set`, `set_default`,
`*=`, `append`, `extend` build new members and are compared with the reference list directly.
-/
import Flatland.C09
import Flatland.Spec.C09
import Proofs.Lemmas.PyListMap
import Proofs.Lemmas.PyListMem
import Proofs.Lemmas.RefNat
import Proofs.Lemmas.TreeSig
import Proofs.Lemmas.TreeWrap
import Proofs.Lemmas.TreeBuild
import Proofs.C08Shape
namespace Flatland.C09.Proofs
open Flatland.Tree Flatland.PyList Flatland.C09 Flatland.C09.Spec
open Flatland.C08.Spec (argElems placedSeq)
open Flatland.C08.Proofs (SeqShape seqStep_shape seqItems ItemInv children_list children_kids)

def ItemOK (m : Schema) (isList : Bool) (x : Node) : Prop :=
  if isList then x.sch = slotSchema ∧ ∃ el, x.kids = [el] ∧ el.sch = m else x.sch = m

structure SeqOK (m : Schema) (n : Node) : Prop where
  member : n.sch.member = some m
  items : ∀ x ∈ n.kids, ItemOK m (decide (n.kind = .list)) x

def adaptArg (m : Schema) : Arg → Sig
  | .plain r => wrapSig m r
  | .elem e => sig e

def ArgOK (m : Schema) : Arg → Prop
  | .plain r => WrapOK m r
  | .elem e => e.sch = m

theorem argOK_scalar (m : Schema) (hm : ScalarSchema m) (r : Raw) :
    ArgOK m (.plain r) ↔ (adaptScalar m.kind r).isSome = true := (wrap_scalar m hm r).1

theorem adaptArg_scalar (m : Schema) (hm : ScalarSchema m) (r : Raw) (v : Val) (u : Str) (ok : Bool)
    (h : adaptScalar m.kind r = some (v, u, ok)) : adaptArg m (.plain r) = .sc v u := (wrap_scalar m hm r).2 v u ok h

theorem wrap_ok (m : Schema) (a : Arg) (ha : ArgOK m a) (next : Nat) :
    ∃ w next', wrap m a next = (.ok w, next') ∧ sig w = adaptArg m a := by
  cases a with
  | elem e => exact ⟨e, next, rfl, rfl⟩
  | plain r =>
    obtain ⟨w, n', hw, hs, _⟩ := wrap_plain_ok m r ha next
    exact ⟨w, n', hw, hs⟩

theorem wrapAll_ok (m : Schema) (as : List Arg) (ha : ∀ a ∈ as, ArgOK m a) (next : Nat) :
    ∃ ws next', wrapAll m as next = (.ok ws, next') ∧ ws.map sig = as.map (adaptArg m) := by
  induction as generalizing next with
  | nil => exact ⟨[], next, rfl, rfl⟩
  | cons a as ih =>
    obtain ⟨w, n1, hw, hs⟩ := wrap_ok m a (ha a (by simp)) next
    obtain ⟨ws, n2, hws, hss⟩ := ih (fun x hx => ha x (by simp [hx])) n1
    exact ⟨w :: ws, n2, by simp [wrapAll, hw, hws], by simp [hs, hss]⟩

theorem itemOK_withKey (m : Schema) (b : Bool) (x : Node) (k : Str) :
    ItemOK m b (x.withKey k) ↔ ItemOK m b x := by
  cases x; rfl

theorem itemOK_mkSlot (m : Schema) (id lst nm : Nat) (w : Node) (hw : w.sch = m) :
    ItemOK m true (mkSlot id lst nm w) := by
  refine ⟨rfl, w.withParent (some id), rfl, ?_⟩
  cases w; exact hw

theorem itemOK_withParent (m : Schema) (p : Option Nat) (w : Node) (hw : w.sch = m) :
    ItemOK m false (w.withParent p) := by
  cases w; exact hw

def absOut : Out → ROut Sig
  | .ok => .ok | .exc e => .exc e | .nat n => .nat n | .bool b => .bool b
  | .node x => .item (sig x) | .nodes xs => .items (xs.map sig) | .value _ => .ok

/-- what item assignment of a plain value onto a List needs beyond `ArgOK`: `lst[i] = r` is
    `lst[i].set(r)` on the EXISTING member, which equals a fresh `member_schema(value=r)` exactly when
    `set` forgets the old contents (`Resets`): always for Integer / String / List / Array /
    MultiValue members, and for Dict / SparseDict members iff `r` is dict-like (a dict, a list of
    pairs, an empty list / string).  The excluded case is KF-C09-b (`C09_fullMembers_fails`). -/
def SetItemOK (m : Schema) (isList : Bool) : Arg → Prop
  | .plain r => isList = true → Resets m r
  | .elem _ => True

def defaultSig (m : Schema) : Sig := sig (fromDefaults m none [] 0).node

/-- what `set_default()` amounts to on the reference list, read off the class of the sequence:
    no default — nothing happens; a List with an integer default `k` — `k` members built by
    `member_schema.from_defaults()`; a list default — the adapted values of the default -/
def defaultOp (sch m : Schema) : ROp Sig :=
  match sch.dflt with
  | .none => .extend []
  | .int k => .assign (List.replicate k.toNat (defaultSig m))
  | .list xs => .assign (xs.map (wrapSig m))
  | _ => .assign []

/-- the defaults the model covers: none; an integer on a List whose member's `from_defaults()`
    does not raise; a list of values the member schema accepts -/
def DefaultOK (sch m : Schema) : Prop :=
  match sch.dflt with
  | .none => True
  | .int _ => sch.kind = .list ∧ ∃ b, (fromDefaults m none [] 0).res = .ok b
  | .list xs => ∀ r ∈ xs, WrapOK m r
  | _ => False

/-- the same call on the reference list of adapted values — for EVERY call of the model:
    `clear`, `set(iterable)`, `set(non-iterable)` (which empties the sequence and returns False)
    and `set_default` are slice assignments `l[:] = …`; `*=` repeats the members' re-adapted values
    (`Sequence.__imul__` builds fresh members from `member.value`, or `member.u` for unadaptable
    text); `sort()` without key is `sort()` on items without ordering -/
def adaptOp (sch m : Schema) : SeqOp → ROp Sig
  | .append a => .append (adaptArg m a)
  | .extend as => .extend (as.map (adaptArg m))
  | .iadd as => .extend (as.map (adaptArg m))
  | .insert i a => .insert i (adaptArg m a)
  | .setitem i a => .setitem i (adaptArg m a)
  | .setslice s as => .setslice s (as.map (adaptArg m))
  | .delitem i => .delitem i
  | .delslice s => .delslice s
  | .pop i => .pop i
  | .remove a => .remove (adaptArg m a)
  | .reverse => .reverse
  | .clear => .assign []
  | .imul c => .imul c (fun s => wrapSig m (imulRaw s))
  | .sort (some k) rev => .sort (sigLe k rev)
  | .sort none _ => .sortNoKey
  | .set (.list xs) => .assign (xs.map (wrapSig m))
  | .set _ => .assign []
  | .setDefault => defaultOp sch m
  | .len => .len
  | .getitem i => .getitem i
  | .getslice s => .getslice s
  | .contains a => .contains (adaptArg m a)
  | .index a => .index (adaptArg m a)
  | .count a => .count (adaptArg m a)

def SortOK (m : Schema) (its : List Sig) (k : SortKey) : Prop :=
  (∀ s ∈ its, sigKeyOK k s = true) ∧ (k = .len → m.kind ≠ .multi)

/-- `sch` is the class of the sequence, `m` its member schema, `its` the current items (read by `*=`
    and `sort(key=…)`).
    * arguments: plain values `member_schema(value=…)` accepts, or elements of the member schema;
    * item assignment of a plain value onto a List: additionally `SetItemOK` (KF-C09-b);
    * `set(r)`: `r` a list of accepted values, or None / an int (not iterable: returns False);
      str / dict arguments are outside the model;
    * `set_default`: `DefaultOK`;
    * `sort()` without key: the items define no ordering — a List (slots), or members that are not
      themselves sequences (List / Array / MultiValue members are Python lists and compare as such);
    * `sort(key=…)`: the key applies to every item (`SortOK`; always so for the text keys on
      Integer / String members: `sortOK_scalar`);
    * `*=` with a positive count: the member schema is not a MultiValue, and the values it
      re-feeds are accepted by the member schema (always so for Integer / String:
      `imul_guard_scalar`). -/
def OpOK (sch m : Schema) (its : List Sig) : SeqOp → Prop
  | .append a | .insert _ a | .remove a | .contains a | .index a | .count a => ArgOK m a
  | .setitem _ a => ArgOK m a ∧ SetItemOK m (decide (sch.kind = .list)) a
  | .extend as | .iadd as | .setslice _ as => ∀ a ∈ as, ArgOK m a
  | .set (.list xs) => ∀ r ∈ xs, WrapOK m r
  | .set .none => True
  | .set (.int _) => True
  | .set _ => False
  | .setDefault => DefaultOK sch m
  | .sort (some k) _ => SortOK m its k
  | .sort none _ => sch.kind = .list ∨ (m.kind ≠ .list ∧ m.kind ≠ .array ∧ m.kind ≠ .multi)
  | .imul c => 0 < c → (m.kind ≠ .multi ∧ m.kind ≠ .slot) ∧ ∀ s ∈ its, WrapOK m (imulRaw s)
  | _ => True

/-- the part of the `*=` guard that the `(value, u)` abstraction cannot see: no MultiValue inside a
    member (see `noMulti`) -/
def ImulDeep (n : Node) : SeqOp → Prop
  | .imul c => 0 < c → ∀ x ∈ members n, noMulti x = true
  | _ => True

structure StepOK (m : Schema) (n : Node) (rop : ROp Sig) (r : StepR) (checkOut : Bool) : Prop where
  itemsEq : C09.items r.node = (refStep (C09.items n) rop).1
  outEq : checkOut = true → absOut r.out = (refStep (C09.items n) rop).2
  inv : SeqOK m r.node

structure Refines (n : Node) (rop : ROp Sig) (r : StepR) (checkOut : Bool) : Prop where
  itemsEq : C09.items r.node = (refStep (C09.items n) rop).1
  outEq : checkOut = true → absOut r.out = (refStep (C09.items n) rop).2

@[simp] theorem items_withKids (n : Node) (ks : List Node) : items (n.withKids ks) = ks.map sig := by
  cases n; rfl

theorem slot_sig {m : Schema} {x : Node} (h : ItemOK m true x) : ∃ el, x.kids = [el] ∧ sig x = sig el ∧ el.sch = m := by
  obtain ⟨hsl, el, hel, hm⟩ : x.sch = slotSchema ∧ ∃ el, x.kids = [el] ∧ el.sch = m := by simpa [ItemOK] using h
  refine ⟨el, hel, ?_, hm⟩
  cases x with
  | mk i s kids =>
    simp only [Node.kids] at hel
    simp only [Node.sch] at hsl
    rw [hel, sig_slot i s el [] (by rw [hsl]; rfl)]

theorem slots_sig {m : Schema} {xs : List Node} (h : ∀ x ∈ xs, ItemOK m true x) :
    (xs.flatMap Node.kids).map sig = xs.map sig := by
  induction xs with
  | nil => rfl
  | cons x xs ih =>
    obtain ⟨el, hel, hsig, _⟩ := slot_sig (h x (by simp))
    simp only [List.flatMap_cons, List.map_append, List.map_cons, hel, List.map_nil, hsig]
    rw [ih (fun y hy => h y (by simp [hy]))]; rfl

def SeqKind (n : Node) : Prop := n.kind = .list ∨ n.kind = .array ∨ n.kind = .multi

/-- C09, the clause `members_typed`: every member is an element of the declared member schema. -/
theorem members_typed {m : Schema} {n : Node} (h : SeqOK m n) (hk : SeqKind n) : MembersTyped n := by
  intro m' hm' e he
  have : m' = m := by rw [h.member] at hm'; cases hm'; rfl
  subst this
  unfold members at he
  by_cases hl : n.kind = .list
  · rw [children_list hl] at he
    obtain ⟨s, hs, hes⟩ := List.mem_flatMap.mp he
    obtain ⟨el, hel, _, hm⟩ := slot_sig (by simpa [hl] using h.items s hs)
    rw [hel] at hes
    rw [List.mem_singleton.mp hes]; exact hm
  · rw [children_kids ((hk.resolve_left hl).elim .inl (fun h => .inr (.inl h)))] at he
    simpa [hl, ItemOK] using h.items e he

theorem items_eq_members {m : Schema} {n : Node} (h : SeqOK m n) (hk : SeqKind n) :
    items n = (members n).map sig := by
  unfold items members
  by_cases hl : n.kind = .list
  · rw [children_list hl]
    exact (slots_sig (fun x hx => by simpa [hl] using h.items x hx)).symm
  · rw [children_kids ((hk.resolve_left hl).elim .inl (fun h => .inr (.inl h)))]

theorem member_scalar {m : Schema} {n : Node} (h : SeqOK m n) (hk : SeqKind n) (hm : ScalarSchema m) :
    ∀ x ∈ members n, ScalarSchema x.sch := fun x hx => (members_typed h hk m h.member x hx) ▸ hm

theorem item_scalar {m : Schema} {n : Node} (h : SeqOK m n) (hk : SeqKind n) (hm : ScalarSchema m) :
    ∀ s ∈ items n, ∃ v u, s = .sc v u := by
  intro s hs
  rw [items_eq_members h hk] at hs
  obtain ⟨x, hx, rfl⟩ := List.mem_map.mp hs
  exact ⟨_, _, sig_scalar (member_scalar h hk hm x hx)⟩

theorem scalarMembers_of_ok {m : Schema} {n : Node} (h : SeqOK m n) (hscalar : ScalarSchema m)
    (hk : n.kind = .list ∨ n.kind = .array ∨ n.kind = .multi) : scalarMembers n = true := by
  unfold scalarMembers
  rw [List.all_eq_true]
  intro e he
  rcases member_scalar h hk hscalar e he with hh | hh <;> simp [Node.kind, hh]

theorem sortGate_of_ok {m : Schema} {n : Node} (h : SeqOK m n)
    (hk : n.kind = .list ∨ n.kind = .array ∨ n.kind = .multi) (k : SortKey) (hs : SortOK m (items n) k) :
    sortGate k n = true := by
  unfold sortGate
  rw [Bool.and_eq_true]
  refine ⟨List.all_eq_true.mpr (fun s hsm => hs.1 s hsm), ?_⟩
  by_cases hkl : k = .len
  · have hmt := members_typed h hk
    simp only [hkl, ne_eq, not_true_eq_false, decide_false, Bool.false_or]
    rw [List.all_eq_true]
    intro x hx
    have hxs := hmt m h.member x hx
    have : x.kind ≠ .multi := by unfold Node.kind; rw [hxs]; exact hs.2 hkl
    simp [this]
  · simp [hkl]

theorem sortOK_scalar {m : Schema} {n : Node} (h : SeqOK m n)
    (hk : n.kind = .list ∨ n.kind = .array ∨ n.kind = .multi) (hm : ScalarSchema m) (k : SortKey)
    (hkey : k = .u ∨ k = .ulen) : SortOK m (items n) k := by
  refine ⟨fun s hs => ?_, by rcases hkey with rfl | rfl <;> (intro hc; cases hc)⟩
  obtain ⟨v, u, rfl⟩ := item_scalar h hk hm s hs
  rcases hkey with rfl | rfl <;> rfl

theorem items_appendEl (n w : Node) (next : Nat) : items (appendEl n w next).1 = items n ++ [sig w] := by
  unfold appendEl
  split <;> simp [items]

theorem append_refines {m : Schema} {n : Node} (h : SeqOK m n) (a : Arg) (ha : ArgOK m a) (next : Nat) :
    Refines n (.append (adaptArg m a)) (seqStep n (.append a) next) true := by
  obtain ⟨w, n1, hw, hs⟩ := wrap_ok m a ha next
  unfold seqStep
  simp only [h.member, hw]
  exact ⟨by simp [items_appendEl, hs, refStep], by intro _; rfl⟩

theorem extendArgs_ok {m : Schema} (n : Node) (as : List Arg) (ha : ∀ a ∈ as, ArgOK m a) (next : Nat) :
    (extendArgs m n as next).2.2 = none ∧
      items (extendArgs m n as next).1 = items n ++ as.map (adaptArg m) := by
  induction as generalizing n next with
  | nil => simp [extendArgs]
  | cons a as ih =>
    obtain ⟨w, n1, hw, hs⟩ := wrap_ok m a (ha a (by simp)) next
    have := ih (appendEl n w n1).1 (fun x hx => ha x (by simp [hx])) (appendEl n w n1).2
    simp only [extendArgs, hw]
    refine ⟨this.1, ?_⟩
    rw [this.2, items_appendEl, hs]; simp

theorem extend_refines {m : Schema} {n : Node} (h : SeqOK m n) (as : List Arg) (ha : ∀ a ∈ as, ArgOK m a)
    (next : Nat) :
    Refines n (.extend (as.map (adaptArg m))) (seqStep n (.extend as) next) true ∧
    Refines n (.extend (as.map (adaptArg m))) (seqStep n (.iadd as) next) true := by
  have he := extendArgs_ok n as ha next
  constructor <;>
  · unfold seqStep
    simp only [h.member, he.1]
    exact ⟨by simp [he.2, refStep], by intro _; rfl⟩

/-- a List renumbers its slots after a mutating call; the items do not see it -/
theorem map_sig_fin (c : Prop) [Decidable c] (ks : List Node) :
    (if c then renumber ks else ks).map sig = ks.map sig := by
  split
  · exact map_sig_renumber ks
  · rfl

theorem sig_slot_withKids (slot el : Node) (hs : slot.sch = slotSchema) :
    sig (slot.withKids [el]) = sig el := by
  cases slot with
  | mk i s kids =>
    simp only [Node.sch] at hs
    simp only [Node.withKids, Node.ni, Node.sch]
    exact sig_slot i s el [] (by rw [hs]; rfl)

theorem itemOK_slot_withKids (m : Schema) (slot el : Node) (hs : slot.sch = slotSchema) (he : el.sch = m) :
    ItemOK m true (slot.withKids [el]) := by
  cases slot; exact ⟨hs, el, rfl, he⟩

theorem map_sig_newSlots (lst len : Nat) (ws : List Node) (next : Nat) :
    (newSlots lst len ws next).1.map sig = ws.map sig := by
  induction ws generalizing next with
  | nil => rfl
  | cons w ws ih => simp only [newSlots, List.map_cons, sig_mkSlot, ih]

theorem items_attachAll (n : Node) (vals : List Node) (next : Nat) :
    items (attachAll n vals next).1 = items n ++ vals.map sig := by
  induction vals generalizing n next with
  | nil => simp [attachAll]
  | cons e es ih => rw [attachAll_eq, ih, items_appendEl]; simp

theorem setList_ok {m : Schema} {i : NInfo} {s : Schema} {kids : List Node} (hmem : s.member = some m)
    (hk : s.kind = .list ∨ s.kind = .array ∨ s.kind = .multi) (xs : List Raw) (hx : ∀ r ∈ xs, WrapOK m r) (next : Nat) :
    items (setNode (.mk i s kids) (.list xs) none next).node = xs.map (wrapSig m) ∧
    ∃ b, (setNode (.mk i s kids) (.list xs) none next).res = .ok b := by
  obtain ⟨vals, n', conv, hbi, hsig⟩ := buildItems_ok m xs hx next
  rw [setNode_seq i s kids _ none next hk]
  unfold seqSet
  simp only [hmem, hbi]
  exact ⟨by rw [items_attachAll, hsig]; rfl, conv, rfl⟩

theorem set_refines {m : Schema} {n : Node} (h : SeqOK m n)
    (hk : n.kind = .list ∨ n.kind = .array ∨ n.kind = .multi) (xs : List Raw)
    (hx : ∀ r ∈ xs, WrapOK m r) (next : Nat) :
    Refines n (.assign (xs.map (wrapSig m))) (seqStep n (.set (.list xs)) next) false := by
  cases n with
  | mk i s kids =>
    have hmem : s.member = some m := h.member
    obtain ⟨hit, b, hres⟩ := setList_ok (i := i) (kids := kids) hmem hk xs hx next
    unfold seqStep
    simp only [Node.sch, hmem, hres]
    exact ⟨by simpa [refStep] using hit, by intro hc; cases hc⟩

theorem set_nonlist_eq {i : NInfo} {s m : Schema} (kids : List Node) (hmem : s.member = some m)
    (hk : s.kind = .list ∨ s.kind = .array ∨ s.kind = .multi) {r : Raw} (hr : r = .none ∨ ∃ k, r = .int k)
    (next : Nat) : setNode (.mk i s kids) r none next = ⟨.mk i s [], next, .ok false⟩ := by
  rw [setNode_seq i s kids r none next hk]
  unfold seqSet
  rcases hr with rfl | ⟨k, rfl⟩ <;> simp only [hmem]

theorem set_nonlist_agrees {m : Schema} {n : Node} (h : SeqOK m n) (hk : SeqKind n) (r : Raw)
    (hr : r = .none ∨ ∃ k, r = .int k) (next : Nat) :
    Refines n (.assign []) (seqStep n (.set r) next) false := by
  cases n with
  | mk i s kids =>
    have hmem : s.member = some m := h.member
    unfold seqStep
    simp only [Node.sch, hmem, set_nonlist_eq kids hmem hk hr next]
    exact ⟨rfl, by intro hc; cases hc⟩

theorem defaultSlots_ok (m : Schema) (b0 : Bool) (hd : (fromDefaults m none [] 0).res = .ok b0) (lst : Nat) (k : Nat) :
    ∀ (idx next : Nat),
    (defaultSlotsWith (fun nx => fromDefaults m none [] nx) lst k idx next).2.2 = .ok true ∧
    (defaultSlotsWith (fun nx => fromDefaults m none [] nx) lst k idx next).1.map sig = List.replicate k (defaultSig m) := by
  induction k with
  | zero => intro idx next; exact ⟨rfl, rfl⟩
  | succ k ih =>
    intro idx next
    have hi := fromDefaults_indep m none none [] (next + 1) 0
    have hres : (fromDefaults m none [] (next + 1)).res = .ok b0 := by rw [hi.2]; exact hd
    have hsig : sig (fromDefaults m none [] (next + 1)).node = defaultSig m := sig_of_erase hi.1
    have := ih (idx + 1) (fromDefaults m none [] (next + 1)).next
    rw [defaultSlotsWith]
    simp only [hres]
    exact ⟨this.1, by simp only [List.map_cons, sig_mkSlot, hsig, this.2, List.replicate_succ]⟩

theorem setDefault_ok {m : Schema} {n : Node} (h : SeqOK m n) (hk : SeqKind n) (hd : DefaultOK n.sch m) (next : Nat) :
    items (setDefault n next).node = (refStep (items n) (defaultOp n.sch m)).1 ∧
    ∃ b, (setDefault n next).res = .ok b := by
  cases n with
  | mk i s kids =>
    have hmem : s.member = some m := h.member
    have hk' : s.kind = .list ∨ s.kind = .array ∨ s.kind = .multi := hk
    simp only [Node.sch] at hd ⊢
    unfold DefaultOK at hd
    unfold defaultOp
    cases hdf : s.dflt with
    | none =>
      have : setDefault (.mk i s kids) next = ⟨.mk i s kids, next, .ok true⟩ := by
        unfold setDefault
        rcases hk' with hkk | hkk | hkk <;> simp only [hkk, hdf]
      rw [this]
      exact ⟨by simp [refStep], true, rfl⟩
    | int c =>
      rw [hdf] at hd
      obtain ⟨hkl, b0, hb0⟩ := hd
      have hds := defaultSlots_ok m b0 hb0 i.id c.toNat 0 next
      have : setDefault (.mk i s kids) next =
          ⟨.mk i s (defaultSlotsWith (fun nx => fromDefaults m none [] nx) i.id c.toNat 0 next).1,
           (defaultSlotsWith (fun nx => fromDefaults m none [] nx) i.id c.toNat 0 next).2.1,
           (defaultSlotsWith (fun nx => fromDefaults m none [] nx) i.id c.toNat 0 next).2.2⟩ := by
        unfold setDefault
        simp only [hkl, hdf, hmem]
      rw [this]
      exact ⟨by simp [refStep, items, Node.kids, hds.2], true, hds.1⟩
    | list xs =>
      rw [hdf] at hd
      rcases hk' with hkk | hkk | hkk
      · have : setDefault (.mk i s kids) next = setNode (.mk i s kids) (.list xs) none next := by
          unfold setDefault
          simp only [hkk, hdf]
        rw [this]
        have := setList_ok (i := i) (kids := kids) hmem (Or.inl hkk) xs hd next
        exact ⟨by rw [this.1]; simp [refStep], this.2⟩
      all_goals
        obtain ⟨vals, n', conv, hbi, hsig⟩ := buildItems_ok m xs hd next
        have : setDefault (.mk i s kids) next =
            ⟨(attachAll (.mk i s []) vals n').1, (attachAll (.mk i s []) vals n').2, .ok true⟩ := by
          unfold setDefault
          simp only [hkk, hdf, hmem, hbi]
        rw [this]
        exact ⟨by rw [items_attachAll, hsig]; simp [refStep, items, Node.kids], true, rfl⟩
    | str _ => rw [hdf] at hd; exact hd.elim
    | dict _ => rw [hdf] at hd; exact hd.elim
    | pairs _ => rw [hdf] at hd; exact hd.elim

theorem setDefault_refines {m : Schema} {n : Node} (h : SeqOK m n) (hk : SeqKind n) (hd : DefaultOK n.sch m)
    (next : Nat) : Refines n (defaultOp n.sch m) (seqStep n .setDefault next) true := by
  obtain ⟨hitems, b, hb⟩ := setDefault_ok h hk hd next
  unfold seqStep
  simp only [h.member, hb]
  refine ⟨hitems, ?_⟩
  intro _
  unfold defaultOp
  cases n.sch.dflt <;> rfl

theorem imulLoop_ok {m : Schema} (vals : List Arg) (hv : ∀ a ∈ vals, ArgOK m a) (k : Nat) :
    ∀ (n : Node) (next : Nat),
    (imulLoop m vals k n next).2.2 = none ∧
    items (imulLoop m vals k n next).1 = items n ++ (List.replicate k (vals.map (adaptArg m))).flatten := by
  induction k with
  | zero => intro n next; simp [imulLoop]
  | succ k ih =>
    intro n next
    have he := extendArgs_ok n vals hv next
    rw [imulLoop]
    generalize extendArgs m n vals next = q at he ⊢
    obtain ⟨n', nx, oe⟩ := q
    simp only at he
    obtain ⟨he1, he2⟩ := he
    subst he1
    simp only
    have := ih n' nx
    refine ⟨this.1, ?_⟩
    rw [this.2, he2, List.replicate_succ, List.flatten_cons, List.append_assoc]

theorem imul_refines {m : Schema} {n : Node} (h : SeqOK m n) (hk : SeqKind n) (c : Int)
    (hg : 0 < c → (m.kind ≠ .multi ∧ m.kind ≠ .slot) ∧ ∀ s ∈ items n, WrapOK m (imulRaw s))
    (hdeep : 0 < c → ∀ x ∈ members n, noMulti x = true) (next : Nat) :
    Refines n (.imul c (fun s => wrapSig m (imulRaw s))) (seqStep n (.imul c) next) true := by
  unfold seqStep
  simp only [h.member]
  by_cases hc : c ≤ 0
  · simp only [hc, if_true]
    exact ⟨by simp [refStep, hc, map_sig_fin], by intro _; simp [refStep, hc, absOut]⟩
  · simp only [hc, if_false]
    have hw := (hg (by omega)).2
    have hie := items_eq_members h hk
    have hkind : ∀ x ∈ members n, noMulti x = true := hdeep (by omega)
    have hvals : ∀ a ∈ (members n).map (fun x => Arg.plain (imulValue x)), ArgOK m a := by
      intro a ha
      obtain ⟨x, hx, rfl⟩ := List.mem_map.mp ha
      show WrapOK m (imulValue x)
      rw [imulValue_sig x (hkind x hx)]
      exact hw _ (by rw [hie]; exact List.mem_map_of_mem hx)
    have hmap : ((members n).map (fun x => Arg.plain (imulValue x))).map (adaptArg m) =
        (items n).map (fun s => wrapSig m (imulRaw s)) := by
      rw [hie, List.map_map, List.map_map]
      apply List.map_congr_left
      intro x hx
      simp only [Function.comp, adaptArg, imulValue_sig x (hkind x hx)]
    have hl := imulLoop_ok _ hvals (c.toNat - 1) n next
    simp only [hl.1]
    exact ⟨by rw [hl.2, hmap]; simp [refStep, hc], by intro _; simp [refStep, hc, absOut]⟩

theorem adaptScalar_isSome (k : SKind) (hk : k = .integer ∨ k = .string) (r : Raw)
    (hr : r = .none ∨ (∃ n, r = .int n) ∨ ∃ t, r = .str t) : (adaptScalar k r).isSome = true := by
  rcases hk with rfl | rfl <;> rcases hr with rfl | ⟨n, rfl⟩ | ⟨t, rfl⟩ <;> simp only [adaptScalar] <;>
    first | rfl | (cases parseInt (strip t) <;> rfl)

theorem imul_guard_scalar {m : Schema} {n : Node} (h : SeqOK m n) (hk : SeqKind n) (hm : ScalarSchema m) :
    (m.kind ≠ .multi ∧ m.kind ≠ .slot) ∧ ∀ s ∈ items n, WrapOK m (imulRaw s) := by
  refine ⟨by rcases hm with hm | hm <;> simp [hm], fun s hs => ?_⟩
  obtain ⟨v, u, rfl⟩ := item_scalar h hk hm s hs
  apply (wrap_scalar m hm _).1.mpr
  apply adaptScalar_isSome _ hm
  simp only [imulRaw]
  cases v with
  | none => dsimp only; split <;> simp
  | int k => exact Or.inr (Or.inl ⟨k, rfl⟩)
  | str t => exact Or.inr (Or.inr ⟨t, rfl⟩)

theorem imulDeep_scalar {m : Schema} {n : Node} (h : SeqOK m n) (hk : SeqKind n) (hm : ScalarSchema m) :
    ∀ x ∈ members n, noMulti x = true := by
  intro x hx
  have := member_scalar h hk hm x hx
  cases x with
  | mk i sx kids => rw [noMulti]; rcases this with hm | hm <;> simp [Node.sch] at hm <;> simp [hm]

def Typed (n : Node) : Prop :=
  SeqKind n → ∀ m, n.sch.member = some m → ∀ x ∈ n.kids, ItemOK m (decide (n.kind = .list)) x

theorem typed_iff {m : Schema} {n : Node} (hm : n.sch.member = some m) (hk : SeqKind n) : Typed n ↔ SeqOK m n :=
  ⟨fun h => ⟨hm, h hk m hm⟩, fun h _ m' hm' => by cases Option.some.inj (hm'.symm.trans h.member); exact h.items⟩

/-- what is appended, and what a default slot holds, is of the member class -/
theorem okElem : ElemInv Typed where
  scalar _ _ h := h
  leaf _ _ _ _ _ _ hx := by cases hx
  append := fun {n w} next hm hn _ hk m' hm' => by
    have hh := appendEl_hdr n w next
    rw [kind_of_hdr hh]
    rw [sch_of_hdr hh, hm] at hm'
    cases Option.some.inj hm'
    exact appendEl_forall n w next (hn (by unfold SeqKind at *; rwa [kind_of_hdr hh] at hk) _ hm)
      (fun hl => by rw [decide_eq_true hl]; exact itemOK_mkSlot _ _ _ _ w rfl)
      (fun hl => by rw [decide_eq_false hl]; exact itemOK_withParent _ _ w rfl)
  fields hk _ hs := (not_seq_of_map hk hs).elim
  dictDefault := fun {i s ks} _ hk _ _ hs => (not_seq_of_map (.inl hk) hs).elim
  withParent := fun {x} p h => by cases x; exact h
  slots := fun {i s m} mk k next hl hm hmk _ m' hm' => by
    cases Option.some.inj (hm'.symm.trans hm)
    show ∀ x ∈ _, ItemOK _ (decide (s.kind = .list)) x
    rw [decide_eq_true hl]
    exact defaultSlotsWith_forall mk i.id (fun _ _ nx => itemOK_mkSlot _ _ _ _ _ (hmk nx).1) k 0 next

theorem setNode_seqOK {m : Schema} {n : Node} (h : SeqOK m n) (hk : SeqKind n) (raw : Raw) (pol : Option Policy)
    (next : Nat) : SeqOK m (setNode n raw pol next).node :=
  have hh := setNode_hdr n raw pol next
  (typed_iff (sch_of_hdr hh ▸ h.member) (by unfold SeqKind; rw [kind_of_hdr hh]; exact hk)).mp
    (okElem.setNode raw n pol next ((typed_iff h.member hk).mpr h))

theorem setDefault_seqOK {m : Schema} {n : Node} (h : SeqOK m n) (hk : SeqKind n) (next : Nat) :
    SeqOK m (setDefault n next).node :=
  have hh := setDefault_hdr n next
  (typed_iff (sch_of_hdr hh ▸ h.member) (by unfold SeqKind; rw [kind_of_hdr hh]; exact hk)).mp
    (okElem.setDefault n next ((typed_iff h.member hk).mpr h))

theorem okItems {m : Schema} {n : Node} (hn : SeqOK m n) (hk : SeqKind n) :
    ItemInv n (fun e => e.sch = m) (ItemOK m (decide (n.kind = .list))) where
  withKey s h := (itemOK_withKey m _ _ s).mpr h
  slot hl _ id nm h := by rw [decide_eq_true hl]; exact itemOK_mkSlot m id n.id nm _ h
  direct hl _ h := by rw [decide_eq_false hl]; exact itemOK_withParent m _ _ h
  built hm h := by
    cases Option.some.inj (hm.symm.trans hn.member)
    exact congrArg (fun t => t.2.2.1) (construct_hdr m _ none [] _ _ (congrArg Prod.fst h))
  slotElem hl slot e hs he := by
    rw [decide_eq_true hl] at hs ⊢
    exact itemOK_slot_withKids m _ _ hs.1 (by cases e; exact he)
  slotSet hl slot el r next hs hel := by
    rw [decide_eq_true hl] at hs ⊢
    obtain ⟨hss, el', hkids, hem⟩ := hs
    have : el' = el := by rw [slotElement, hkids] at hel; exact Option.some.inj hel
    subst this
    exact itemOK_slot_withKids m _ _ hss ((congrArg (fun t => t.2.2.1) (setNode_hdr el' r none next)).trans hem)
  set r next := by
    have := (setNode_seqOK hn hk r none next).items
    rwa [kind_of_hdr (setNode_hdr n r none next)] at this
  setDefault next := by
    have := (setDefault_seqOK hn hk next).items
    rwa [kind_of_hdr (setDefault_hdr n next)] at this

theorem seqShape_ok {m : Schema} {n : Node} {next : Nat} {op : SeqOp} {r : StepR} (h : SeqShape n next op r)
    (hn : SeqOK m n) (hk : SeqKind n) (hop : ∀ e ∈ placedSeq op, e.sch = m) : SeqOK m r.node :=
  ⟨sch_of_hdr h.hdr ▸ hn.member, by
    rw [kind_of_hdr h.hdr]; exact h.forall_items (okItems hn hk) hn.items hop⟩

theorem seqStep_seqOK {m : Schema} {n : Node} (h : SeqOK m n) (hk : SeqKind n) (op : SeqOp)
    (hop : ∀ e ∈ placedSeq op, e.sch = m) (next : Nat) : SeqOK m (seqStep n op next).node :=
  seqShape_ok (seqStep_shape n op next) h hk hop

/-- `set(None)` / `set(5)`: `del self[:]`, then iterating raises TypeError, which `set` swallows:
    the sequence is empty and the call returns False -/
theorem set_nonlist_refines {m : Schema} {n : Node} (h : SeqOK m n) (hk : SeqKind n) (r : Raw)
    (hr : r = .none ∨ ∃ k, r = .int k) (next : Nat) :
    StepOK m n (.assign []) (seqStep n (.set r) next) false ∧ (seqStep n (.set r) next).out = .bool false := by
  have e := set_nonlist_agrees h hk r hr next
  refine ⟨⟨e.itemsEq, e.outEq, seqStep_seqOK h hk _ (fun _ he => by cases he) next⟩, ?_⟩
  cases n with
  | mk i s kids =>
    have hmem : s.member = some m := h.member
    unfold seqStep
    simp only [Node.sch, hmem, set_nonlist_eq kids hmem hk hr next]

def isSet : SeqOp → Bool | .set _ => true | _ => false

theorem argOK_elems {m : Schema} {a : Arg} (h : ArgOK m a) : ∀ e ∈ argElems a, e.sch = m := by
  cases a with
  | plain r => intro e he; cases he
  | elem e' => intro e he; rw [List.mem_singleton.mp he]; exact h

theorem placed_sch {sch m : Schema} {its : List Sig} {op : SeqOp} (hop : OpOK sch m its op) :
    ∀ e ∈ placedSeq op, e.sch = m := by
  cases op with
  | append a | insert _ a => exact argOK_elems hop
  | setitem _ a => exact argOK_elems hop.1
  | extend as | iadd as | setslice _ as =>
    intro e he
    obtain ⟨a, ha, hea⟩ := List.mem_flatMap.mp he
    exact argOK_elems (hop a ha) e hea
  | _ => intro e he; cases he

section
local instance : BEq Node := ⟨eqv⟩

/-- on its items — the nodes, compared by `eqv` — the call is the reference call `rop`, up to what `sig` does
    not see: slots, parent pointers, renumbering -/
structure ActsAs (n : Node) (rop : ROp Node) (r : StepR) : Prop where
  kids : r.node.kids.map sig = (refStep n.kids rop).1.map sig
  out : absOut r.out = ROut.map sig (refStep n.kids rop).2

theorem ActsAs.refines {n : Node} {rop : ROp Node} {rop' rop'' : ROp Sig} {r : StepR} (h : ActsAs n rop r)
    (hrel : ROpRel sig rop rop') (he : rop' = rop'') : Refines n rop'' r true := by
  subst he
  have := refStep_map sig (fun _ _ => rfl) n.kids hrel
  exact ⟨by unfold items; rw [this]; exact h.kids, fun _ => by unfold items; rw [this]; exact h.out⟩

theorem eqv_beq (w : Node) : (fun x : Node => x == w) = fun x => eqv x w := rfl

theorem insert_acts {m : Schema} {n : Node} (h : SeqOK m n) (i : Int) {a : Arg} {w : Node} {next n1 : Nat}
    (hw : wrap m a next = (.ok w, n1)) : ActsAs n (.insert i w) (seqStep n (.insert i a) next) := by
  unfold seqStep
  simp only [h.member, hw]
  by_cases hl : n.kind = .list <;> simp only [hl, if_true, if_false] <;>
    exact ⟨by simp [refStep, insertAt_map], rfl⟩

theorem delitem_acts {m : Schema} {n : Node} (h : SeqOK m n) (i : Int) (next : Nat) :
    ActsAs n (.delitem i) (seqStep n (.delitem i) next) := by
  unfold seqStep
  simp only [h.member]
  cases hdi : delItem n.kids i with
  | none => exact ⟨by simp [refStep, hdi, excOut], by simp [refStep, hdi, excOut, absOut, ROut.map]⟩
  | some ks =>
    obtain ⟨k, hk⟩ : ∃ k, normIndex n.kids.length i = some k := by
      unfold delItem at hdi; split at hdi
      · cases hdi
      · exact ⟨_, by assumption⟩
    simp only [hk]
    exact ⟨by simp [refStep, hdi, map_sig_fin], by simp [refStep, hdi, absOut, ROut.map]⟩

theorem delslice_acts {m : Schema} {n : Node} (h : SeqOK m n) (sl : Slice) (next : Nat) :
    ActsAs n (.delslice sl) (seqStep n (.delslice sl) next) := by
  unfold seqStep
  simp only [h.member]
  cases hdi : delSlice n.kids sl with
  | error e => exact ⟨by simp [refStep, hdi, excOut], by simp [refStep, hdi, excOut, absOut, ROut.map]⟩
  | ok ks => exact ⟨by simp [refStep, hdi, map_sig_fin], by simp [refStep, hdi, absOut, ROut.map]⟩

theorem reverse_acts {m : Schema} {n : Node} (h : SeqOK m n) (next : Nat) :
    ActsAs n .reverse (seqStep n .reverse next) := by
  unfold seqStep
  simp only [h.member]
  exact ⟨by simp [refStep, map_sig_fin], rfl⟩

theorem sort_acts {m : Schema} {n : Node} (h : SeqOK m n) (hk : SeqKind n) (k : SortKey) (hs : SortOK m (items n) k)
    (rev : Bool) (next : Nat) : ActsAs n (.sort (sortLe k rev)) (seqStep n (.sort (some k) rev) next) := by
  unfold seqStep
  simp only [h.member, sortGate_of_ok h hk k hs, if_true]
  exact ⟨by simp [refStep, map_sig_fin], rfl⟩

theorem sortNoKey_acts {m : Schema} {n : Node} (h : SeqOK m n)
    (hno : n.sch.kind = .list ∨ (m.kind ≠ .list ∧ m.kind ≠ .array ∧ m.kind ≠ .multi)) (rev : Bool) (next : Nat) :
    ActsAs n .sortNoKey (seqStep n (.sort none rev) next) := by
  have hord : noOrderItems n = true := by
    unfold noOrderItems
    rcases hno with hl | hm
    · have : n.kind = .list := hl
      simp [this]
    · by_cases hl : n.kind = .list
      · simp [hl]
      · simp only [hl, decide_false, Bool.false_or]
        rw [List.all_eq_true]
        intro x hx
        have hx' := h.items x hx
        simp only [hl, decide_false, ItemOK] at hx'
        have hxs : x.sch = m := by simpa using hx'
        have hk1 : x.kind ≠ .list := by unfold Node.kind; rw [hxs]; exact hm.1
        have hk2 : x.kind ≠ .array := by unfold Node.kind; rw [hxs]; exact hm.2.1
        have hk3 : x.kind ≠ .multi := by unfold Node.kind; rw [hxs]; exact hm.2.2
        simp [hk1, hk2, hk3]
  unfold seqStep
  simp only [h.member]
  by_cases hl : n.kids.length ≤ 1
  · simp only [hl, if_true]
    exact ⟨rfl, by simp [refStep, absOut, ROut.map, hl]⟩
  · simp only [hl, if_false, hord, if_true]
    exact ⟨rfl, by simp [refStep, absOut, ROut.map, hl, excOut]⟩

theorem pop_acts {m : Schema} {n : Node} (h : SeqOK m n) (i : Option Int) (next : Nat) :
    ActsAs n (.pop i) (seqStep n (.pop i) next) := by
  unfold seqStep
  simp only [h.member]
  cases hdi : popAt n.kids (i.getD (-1)) with
  | none => exact ⟨by simp [refStep, hdi, excOut], by simp [refStep, hdi, excOut, absOut, ROut.map]⟩
  | some p =>
    by_cases hl : n.kind = .list <;> simp only [hl, if_true, if_false] <;>
      exact ⟨by simp [refStep, hdi], by simp [refStep, hdi, absOut, ROut.map]⟩

theorem remove_acts {m : Schema} {n : Node} (h : SeqOK m n) {a : Arg} {w : Node} {next n1 : Nat}
    (hw : wrap m a next = (.ok w, n1)) : ActsAs n (.remove w) (seqStep n (.remove a) next) := by
  unfold seqStep
  simp only [h.member, hw]
  cases hdi : n.kids.findIdx? (fun x => eqv x w) with
  | none =>
    exact ⟨by simp [refStep, removeFirst, eqv_beq, hdi, excOut],
      by simp [refStep, removeFirst, eqv_beq, hdi, excOut, absOut, ROut.map]⟩
  | some k =>
    exact ⟨by simp [refStep, removeFirst, eqv_beq, hdi, map_sig_fin],
      by simp [refStep, removeFirst, eqv_beq, hdi, absOut, ROut.map]⟩

theorem query_acts {m : Schema} {n : Node} (h : SeqOK m n) {a : Arg} {w : Node} {next n1 : Nat}
    (hw : wrap m a next = (.ok w, n1)) :
    ActsAs n (.contains w) (seqStep n (.contains a) next) ∧ ActsAs n (.index w) (seqStep n (.index a) next) ∧
    ActsAs n (.count w) (seqStep n (.count a) next) := by
  refine ⟨?_, ?_, ?_⟩
  · unfold seqStep
    simp only [h.member, hw]
    exact ⟨rfl, rfl⟩
  · unfold seqStep
    simp only [h.member, hw]
    cases hdi : indexOf (fun x => eqv x w) n.kids with
    | none => exact ⟨by simp [refStep, eqv_beq, hdi, excOut], by simp [refStep, eqv_beq, hdi, excOut, absOut, ROut.map]⟩
    | some k => exact ⟨by simp [refStep, eqv_beq, hdi], by simp [refStep, eqv_beq, hdi, absOut, ROut.map]⟩
  · unfold seqStep
    simp only [h.member, hw]
    exact ⟨rfl, rfl⟩

theorem len_acts {m : Schema} {n : Node} (h : SeqOK m n) (next : Nat) : ActsAs n .len (seqStep n .len next) := by
  unfold seqStep
  simp only [h.member]
  exact ⟨rfl, rfl⟩

theorem getslice_acts {m : Schema} {n : Node} (h : SeqOK m n) (sl : Slice) (next : Nat) :
    ActsAs n (.getslice sl) (seqStep n (.getslice sl) next) := by
  unfold seqStep
  simp only [h.member]
  cases hdi : getSlice n.kids sl with
  | error e => exact ⟨by simp [refStep, hdi, excOut], by simp [refStep, hdi, excOut, absOut, ROut.map]⟩
  | ok xs =>
    refine ⟨by simp [refStep, hdi], ?_⟩
    simp only [refStep, hdi, absOut, ROut.map]
    by_cases hl : n.kind = .list
    · simp only [hl, if_true]
      exact congrArg _ (slots_sig (fun x hx => by simpa [hl] using h.items x (mem_getSlice hdi hx)))
    · simp only [hl, if_false]

theorem getitem_acts {m : Schema} {n : Node} (h : SeqOK m n) (i : Int) (next : Nat) :
    ActsAs n (.getitem i) (seqStep n (.getitem i) next) := by
  unfold seqStep
  simp only [h.member]
  cases hdi : getItem n.kids i with
  | none => exact ⟨by simp [refStep, hdi, excOut], by simp [refStep, hdi, excOut, absOut, ROut.map]⟩
  | some x =>
    by_cases hl : n.kind = .list
    · obtain ⟨el, hel, hsig, _⟩ := slot_sig (m := m) (by simpa [hl] using h.items x (mem_getItem hdi))
      simp only [hl, if_true, slotElement, hel, List.head?_cons]
      exact ⟨by simp [refStep, hdi], by simp [refStep, hdi, absOut, ROut.map, hsig]⟩
    · simp only [hl, if_false]
      exact ⟨by simp [refStep, hdi], by simp [refStep, hdi, absOut, ROut.map]⟩

theorem map_sig_seqItems (n : Node) (ws : List Node) (k : Nat) : (seqItems n ws k).1.map sig = ws.map sig := by
  unfold seqItems
  split
  · exact map_sig_newSlots _ _ ws k
  · simp [Function.comp_def]

theorem setslice_acts {m : Schema} {n : Node} (h : SeqOK m n) (sl : Slice) {as : List Arg} {ws : List Node}
    {next n1 : Nat} (hw : wrapAll m as next = (.ok ws, n1)) :
    ActsAs n (.setslice sl (seqItems n ws n1).1) (seqStep n (.setslice sl as) next) := by
  unfold seqStep seqItems
  simp only [h.member, hw]
  by_cases hl : n.kind = .list <;> simp only [hl, if_true, if_false]
  · cases hdi : setSlice n.kids sl (newSlots n.id n.kids.length ws n1).1 with
    | error e => exact ⟨by simp [refStep, hdi, excOut], by simp [refStep, hdi, excOut, absOut, ROut.map]⟩
    | ok ks => exact ⟨by simp [refStep, hdi], by simp [refStep, hdi, absOut, ROut.map]⟩
  · cases hdi : setSlice n.kids sl (ws.map (fun w => w.withParent (some n.id))) with
    | error e => exact ⟨by simp [refStep, hdi, excOut], by simp [refStep, hdi, excOut, absOut, ROut.map]⟩
    | ok ks => exact ⟨by simp [refStep, hdi], by simp [refStep, hdi, absOut, ROut.map]⟩

theorem setitem_acts {m : Schema} {n : Node} (h : SeqOK m n) (i : Int) (a : Arg) (ha : ArgOK m a)
    (hsi : SetItemOK m (decide (n.kind = .list)) a) (next : Nat) :
    ∃ w, sig w = adaptArg m a ∧ ActsAs n (.setitem i w) (seqStep n (.setitem i a) next) := by
  by_cases hl : n.kind = .list
  · cases a with
    | elem e =>
      refine ⟨e, rfl, ?_⟩
      unfold seqStep
      simp only [h.member, hl, if_true]
      cases hg : getItem n.kids i with
      | none =>
        have hn := getItem_none hg
        exact ⟨by simp [refStep, setItem, hn, excOut], by simp [refStep, setItem, hn, excOut, absOut, ROut.map]⟩
      | some slot =>
        obtain ⟨k, hk, hx⟩ := getItem_some hg
        have hsl : ItemOK m true slot := by simpa [hl] using h.items slot (List.mem_of_getElem? hx)
        simp only [hk]
        exact ⟨by simp [refStep, setItem, hk, List.map_set, sig_slot_withKids _ _ hsl.1],
          by simp [refStep, setItem, hk, absOut, ROut.map]⟩
    | plain r =>
      cases hg : getItem n.kids i with
      | none =>
        have hn := getItem_none hg
        obtain ⟨w, _, _, hs⟩ := wrap_ok m (.plain r) ha next
        refine ⟨w, hs, ?_⟩
        unfold seqStep
        simp only [h.member, hl, if_true, hg, hn]
        exact ⟨by simp [refStep, setItem, hn, excOut], by simp [refStep, setItem, hn, excOut, absOut, ROut.map]⟩
      | some slot =>
        obtain ⟨k, hk, hx⟩ := getItem_some hg
        have hsl : ItemOK m true slot := by simpa [hl] using h.items slot (List.mem_of_getElem? hx)
        obtain ⟨hss, el, hel, hem⟩ := hsl
        -- the member is set in place; `Resets` makes it the fresh `member_schema(value=r)`
        obtain ⟨hsig, b, hb⟩ := setNode_member m r (hsi (by simp [hl])) ha el hem next
        refine ⟨(setNode el r none next).node, hsig, ?_⟩
        unfold seqStep
        simp only [h.member, hl, if_true, hg, hk, slotElement, hel, List.head?_cons, hb]
        exact ⟨by simp [refStep, setItem, hk, List.map_set, sig_slot_withKids _ _ hss],
          by simp [refStep, setItem, hk, absOut, ROut.map]⟩
  · obtain ⟨w, n1, hw, hs⟩ := wrap_ok m a ha next
    refine ⟨w, hs, ?_⟩
    unfold seqStep
    simp only [h.member, hl, if_false, hw]
    cases hk : normIndex n.kids.length i with
    | none => exact ⟨by simp [refStep, setItem, hk, excOut], by simp [refStep, setItem, hk, excOut, absOut, ROut.map]⟩
    | some k =>
      exact ⟨by simp [refStep, setItem, hk, List.map_set], by simp [refStep, setItem, hk, absOut, ROut.map]⟩

theorem step_agrees {m : Schema} {n : Node} (h : SeqOK m n) (hk : SeqKind n) (op : SeqOp)
    (hop : OpOK n.sch m (items n) op) (hdeep : ImulDeep n op) (next : Nat) :
    Refines n (adaptOp n.sch m op) (seqStep n op next) (!isSet op) := by
  cases op with
  | append a => exact append_refines h a hop next
  | extend as => exact (extend_refines h as hop next).1
  | iadd as => exact (extend_refines h as hop next).2
  | insert i a =>
    obtain ⟨w, n1, hw, hs⟩ := wrap_ok m a hop next
    exact (insert_acts h i hw).refines (.insert i w) (congrArg (ROp.insert i) hs)
  | setitem i a =>
    obtain ⟨w, hs, ha⟩ := setitem_acts h i a hop.1 hop.2 next
    exact ha.refines (.setitem i w) (congrArg (ROp.setitem i) hs)
  | setslice sl as =>
    obtain ⟨ws, n1, hw, hs⟩ := wrapAll_ok m as hop next
    exact (setslice_acts h sl hw).refines (.setslice sl _) (congrArg (ROp.setslice sl) ((map_sig_seqItems n ws n1).trans hs))
  | delitem i => exact (delitem_acts h i next).refines (.delitem i) rfl
  | delslice sl => exact (delslice_acts h sl next).refines (.delslice sl) rfl
  | pop i => exact (pop_acts h i next).refines (.pop i) rfl
  | remove a =>
    obtain ⟨w, n1, hw, hs⟩ := wrap_ok m a hop next
    exact (remove_acts h hw).refines (.remove w) (congrArg ROp.remove hs)
  | reverse => exact (reverse_acts h next).refines .reverse rfl
  | clear =>
    unfold seqStep
    simp only [h.member]
    exact ⟨by simp [adaptOp, refStep], by intro _; rfl⟩
  | imul c => exact imul_refines h hk c hop hdeep next
  | sort k rev =>
    cases k with
    | none => exact (sortNoKey_acts h hop rev next).refines .sortNoKey rfl
    | some k => exact (sort_acts h hk k hop rev next).refines (.sort (fun _ _ => rfl)) rfl
  | set r =>
    cases r with
    | list xs => exact set_refines h hk xs hop next
    | none => exact set_nonlist_agrees h hk .none (Or.inl rfl) next
    | int k => exact set_nonlist_agrees h hk (.int k) (Or.inr ⟨k, rfl⟩) next
    | str _ => exact hop.elim
    | dict _ => exact hop.elim
    | pairs _ => exact hop.elim
  | setDefault => exact setDefault_refines h hk hop next
  | len => exact (len_acts h next).refines .len rfl
  | getitem i => exact (getitem_acts h i next).refines (.getitem i) rfl
  | getslice sl => exact (getslice_acts h sl next).refines (.getslice sl) rfl
  | contains a =>
    obtain ⟨w, n1, hw, hs⟩ := wrap_ok m a hop next
    exact (query_acts h hw).1.refines (.contains w) (congrArg ROp.contains hs)
  | index a =>
    obtain ⟨w, n1, hw, hs⟩ := wrap_ok m a hop next
    exact (query_acts h hw).2.1.refines (.index w) (congrArg ROp.index hs)
  | count a =>
    obtain ⟨w, n1, hw, hs⟩ := wrap_ok m a hop next
    exact (query_acts h hw).2.2.refines (.count w) (congrArg ROp.count hs)

end

/-- C09, one call.  For a List / Array / MultiValue over any member schema and EVERY
    list-protocol call of the model satisfying the guard `OpOK`: the items afterwards are those of
    the reference Python list after the same call on the adapted values (`adaptOp`), the call
    returns / raises what the list returns / raises (`set` returns its own flag, see
    `set_nonlist_refines`), and every member is still an element of the member schema. -/
theorem step_refines {m : Schema} {n : Node} (h : SeqOK m n) (hk : SeqKind n) (op : SeqOp)
    (hop : OpOK n.sch m (items n) op) (hdeep : ImulDeep n op) (next : Nat) :
    StepOK m n (adaptOp n.sch m op) (seqStep n op next) (!isSet op) :=
  have e := step_agrees h hk op hop hdeep next
  ⟨e.itemsEq, e.outEq, seqStep_seqOK h hk op (placed_sch hop) next⟩

theorem sch_step (n : Node) (op : SeqOp) (next : Nat) : (seqStep n op next).node.sch = n.sch :=
  congrArg (fun t => t.2.2.1) (Flatland.C08.Proofs.seqStep_shape n op next).hdr

theorem seqKind_step {n : Node} (hk : SeqKind n) (op : SeqOp) (next : Nat) : SeqKind (seqStep n op next).node := by
  unfold SeqKind Node.kind at *
  rw [sch_step]; exact hk

def refRun (l : List Sig) (rops : List (ROp Sig)) : List Sig := rops.foldl (fun l r => (refStep l r).1) l

def HistOK (m : Schema) : Node → Nat → List SeqOp → Prop
  | _, _, [] => True
  | n, next, op :: ops =>
    (OpOK n.sch m (items n) op ∧ ImulDeep n op) ∧ HistOK m (seqStep n op next).node (seqStep n op next).next ops

/-- C09, histories.  After ANY history of list-protocol calls of the model whose calls
    satisfy the guard, the items are those of the reference list that received the same calls,
    and every member is an element of the member schema. -/
theorem run_refines {m : Schema} (ops : List SeqOp) :
    ∀ (n : Node) (next : Nat), SeqOK m n → SeqKind n → HistOK m n next ops →
      items (run ⟨n, next⟩ ops).node = refRun (items n) (ops.map (adaptOp n.sch m)) ∧
      SeqOK m (run ⟨n, next⟩ ops).node := by
  induction ops with
  | nil => intro n next h _ _; exact ⟨rfl, h⟩
  | cons op ops ih =>
    intro n next h hk hops
    obtain ⟨⟨hop, hdeep⟩, hrest⟩ := hops
    have hs := step_refines h hk op hop hdeep next
    have := ih (seqStep n op next).node (seqStep n op next).next hs.inv (seqKind_step hk op next) hrest
    simp only [run, List.foldl_cons, step, List.map_cons, refRun, sch_step] at this ⊢
    rw [this.1, hs.itemsEq]
    exact ⟨rfl, this.2⟩

def TextKeys : SeqOp → Prop
  | .sort (some k) _ => k = .u ∨ k = .ulen
  | _ => True

/-- for Integer / String members the guard of a history is static: it is enough that every call
    satisfies `OpOK` on no items (`its := []`) and sorts by a text key -/
theorem histOK_of_static {m : Schema} (hm : ScalarSchema m) (ops : List SeqOp) :
    ∀ (n : Node) (next : Nat), SeqOK m n → SeqKind n → (∀ op ∈ ops, OpOK n.sch m [] op ∧ TextKeys op) →
      HistOK m n next ops := by
  induction ops with
  | nil => intro _ _ _ _ _; trivial
  | cons op ops ih =>
    intro n next h hk hops
    have hop0 := (hops op (by simp)).1
    have hkeys := (hops op (by simp)).2
    have hop : OpOK n.sch m (items n) op := by
      cases op with
      | imul c => intro _; exact imul_guard_scalar h hk hm
      | sort k r =>
        cases k with
        | none => exact Or.inr (by rcases hm with hm | hm <;> simp [hm])
        | some k => exact sortOK_scalar h hk hm k hkeys
      | set r => cases r <;> exact hop0
      | _ => exact hop0
    have hdeep : ImulDeep n op := by
      cases op with
      | imul c => intro _; exact imulDeep_scalar h hk hm
      | _ => trivial
    refine ⟨⟨hop, hdeep⟩, ih _ _ (step_refines h hk op hop hdeep next).inv (seqKind_step hk op next) ?_⟩
    intro o ho
    rw [sch_step]
    exact hops o (by simp [ho])

/-- C09, histories over Integer / String members.  Every history whose arguments are None / int /
    str values or elements of the member schema and whose sort keys are the text keys — whatever
    the calls: `*=`, `clear`, `set_default`, key-less `sort`, `set(None)` included. -/
theorem run_refines_scalar {m : Schema} (hm : ScalarSchema m) (ops : List SeqOp) (n : Node) (next : Nat)
    (h : SeqOK m n) (hk : SeqKind n) (hops : ∀ op ∈ ops, OpOK n.sch m [] op ∧ TextKeys op) :
    items (run ⟨n, next⟩ ops).node = refRun (items n) (ops.map (adaptOp n.sch m)) ∧
    SeqOK m (run ⟨n, next⟩ ops).node :=
  run_refines ops n next h hk (histOK_of_static hm ops n next h hk hops)

end Flatland.C09.Proofs
