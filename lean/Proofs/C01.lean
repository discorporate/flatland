/-
C01 — flatten() output rebuilds the same element tree through from_flat().

`roundtrip`: for every well-formed schema without SparseDicts, every separator that
is `SepSafe` for the schema's names, and every element state `e` that is `Ok` (conforming, every
scalar leaf settled, no pruning in force, every list member representable):

    from_flat(flatten(e)) = e            -- the same tree, hence the same flatten() output

for trees of any depth and width, any mix of Dict / Compound / List / Array / MultiValue /
JoinedString / scalars, named or anonymous members, names that are prefixes of sibling names, and
multi-character separators.  It is the case of `roundtrip_pruned` (`Proofs/C01Prune.lean`) in which
the documented pruning has nothing to prune: an `Ok` state is an `OkP` state (`okP_of_ok`) that `pr`
leaves as it is (`pr_of_ok`).

What is NOT covered by this theorem and is left to the correspondence + oracle of the check:
pruning sequences (the documented loss), SparseDicts (KF-C01-d/e), `SepSafe` violations
(KF-C01-a), unsettled leaves (KF-C01-b/c/h/i).  See `roundtrip_sparse_fails` (Proofs/C01Examples.lean)
for a negation witness of the statement without the SparseDict restriction.
-/
import Proofs.C01Prune
import Proofs.Lemmas.C01Emit
import Proofs.Lemmas.C01PrList
namespace Flatland.Flat.Proofs
open Flatland.Flat Flatland.Flat.Spec

variable {env : Env} {sep : Str}

theorem okPFields_of_ok : ∀ (fs : List Schema) (ms : List (Str × Elem)),
    (∀ f ∈ fs, ∀ e, Ok env f e → OkP env f e) → OkFields env fs ms → OkPFields env fs ms
  | [], [], _, _ => by simp [OkPFields]
  | [], _ :: _, _, h => by simp [OkFields] at h
  | _ :: _, [], _, h => by simp [OkFields] at h
  | f :: fs, (k, e) :: ms, ih, h => by
    simp only [OkFields] at h
    simp only [OkPFields]
    exact ⟨h.1, ih f (by simp) e h.2.1,
      okPFields_of_ok fs ms (fun g hg => ih g (List.mem_cons_of_mem _ hg)) h.2.2⟩

theorem okP_of_ok : ∀ (s : Schema) (e : Elem), Ok env s e → OkP env s e := by
  intro s
  induction s using schema_ind with
  | hleaf nm o k =>
    intro e h
    cases e with
    | leaf u => simpa only [Ok, OkP] using h
    | _ => simp [Ok] at h
  | hjoined nm o k m =>
    intro e h
    cases e with
    | joined u ms => simp only [Ok] at h; simp only [OkP]; exact ⟨h.1, Or.inl h.2⟩
    | _ => simp [Ok] at h
  | hdict nm o mode fields ih =>
    intro e h
    cases e with
    | dict ms => simp only [Ok] at h; simp only [OkP]; exact ⟨h.1, okPFields_of_ok fields ms ih h.2⟩
    | _ => simp [Ok] at h
  | hcompound nm o k fields ih =>
    intro e h
    cases e with
    | dict ms => simp only [Ok] at h; simp only [OkP]; exact okPFields_of_ok fields ms ih h
    | _ => simp [Ok] at h
  | hlist nm o p mx member ih =>
    intro e h
    cases e with
    | list ms =>
      simp only [Ok] at h; simp only [OkP]
      exact ⟨h.2.1, h.2.2.1, fun e he => ih e (h.2.2.2 e he).1⟩
    | _ => simp [Ok] at h
  | harray nm o p member ih =>
    intro e h
    cases e with
    | array ms => simp only [Ok] at h; simp only [OkP]; exact ⟨h.2.1, fun e he => ih e (h.2.2 e he)⟩
    | _ => simp [Ok] at h

theorem pr_of_ok : ∀ s : Schema, wf s = true → dense s = true → ∀ (u : Bool) (e : Elem),
    Ok env s e → Keeps u (resolve env s e) → pr env u s e = e := by
  intro s hw hd u e hok hv
  refine okP_ind
    (P := fun s e => ∀ u, Ok env s e → Keeps u (resolve env s e) → pr env u s e = e)
    (Q := fun fs ms => ∀ u, OkFields env fs ms → (∀ k ∈ resKids env fs ms, Keeps u k) →
      prFields env u fs ms = ms)
    ?_ ?_ ?_ ?_ ?_ ?_ ?_ ?_ s hw hd e (okP_of_ok s e hok) u hok hv
  · intro nm o k t _ u _ _
    rfl
  · intro nm o k m t ms _ _ u hok hv
    simp only [Ok] at hok
    -- the text is emitted, so it survives `u`
    have hne : (u && t.isEmpty) = false := by
      have := hv (nm.toList, t) (by rw [resolve_joined, relFlat_leaf nm false t _ (Or.inl rfl)]; simp)
      cases u with
      | false => rfl
      | true => cases t with
        | nil => cases this
        | cons a as => rfl
    rw [pr_joined, hne, hok.2]; rfl
  · intro nm o fields ms _ _ hnd hsome hokP hQ u hok hv
    simp only [Ok] at hok
    rw [resolve_dict env nm o fields hnd hsome ms hokP] at hv
    simp only [pr]
    exact congrArg Elem.dict (hQ u hok.2 (keeps_kid hv))
  · intro nm o k fields ms _ _ hnd hsome hokP hQ u hok hv
    simp only [Ok] at hok
    rw [resolve_compound env nm o k fields hnd hsome ms hokP] at hv
    simp only [pr]
    exact congrArg Elem.dict (hQ u hok (keeps_kid hv))
  · intro nm o p mx member ms hw hd _ _ hmemP ih u hok hv
    simp only [Ok] at hok
    obtain ⟨hprune, _, _, hmem⟩ := hok
    rw [resolve_list] at hv
    -- a pruning List demands non-empty values of its members, a non-pruning one hands `u` down
    have hk : ∀ m ∈ ms, Keeps (p || u) (resolve env member m) := by
      intro m hm
      cases p with
      | true => exact keeps_of_valuesNonempty (hprune rfl m hm) _
      | false => exact keeps_kid hv _ (List.mem_map_of_mem hm)
    rw [pr_list u nm o p mx member ms hw hd hmemP]
    exact congrArg Elem.list (prList_eq_self
      (fun m hm => emitsB_of_keeps (hmem m hm).2 (hk m hm))
      (fun m hm => ih m hm _ (hmem m hm).1 (hk m hm)))
  · intro nm o p member ms _ _ hleaf hmemP _ u hok hv
    simp only [Ok] at hok
    obtain ⟨cn, mo, k, rfl⟩ := hleaf
    rw [resolve_array] at hv
    simp only [pr]
    refine congrArg Elem.array (List.filter_eq_self.mpr fun m hm => ?_)
    have hokm := hmemP m hm
    cases m with
    | leaf t =>
      -- the filter is in force below a pruning List (`u`) or when the Array prunes itself
      have hk : Keeps (u || arrayPrunes nm p (.leaf cn mo k)) (resolve env (.leaf cn mo k) (.leaf t)) := by
        cases u with
        | true => exact keeps_kid hv _ (List.mem_map_of_mem hm)
        | false =>
          cases hp : p with
          | true => exact keeps_of_valuesNonempty (hok.1 hp _ hm) _
          | false => simp only [arrayPrunes, Bool.false_and, Bool.or_false]; exact keeps_false _
      rw [emitsB_leaf]
      exact hk (cn.toList, t) (by rw [resolve_leaf, relFlat_leaf cn true t [] (Or.inr rfl)]; simp)
    | _ => simp [OkP] at hokm
  · intro u _ _
    rfl
  · intro f fs k e ms _ _ _ _ _ hP hQ u hok hv
    simp only [OkFields] at hok
    simp only [prFields]
    rw [hP u hok.2.1 (hv _ List.mem_cons_self), hQ u hok.2.2 fun k hk => hv k (List.mem_cons_of_mem _ hk)]

/-- the round-trip statement for one schema -/
def RT (env : Env) (sep : Str) (s : Schema) : Prop :=
  ∀ e, Ok env s e → setFlat env sep s (blank s) (toKeys sep (relFlat (resolve env s e))) = e

theorem rt_of_rtp {s : Schema} (hw : wf s = true) (hd : dense s = true) (h : RTP env sep s) :
    RT env sep s := by
  intro e hok
  have := h false e (okP_of_ok s e hok)
  rwa [filter_keepP_false, pr_of_ok s hw hd false e hok (keeps_false _)] at this

section parts
variable {T : Str → Prop}

section field
variable (hs : SepSafe env sep T)
include hs

theorem field_roundtrip
    (done : List Schema) (f : Schema) (rest : List Schema)
    (msDone : List (Str × Elem)) (nm : Str) (e : Elem) (msRest : List (Str × Elem))
    (hokD : OkFields env done msDone) (hokR : OkFields env rest msRest)
    (hname : f.name = some nm) (hokF : Ok env f e)
    (hnd : (namesOf (done ++ f :: rest)).Nodup)
    (htok : ∀ g ∈ done ++ f :: rest, ∃ x, g.name = some x ∧ T x)
    (hwf : wf f = true) (hdn : dense f = true) (hrt : RT env sep f) :
    setFlat env sep f (blank f)
      (wrap (((bfsPath ((resKids env (done ++ f :: rest) (msDone ++ (nm, e) :: msRest)).map
        (fun k => (([], k) : QItem)))).map (joinPair sep)).filter (fun p => isPrefix nm p.1))) = e := by
  have h := own_fieldP hs _ hnd htok _
    (okFields_appendP env done msDone (f :: rest) ((nm, e) :: msRest)
      (okPFields_of_ok done msDone (fun g _ => okP_of_ok g) hokD)
      (by simp only [OkPFields]
          exact ⟨hname, okP_of_ok f e hokF, okPFields_of_ok rest msRest (fun g _ => okP_of_ok g) hokR⟩))
    f (by simp) nm hname e (by simp) false
  rw [filter_keepP_false, filter_keepP_false] at h
  exact h.trans (hrt e hokF)

end field

theorem rt_list (hs : SepSafe env sep T) (henv : EnvOK env) (nm : Option Str)
    (hnm : ∀ x, nm = some x → T x) (o prune : Bool) (mx : Nat) (member : Schema)
    (hmn : ∀ t ∈ names member, t ≠ []) (hrt : RT env sep member) :
    RT env sep (.list nm o prune mx member) := by
  intro e hok
  cases e with
  | list ms =>
    simp only [Ok] at hok
    obtain ⟨hprune, hlen, hdig, hmem⟩ := hok
    have h := list_roundtrip hs henv nm hnm o prune mx member hmn
      (fun u' m => setFlat env sep member (blank member)
        (toKeys sep ((relFlat (resolve env member m)).filter (keepP u')))) false ms hlen hdig
      (fun _ _ _ => rfl)
    rw [filter_keepP_false] at h
    rw [h]
    -- every pair of a member survives the flag it is pruned under: the member emits, and it is
    -- rebuilt from all its pairs
    have hk : ∀ m ∈ ms, Keeps prune (resolve env member m) := by
      intro m hm
      cases prune with
      | true => exact keeps_of_valuesNonempty (hprune rfl m hm) _
      | false => exact keeps_false _
    have hem : ∀ m ∈ ms, emitsB env prune member m = true :=
      fun m hm => emitsB_of_keeps (hmem m hm).2 (hk m hm)
    have hg : ∀ m ∈ ms, setFlat env sep member (blank member)
        (toKeys sep ((relFlat (resolve env member m)).filter (keepP prune))) = m :=
      fun m hm => by rw [List.filter_eq_self.mpr (hk m hm)]; exact hrt m (hmem m hm).1
    cases prune with
    | true =>
      rw [if_pos rfl, List.filter_eq_self.mpr hem]
      exact congrArg Elem.list ((List.map_congr_left hg).trans (List.map_id _))
    | false =>
      rw [if_neg (by simp), dropTrailing_eq_self hem]
      exact congrArg Elem.list ((List.map_congr_left fun m hm => by rw [if_pos (hem m hm)]; exact hg m hm).trans
        (List.map_id _))
  | _ => simp [Ok] at hok

end parts

section main
variable (root : Schema) (hs : SepSafe env sep (Tok root)) (henv : EnvOK env)
include hs henv

theorem tok_of_name {s : Schema} (hsub : ∀ t ∈ names s, t ∈ names root) (x : Str)
    (h : s.name = some x) : Tok root x :=
  Or.inl (hsub x (name_mem_names s x h))

theorem rt_all : ∀ s : Schema, (∀ t ∈ names s, t ∈ names root) → wf s = true → dense s = true →
    RT env sep s :=
  fun s hsub hw hd => rt_of_rtp hw hd (rtp_all root hs henv s hsub hw hd)

theorem rt_fields : ∀ fs : List Schema, (∀ t ∈ namesL fs, t ∈ names root) → wfL fs = true →
    denseL fs = true → ∀ f ∈ fs, RT env sep f :=
  fun _ hsub hw hd f hf =>
    rt_all root hs henv f (fun t ht => hsub t (names_sub_namesL hf t ht)) (wf_of_mem hw f hf)
      (dense_of_mem hd f hf)

end main

/-- C01, exact form: `from_flat(flatten(e))` rebuilds `e` itself. -/
theorem roundtrip (env : Env) (sep : Str) (s : Schema) (e : Elem)
    (hs : SepSafe env sep (Tok s)) (henv : EnvOK env) (hw : wf s = true) (hd : dense s = true)
    (hroot : rootOK s = true) (hok : Ok env s e) :
    fromFlat env sep s (flatten env sep s e) = e := by
  rw [roundtrip_pruned env sep s e hs henv hw hd hroot (okP_of_ok s e hok),
    pr_of_ok s hw hd false e hok (keeps_false _)]

theorem roundtrip_flatten (env : Env) (sep : Str) (s : Schema) (e : Elem)
    (hs : SepSafe env sep (Tok s)) (henv : EnvOK env) (hw : wf s = true) (hd : dense s = true)
    (hroot : rootOK s = true) (hok : Ok env s e) :
    flatten env sep s (fromFlat env sep s (flatten env sep s e)) = flatten env sep s e := by
  rw [roundtrip env sep s e hs henv hw hd hroot hok]

theorem roundtrip_second (env : Env) (sep : Str) (s : Schema) (e : Elem)
    (hs : SepSafe env sep (Tok s)) (henv : EnvOK env) (hw : wf s = true) (hd : dense s = true)
    (hroot : rootOK s = true) (hok : Ok env s e) :
    fromFlat env sep s (flatten env sep s (fromFlat env sep s (flatten env sep s e)))
      = fromFlat env sep s (flatten env sep s e) := by
  rw [roundtrip env sep s e hs henv hw hd hroot hok, roundtrip env sep s e hs henv hw hd hroot hok]

end Flatland.Flat.Proofs
