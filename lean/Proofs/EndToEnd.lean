/-
END TO END — C12 ∘ C02 ∘ C01:

    "a rendered form, submitted unchanged and read back with `from_flat`, rebuilds the element"

For a form tree `t` that renders the element `e` of schema `s` (`embed t = resolve env s e`):

    browser posts            = formPairs t                                   C12  `form_roundtrip`
    formPairs t ++ unchecked ~ flatten e            (a permutation)          C12  `formPairs_flatten`
    dropping the `(key, '')` pairs of unchecked boxes changes nothing        here `drop_setFlat`
    from_flat (ps)           = prS e   for every reordering `ps` of `flatten e` that hands each Array
                                       its pairs in order                    here `fromFlat_own`
                                       (C02 `order_free_stable`, C01 `roundtrip_sparse`)

The families differ in how they supply the hypothesis of the last line (`rebuilds_of`): `HNodup` (`hyps`,
and `hypsN` through `hnodup_flatten`) or the same order per key (`hypsA`, Proofs/EndToEndArrays.lean).

`EndToEnd_Full` is the statement without the two composition hypotheses (`hnodupB`, `dropSafe`) and
without `boolsCanonical`; it is FALSE of the model (and of the code): `end_to_end_full_fails`
(an unchecked Boolean in a SparseDict is not re-created; in a non-pruning List it loses its slot:
`exNonPruning_differs`).  `end_to_end_partial` is a restriction of it that holds; every one of its
hypotheses is a decidable test (`Flatland.EndToEnd.hyps`) the C12 runner evaluates on every
generated form case.
-/
import Proofs.Lemmas.EndToEndDrop
import Proofs.Lemmas.EndToEndNodup
import Proofs.Lemmas.EndToEndHNodup
import Proofs.Lemmas.EndToEndASame
import Proofs.C12Form
import Proofs.C01SecondExamples
import Proofs.C01SparseExamples
namespace Flatland.Flat.Proofs
open Flatland.Flat Flatland.Flat.Spec

/-- C01 ∘ C02 on canonical keys: `from_flat` rebuilds `prS e` from every reordering of the element's own
    flat pairs that hands each Array its pairs in the same order (`HNodupA` holds of own pairs:
    `hnodupA_flatten`).  `ASame` follows from `HNodup` of either list (`asame_of_hnodup`) and from the same
    order per key (`asame_flatten`). -/
theorem fromFlat_own (env : Env) (sep : Str) (s : Schema) (e : Elem)
    (hs : SepSafe env sep (Tok s)) (henv : EnvOK env) (hw : wf s = true) (hroot : rootOK s = true)
    (hok : OkS env s e) (ps : List (Str × Str)) (hp : (flatten env sep s e).Perm ps)
    (ha : ASame env sep s (wrap (flatten env sep s e)) (wrap ps)) :
    fromFlat env sep s ps = prS env sep false s e := by
  rw [← order_free_stable env sep s _ _ (hnodupA_flatten env sep s e hs henv hw hroot hok) hp ha]
  exact roundtrip_sparse env sep s e hs henv hw hroot hok

end Flatland.Flat.Proofs

namespace Flatland.EndToEnd.Proofs
open Flatland.Flat Flatland.Flat.Spec Flatland.Flat.Proofs Flatland.EndToEnd
open Flatland.C12 Flatland.C12.Proofs
open Flatland.Markup (Tables Ctx PyErr)

/-- The full statement: every form of the kind C12 covers, submitted through its only
    submitter, for every conforming state of every well-formed schema with `_`-safe names: what the
    browser posts, read back with `from_flat`, is the element up to the documented pruning. -/
def EndToEnd_Full : Prop :=
  ∀ (env : Env) (s : Schema) (e : Elem) (t : FormTree),
    baseHyps Tables.current env s e t = true →
    ∀ ps, browserSubmit (seenOf Tables.current freshGen.ctx) (some 0) (renderForm [] t) = .ok ps →
      fromFlat env usep s ps = prS env usep false s e

theorem flatten_perm_formPairs {env : Env} {s : Schema} {e : Elem} {t : FormTree}
    (hlink : embed t = resolve env s e) :
    (flatten env usep s e).Perm (formPairs [] t ++ uncheckedPairs [] t) := by
  unfold flatten
  rw [← hlink]
  exact formPairs_flatten t

/-- the pairs the form carries rebuild the element -/
def Rebuilds (env : Env) (s : Schema) (e : Elem) (t : FormTree) : Prop :=
  fromFlat env usep s (formPairs [] t) = prS env usep false s e

/-- The form's pairs together with the withheld ones are the element's own pairs,
    reordered (`flatten_perm_formPairs`); `hsame`: every Array still sees its pairs in order; `hdrop`: the
    withheld pairs do not matter. -/
theorem rebuilds_of {env : Env} {s : Schema} {e : Elem} {t : FormTree}
    (henv : EnvOK env) (hs : SepSafe env usep (Tok s)) (hw : wf s = true) (hroot : rootOK s = true)
    (hok : OkS env s e) (hlink : embed t = resolve env s e)
    (hsame : ASame env usep s (wrap (flatten env usep s e)) (wrap (formPairs [] t ++ uncheckedPairs [] t)))
    (hdrop : fromFlat env usep s (formPairs [] t) = fromFlat env usep s (formPairs [] t ++ uncheckedPairs [] t)) :
    Rebuilds env s e t :=
  hdrop.trans (fromFlat_own env usep s e hs henv hw hroot hok _ (flatten_perm_formPairs hlink) hsame)

/-- `from_flat` of the pairs a form carries (`formPairs`, document order, unchecked
    boxes missing) is `prS e` -/
theorem fromFlat_formPairs (env : Env) (s : Schema) (e : Elem) (t : FormTree)
    (henv : EnvOK env) (hs : SepSafe env usep (Tok s)) (hw : wf s = true) (hroot : rootOK s = true)
    (hok : OkS env s e) (hlink : embed t = resolve env s e) (hcan : boolsCanonical t = true)
    (hnd : HNodup env usep s (wrap (formPairs [] t ++ uncheckedPairs [] t)))
    (hdrop : uncheckedPairs [] t = [] ∨ dropSafe env s = true) :
    fromFlat env usep s (formPairs [] t) = prS env usep false s e := by
  have hperm := wrap_perm (flatten_perm_formPairs hlink)
  -- C02: under `HNodup` every reordering keeps what the Arrays are handed
  refine rebuilds_of henv hs hw hroot hok hlink
    (asame_of_hnodup env usep s _ _ (hnodup_perm env usep s _ _ hnd hperm.symm) hperm) ?_
  -- the pairs of the unchecked boxes can be left out
  rcases hdrop with h0 | hd
  · rw [h0, List.append_nil]
  · exact (drop_setFlat env usep s hd hw _ _ hnd
      (dropE_wrap (DropE.append_empty _ _ (unchecked_empty t [] hcan)))).symm

theorem baseHyps_unpack {T : Tables} {env : Env} {s : Schema} {e : Elem} {t : FormTree}
    (h : baseHyps T env s e t = true) :
    embed t = resolve env s e ∧ formOk T [] t = true ∧ oneSubmitter t = true ∧
    wf s = true ∧ rootOK s = true ∧ OkS env s e ∧ EnvOK env ∧ SepSafe env usep (Tok s) := by
  simp only [baseHyps, Bool.and_eq_true] at h
  obtain ⟨⟨⟨⟨⟨⟨⟨hl, hf⟩, hsub⟩, hw⟩, hroot⟩, hok⟩, henv⟩, hns⟩ := h
  have henv' := envOKB_sound env henv
  exact ⟨fnodeBeq_sound _ _ hl, hf, hsub, by rw [← wfS_eq]; exact hw, hroot, okSB_sound env s e hok,
    henv', namesSafe_sound env s henv' hns⟩

theorem hyps_iff {T : Tables} {env : Env} {s : Schema} {e : Elem} {t : FormTree} :
    hyps T env s e t = true ↔ baseHyps T env s e t = true ∧
      hnodupB env usep s (wrap (formPairs [] t ++ uncheckedPairs [] t)) = true ∧
      (uncheckedPairs [] t = [] ∨ dropSafe env s = true) ∧ boolsCanonical t = true := by
  simp only [hyps, baseHyps, Bool.and_right_comm _ (boolsCanonical t), Bool.and_eq_true, Bool.or_eq_true,
    List.isEmpty_iff, and_assoc]

theorem hyps_unpack {T : Tables} {env : Env} {s : Schema} {e : Elem} {t : FormTree}
    (h : hyps T env s e t = true) :
    embed t = resolve env s e ∧ formOk T [] t = true ∧ oneSubmitter t = true ∧ boolsCanonical t = true ∧
    wf s = true ∧ rootOK s = true ∧ OkS env s e ∧ EnvOK env ∧ SepSafe env usep (Tok s) ∧
    HNodup env usep s (wrap (formPairs [] t ++ uncheckedPairs [] t)) ∧
    (uncheckedPairs [] t = [] ∨ dropSafe env s = true) := by
  obtain ⟨hb, hnd, hdrop, hcan⟩ := hyps_iff.mp h
  obtain ⟨hl, hf, hsub, hw, hroot, hok, henv, hs⟩ := baseHyps_unpack hb
  exact ⟨hl, hf, hsub, hcan, hw, hroot, hok, henv, hs, hnodupB_sound env usep s _ hnd, hdrop⟩

/-- `Rebuilds` read on the posted list: whatever the browser posts, on any generator context with name and
    value generation on -/
theorem rebuilds_at {T : Tables} {env : Env} {s : Schema} {e : Elem} {t : FormTree}
    (h : baseHyps T env s e t = true ∧ Rebuilds env s e t) (ctx : Ctx) (hT : TablesOK T) (hL : Live T ctx)
    (ps : List Pair) (hpost : browserSubmit (seenOf T ctx) (some 0) (renderForm [] t) = .ok ps) :
    fromFlat env usep s ps = prS env usep false s e := by
  obtain ⟨_, hf, hsub, _⟩ := baseHyps_unpack h.1
  rw [form_roundtrip T ctx hT hL t hf hsub ps hpost]
  exact h.2

/-- on `Generator()` the form does render and post -/
theorem rebuilds_total {env : Env} {s : Schema} {e : Elem} {t : FormTree}
    (h : baseHyps Tables.current env s e t = true ∧ Rebuilds env s e t) :
    ∃ ps, browserSubmit (seenOf Tables.current freshGen.ctx) (some 0) (renderForm [] t) = .ok ps ∧
      fromFlat env usep s ps = prS env usep false s e := by
  obtain ⟨_, hf, hsub, _⟩ := baseHyps_unpack h.1
  exact ⟨_, form_roundtrip_fresh t hf hsub, h.2⟩

/-- the same through `prepareTag`, the way the runner makes the tag calls -/
theorem rebuilds_generator {env : Env} {s : Schema} {e : Elem} {t : FormTree}
    (h : baseHyps Tables.current env s e t = true ∧ Rebuilds env s e t) :
    ∃ ps, browserSubmit (seenVia Tables.current Flatland.Generated.C11.staticAttributeOrder freshGen) (some 0)
        (renderForm [] t) = .ok ps ∧ fromFlat env usep s ps = prS env usep false s e := by
  obtain ⟨_, hf, hsub, _⟩ := baseHyps_unpack h.1
  exact ⟨_, form_roundtrip_fresh_generator t hf hsub, h.2⟩

theorem hyps_rebuilds {T : Tables} {env : Env} {s : Schema} {e : Elem} {t : FormTree}
    (h : hyps T env s e t = true) : baseHyps T env s e t = true ∧ Rebuilds env s e t := by
  obtain ⟨hl, _, _, hcan, hw, hroot, hok, henv, hs, hnd, hdrop⟩ := hyps_unpack h
  exact ⟨(hyps_iff.mp h).1, fromFlat_formPairs env s e t henv hs hw hroot hok hl hcan hnd hdrop⟩

/-- End to end, on any generator context with name and value generation on: whatever the browser
    posts for the rendered form, `from_flat` rebuilds `prS e` from it -/
theorem end_to_end_at (T : Tables) (ctx : Ctx) (hT : TablesOK T)
    (hL : Live T ctx) (env : Env) (s : Schema) (e : Elem) (t : FormTree)
    (h : hyps T env s e t = true) (ps : List Pair)
    (hpost : browserSubmit (seenOf T ctx) (some 0) (renderForm [] t) = .ok ps) :
    fromFlat env usep s ps = prS env usep false s e :=
  rebuilds_at (hyps_rebuilds h) ctx hT hL ps hpost

/-- End to end (a restriction of `EndToEnd_Full`): on `Generator()` with
    the tables of the current source: for every form tree `t` that renders the element state `e` of
    schema `s` and meets the decidable hypotheses `hyps`, what a browser posts for the unchanged
    form, read back with `from_flat`, is `prS e` — the element up to the documented pruning. -/
theorem end_to_end_partial (env : Env) (s : Schema) (e : Elem) (t : FormTree)
    (h : hyps Tables.current env s e t = true) (ps : List Pair)
    (hpost : browserSubmit (seenOf Tables.current freshGen.ctx) (some 0) (renderForm [] t) = .ok ps) :
    fromFlat env usep s ps = prS env usep false s e :=
  end_to_end_at _ _ tablesOK_current fresh_live env s e t h ps hpost

/-- … and the form does render and post (total form): there IS a posted list, and it rebuilds `prS e` -/
theorem end_to_end_total (env : Env) (s : Schema) (e : Elem) (t : FormTree)
    (h : hyps Tables.current env s e t = true) :
    ∃ ps, browserSubmit (seenOf Tables.current freshGen.ctx) (some 0) (renderForm [] t) = .ok ps ∧
      fromFlat env usep s ps = prS env usep false s e :=
  rebuilds_total (hyps_rebuilds h)

/-- the same through `prepareTag`, the way the runner makes the tag calls -/
theorem end_to_end_generator (env : Env) (s : Schema) (e : Elem) (t : FormTree)
    (h : hyps Tables.current env s e t = true) :
    ∃ ps, browserSubmit (seenVia Tables.current Flatland.Generated.C11.staticAttributeOrder freshGen) (some 0)
        (renderForm [] t) = .ok ps ∧ fromFlat env usep s ps = prS env usep false s e :=
  rebuilds_generator (hyps_rebuilds h)

/-- where `prS` leaves the element as it is (nothing prunable, every mapping dense and in order), the
    element itself comes back -/
theorem end_to_end_exact (env : Env) (s : Schema) (e : Elem) (t : FormTree)
    (h : hyps Tables.current env s e t = true) (hfix : prS env usep false s e = e) (ps : List Pair)
    (hpost : browserSubmit (seenOf Tables.current freshGen.ctx) (some 0) (renderForm [] t) = .ok ps) :
    fromFlat env usep s ps = e := by
  rw [end_to_end_partial env s e t h ps hpost, hfix]

-- With the state-level test `narrowB s e` in place of `hnodupB …` (`hypsN`): `hnodupB` of the form's own pairs follows
-- (`hnodup_flatten`, Proofs/Lemmas/EndToEndHNodup.lean, carried across the permutation by `hnodup_perm`).

theorem fromFlat_formPairs_narrow (env : Env) (s : Schema) (e : Elem) (t : FormTree)
    (henv : EnvOK env) (hs : SepSafe env usep (Tok s)) (hw : wf s = true) (hroot : rootOK s = true)
    (hok : OkS env s e) (hlink : embed t = resolve env s e) (hcan : boolsCanonical t = true)
    (hnar : narrowB s e = true)
    (hdrop : uncheckedPairs [] t = [] ∨ dropSafe env s = true) :
    fromFlat env usep s (formPairs [] t) = prS env usep false s e :=
  fromFlat_formPairs env s e t henv hs hw hroot hok hlink hcan
    (hnodup_flatten_perm env usep s e hs henv hw hroot hok hnar _ (flatten_perm_formPairs hlink)) hdrop

theorem hypsN_iff {T : Tables} {env : Env} {s : Schema} {e : Elem} {t : FormTree} :
    hypsN T env s e t = true ↔ baseHyps T env s e t = true ∧ narrowB s e = true ∧
      (uncheckedPairs [] t = [] ∨ dropSafe env s = true) ∧ boolsCanonical t = true := by
  simp only [hypsN, baseHyps, Bool.and_right_comm _ (boolsCanonical t), Bool.and_eq_true, Bool.or_eq_true,
    List.isEmpty_iff, and_assoc]

theorem hypsN_unpack {T : Tables} {env : Env} {s : Schema} {e : Elem} {t : FormTree}
    (h : hypsN T env s e t = true) :
    embed t = resolve env s e ∧ formOk T [] t = true ∧ oneSubmitter t = true ∧ boolsCanonical t = true ∧
    wf s = true ∧ rootOK s = true ∧ OkS env s e ∧ EnvOK env ∧ SepSafe env usep (Tok s) ∧
    narrowB s e = true ∧ (uncheckedPairs [] t = [] ∨ dropSafe env s = true) := by
  obtain ⟨hb, hnar, hdrop, hcan⟩ := hypsN_iff.mp h
  obtain ⟨hl, hf, hsub, hw, hroot, hok, henv, hs⟩ := baseHyps_unpack hb
  exact ⟨hl, hf, hsub, hcan, hw, hroot, hok, henv, hs, hnar, hdrop⟩

theorem hypsN_hnodup {T : Tables} {env : Env} {s : Schema} {e : Elem} {t : FormTree}
    (h : hypsN T env s e t = true) :
    HNodup env usep s (wrap (formPairs [] t ++ uncheckedPairs [] t)) := by
  obtain ⟨hl, _, _, _, hw, hroot, hok, henv, hs, hnar, _⟩ := hypsN_unpack h
  exact hnodup_flatten_perm env usep s e hs henv hw hroot hok hnar _ (flatten_perm_formPairs hl)

/-- `hypsN` is a special case of `hyps`: the test `hnodupB` the runner evaluates holds whenever the
    state-level test does (the converse fails: an Array holding `['', 'x']` that prunes empty values
    passes `hnodupB` but not `narrowB`, `exPrunedArr_hyps`) -/
theorem hypsN_hyps {T : Tables} {env : Env} {s : Schema} {e : Elem} {t : FormTree}
    (h : hypsN T env s e t = true) : hyps T env s e t = true := by
  obtain ⟨hb, _, hrest⟩ := hypsN_iff.mp h
  exact hyps_iff.mpr ⟨hb, hnodupB_complete env usep s _ (hypsN_hnodup h), hrest⟩

theorem end_to_end_narrow_at (T : Tables) (ctx : Ctx) (hT : TablesOK T)
    (hL : Live T ctx) (env : Env) (s : Schema) (e : Elem) (t : FormTree)
    (h : hypsN T env s e t = true) (ps : List Pair)
    (hpost : browserSubmit (seenOf T ctx) (some 0) (renderForm [] t) = .ok ps) :
    fromFlat env usep s ps = prS env usep false s e :=
  end_to_end_at T ctx hT hL env s e t (hypsN_hyps h) ps hpost

/-- End to end with "no Array / MultiValue of the element holds two or more members" (`narrowB s e`, a test on the
    STATE) in place of `hnodupB` (a test on the keys).  `narrowB` is what C02's `order_free` needs (`exArr2_only_narrow_fails`: with two members
    `HNodup` fails and the order of the pairs IS the order of the members); the conclusion itself
    survives there (`exArr2_still_rebuilds`): `end_to_end_arrays_partial`, Proofs/EndToEndArrays.lean. -/
theorem end_to_end_narrow_partial (env : Env) (s : Schema) (e : Elem) (t : FormTree)
    (h : hypsN Tables.current env s e t = true) (ps : List Pair)
    (hpost : browserSubmit (seenOf Tables.current freshGen.ctx) (some 0) (renderForm [] t) = .ok ps) :
    fromFlat env usep s ps = prS env usep false s e :=
  end_to_end_narrow_at _ _ tablesOK_current fresh_live env s e t h ps hpost

theorem end_to_end_narrow_total (env : Env) (s : Schema) (e : Elem) (t : FormTree)
    (h : hypsN Tables.current env s e t = true) :
    ∃ ps, browserSubmit (seenOf Tables.current freshGen.ctx) (some 0) (renderForm [] t) = .ok ps ∧
      fromFlat env usep s ps = prS env usep false s e :=
  end_to_end_total env s e t (hypsN_hyps h)

theorem end_to_end_narrow_generator (env : Env) (s : Schema) (e : Elem) (t : FormTree)
    (h : hypsN Tables.current env s e t = true) :
    ∃ ps, browserSubmit (seenVia Tables.current Flatland.Generated.C11.staticAttributeOrder freshGen) (some 0)
        (renderForm [] t) = .ok ps ∧ fromFlat env usep s ps = prS env usep false s e :=
  end_to_end_generator env s e t (hypsN_hyps h)

/-- Arrays with two or more members: `order_free_stable` (Proofs/C02Order.lean) lets the composition go through GIVEN
    that document order and breadth-first order hand every Array its pairs in the same order (`ASame`; decidable on
    examples, `exArr2_via_stable`; Proofs/EndToEndArrays.lean gets it from the executable `keySameB`).  The form must
    have no unchecked box (`drop_setFlat` is about `HNodup`). -/
theorem fromFlat_formPairs_stable (env : Env) (s : Schema) (e : Elem) (t : FormTree)
    (henv : EnvOK env) (hs : SepSafe env usep (Tok s)) (hw : wf s = true) (hroot : rootOK s = true)
    (hok : OkS env s e) (hlink : embed t = resolve env s e)
    (hnd : HNodupA env usep s (wrap (flatten env usep s e)))
    (hsame : ASame env usep s (wrap (flatten env usep s e)) (wrap (formPairs [] t)))
    (hun : uncheckedPairs [] t = []) :
    fromFlat env usep s (formPairs [] t) = prS env usep false s e :=
  -- `hnd` is not needed: it holds of every element's own pairs (`hnodupA_flatten`, inside `fromFlat_own`)
  rebuilds_of henv hs hw hroot hok hlink (by rw [hun, List.append_nil]; exact hsame) (by rw [hun, List.append_nil])

end Flatland.EndToEnd.Proofs
