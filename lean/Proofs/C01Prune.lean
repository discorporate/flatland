/-
C01 — general form, with the documented pruning.

`roundtrip_pruned`: for every well-formed schema without SparseDicts, every `SepSafe` separator and
EVERY conforming, settled element state `e` (`OkP`: no restriction on pruning sequences, on empty
values, or on members that emit no pair),

    from_flat(flatten(e)) = pr e

where `pr` (`Flatland/Spec/C01Prune.lean`) is the documented pruning written as a function on
element states: pruning Lists drop exactly the members that emit no non-empty value and renumber
the rest, non-pruning Lists lose trailing members without a flat representation, Arrays drop empty
members when pruning applies, everything else is kept.  `roundtrip` (`Proofs/C01.lean`) is the
special case in which `pr e = e`.

It is the case of `roundtrip_sparse` (`Proofs/C01Sparse.lean`) in which every mapping holds all its
fields in declaration order: such a state conforms in the general sense (`okS_of_okP`), and on
schemas without SparseDicts `prS` is `pr` (`prS_eq_pr_dense`, Lemmas/C01Silent.lean).
-/
import Proofs.C01Sparse
import Proofs.Lemmas.C01Silent
namespace Flatland.Flat.Proofs
open Flatland.Flat Flatland.Flat.Spec

variable {env : Env} {sep : Str}

theorem kidsS_eq_resKids {fields : List Schema} {ms : List (Str × Elem)} (hok : OkPFields env fields ms)
    (hnd : (namesOf fields).Nodup) (hsome : ∀ g ∈ fields, g.name.isSome) :
    kidsS env fields ms = resKids env fields ms :=
  (resolveMembers_kidsS env fields ms ms).symm.trans
    (resolveMembers_eqP env fields hnd hsome ms fields ms (fun _ h => h) hok)

theorem rtp_of_rts {s : Schema} (hw : wf s = true) (hd : dense s = true) (h : RTS env sep s) :
    RTP env sep s :=
  fun u e hok => (h u e (okS_of_okP env s hw e hok)).trans (prS_eq_pr_dense s hw hd e hok u)

section field
variable {T : Str → Prop} (hs : SepSafe env sep T)
include hs

theorem own_fieldP (fields : List Schema) (hnd : (namesOf fields).Nodup)
    (htok : ∀ g ∈ fields, ∃ x, g.name = some x ∧ T x)
    (ms : List (Str × Elem)) (hok : OkPFields env fields ms)
    (f : Schema) (hf : f ∈ fields) (nm : Str) (hname : f.name = some nm) (e : Elem) (he : (nm, e) ∈ ms)
    (u : Bool) :
    setFlat env sep f (blank f)
      (wrap ((((bfsPath ((resKids env fields ms).map (fun k => (([], k) : QItem)))).filter (keepP u)).map
        (joinPair sep)).filter (fun p => isPrefix nm p.1)))
    = setFlat env sep f (blank f) (toKeys sep ((relFlat (resolve env f e)).filter (keepP u))) := by
  have hkeys := keys_nodupP hok hnd
  have hsome : ∀ g ∈ fields, g.name.isSome := fun g hg => by
    obtain ⟨x, hx, _⟩ := htok g hg; simp [hx]
  rw [← kidsS_eq_resKids hok hnd hsome, reach_filter,
    own_field hs fields hnd htok ms hkeys f hf nm hname u, ← reach_filter, lookup_of_mem_nodup hkeys he]

/-- What `Mapping._set_flat` hands to the field named `nm` — every stripped key that merely *starts
    with* `nm` — rebuilds the field's element when the field round-trips: the pairs of prefix-sharing
    siblings address nothing in the field and are absorbed. -/
theorem field_roundtripP
    (done : List Schema) (f : Schema) (rest : List Schema)
    (msDone : List (Str × Elem)) (nm : Str) (e : Elem) (msRest : List (Str × Elem))
    (hokD : OkPFields env done msDone) (hokR : OkPFields env rest msRest)
    (hname : f.name = some nm) (hokF : OkP env f e)
    (hnd : (namesOf (done ++ f :: rest)).Nodup)
    (htok : ∀ g ∈ done ++ f :: rest, ∃ x, g.name = some x ∧ T x)
    (hwf : wf f = true) (hdn : dense f = true) (hrt : RTP env sep f) (u : Bool) :
    setFlat env sep f (blank f)
      (wrap ((((bfsPath ((resKids env (done ++ f :: rest) (msDone ++ (nm, e) :: msRest)).map
        (fun k => (([], k) : QItem)))).filter (keepP u)).map (joinPair sep)).filter
          (fun p => isPrefix nm p.1))) = pr env u f e :=
  (own_fieldP hs _ hnd htok _ (okFields_appendP env done msDone (f :: rest) ((nm, e) :: msRest) hokD
    (by simp only [OkPFields]; exact ⟨hname, hokF, hokR⟩)) f (by simp) nm hname e (by simp) u).trans
      (hrt u e hokF)

end field

section main
variable (root : Schema) (hs : SepSafe env sep (Tok root)) (henv : EnvOK env)
include hs henv

theorem tok_of_nameP {s : Schema} (hsub : ∀ t ∈ names s, t ∈ names root) (x : Str)
    (h : s.name = some x) : Tok root x :=
  Or.inl (hsub x (name_mem_names s x h))

theorem rtp_all : ∀ s : Schema, (∀ t ∈ names s, t ∈ names root) → wf s = true → dense s = true →
    RTP env sep s :=
  fun s hsub hw hd => rtp_of_rts hw hd (rts_all root hs henv s hsub hw)

theorem rtp_fields : ∀ fs : List Schema, (∀ t ∈ namesL fs, t ∈ names root) → wfL fs = true →
    denseL fs = true → ∀ f ∈ fs, RTP env sep f :=
  fun _ hsub hw hd f hf => rtp_all root hs henv f (fun t ht => hsub t (names_sub_namesL hf t ht))
    (wf_of_mem hw f hf) (dense_of_mem hd f hf)

end main

/-- C01, general form: `from_flat(flatten(e))` rebuilds exactly the documented pruning of `e`, for
    every conforming settled state, pruning or not. -/
theorem roundtrip_pruned (env : Env) (sep : Str) (s : Schema) (e : Elem)
    (hs : SepSafe env sep (Tok s)) (henv : EnvOK env) (hw : wf s = true) (hd : dense s = true)
    (hroot : rootOK s = true) (hok : OkP env s e) :
    fromFlat env sep s (flatten env sep s e) = pr env false s e :=
  (roundtrip_sparse env sep s e hs henv hw hroot (okS_of_okP env s hw e hok)).trans
    (prS_eq_pr_dense s hw hd e hok false)

end Flatland.Flat.Proofs
