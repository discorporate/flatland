/-
C01 — the flatten-level clauses.

`roundtrip_pruned` (`Proofs/C01Prune.lean`) says which tree `from_flat(flatten(e))` rebuilds: the
documented pruning `pr e`.  That pruning is *not* idempotent on trees (a non-pruning List of pruning
Lists `[['a'], ['']]` comes back as `[['a'], []]` and only then as `[['a']]`), but it is on flat
output, which is what the property speaks about:

* `roundtrip_second_flatten` — after the first round trip, a second round trip changes nothing in
  the flattened output;
* `roundtrip_flatten_noprune` — if no sequence of the schema prunes, the flattened output of
  `from_flat(flatten(e))` is identical to `flatten(e)` (even though the tree may have lost trailing
  list members that have no flat representation).

Both hold for every well-formed schema without SparseDicts and every conforming settled state.  The second half says what
the round trip may do to the flat pairs in general (`roundtrip_flatten_sub`, `roundtrip_values_nonempty`).
-/
import Proofs.C01Prune
import Proofs.Lemmas.C01LevelStable
namespace Flatland.Flat.Proofs
open Flatland.Flat Flatland.Flat.Spec

theorem flatten_pr_of_stable (env : Env) (sep : Str) (s : Schema) (u : Bool) (e : Elem)
    (hw : wf s = true) (hd : dense s = true) (hok : OkP env s e) (hst : Stable env u s e) :
    flatten env sep s (pr env u s e) = flatten env sep s e := by
  rw [flatten_eq_relFlat, flatten_eq_relFlat, relFlat_of_lvlEq (lvl_pr s hw hd u e hok hst)]

theorem flatten_pr_pr (env : Env) (sep : Str) (s : Schema) (u : Bool) (e : Elem)
    (hw : wf s = true) (hd : dense s = true) (hok : OkP env s e) :
    flatten env sep s (pr env u s (pr env u s e)) = flatten env sep s (pr env u s e) :=
  flatten_pr_of_stable env sep s u _ hw hd (okP_pr s hw hd u e hok) (stable_pr s hw hd u e hok)

/-- C01, second round trip: after one round trip through `flatten` / `from_flat`, a second round trip
    changes nothing in the flattened output. -/
theorem roundtrip_second_flatten (env : Env) (sep : Str) (s : Schema) (e : Elem)
    (hs : SepSafe env sep (Tok s)) (henv : EnvOK env) (hw : wf s = true) (hd : dense s = true)
    (hroot : rootOK s = true) (hok : OkP env s e) :
    flatten env sep s (fromFlat env sep s (flatten env sep s (fromFlat env sep s (flatten env sep s e))))
      = flatten env sep s (fromFlat env sep s (flatten env sep s e)) := by
  rw [roundtrip_pruned env sep s e hs henv hw hd hroot hok,
    roundtrip_pruned env sep s _ hs henv hw hd hroot (okP_pr s hw hd false e hok)]
  exact flatten_pr_pr env sep s false e hw hd hok

/-- C01, flat output without pruning sequences: if no sequence of the schema prunes, the flattened
    output survives the round trip unchanged, for every conforming settled state. -/
theorem roundtrip_flatten_noprune (env : Env) (sep : Str) (s : Schema) (e : Elem)
    (hs : SepSafe env sep (Tok s)) (henv : EnvOK env) (hw : wf s = true) (hd : dense s = true)
    (hroot : rootOK s = true) (hnp : noPrune s = true) (hok : OkP env s e) :
    flatten env sep s (fromFlat env sep s (flatten env sep s e)) = flatten env sep s e := by
  rw [roundtrip_pruned env sep s e hs henv hw hd hroot hok]
  exact flatten_pr_of_stable env sep s false e hw hd hok (stable_noPrune s hw hd hnp e hok)

/-
What the round trip may do to the flat pairs, in general.

`from_flat(flatten(e))` is the documented pruning `pr e` (`roundtrip_pruned`).  At the level of the
flat pairs this means: pairs are only ever *left out* — never added, changed or reordered —, every
pair left out has an empty value, and the keys of the remaining pairs change in their list indexes
only (renumbering).  Formally, with `flattenNoIdx` = `flatten` with the list-index tokens left out
of every key:

* `roundtrip_flatten_sub`: `flattenNoIdx (from_flat (flatten e))` is a subsequence of
  `flattenNoIdx e`, and both have the same pairs with a non-empty value (in the same order);
* `roundtrip_values_sub` / `roundtrip_values_nonempty`: the same for the values of the real
  `flatten` outputs.
-/

/-- `flatten` with the list-index tokens left out of every key (`unslot`: no node interposes slot
    indexes) -/
def flattenNoIdx (env : Env) (sep : Str) (s : Schema) (e : Elem) : List (Str × Str) :=
  (relFlat (unslot (resolve env s e))).map (joinPair sep)

theorem flattenNoIdx_values (env : Env) (sep : Str) (s : Schema) (e : Elem) :
    (flattenNoIdx env sep s e).map Prod.snd = (flatten env sep s e).map Prod.snd := by
  unfold flattenNoIdx
  rw [flatten_eq_relFlat, List.map_map, List.map_map]
  have : (Prod.snd ∘ joinPair sep : PPair → Str) = Prod.snd := rfl
  rw [this]
  exact relFlat_unslot_vals _

theorem filter_nonempty_joinPair (sep : Str) (l : List PPair) :
    (l.map (joinPair sep)).filter (fun p => !p.2.isEmpty) = (l.filter (keepP true)).map (joinPair sep) := by
  rw [List.filter_map]
  congr 1

theorem flattenNoIdx_pr (env : Env) (sep : Str) (s : Schema) (u : Bool) (e : Elem)
    (hw : wf s = true) (hd : dense s = true) (hok : OkP env s e) :
    (flattenNoIdx env sep s (pr env u s e)).Sublist (flattenNoIdx env sep s e) ∧
    (flattenNoIdx env sep s (pr env u s e)).filter (fun p => !p.2.isEmpty)
      = (flattenNoIdx env sep s e).filter (fun p => !p.2.isEmpty) := by
  have h := psub_relFlat_unslot (sub_pr (env := env) s hw hd u e hok)
  unfold flattenNoIdx
  refine ⟨h.1.map _, ?_⟩
  rw [filter_nonempty_joinPair, filter_nonempty_joinPair, h.2]

/-- C01, the round trip at pair level: apart from the renumbering of list indexes, the flattened output
    after a round trip is the original output with some pairs left out, all of them with an empty value. -/
theorem roundtrip_flatten_sub (env : Env) (sep : Str) (s : Schema) (e : Elem)
    (hs : SepSafe env sep (Tok s)) (henv : EnvOK env) (hw : wf s = true) (hd : dense s = true)
    (hroot : rootOK s = true) (hok : OkP env s e) :
    (flattenNoIdx env sep s (fromFlat env sep s (flatten env sep s e))).Sublist (flattenNoIdx env sep s e) ∧
    (flattenNoIdx env sep s (fromFlat env sep s (flatten env sep s e))).filter (fun p => !p.2.isEmpty)
      = (flattenNoIdx env sep s e).filter (fun p => !p.2.isEmpty) := by
  rw [roundtrip_pruned env sep s e hs henv hw hd hroot hok]
  exact flattenNoIdx_pr env sep s false e hw hd hok

theorem roundtrip_values_sub (env : Env) (sep : Str) (s : Schema) (e : Elem)
    (hs : SepSafe env sep (Tok s)) (henv : EnvOK env) (hw : wf s = true) (hd : dense s = true)
    (hroot : rootOK s = true) (hok : OkP env s e) :
    ((flatten env sep s (fromFlat env sep s (flatten env sep s e))).map Prod.snd).Sublist
      ((flatten env sep s e).map Prod.snd) := by
  rw [← flattenNoIdx_values, ← flattenNoIdx_values]
  exact (roundtrip_flatten_sub env sep s e hs henv hw hd hroot hok).1.map _

theorem roundtrip_values_nonempty (env : Env) (sep : Str) (s : Schema) (e : Elem)
    (hs : SepSafe env sep (Tok s)) (henv : EnvOK env) (hw : wf s = true) (hd : dense s = true)
    (hroot : rootOK s = true) (hok : OkP env s e) :
    ((flatten env sep s (fromFlat env sep s (flatten env sep s e))).map Prod.snd).filter (fun v => !v.isEmpty)
      = ((flatten env sep s e).map Prod.snd).filter (fun v => !v.isEmpty) := by
  rw [← flattenNoIdx_values, ← flattenNoIdx_values, List.filter_map, List.filter_map]
  exact congrArg (List.map Prod.snd) (roundtrip_flatten_sub env sep s e hs henv hw hd hroot hok).2

end Flatland.Flat.Proofs
