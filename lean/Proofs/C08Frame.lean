/-
C08 — the frame of a call applied inside a tree (`stepAt`): the call is `nodeStep` on the one
element with the target identity; everything else stays; and the tree-level form of
"removed ⇒ unreachable".
-/
import Proofs.C08Removed
namespace Flatland.C08.Proofs
open Flatland.Tree Flatland.PyList Flatland.C08 Flatland.C08.Spec

theorem cnt_le_of_mem_nodes (a : Nat) (t n : Node) (h : n ∈ nodes t) : cnt a n ≤ cnt a t :=
  forall_nodes (P := fun x => cnt a x ≤ cnt a t)
    (fun p hp c hc => Nat.le_trans (cnt_le_cntL hc) (by rw [cnt_eq a p] at hp; omega)) t (Nat.le_refl _) n h

theorem cntL_le_of_mem_nodesL (a : Nat) : ∀ (ks : List Node) (n : Node), n ∈ nodesL ks → cnt a n ≤ cntL a ks :=
  fun ks n h => forall_nodesL (P := fun x => cnt a x ≤ cntL a ks)
    (fun p hp c hc => Nat.le_trans (cnt_le_cntL hc) (by rw [cnt_eq a p] at hp; omega)) ks (fun _ => cnt_le_cntL) n h

theorem kok_of_mem_nodes (t n : Node) (hk : kok t = true) (h : n ∈ nodes t) : kok n = true :=
  forall_nodes (P := fun x => kok x = true) (fun _ hp => (kokL_iff _).mp (kokL_of_kok hp)) t hk n h

theorem kokL_of_mem_nodesL : ∀ (ks : List Node) (n : Node), kokL ks = true → n ∈ nodesL ks → kok n = true :=
  fun ks n hk h =>
    forall_nodesL (P := fun x => kok x = true) (fun _ hp => (kokL_iff _).mp (kokL_of_kok hp)) ks ((kokL_iff _).mp hk) n h

theorem _root_.Flatland.Tree.Swap.cnt {n n' t t' : Node} (h : Swap n n' t t') (a : Nat) :
    cnt a t' + cnt a n = cnt a t + cnt a n' := by
  induction h with
  | here => omega
  | kid _ ih => simp only [cnt_mk, cntL_append, cntL_cons]; omega

/-- what `stepAtL` did: `nodeStep` on a node `n` below the list with the target identity; the new
    list holds the new `n` in place of the old one and is otherwise the same -/
structure FramedL (ks : List Node) (tid : Nat) (op : Op) (next : Nat) (ks' : List Node) (r : StepR) (n : Node) : Prop where
  mem : n ∈ nodesL ks
  id : n.id = tid
  next_eq : r.next = (nodeStep n op next).next
  out_eq : r.out = (nodeStep n op next).out
  det_eq : r.detached = (nodeStep n op next).detached
  mem' : (nodeStep n op next).node ∈ nodesL ks'
  cnt_eq : ∀ a, cntL a ks' + cnt a n = cntL a ks + cnt a (nodeStep n op next).node

theorem stepAtL_framed (op : Op) (tid : Nat) : ∀ (ks : List Node) (next : Nat) (ks' : List Node) (r : StepR),
    stepAtL ks tid op next = some (ks', r) → ∃ n, FramedL ks tid op next ks' r n := by
  intro ks next ks' r hr
  obtain ⟨pre, k, post, rfl, rfl, hk⟩ := stepAtL_split op tid next _ _ _ hr
  obtain ⟨n, hid, hs, h1, h2, h3⟩ := stepAt_swap op tid next k r hk
  exact ⟨n, mem_nodesL_swap hs.mem, hid, h1, h2, h3, mem_nodesL_swap hs.mem', fun a => by
    have := hs.cnt a; simp only [cntL_append, cntL_cons]; omega⟩

theorem stepAtL_some (op : Op) (tid : Nat) : ∀ (ks : List Node) (next : Nat) (n : Node), n ∈ nodesL ks → n.id = tid →
    ∃ ks' r, stepAtL ks tid op next = some (ks', r) := by
  intro ks next n hn hid
  obtain ⟨k, hk, hnk⟩ := mem_nodesL_iff.mp hn
  obtain ⟨r, hr⟩ := stepAt_found op tid next n hid k hnk
  exact stepAtL_some_of hk (by rw [hr]; rfl)

theorem reach_mem_nodes {root x : Node} (h : Reach root x) : x ∈ nodes root := by
  induction h with
  | root => exact self_mem_nodes _
  | @child p c _ hc ih =>
    have : c ∈ nodes p := by rw [nodes_eq]; exact List.mem_cons_of_mem _ (mem_children_nodesL hc)
    exact mem_nodes_trans _ _ _ ih this

theorem args_disjoint {s : HState} {op : Op} (ha : ArgsFresh s op) : ∀ a ∈ ids s.root, cntL a (placedArgs op) = 0 := by
  intro a hin
  have := List.nodup_iff_count.mp ha.1 a
  rw [List.count_append] at this
  have h2 : 0 < (ids s.root).count a := List.count_pos_iff.mpr hin
  rw [cntL_eq_count]; omega

theorem hstep_framed (s : HState) (h : HOp) (hi : IdInv s) (n : Node) (hn : n ∈ nodes s.root) (hid : n.id = h.target) :
    Swap n (nodeStep n h.op s.next).node s.root (hstep s h).root := by
  obtain ⟨r0, hr0⟩ := stepAt_found h.op h.target s.next n hid s.root hn
  rcases hstep_cases s h with ⟨hnone, _⟩ | ⟨r, hr, e⟩
  · rw [hnone] at hr0; cases hr0
  · obtain ⟨n0, hid0, hs, _⟩ := stepAt_swap h.op h.target s.next s.root r hr
    have hn0 : n0 = n := Lists.eq_of_nodup_map Node.id hi.uniq hs.mem hn (hid0.trans hid.symm)
    rw [e]; exact hn0 ▸ hs

theorem not_reach_of_not_mem_ids {root : Node} {a : Nat} (h : a ∉ ids root) : ∀ x, Reach root x → x.id ≠ a :=
  fun x hx hxid => h (hxid ▸ List.mem_map.mpr ⟨x, reach_mem_nodes hx, rfl⟩)

theorem gone_of_left (s : HState) (h : HOp) (hi : IdInv s) (ha : ArgsFresh s h.op) (n : Node) (hn : n ∈ nodes s.root)
    (hid : n.id = h.target) {left : List Node} (H : Leaves n (placedArgs h.op) s.next (nodeStep n h.op s.next) left) :
    ∀ a ∈ ids s.root, 0 < cntL a left →
      a ∉ ids (hstep s h).root ∧ ∀ x, Reach (hstep s h).root x → x.id ≠ a := by
  intro a hold hl
  have hgone : a ∉ ids (hstep s h).root := by
    intro hin
    -- the identity sits once in the old tree; `n` gives up what leaves, the tree changes only at `n`
    have h0 := H.acc a
    have h1 := cnt_le_of_nodup hi.uniq a
    have h2 := cnt_le_of_mem_nodes a s.root n hn
    have h3 := (hstep_framed s h hi n hn hid).cnt a
    have h4 := (mem_ids_iff _ _).mp hin
    have h6 := args_disjoint ha a hold
    have h7 := ind_eq_zero_of_lt (hi := (nodeStep n h.op s.next).next) (hi.below a hold)
    omega
  exact ⟨hgone, not_reach_of_not_mem_ids hgone⟩

/-- removed ⇒ unreachable (every call of the model, raising or not; the form the Python
    oracle checks).  A call on the element `n` of the tree: a child of `n` before the call that
    is not a child of the element afterwards occurs nowhere in the tree afterwards — in
    particular it is not reachable from the root. -/
theorem removed_unreachable (s : HState) (h : HOp) (hi : IdInv s) (ha : ArgsFresh s h.op)
    (n : Node) (hn : n ∈ nodes s.root) (hid : n.id = h.target) :
    (nodeStep n h.op s.next).node ∈ nodes (hstep s h).root ∧
    ∀ c ∈ children n, c.id ∉ (children (nodeStep n h.op s.next).node).map Node.id →
      c.id ∉ ids (hstep s h).root ∧ ∀ x, Reach (hstep s h).root x → x.id ≠ c.id := by
  refine ⟨(hstep_framed s h hi n hn hid).mem', fun c hc hgone => ?_⟩
  obtain ⟨left, H⟩ := nodeStep_leaves n (kok_of_mem_nodes s.root n hi.keys hn) h.op ((kokL_iff _).mpr ha.2.2) s.next
  have hcr : c.id ∈ ids s.root := (mem_ids_iff _ _).mpr (by
    have := cntL_pos_of_child hc; have := cnt_le_of_mem_nodes c.id s.root n hn; rw [cnt_eq] at this; omega)
  exact gone_of_left s h hi ha n hn hid H c.id hcr ((H.kept c hc).resolve_right hgone)

end Flatland.C08.Proofs
