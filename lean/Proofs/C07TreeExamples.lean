/-
C07 on the tree model — the negation witness of `flattenTree_positional`, C07's theorems on `FNode` transferred to
deep-positional trees (`tree_keys_are_paths`, `tree_flatten_compositional`), non-vacuity along a history.
-/
import Proofs.C07Tree
namespace Flatland.C07Tree.Proofs
open Flatland.Tree Flatland.PyList Flatland.C08 Flatland.C07Tree

def exStr : Schema := .mk { cid := 2, kind := .string, name := some ['s'] } .none []
def exLs : Schema := .mk { cid := 1, kind := .list, name := some ['l'] } .none [exStr]

def leaf (id : Nat) (p : Nat) (u : Str) : Node := .mk { id := id, parent := some p, val := .str u, u := u } exStr []
def slot (id : Nat) (name : Str) (el : Node) : Node := .mk { id := id, parent := some 1, key := name } slotSchema [el]

/-- `List.named('l').of(String.named('s'))(['a', 'b'])` whose second slot kept the name it had
    before a member in front of it was removed without renumbering -/
def exStale : Node :=
  .mk { id := 1, parent := none } exLs [slot 2 ['0'] (leaf 3 2 ['a']), slot 4 ['2'] (leaf 5 4 ['b'])]

/-- the same tree with its slots named by position -/
def exFresh : Node :=
  .mk { id := 1, parent := none } exLs [slot 2 ['0'] (leaf 3 2 ['a']), slot 4 ['1'] (leaf 5 4 ['b'])]

theorem exStale_flatten : flattenTree ['_'] exStale = [("l_0_s".toList, ['a']), ("l_2_s".toList, ['b'])] := by
  decide +kernel

theorem exStale_spec : specFlatten ['_'] exStale = [("l_0_s".toList, ['a']), ("l_1_s".toList, ['b'])] := by
  decide +kernel

/-- Negation witness: without the invariant the statement of `flattenTree_positional` fails:
    a List with ONE stale slot name (what a list operation that forgets — or cuts short — its
    `_renumber()` leaves behind) flattens its second member under `l_2_s` instead of `l_1_s`. -/
theorem flattenTree_stale_differs :
    dp exStale = false ∧ flattenTree ['_'] exStale ≠ specFlatten ['_'] exStale := by
  refine ⟨by decide +kernel, ?_⟩
  rw [exStale_flatten, exStale_spec]
  decide +kernel

/-- the full statement without the hypothesis, kept visible — and refuted -/
def C07_Positional_Unconditional : Prop := ∀ (sep : Str) (n : Node), flattenTree sep n = specFlatten sep n

theorem C07_positional_unconditional_fails : ¬ C07_Positional_Unconditional :=
  fun h => flattenTree_stale_differs.2 (h _ _)

/-- with positional names the same tree satisfies the hypothesis, and the theorem gives its keys -/
example : dp exFresh = true := by decide +kernel
example : flattenTree ['_'] exFresh = specFlatten ['_'] exFresh := flattenTree_positional _ _ (by decide +kernel)
example : flattenTree ['_'] exFresh = Flatland.Flat.flattenNode ['_'] (toFNode exFresh) :=
  flattenTree_eq_flat _ _ (by decide +kernel)

/-- `keys_are_paths` on trees: every pair `flatten()` emits on a deep-positional tree belongs
    to a flattenable element at or beneath the (abstracted) root, and its key is the
    separator-join of the names on the path, list members contributing their current index. -/
theorem tree_keys_are_paths (sep : Str) (n : Node) (h : dp n = true) (x : Str × Str) (hx : x ∈ flattenTree sep n) :
    ∃ p' n', Flatland.Flat.Proofs.Below [] (toFNode n) p' n' ∧ n'.fl = true ∧
      x = (Flatland.Flat.joinSep sep (Flatland.Flat.namePath p' n'), n'.u) := by
  rw [flattenTree_eq_flat sep n h] at hx
  exact Flatland.Flat.Proofs.keys_are_paths sep (toFNode n) x hx

theorem tree_flatten_compositional (sep : Str) (n : Node) (h : dp n = true) :
    (flattenTree sep n).Perm
      (Flatland.Flat.ownPair sep ([], toFNode n) ++
        (Flatland.Flat.childItems [] (toFNode n)).flatMap (fun it => Flatland.Flat.flattenAt sep it.1 it.2)) := by
  rw [flattenTree_eq_flat sep n h]
  exact Flatland.Flat.Proofs.flatten_root_compositional sep (toFNode n) (toFNode_cfl n)

def exX : Schema := .mk { cid := 11, kind := .string, name := some ['x'] } .none []
def exI : Schema := .mk { cid := 14, kind := .integer } .none []
def exN : Schema := .mk { cid := 12, kind := .list, name := some ['n'] } .none [exI]
def exD : Schema := .mk { cid := 10, kind := .dict } .none [exX, exN]
def exLoD : Schema := .mk { cid := 13, kind := .list, name := some ['l'] } .none [exD]

def dv (x : Str) (ns : List Int) : Raw := .dict [(['x'], .str x), (['n'], .list (ns.map Raw.int))]

/-- `List.named('l').of(Dict.of(String.named('x'), List.named('n').of(Integer)))([{x:'b', n:[1,2]}, {x:'a', n:[3]}, {x:'c', n:[]}])` -/
def exStart : HState :=
  match construct exLoD (.list [dv ['b'] [1, 2], dv ['a'] [3], dv ['c'] []]) none [] 1 with
  | (.ok n, next) => ⟨n, next⟩
  | (.error _, next) => ⟨(blank exLoD none [] next).1, next + 1⟩

/-- `l.insert(-1, {x:'0', n:[9]})`, `l.sort(key=lambda e: e['x'].u)`, `del l[::2]` -/
def exHist : List HOp :=
  [⟨1, .seq (.insert (-1) (.plain (dv ['0'] [9])))⟩,
   ⟨1, .seq (.sort (some .field) false)⟩,
   ⟨1, .seq (.delslice ⟨none, none, some 2⟩)⟩]

example : dp exStart.root = true := by decide +kernel
example : dp (hrun exStart exHist).root = true := by decide +kernel
example : ((hrun exStart exHist).root.kids.map Node.key) = [['0'], ['1']] := by decide +kernel
/-- the theorem applies after every step of the history -/
example (k : Nat) (hk : k ≤ 3) :
    flattenTree ['_'] (hrun exStart (exHist.take k)).root = specFlatten ['_'] (hrun exStart (exHist.take k)).root := by
  apply flattenTree_positional
  revert k
  decide +kernel

end Flatland.C07Tree.Proofs
