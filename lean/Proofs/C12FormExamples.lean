/-
Non-vacuity of the whole-form theorems of C12: a form with every leaf kind and every control group.
-/
import Proofs.C12Form
namespace Flatland.C12.Proofs
open Flatland.Markup Flatland.C12

private def s (x : String) : Str := x.toList
private def stale : Attrs := [(sChecked, .text sChecked)]

/-- a Dict with a text field, two Booleans (one checked, one not — both with a stale `checked=`
    the transform must override), a List of two Dicts, two Arrays (one with a repeated member), a
    select, a button and a JoinedString -/
def exForm : FormTree :=
  .dict (some (s "f")) [
    .text (some (s "a")) (s "hello") (.input (some (s "text"))) [],
    .bool (some (s "b")) (s "1") (s "1") [stale],
    .bool (some (s "c")) (s "1") [] [stale],
    .list (some (s "l")) [
      .dict none [.text (some (s "x")) (s "1 & <2>") .textarea [], .bool (some (s "b")) (s "yes") (s "yes") []],
      .dict none [.text (some (s "x")) (s "2") (.radios (s "radio") [s "9", s "2", s "x"]) [stale, [], stale],
                  .bool (some (s "b")) (s "yes") [] []]],
    .array (some (s "arr")) true [s "p", s "q r"] .checkboxes [[], stale],
    .array (some (s "m")) false [s " p", s " p"] .selectMultiple [],
    .text (some (s "s")) (s "v1") (.select [s "v1", s "v2"]) [[], [(sSelected, .text sSelected)]],
    .text (some (s "k")) (s "go") .button [],
    .joined (some (s "j")) (s "a,b") [s "a", s "b"] (some (s "hidden")) []]

theorem natStr0 : Flatland.Flat.natStr 0 = ['0'] := by simp [Flatland.Flat.natStr]; rfl
theorem natStr1 : Flatland.Flat.natStr 1 = ['1'] := by simp [Flatland.Flat.natStr]; rfl

/-- the hypotheses of `form_roundtrip` hold for it -/
theorem exForm_ok : formOk Tables.current [] exForm = true := by
  simp only [exForm, formOk, fieldsOk, slotsOk, slotName, Nat.reduceAdd, natStr0, natStr1]
  decide +kernel

theorem exForm_canonical : boolsCanonical exForm = true := by
  simp only [exForm, boolsCanonical, allCanonical]
  decide +kernel

theorem exForm_pairs : formPairs [] exForm =
    [(s "f_a", s "hello"), (s "f_b", s "1"),
     (s "f_l_0_x", s "1 & <2>"), (s "f_l_0_b", s "yes"), (s "f_l_1_x", s "2"),
     (s "f_arr", s "p"), (s "f_arr", s "q r"), (s "f_m", s " p"), (s "f_m", s " p"),
     (s "f_s", s "v1"), (s "f_k", s "go"), (s "f_j", s "a,b")] := by
  simp only [exForm, formPairs, fieldPairs, slotPairs, slotName, Nat.reduceAdd, natStr0, natStr1]
  decide +kernel

/-- … and the ones it cannot carry: the two unchecked boxes -/
theorem exForm_unchecked : uncheckedPairs [] exForm = [(s "f_c", []), (s "f_l_1_b", [])] := by
  simp only [exForm, uncheckedPairs, uncheckedFields, uncheckedSlots, slotName, Nat.reduceAdd, natStr0, natStr1]
  decide +kernel

/-- the rendered form: 15 control groups (13 inputs / textarea / button, two `<select>`s with two options each) -/
example : (renderForm [] exForm).length = 15 := by decide +kernel

theorem exForm_one : oneSubmitter exForm = true := by decide +kernel

/-- so a browser submits exactly those twelve pairs for the form rendered by `Generator()`, submitted
    through its one button -/
theorem exForm_posts :
    browserSubmit (seenOf Tables.current freshGen.ctx) (some 0) (renderForm [] exForm) = .ok (formPairs [] exForm) :=
  form_roundtrip_fresh exForm exForm_ok exForm_one

/-- the same with every tag call made through `prepareTag`, as the runner makes them -/
theorem exForm_posts_generator :
    browserSubmit (seenVia Tables.current Flatland.Generated.C11.staticAttributeOrder freshGen) (some 0)
      (renderForm [] exForm) = .ok (formPairs [] exForm) :=
  form_roundtrip_fresh_generator exForm exForm_ok exForm_one

/-- and `flatten()` of the same tree emits those twelve plus the two `''` pairs of the unchecked boxes -/
theorem exForm_flatten :
    (Flatland.Flat.flattenNode usep (embed exForm)).Perm (formPairs [] exForm ++ uncheckedPairs [] exForm) :=
  formPairs_flatten exForm

/-- the hypotheses exclude what the open findings are about -/
example : widgetOk (s "\nx") .textarea = false := by decide +kernel                        -- KF-C12-f
example : textLikeTy (some (s "password")) = false ∧ textLikeTy (some (s "FILE")) = false ∧
    textLikeTy (some (s "image")) = false := by decide +kernel                              -- KF-C12-a
example : textLikeTy none = true ∧ textLikeTy (some []) = true ∧ textLikeTy (some (s "TEXT")) = true ∧
    textLikeTy (some (s "email")) = true := by decide +kernel
/-- a type the library and a browser read differently (KELVIN SIGN lower-cases to `k`) is excluded -/
example : checkTy ['c', 'h', 'e', 'c', Char.ofNat 0x212A, 'b', 'o', 'x'] = false := by decide +kernel

/-- controls whose `value` a browser never posts are not text-like: such a leaf is outside `formOk` -/
example : textLikeTy (some (s "reset")) = false ∧ textLikeTy (some (s "Button")) = false ∧
    textLikeTy (some (s "submit")) = true := by decide +kernel

/-- Submitters: the example form has exactly one (its button); a form with a button and a submit
    input has two: only the activated one would post, so it is outside `oneSubmitter` and the
    whole-form theorems say nothing about it. -/
example : submitters exForm = 1 ∧ oneSubmitter exForm = true := ⟨by decide +kernel, exForm_one⟩
def exTwoSubmitters : FormTree :=
  .dict (some (s "f")) [.text (some (s "k")) (s "go") .button [],
                        .text (some (s "z")) (s "send") (.input (some (s "Submit"))) []]
theorem exTwoSubmitters_ok : formOk Tables.current [] exTwoSubmitters = true := by decide +kernel
example : formOk Tables.current [] exTwoSubmitters = true ∧ oneSubmitter exTwoSubmitters = false :=
  ⟨exTwoSubmitters_ok, by decide +kernel⟩
/-- … and submitted without pressing either, neither leaf is posted (`form_unpressed`) -/
theorem exTwoSubmitters_unpressed :
    browserSubmit (seenVia Tables.current Flatland.Generated.C11.staticAttributeOrder freshGen) none
      (renderForm [] exTwoSubmitters) = .ok [] :=
  form_unpressed exTwoSubmitters exTwoSubmitters_ok
/-- the example form submitted with Enter instead of its button: everything but the button's pair -/
theorem exForm_quiet : quietPairs [] exForm =
    [(s "f_a", s "hello"), (s "f_b", s "1"),
     (s "f_l_0_x", s "1 & <2>"), (s "f_l_0_b", s "yes"), (s "f_l_1_x", s "2"),
     (s "f_arr", s "p"), (s "f_arr", s "q r"), (s "f_m", s " p"), (s "f_m", s " p"),
     (s "f_s", s "v1"), (s "f_j", s "a,b")] := by
  simp only [exForm, quietPairs, quietFieldPairs, quietSlotPairs, formPairs, slotName, Nat.reduceAdd, natStr0, natStr1]
  decide +kernel
theorem exForm_unpressed :
    browserSubmit (seenVia Tables.current Flatland.Generated.C11.staticAttributeOrder freshGen) none
      (renderForm [] exForm) = .ok (quietPairs [] exForm) :=
  form_unpressed exForm exForm_ok
/-- the browser rule on single controls: which ones post at all, and which are submitters -/
example : submitted sInput [(sType, s "reset"), (sName, s "n"), (sValue, s "v")] [] = none ∧
    submitted sInput [(sType, s "FILE"), (sName, s "n"), (sValue, s "v")] [] = none ∧
    submitted (s "button") [(sType, s "reset"), (sName, s "n"), (sValue, s "v")] [] = none ∧
    submitted (s "button") [(sName, s "n"), (sValue, s "v")] [] = some (s "n", s "v") ∧
    isSubmitter (s "button") [(sName, s "n")] = true ∧
    isSubmitter sInput [(sType, s "SUBMIT")] = true ∧ isSubmitter sInput [(sType, s "text")] = false := by decide +kernel

end Flatland.C12.Proofs
