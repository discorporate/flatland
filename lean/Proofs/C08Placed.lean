/-
"An element placed into a container is a child of that container": every call that
places Element arguments (append, extend, +=, insert, item and slice assignment on sequences;
item assignment and update on a SparseDict) and returns normally leaves each of them as a direct
child of the target, with the stored parent pointer designating the container (`PlacedIn`).
-/
import Proofs.C08Frame
namespace Flatland.C08.Proofs
open Flatland.Tree Flatland.PyList Flatland.C08 Flatland.C08.Spec
open Flatland.C10.Proofs (findKid_some)

theorem placedIn_iff {n' e : Node} : PlacedIn n' e ↔
    (n'.kind = .list ∧ ∃ slot ∈ n'.kids, slot.parent = some n'.id ∧ slot.kids = [e.withParent (some slot.id)]) ∨
    ((n'.kind = .array ∨ n'.kind = .multi) ∧ e.withParent (some n'.id) ∈ n'.kids) ∨
    ((n'.kind = .dict ∨ n'.kind = .sparse) ∧ ∃ key, (e.withParent (some n'.id)).withKey key ∈ n'.kids) := by
  unfold PlacedIn
  cases n'.kind <;>
    simp only [reduceCtorEq, false_and, false_or, or_false, true_and, or_self, or_true]

theorem placedIn_list {n' e : Node} (hk : n'.kind = .list)
    (h : ∃ slot ∈ n'.kids, slot.parent = some n'.id ∧ slot.kids = [e.withParent (some slot.id)]) : PlacedIn n' e :=
  placedIn_iff.mpr (.inl ⟨hk, h⟩)

theorem placedIn_arr {n' e : Node} (hk : n'.kind = .array ∨ n'.kind = .multi)
    (h : e.withParent (some n'.id) ∈ n'.kids) : PlacedIn n' e :=
  placedIn_iff.mpr (.inr (.inl ⟨hk, h⟩))

theorem placedIn_map {n' e : Node} (hk : n'.kind = .dict ∨ n'.kind = .sparse)
    (h : ∃ key, (e.withParent (some n'.id)).withKey key ∈ n'.kids) : PlacedIn n' e :=
  placedIn_iff.mpr (.inr (.inr ⟨hk, h⟩))

theorem placedIn_child {n' e : Node} (h : PlacedIn n' e) : ∃ c ∈ children n', c.id = e.id ∧ c.kids = e.kids ∧ c.sch = e.sch := by
  rcases placedIn_iff.mp h with ⟨hk, slot, hs, _, hkids⟩ | ⟨hk, hm⟩ | ⟨hk, key, hm⟩
  · rw [children_list hk]
    exact ⟨e.withParent (some slot.id), List.mem_flatMap.mpr ⟨slot, hs, by rw [hkids]; simp⟩,
      id_withParent _ _, kids_withParent _ _, sch_withParent _ _⟩
  · rw [children_kids (hk.elim .inl (fun h => .inr (.inl h)))]
    exact ⟨_, hm, id_withParent _ _, kids_withParent _ _, sch_withParent _ _⟩
  · rw [children_kids (hk.elim (fun h => .inr (.inr (.inl h))) (fun h => .inr (.inr (.inr h))))]
    exact ⟨_, hm, by rw [id_withKey, id_withParent], by rw [kids_withKey, kids_withParent], by cases e; rfl⟩

theorem placedIn_of_prefix {n1 n2 e : Node} {extra : List Node} (h : PlacedIn n1 e) (hk : n2.kids = n1.kids ++ extra)
    (hid : n2.id = n1.id) (hkind : n2.kind = n1.kind) : PlacedIn n2 e := by
  rw [placedIn_iff, hkind, hk, hid]
  rcases placedIn_iff.mp h with ⟨hl, slot, hs, hp⟩ | ⟨ha, hm⟩ | ⟨hd, key, hm⟩
  · exact .inl ⟨hl, slot, List.mem_append.mpr (.inl hs), hp⟩
  · exact .inr (.inl ⟨ha, List.mem_append.mpr (.inl hm)⟩)
  · exact .inr (.inr ⟨hd, key, List.mem_append.mpr (.inl hm)⟩)

theorem seq_not_list {n : Node} (hseq : IsSeq n.kind) (h : ¬ n.kind = .list) : n.kind = .array ∨ n.kind = .multi := by
  rcases hseq with h1 | h1 | h1
  · exact absurd h1 h
  · exact .inl h1
  · exact .inr h1

theorem appendEl_placed (n e : Node) (next : Nat) (hseq : IsSeq n.kind) : PlacedIn (appendEl n e next).1 e := by
  unfold appendEl
  split
  · rename_i hk
    refine placedIn_list (by rw [kind_withKids]; exact hk)
      ⟨mkSlot next n.id n.kids.length e, by rw [kids_withKids]; simp, by rw [id_withKids]; rfl, rfl⟩
  · rename_i hk
    refine placedIn_arr (by rw [kind_withKids]; exact seq_not_list hseq hk) ?_
    rw [kids_withKids, id_withKids]; simp

theorem Appends.placed {m : Schema} {n n' : Node} {k k' : Nat} {used : List Arg} (h : Appends m n k used n' k')
    (hseq : IsSeq n.kind) : n'.kind = n.kind ∧ ∀ e, Arg.elem e ∈ used → PlacedIn n' e := by
  induction h with
  | done => exact ⟨rfl, fun e he => nomatch he⟩
  | bump a _ ih => exact ih hseq
  | @step n k a w k1 used n' k' hw hrest ih =>
    obtain ⟨hkind, hpl⟩ := ih (by rw [appendEl_kind]; exact hseq)
    refine ⟨hkind.trans (appendEl_kind n w k1), fun e he => ?_⟩
    rcases List.mem_cons.mp he with h | h
    · -- the argument just appended; the rest of the loop only appends
      have hwe : w = e := by
        rw [← h] at hw; simp only [wrap, Prod.mk.injEq, Except.ok.injEq] at hw; exact hw.1.symm
      obtain ⟨hid, extra, hpre⟩ := hrest.kids_prefix
      exact placedIn_of_prefix (hwe ▸ appendEl_placed n w k1 hseq) hpre hid hkind
    · exact hpl e h

theorem mem_renumberFrom {l : List Node} {x : Node} (h : x ∈ l) (k : Nat) : ∃ key, x.withKey key ∈ renumberFrom k l := by
  induction l generalizing k with
  | nil => cases h
  | cons y ys ih =>
    rw [renumberFrom]
    rcases List.mem_cons.mp h with h1 | h1
    · exact ⟨(toString k).toList, by rw [h1]; simp⟩
    · obtain ⟨key, hk⟩ := ih h1 (k + 1)
      exact ⟨key, List.mem_cons_of_mem _ hk⟩

theorem placed_slot {n e slot : Node} {ks : List Node} (hk : n.kind = .list) (hs : slot ∈ ks)
    (hp : slot.parent = some n.id) (hkids : slot.kids = [e.withParent (some slot.id)]) :
    PlacedIn (n.withKids ks) e ∧ PlacedIn (n.withKids (renumber ks)) e := by
  refine ⟨placedIn_list (by rw [kind_withKids]; exact hk) ⟨slot, by rw [kids_withKids]; exact hs, by rw [id_withKids]; exact hp, hkids⟩, ?_⟩
  obtain ⟨key, hm⟩ := mem_renumberFrom hs 0
  refine placedIn_list (by rw [kind_withKids]; exact hk) ⟨slot.withKey key, by rw [kids_withKids]; exact hm, ?_, ?_⟩
  · rw [id_withKids, parent_withKey]; exact hp
  · rw [kids_withKey, id_withKey]; exact hkids

theorem placed_arr {n e : Node} {ks : List Node} (hk : n.kind = .array ∨ n.kind = .multi)
    (hs : e.withParent (some n.id) ∈ ks) : PlacedIn (n.withKids ks) e :=
  placedIn_arr (by rw [kind_withKids]; exact hk) (by rw [kids_withKids, id_withKids]; exact hs)

theorem wrapAll_elems_mem (m : Schema) (as : List Arg) : ∀ (next n1 : Nat) (ws : List Node),
    wrapAll m as next = (.ok ws, n1) → ∀ e, Arg.elem e ∈ as → e ∈ ws := by
  induction as with
  | nil => intro _ _ _ _ e he; cases he
  | cons a as ih =>
    intro next n1 ws h e he
    rw [wrapAll] at h
    split at h
    · cases h
    · rename_i w n2 hw
      split at h
      · cases h
      · rename_i ws' n3 hws
        cases h
        rcases List.mem_cons.mp he with h1 | h1
        · rw [← h1] at hw; simp only [wrap, Prod.mk.injEq, Except.ok.injEq] at hw
          rw [hw.1]; simp
        · exact List.mem_cons_of_mem _ (ih _ _ _ hws e h1)

theorem newSlots_mem (lst len : Nat) (ws : List Node) : ∀ (next : Nat) (w : Node), w ∈ ws →
    ∃ id, mkSlot id lst len w ∈ (newSlots lst len ws next).1 := by
  induction ws with
  | nil => intro _ w hw; cases hw
  | cons x xs ih =>
    intro next w hw
    rw [newSlots]
    rcases List.mem_cons.mp hw with h | h
    · exact ⟨next, by rw [h]; simp⟩
    · obtain ⟨id, hid⟩ := ih (next + 1) w h
      exact ⟨id, List.mem_cons_of_mem _ hid⟩

/-- placed ⇒ child, sequences: a placing call that returns normally leaves every Element
    argument as a direct child of the sequence, its stored parent pointer designating the
    sequence (through a slot of the List that the List lists and that points to the List). -/
theorem SeqShape.placed {n : Node} {next : Nat} {op : SeqOp} {r : StepR} (h : SeqShape n next op r)
    (hw : wp n = true) (hseq : IsSeq n.kind) (hno : noExc r.out) : ∀ e ∈ placedSeq op, PlacedIn r.node e := by
  intro e he
  cases h with
  | keep hn hpl => rw [hpl hno] at he; cases he
  | @place m args ws k news n2 ks ks' rem hm hwr hpl hit hin hperm hks =>
    have hews := wrapAll_elems_mem m args next k ws hwr e (mem_argElems_flatMap (hpl ▸ he))
    unfold seqItems at hit
    unfold seqFin at hks
    by_cases hk : n.kind = .list
    · rw [if_pos hk] at hit hks
      obtain ⟨id, hid⟩ := newSlots_mem n.id n.kids.length ws k e hews
      rw [hit] at hid
      rw [hks]; exact (placed_slot hk (hin _ hid) rfl rfl).2
    · rw [if_neg hk] at hit hks
      have hid : e.withParent (some n.id) ∈ news := by
        rw [← (Prod.mk.inj hit).1]; exact List.mem_map.mpr ⟨e, hews, rfl⟩
      rw [hks]; exact placed_arr (seq_not_list hseq hk) (hin _ hid)
  | drop hn hout hpl => rw [hpl] at he; cases he
  | grow hm hch hpl hfull hexc => exact (hch.placed hseq).2 e (hfull hno e he)
  | @slotElem i x slot k hopq hlist hl =>
    subst hopq
    rw [List.mem_singleton.mp he]
    have hlt : k < n.kids.length := (List.getElem?_eq_some_iff.mp hl).1
    refine (placed_slot (slot := slot.withKids [x.withParent (some slot.id)]) hlist (List.mem_set hlt _) ?_ ?_).1
    · rw [parent_withKids]; exact ((wp_iff n).mp hw slot (List.mem_of_getElem? hl)).1
    · rw [kids_withKids, id_withKids]
  | slotSet hopq => subst hopq; cases he
  | set hopq => subst hopq; cases he
  | setDefault hopq => subst hopq; cases he

theorem seqStep_placed (n : Node) (hw : wp n = true) (hseq : IsSeq n.kind) (op : SeqOp) (next : Nat)
    (hno : noExc (seqStep n op next).out) : ∀ e ∈ placedSeq op, PlacedIn (seqStep n op next).node e :=
  (seqStep_shape n op next).placed hw hseq hno

theorem mapSetItem_hdr (n : Node) (key : Str) (a : Arg) (next : Nat) : (mapSetItem n key a next).node.hdr = n.hdr :=
  (mapSetItem_shape n key a next).hdr

/-- `sparse[key] = element` for an element of the declared field class: the element itself is
    stored (not copied), keyed and re-parented -/
theorem mapSetItem_placed (n : Node) (hs : n.kind = .sparse) (key : Str) (e : Node) (f : Schema)
    (hf : fieldFor n.sch.subs key = some f) (hi : isInstance e f = true) (next : Nat) :
    noExc (mapSetItem n key (.elem e) next).out ∧
    (e.withParent (some n.id)).withKey key ∈ (mapSetItem n key (.elem e) next).node.kids ∧
    PlacedIn (mapSetItem n key (.elem e) next).node e := by
  have hmain : noExc (mapSetItem n key (.elem e) next).out ∧
      (e.withParent (some n.id)).withKey key ∈ (mapSetItem n key (.elem e) next).node.kids := by
    unfold mapSetItem
    simp only [hs, if_true, hf]
    split
    · simp only [hi, if_true]
      exact ⟨trivial, by rw [kids_withKids]; simp⟩
    · rename_i child hc
      simp only [hi, if_true]
      exact ⟨trivial, by rw [kids_withKids]; exact mem_replaceKid_new hc⟩
  refine ⟨hmain.1, hmain.2, ?_⟩
  have hh := mapSetItem_hdr n key (.elem e) next
  refine placedIn_map (.inr (by rw [kind_of_hdr hh]; exact hs)) ⟨key, ?_⟩
  rw [id_of_hdr hh]; exact hmain.2

theorem mapStep_hdr (n : Node) (op : MapOp) (next : Nat) : (mapStep n op next).node.hdr = n.hdr :=
  (mapStep_shape n op next).hdr

theorem nodeStep_hdr (n : Node) (op : Op) (next : Nat) : (nodeStep n op next).node.hdr = n.hdr := by
  rcases nodeStep_cases n op next with ⟨o, rfl, _, h⟩ | ⟨o, rfl, _, h⟩ | h <;> rw [h]
  · exact seqStep_hdr n o next
  · exact mapStep_hdr n o next
  · rfl

theorem mapUpdateArgs_keeps (kvs : List (Str × Arg)) : ∀ (n : Node) (next : Nat) (x : Node), x ∈ n.kids →
    (∀ p ∈ kvs, p.1 ≠ x.key) → x ∈ (mapUpdateArgs n kvs next).node.kids := by
  induction kvs with
  | nil => intro n next x hx _; exact hx
  | cons kv rest ih =>
    intro n next x hx hne
    obtain ⟨k, a⟩ := kv
    have h1 := (mapSetItem_shape n k a next).keeps hx (fun h => hne (k, a) (by simp) h.symm)
    rw [mapUpdateArgs]
    split
    · exact h1
    · exact ih _ _ x h1 (fun p hp => hne p (by simp [hp]))

/-- `sparse.update(...)` / `|=` with Element values: the element given last for a key, if it is of
    the declared field class, is the child stored under that key afterwards -/
theorem mapUpdateArgs_placed (pre post : List (Str × Arg)) (k : Str) (e : Node) (f : Schema) :
    ∀ (n : Node) (next : Nat), n.kind = .sparse → fieldFor n.sch.subs k = some f → isInstance e f = true →
      (∀ p ∈ post, p.1 ≠ k) → noExc (mapUpdateArgs n (pre ++ (k, .elem e) :: post) next).out →
      PlacedIn (mapUpdateArgs n (pre ++ (k, .elem e) :: post) next).node e := by
  induction pre with
  | nil =>
    intro n next hs hf hi hpost hno
    have hp := mapSetItem_placed n hs k e f hf hi next
    have hh := mapSetItem_hdr n k (.elem e) next
    rw [List.nil_append, mapUpdateArgs] at hno ⊢
    split
    · rename_i ex hex
      rw [hex] at hp; exact hp.1.elim
    · have hk := mapUpdateArgs_keeps post (mapSetItem n k (.elem e) next).node (mapSetItem n k (.elem e) next).next _ hp.2.1
        (fun p hp' => by rw [key_withKey]; exact hpost p hp')
      have hh2 := mapUpdateArgs_hdr post (mapSetItem n k (.elem e) next).node (mapSetItem n k (.elem e) next).next
      refine placedIn_map (.inr (by rw [kind_of_hdr hh2, kind_of_hdr hh]; exact hs)) ⟨k, ?_⟩
      rw [id_of_hdr hh2, id_of_hdr hh]; exact hk
  | cons kv pre ih =>
    intro n next hs hf hi hpost hno
    obtain ⟨k', a'⟩ := kv
    have hh := mapSetItem_hdr n k' a' next
    rw [List.cons_append, mapUpdateArgs] at hno ⊢
    split
    · rename_i ex hex
      rw [hex] at hno; exact hno.elim
    · rename_i hnex
      split at hno
      · rename_i ex hex; exact absurd hex (hnex ex)
      · exact ih _ _ (by rw [kind_of_hdr hh]; exact hs) (by rw [sch_of_hdr hh]; exact hf) hi hpost hno

end Flatland.C08.Proofs
