/-
C17 — properties is a layered mapping: inherited downward, never leaking upward.

Theorems about model A (`Flatland/C17.lean`) against spec B (`Flatland/Spec/C17.lean`).
-/
import Proofs.Lemmas.C17Inv
import Proofs.Lemmas.C17Stack
namespace Flatland.C17.Proofs
open Flatland.C17 Flatland.C17.Spec

def viewMro (σ : State) : View → List ClassId
  | .cls w => σ.mroOf w
  | .inst i => match σ.insts[i]? with | some x => σ.mroOf x.cls | none => []

/-- `W` inherits from `V`: `V` is `W` itself or a class in the MRO of `W` (of `W`'s class) -/
def Inherits (σ : State) (W V : View) : Prop :=
  match V with
  | .cls v => v ∈ viewMro σ W
  | .inst i => W = .inst i

/-- `τ` holds unchanged all that the view `W` reads in `σ`: its own `__dict__` entry (an instance view), the MRO it
    walks, and for each class of that MRO the `properties` entry of its `__dict__` and the dict object it would write to -/
structure SameFor (W : View) (σ τ : State) : Prop where
  inst : ∀ i, W = .inst i → τ.insts[i]? = σ.insts[i]?
  mro : viewMro τ W = viewMro σ W
  own : ∀ x ∈ viewMro σ W, τ.ownOf x = σ.ownOf x
  frames : ∀ x ∈ viewMro σ W, ∀ d, AList.get? τ.frames (σ.baseKey x d) = AList.get? σ.frames (σ.baseKey x d)

theorem tGet_same {σ τ : State} {w : ClassId} (hm : τ.mroOf w = σ.mroOf w)
    (ho : ∀ x ∈ σ.mroOf w, τ.ownOf x = σ.ownOf x)
    (hf : ∀ x ∈ σ.mroOf w, ∀ d, AList.get? τ.frames (σ.baseKey x d) = AList.get? σ.frames (σ.baseKey x d)) :
    τ.descOf w = σ.descOf w ∧ ∀ d k, tGet τ w d k = tGet σ w d k :=
  ⟨descOf_ext σ τ w hm ho, fun d k => by
    simp only [tGet, tFrames, lookupFrames_flat, walk_flatten, hm,
      chainFrames_ext σ τ d (σ.mroOf w) ho (fun x hx => hf x hx d)]⟩

theorem SameFor.visible {W : View} {σ τ : State} (h : SameFor W σ τ) : visible τ W = visible σ W := by
  funext k
  cases W with
  | cls w =>
    obtain ⟨hd, hg⟩ := tGet_same h.mro h.own h.frames
    simp only [C17.visible, hd, hg]
  | inst i =>
    have hi := h.inst i rfl
    simp only [C17.visible, hi]
    cases hx : σ.insts[i]? with
    | none => rfl
    | some x =>
      have hm := h.mro
      have ho := h.own
      have hf := h.frames
      simp only [viewMro, hi, hx] at hm ho hf
      obtain ⟨hd, hg⟩ := tGet_same hm ho hf
      simp only [hd, iGet, hg]

theorem SameFor_setFrame (σ : State) (hs : NoShared σ) (v : ClassId) (d : DescId) (f : Frame) (W : View)
    (h : v ∉ viewMro σ W) : SameFor W σ (σ.setFrame (σ.baseKey v d) f) :=
  ⟨fun _ _ => rfl, rfl, fun _ _ => rfl, fun x hx d' => by
    rw [frames_setFrame, if_neg (Ne.symm (baseKey_ne σ hs x v d d' (fun e => h (e ▸ hx))))]⟩

theorem SameFor_insts {σ τ : State} (hc : τ.classes = σ.classes) (hf : τ.frames = σ.frames) (W : View)
    (hi : ∀ i, W = .inst i → τ.insts[i]? = σ.insts[i]?) : SameFor W σ τ := by
  have hm : τ.mroOf = σ.mroOf := funext (mroOf_congr hc)
  refine ⟨hi, ?_, fun x _ => ownOf_congr hc x, fun _ _ _ => by rw [hf]⟩
  cases W with
  | cls w => exact congrFun hm w
  | inst i => simp only [viewMro, hi i rfl, hm]

theorem tWrite_state (σ : State) (v : ClassId) (d : DescId) (o : Op) :
    (tWrite σ v d o).1 = σ ∨ ∃ f, (tWrite σ v d o).1 = σ.setFrame (σ.baseKey v d) f := by
  rw [tWrite_eq]
  cases (writeOp (tGet σ v d) ((tItems σ v d).map (·.1)) o).1 with
  | none => exact .inl rfl
  | some g => exact .inr ⟨_, rfl⟩

/-- `cls.properties.<o>`, every method: the store `_TypeLookup`'s writer leaves (a reading method falls through it) and
    the result -/
theorem classOp_eq (σ : State) (v : ClassId) (d : DescId) (o : Op)
    (hv : v < σ.classes.length) (hd : σ.descOf v = some d) :
    classOp σ v o = ((tWrite σ v d o).1, opResult (tReader σ v d) ((tItems σ v d).map (·.1)) o) := by
  simp only [classOp, hv, if_true, hd, opResult]
  cases hr : dictLikeRead (tReader σ v d) o with
  | some r => cases o <;> first | rfl | cases hr
  | none => simp only [tWrite_eq]; rfl

theorem classOp_state (σ : State) (v : ClassId) (o : Op) :
    (classOp σ v o).1 = σ ∨ ∃ d f, v < σ.classes.length ∧ σ.descOf v = some d ∧
      (classOp σ v o).1 = σ.setFrame (σ.baseKey v d) f := by
  by_cases hv : v < σ.classes.length
  · cases hd : σ.descOf v with
    | none => left; simp only [classOp, hv, if_true, hd]
    | some d =>
      rw [classOp_eq σ v d o hv hd]
      rcases tWrite_state σ v d o with h | ⟨f, h⟩
      · exact .inl h
      · exact .inr ⟨d, f, hv, rfl, h⟩
  · left; simp only [classOp, hv, if_false]

/-- local storage is a Python dict: its keys are distinct -/
def KeysNodup : Local → Prop
  | .storage f => (f.map (·.1)).Nodup
  | .plain _ => True

theorem iWrite_nodup (σ : State) (f : Frame) (c : ClassId) (d : DescId) (o : Op)
    (hn : (f.map (·.1)).Nodup) : (((iWrite σ f c d o).1).map (·.1)).Nodup := by
  rw [iWrite_eq]
  refine writeOp_nodup _ _ o _ ?_
  cases o <;> first | exact hn | exact List.nodup_nil

theorem set_self_of_getElem? {α : Type} (l : List α) (i : Nat) (a : α) (h : l[i]? = some a) :
    l.set i a = l := by
  obtain ⟨hlt, rfl⟩ := List.getElem?_eq_some_iff.1 h
  exact List.set_getElem_self hlt

/-- `instance.properties.<o>` on local storage, every method: `local` becomes what `_InstanceLookup`'s writer leaves -/
theorem instOp_eq (σ : State) (i : InstId) (x : Inst) (f : Frame) (d : DescId) (o : Op)
    (hx : σ.insts[i]? = some x) (hloc : x.loc = .storage f) (hd : σ.descOf x.cls = some d) :
    instOp σ i o = (setInst σ i { x with loc := .storage (iWrite σ f x.cls d o).1 },
      opResult (iReader σ f x.cls d) ((tItems σ x.cls d).map (·.1)) o) := by
  simp only [instOp, hx, hloc, hd, opResult]
  cases hr : dictLikeRead (iReader σ f x.cls d) o with
  | some r =>
    have hf : (iWrite σ f x.cls d o).1 = f := by cases o <;> first | rfl | cases hr
    have hself : ({ x with loc := .storage f } : Inst) = x := by cases x; simp_all
    simp only [hf, hself, setInst, set_self_of_getElem? _ i x hx]
  | none => simp only [iWrite_eq]; rfl

theorem instOp_state (σ : State) (i : InstId) (o : Op) :
    (instOp σ i o).1 = σ ∨ ∃ x y, σ.insts[i]? = some x ∧ y.cls = x.cls ∧
      (KeysNodup x.loc → KeysNodup y.loc) ∧ (instOp σ i o).1 = setInst σ i y := by
  cases hx : σ.insts[i]? with
  | none => left; simp only [instOp, hx]
  | some x =>
    cases hloc : x.loc with
    | plain m =>
      right; refine ⟨x, { x with loc := .plain (plainOp m o).1 }, rfl, rfl, fun _ => trivial, ?_⟩
      simp only [instOp, hx, hloc]
    | storage f =>
      cases hd : σ.descOf x.cls with
      | none => left; simp only [instOp, hx, hloc, hd]
      | some d =>
        right
        refine ⟨x, { x with loc := .storage (iWrite σ f x.cls d o).1 }, rfl, rfl, fun h => ?_,
          congrArg Prod.fst (instOp_eq σ i x f d o hx hloc hd)⟩
        rw [hloc] at h
        exact iWrite_nodup σ f x.cls d o h

/-- No upward leak: an operation made through view `V` never changes what a view `W`
    that does not inherit from `V` shows: parents, siblings, cousins, their instances, other
    instances of the same class, and (for an operation through an instance) every other view. -/
theorem no_upward_leak (σ : State) (hs : NoShared σ) (V W : View) (o : Op)
    (h : ¬ Inherits σ W V) : visible (step σ (.op V o)).1 W = visible σ W := by
  cases V with
  | cls v =>
    simp only [step]
    rcases classOp_state σ v o with e | ⟨d, f, _, _, e⟩ <;> rw [e]
    exact (SameFor_setFrame σ hs v d f W h).visible
  | inst i =>
    simp only [step]
    rcases instOp_state σ i o with e | ⟨_, y, _, _, _, e⟩ <;> rw [e]
    exact (SameFor_insts (σ := σ) (τ := setInst σ i y) rfl rfl W
      (fun j e => List.getElem?_set_ne (fun e' : i = j => h (by subst e'; exact e)))).visible

/-- every class of the chain of `c` (MRO up to the nearest fresh start) resolves `properties`
    to the descriptor `c` resolves it to.  Always true with single inheritance; can fail for
    `class X(A, B)` — see `read_is_overlay_fails_mi`. -/
def Coherent (σ : State) (c : ClassId) : Prop :=
  ∃ d, σ.descOf c = some d ∧
    ∀ x ∈ cut (fun x => (σ.ownOf x).isSome) (σ.mroOf c), σ.descOf x = some d

theorem descOf_of_head (σ : State) (x : ClassId) (tail : List ClassId) (d : DescId)
    (hm : σ.mroOf x = x :: tail) (ho : σ.ownOf x = some d) : σ.descOf x = some d := by
  simp [State.descOf, hm, ho]

/-- the spec's chain is the part of the MRO the walk reads -/
theorem cut_owns (σ : State) (d : DescId) (l : List ClassId) (h : l.findSome? σ.ownOf = some d) :
    cut (fun x => (σ.ownOf x).isSome) l = cut (σ.owns · d) l := by
  induction l with
  | nil => rfl
  | cons x r ih =>
    cases ho : σ.ownOf x with
    | none =>
      simp only [List.findSome?_cons, ho] at h
      simp [cut, State.owns, ho, ih h]
    | some d' =>
      simp only [List.findSome?_cons, ho, Option.some.injEq] at h
      simp [cut, State.owns, ho, h]

theorem visible_cls_chain (σ : State) (c : ClassId) (d : DescId) (hd : σ.descOf c = some d) :
    visible σ (.cls c) = overlayAll ((chainFrames σ d (σ.mroOf c)).map frameLayer) := by
  funext k
  simp only [visible, hd, tGet, tFrames, lookupFrames_flat, toOption_ofOpt, overlayAll_flat, walk_flatten]

/-- Reading is the overlay: what a class view shows is the overlay, from the most basic
    class of its chain down to the class itself, of the layers held for those classes. -/
theorem read_is_overlay_class (σ : State) (hwf : WF σ) (c : ClassId) (hc : Coherent σ c) :
    visible σ (.cls c) = Spec.visible (abs σ) (.cls c) := by
  obtain ⟨d, hd, hall⟩ := hc
  rw [visible_cls_chain σ c d hd]
  show _ = overlayAll ((cut (fun x => (σ.ownOf x).isSome) (σ.mroOf c)).map (absLayer σ))
  rw [chainFrames, List.map_map, ← cut_owns σ d _ hd]
  congr 1
  -- coherence: along the chain, the layer held for a class is the dict it writes to for `d`
  exact List.map_congr_left (fun x hx => by simp only [Function.comp, absLayer, hall x hx])

theorem iGet_overlay (σ : State) (f : Frame) (c : ClassId) (d : DescId) (k : Key) :
    (iGet σ f c d k).toOption = overlay (fun k => (tGet σ c d k).toOption) (frameLayer f) k := by
  simp only [iGet, overlay, frameLayer]
  cases hg : AList.get? f k with
  | none => rfl
  | some s => cases s <;> simp [Except.toOption]

theorem classVisible_abs (σ : State) (hwf : WF σ) (v : ClassId) (d : DescId)
    (hc : Coherent σ v) (hd : σ.descOf v = some d) :
    classVisible (abs σ) v = fun k => (tGet σ v d k).toOption := by
  have h := read_is_overlay_class σ hwf v hc
  rw [show classVisible (abs σ) v = Spec.visible (abs σ) (.cls v) from rfl, ← h]
  funext k
  simp only [visible, hd]

/-- an instance view adds the instance's own layer on top; an instance that was assigned
    a plain mapping shows that mapping. -/
theorem read_is_overlay_inst (σ : State) (hwf : WF σ) (i : InstId) (x : Inst)
    (hx : σ.insts[i]? = some x) (hc : Coherent σ x.cls) :
    visible σ (.inst i) = Spec.visible (abs σ) (.inst i) := by
  obtain ⟨d, hd, _⟩ := id hc
  funext k
  simp only [visible, hx, Spec.visible, abs, List.getElem?_map, Option.map_some, absInst]
  cases hloc : x.loc with
  | plain m => rfl
  | storage f =>
    simp only [hd, iGet_overlay]
    exact congrFun (congrArg (overlay · (frameLayer f)) (classVisible_abs σ hwf x.cls d hc hd).symm) k

/-- what class `v` inherits: the overlay of the dicts above its own in its chain -/
def belowC (σ : State) (v : ClassId) (d : DescId) : Mapping :=
  overlayAll ((if σ.owns v d then [] else chainFrames σ d (σ.mroOf v).tail).map frameLayer)

theorem frameLayer_nil : frameLayer [] = Layer.empty := rfl

theorem tGet_decomp (σ : State) (v : ClassId) (d : DescId) (tail : List ClassId)
    (hm : σ.mroOf v = v :: tail) (k : Key) :
    (tGet σ v d k).toOption = overlay (belowC σ v d) (frameLayer (σ.baseFrame v d)) k := by
  simp only [tGet, tFrames, lookupFrames_flat, toOption_ofOpt, walk_flatten, ← overlayAll_flat, hm, chainFrames_cons,
    belowC, List.tail_cons]
  rfl

theorem baseFrame_setFrame (σ : State) (v : ClassId) (d : DescId) (f : Frame) :
    (σ.setFrame (σ.baseKey v d) f).baseFrame v d = f := by
  simp [State.baseFrame, baseKey_congr (σ := σ) (σ' := σ.setFrame (σ.baseKey v d) f) rfl, frameD_setFrame]

theorem WF.not_mem_tail {σ : State} (hwf : WF σ) {v : ClassId} {tail : List ClassId}
    (hm : σ.mroOf v = v :: tail) : v ∉ tail := by
  have hnd := hwf.mro_nodup v
  rw [hm] at hnd
  exact (List.nodup_cons.1 hnd).1

theorem belowC_setFrame (σ : State) (hwf : WF σ) (v : ClassId) (d : DescId) (f : Frame) :
    belowC (σ.setFrame (σ.baseKey v d) f) v d = belowC σ v d := by
  simp only [belowC, owns_setFrame, mroOf_setFrame]
  by_cases ho : σ.owns v d = true
  · simp only [ho, if_true]
  · simp only [ho, Bool.false_eq_true, if_false]
    rw [chainFrames_setFrame σ d v f _ (by simpa using ho)]
    intro hc
    -- `v` occurs in the tail of its own MRO, so the class exists and heads that MRO
    obtain ⟨tl, e⟩ := hwf.mro_head v (hwf.mro_lt v v (List.mem_of_mem_tail hc))
    rw [e, List.tail_cons] at hc
    exact hwf.not_mem_tail e hc

theorem tWrite_baseFrame (σ : State) (v : ClassId) (d : DescId) (o : Op) :
    (tWrite σ v d o).1.baseFrame v d
      = ((writeOp (tGet σ v d) ((tItems σ v d).map (·.1)) o).1.getD id) (σ.baseFrame v d) := by
  rw [tWrite_eq]
  cases (writeOp (tGet σ v d) ((tItems σ v d).map (·.1)) o).1 with
  | none => rfl
  | some g => exact baseFrame_setFrame σ v d _

theorem tWrite_layer (σ : State) (v : ClassId) (d : DescId) (o : Op) :
    frameLayer ((tWrite σ v d o).1.baseFrame v d)
      = applyOp (fun k => (tGet σ v d k).toOption) (frameLayer (σ.baseFrame v d)) o := by
  rw [tWrite_baseFrame]
  exact writeOp_layer _ _ _ (fun _ => rfl) _ o (fun _ => mem_keys_tItems σ v d)

theorem belowC_tWrite (σ : State) (hwf : WF σ) (v : ClassId) (d : DescId) (o : Op) :
    belowC (tWrite σ v d o).1 v d = belowC σ v d := by
  rcases tWrite_state σ v d o with e | ⟨f, e⟩ <;> rw [e]
  exact belowC_setFrame σ hwf v d f

theorem tWrite_classes (σ : State) (v : ClassId) (d : DescId) (o : Op) :
    (tWrite σ v d o).1.classes = σ.classes := by
  rcases tWrite_state σ v d o with e | ⟨f, e⟩ <;> rw [e]; rfl

/-- `dict` semantics, class views: after any method `o` called through the view of class
    `v`, that view shows exactly what a Python dict holding the previously visible mapping would
    hold after `o`. -/
theorem dict_semantics_class (σ : State) (hwf : WF σ) (v : ClassId) (hv : v < σ.classes.length)
    (d : DescId) (hd : σ.descOf v = some d) (o : Op) :
    visible (step σ (.op (.cls v) o)).1 (.cls v) = dictApply o (visible σ (.cls v)) := by
  obtain ⟨tail, hm⟩ := hwf.mro_head v hv
  have hvis : ∀ σ' : State, σ'.classes = σ.classes →
      visible σ' (.cls v) = overlay (belowC σ' v d) (frameLayer (σ'.baseFrame v d)) := by
    intro σ' hcl
    funext k
    simp only [visible, (descOf_congr hcl v).trans hd]
    exact tGet_decomp σ' v d tail ((mroOf_congr hcl v).trans hm) k
  simp only [step, classOp_eq σ v d o hv hd]
  rw [hvis _ (tWrite_classes σ v d o), belowC_tWrite σ hwf, tWrite_baseFrame, hvis σ rfl]
  exact dict_semantics_stack _ _ _ _ o (tGet_decomp σ v d tail hm)
    (fun _ k => by rw [mem_keys_tItems, tGet_decomp σ v d tail hm])

theorem iWrite_local (σ : State) (f : Frame) (c : ClassId) (d : DescId) (o : Op) (hc : o ≠ .clear) :
    (iWrite σ f c d o).1 = ((writeOp (iGet σ f c d) ((tItems σ c d).map (·.1)) o).1.getD id) f := by
  rw [iWrite_eq]
  cases o with
  | clear => exact absurd rfl hc
  | _ => rfl

theorem iWrite_layer (σ : State) (f : Frame) (c : ClassId) (d : DescId) (o : Op) (hc : o ≠ .clear) :
    frameLayer (iWrite σ f c d o).1
      = applyOp (fun k => (iGet σ f c d k).toOption) (frameLayer f) o := by
  rw [iWrite_local σ f c d o hc]
  exact writeOp_layer _ _ _ (fun _ => rfl) f o (fun e => absurd e hc)

theorem iWrite_clear_layer (σ : State) (f : Frame) (c : ClassId) (d : DescId) :
    frameLayer (iWrite σ f c d .clear).1
      = fun k => if ((tGet σ c d k).toOption).isSome then some .deleted else none := by
  simp only [iWrite, frameLayer_foldl_deleted, mem_keys_tItems]
  rfl

theorem overlay_clear (below : Mapping) :
    overlay below (fun k => if (below k).isSome then some .deleted else none) = Mapping.empty := by
  funext k
  simp only [overlay, Mapping.empty]
  cases h : below k <;> simp

theorem visible_inst_storage (σ : State) (i : InstId) (y : Inst) (f : Frame) (d : DescId)
    (hy : σ.insts[i]? = some y) (hl : y.loc = .storage f) (hd : σ.descOf y.cls = some d) :
    visible σ (.inst i) = overlay (fun k => (tGet σ y.cls d k).toOption) (frameLayer f) := by
  funext k; simp only [visible, hy, hl, hd, iGet_overlay]

theorem lt_of_getElem? {α : Type} (l : List α) (i : Nat) (x : α) (h : l[i]? = some x) : i < l.length :=
  (List.getElem?_eq_some_iff.1 h).1

/-- `dict` semantics, instance views (instances that still use `local_storage`) -/
theorem dict_semantics_inst (σ : State) (i : InstId) (x : Inst) (f : Frame) (d : DescId)
    (hx : σ.insts[i]? = some x) (hloc : x.loc = .storage f) (hd : σ.descOf x.cls = some d) (o : Op) :
    visible (step σ (.op (.inst i) o)).1 (.inst i) = dictApply o (visible σ (.inst i)) := by
  have hvis := visible_inst_storage σ i x f d hx hloc hd
  have hlt := lt_of_getElem? _ _ _ hx
  have hvis' : ∀ f', visible (setInst σ i { x with loc := .storage f' }) (.inst i)
      = overlay (fun k => (tGet σ x.cls d k).toOption) (frameLayer f') := by
    intro f'
    have h1 := visible_inst_storage (setInst σ i { x with loc := .storage f' }) i
      { x with loc := .storage f' } f' d (by simp [setInst, List.getElem?_set_self hlt]) rfl
      ((descOf_congr (σ := σ) rfl x.cls).trans hd)
    rw [h1]
    congr 1
    funext k
    exact congrArg _ (tGet_congr (σ := σ) (σ' := setInst σ i { x with loc := .storage f' }) rfl rfl x.cls d k)
  simp only [step, instOp_eq σ i x f d o hx hloc hd]
  rw [hvis', hvis]
  by_cases hc : o = .clear
  · subst hc
    rw [iWrite_clear_layer]
    exact overlay_clear _
  · rw [iWrite_local σ f x.cls d o hc]
    exact dict_semantics_stack _ f _ _ o (iGet_overlay σ f x.cls d) (fun e => absurd e hc)

theorem visible_cls_stack (σ : State) (v : ClassId) (d : DescId) (hd : σ.descOf v = some d) :
    visible σ (.cls v) = overlayAll ((tFrames σ v d).map frameLayer) := by
  funext k; simp only [visible, hd, tGet, lookupFrames_overlay]

theorem shows_tReader (σ : State) (v : ClassId) (d : DescId) (hd : σ.descOf v = some d) :
    Shows (tReader σ v d) (visible σ (.cls v)) := by
  rw [visible_cls_stack σ v d hd]; exact shows_readerOf (tFrames σ v d)

theorem itemsOf_tItems (σ : State) (v : ClassId) (d : DescId) (hd : σ.descOf v = some d) :
    ItemsOf (visible σ (.cls v)) (tItems σ v d) :=
  (shows_tReader σ v d hd).items

/-- results of the order-free methods through a class view are those of a Python dict -/
theorem dict_result_class (σ : State) (v : ClassId) (hv : v < σ.classes.length)
    (d : DescId) (hd : σ.descOf v = some d) (o : Op) (r : Res)
    (h : dictResult o (visible σ (.cls v)) = some r) : (step σ (.op (.cls v) o)).2 = r := by
  simp only [step, classOp_eq σ v d o hv hd]
  exact opResult_dict (shows_tReader σ v d hd) _ h

/-- results of the iterating methods through a class view: those of a Python dict that lists
    the visible mapping in the order `items()` chose -/
theorem iter_result_class (σ : State) (v : ClassId) (hv : v < σ.classes.length)
    (d : DescId) (hd : σ.descOf v = some d) (o : Op) :
    ∃ l, ItemsOf (visible σ (.cls v)) l ∧
      ∀ r, iterResult l o = some r → (step σ (.op (.cls v) o)).2 = r := by
  simp only [step, classOp_eq σ v d o hv hd]
  exact opResult_iter (shows_tReader σ v d hd) _ o

theorem visible_inst_stack (σ : State) (i : InstId) (x : Inst) (f : Frame) (d : DescId)
    (hx : σ.insts[i]? = some x) (hloc : x.loc = .storage f) (hd : σ.descOf x.cls = some d) :
    visible σ (.inst i) = overlayAll ((f :: tFrames σ x.cls d).map frameLayer) := by
  funext k; simp only [visible, hx, hloc, hd, iGet_stack, lookupFrames_overlay]

theorem shows_iReader (σ : State) (i : InstId) (x : Inst) (f : Frame) (d : DescId)
    (hx : σ.insts[i]? = some x) (hloc : x.loc = .storage f) (hd : σ.descOf x.cls = some d)
    (hn : (f.map (·.1)).Nodup) : Shows (iReader σ f x.cls d) (visible σ (.inst i)) := by
  rw [visible_inst_stack σ i x f d hx hloc hd, iReader_eq_readerOf σ f x.cls d hn]
  exact shows_readerOf _

theorem itemsOf_iItems (σ : State) (i : InstId) (x : Inst) (f : Frame) (d : DescId)
    (hx : σ.insts[i]? = some x) (hloc : x.loc = .storage f) (hd : σ.descOf x.cls = some d)
    (hn : (f.map (·.1)).Nodup) : ItemsOf (visible σ (.inst i)) (iItems σ f x.cls d) :=
  (shows_iReader σ i x f d hx hloc hd hn).items

/-- results of the order-free methods through an instance view (`[]`, `get`, `in`, `pop`,
    `setdefault`, `del`, `popitem`, …) are those of a Python dict holding the visible mapping;
    `pop` and `setdefault` are the paths repaired by /repo ee86233 and f6834ef -/
theorem dict_result_inst (σ : State) (i : InstId) (x : Inst) (f : Frame) (d : DescId)
    (hx : σ.insts[i]? = some x) (hloc : x.loc = .storage f) (hd : σ.descOf x.cls = some d)
    (hn : (f.map (·.1)).Nodup) (o : Op) (r : Res)
    (h : dictResult o (visible σ (.inst i)) = some r) : (step σ (.op (.inst i) o)).2 = r := by
  simp only [step, instOp_eq σ i x f d o hx hloc hd]
  exact opResult_dict (shows_iReader σ i x f d hx hloc hd hn) _ h

/-- results of the iterating methods through an instance view (`items`, `keys`, `values`, `copy`,
    `bool`, `==`, `!=`): computed on a listing with distinct keys of exactly the visible mapping -/
theorem iter_result_inst (σ : State) (i : InstId) (x : Inst) (f : Frame) (d : DescId)
    (hx : σ.insts[i]? = some x) (hloc : x.loc = .storage f) (hd : σ.descOf x.cls = some d)
    (hn : (f.map (·.1)).Nodup) (o : Op) :
    ∃ l, ItemsOf (visible σ (.inst i)) l ∧
      ∀ r, iterResult l o = some r → (step σ (.op (.inst i) o)).2 = r := by
  simp only [step, instOp_eq σ i x f d o hx hloc hd]
  exact opResult_iter (shows_iReader σ i x f d hx hloc hd hn) _ o

/-- class `w` inherits from class `v` and nothing between them shadows key `k`: the MRO of `w`
    is some classes `pre` followed by the MRO of `v`; no class of `pre` restarts `properties`
    or holds `k` (value or tombstone) in its own frame -/
def Unshadowed (σ : State) (w v : ClassId) (k : Key) : Prop :=
  ∃ pre d, σ.mroOf w = pre ++ σ.mroOf v ∧ σ.descOf v = some d ∧
    ∀ x ∈ pre, σ.ownOf x = none ∧ AList.get? (σ.frameD (.cls d x)) k = none

theorem lookup_walk_append (σ : State) (d : DescId) (pre rest : List ClassId) (k : Key)
    (h : ∀ x ∈ pre, σ.ownOf x = none ∧ AList.get? (σ.frameD (.cls d x)) k = none) :
    lookupFrames (σ.walk d (pre ++ rest)) k = lookupFrames (σ.walk d rest) k := by
  induction pre with
  | nil => rfl
  | cons x r ih =>
    have hx := h x (List.mem_cons_self ..)
    have ih' := ih (fun y hy => h y (List.mem_cons_of_mem _ hy))
    have ho : σ.owns x d = false := by simp [State.owns, hx.1]
    simp only [List.cons_append, State.walk, ho, Bool.false_eq_true, if_false]
    cases hg : AList.get? σ.frames (.cls d x) with
    | none => exact ih'
    | some f =>
      have : AList.get? f k = none := by simpa [State.frameD, hg] using hx.2
      simp only [lookupFrames, this, ih']

theorem sees_ancestor (σ : State) (w v : ClassId) (k : Key) (h : Unshadowed σ w v k) :
    visible σ (.cls w) k = visible σ (.cls v) k := by
  obtain ⟨pre, d, hm, hd, hpre⟩ := h
  have hdw : σ.descOf w = some d := by
    unfold State.descOf at hd ⊢
    rw [hm, List.findSome?_append, List.findSome?_eq_none_iff.2 (fun x hx => (hpre x hx).1)]
    exact hd
  simp only [visible, hd, hdw, tGet, tFrames, hm, lookup_walk_append σ d pre _ k hpre]

theorem inst_sees_class (σ : State) (i : InstId) (x : Inst) (f : Frame) (k : Key)
    (hx : σ.insts[i]? = some x) (hloc : x.loc = .storage f) (hk : AList.get? f k = none) :
    visible σ (.inst i) k = visible σ (.cls x.cls) k := by
  simp only [visible, hx, hloc]
  cases hd : σ.descOf x.cls with
  | none => rfl
  | some d => simp only [iGet, hk]

theorem unshadowed_step (σ : State) (hwf : WF σ) (w v : ClassId) (hv : v < σ.classes.length)
    (k : Key) (o : Op) (h : Unshadowed σ w v k) :
    Unshadowed (step σ (.op (.cls v) o)).1 w v k := by
  obtain ⟨pre, d, hm, hd, hpre⟩ := h
  simp only [step]
  rcases classOp_state σ v o with e | ⟨d', f, _, _, e⟩
  · rw [e]; exact ⟨pre, d, hm, hd, hpre⟩
  · rw [e]
    refine ⟨pre, d, hm, hd, fun x hx => ⟨(hpre x hx).1, ?_⟩⟩
    have hne : x ≠ v := by
      intro e'; subst e'
      obtain ⟨tail, hmv⟩ := hwf.mro_head x hv
      have hnd := hwf.mro_nodup w
      rw [hm, hmv] at hnd
      exact (List.nodup_append.1 hnd).2.2 x hx x (by simp) rfl
    rw [frameD_setFrame, if_neg]
    · exact (hpre x hx).2
    · unfold State.baseKey; split <;> simp [hne.symm]

/-- Writes are visible below: after any method called through the view of class `v`,
    every class `w` that inherits from `v` without shadowing key `k` shows for `k` what a
    Python dict holding `v`'s previously visible mapping would hold after that method. -/
theorem write_visible_below (σ : State) (hwf : WF σ) (w v : ClassId) (hv : v < σ.classes.length)
    (k : Key) (o : Op) (h : Unshadowed σ w v k) :
    visible (step σ (.op (.cls v) o)).1 (.cls w) k = dictApply o (visible σ (.cls v)) k := by
  obtain ⟨_, d, _, hd, _⟩ := id h
  rw [sees_ancestor _ w v k (unshadowed_step σ hwf w v hv k o h),
    dict_semantics_class σ hwf v hv d hd o]

theorem classOp_insts (σ : State) (v : ClassId) (o : Op) : (classOp σ v o).1.insts = σ.insts := by
  rcases classOp_state σ v o with e | ⟨d, f, _, _, e⟩ <;> rw [e]; rfl

/-- … and so does every instance of such a class whose local storage does not hold `k` -/
theorem write_visible_below_inst (σ : State) (hwf : WF σ) (i : InstId) (x : Inst) (f : Frame)
    (v : ClassId) (hv : v < σ.classes.length) (k : Key) (o : Op)
    (hx : σ.insts[i]? = some x) (hloc : x.loc = .storage f) (hk : AList.get? f k = none)
    (h : Unshadowed σ x.cls v k) :
    visible (step σ (.op (.cls v) o)).1 (.inst i) k = dictApply o (visible σ (.cls v)) k := by
  have hx' : (step σ (.op (.cls v) o)).1.insts[i]? = some x := by
    simp only [step, classOp_insts]; exact hx
  rw [inst_sees_class _ i x f k hx' hloc hk]
  exact write_visible_below σ hwf x.cls v hv k o h

def NotAddressed (i : InstId) : Cmd → Prop
  | .op (.inst j) _ => j ≠ i
  | .assign j _ => j ≠ i
  | _ => True

/-! Every command first derives at most one class (`Derives`) and then writes at most one frame or one
instance entry, or appends an instance (`Updates`); `with_properties` and the compound
instantiation do both. -/

inductive Derives (σ : State) (cmd : Cmd) : State → Prop
  | same : Derives σ cmd σ
  | sub (p : ClassId) (hp : p < σ.classes.length) : Derives σ cmd (addClass σ (σ.mroOf p) none)
  | mi (tail : List ClassId) (hc : cmd = .subclassMI tail) (hlt : tail.all (· < σ.classes.length) = true) :
      Derives σ cmd (addClass σ tail none)
  | fresh (p : ClassId) (init : List (Key × Val)) : Derives σ cmd (usingPropsStep σ p init)

/-- `σ` is the store the command started in, `τ` the store after its derivation -/
inductive Updates (σ : State) (cmd : Cmd) (τ : State) : State → Prop
  | same : Updates σ cmd τ τ
  | frame (v : ClassId) (d : DescId) (f : Frame) (hv : v < τ.classes.length) (hd : τ.descOf v = some d)
      (hsrc : (∃ o, cmd = .op (.cls v) o) ∨ σ.classes.length ≤ v) :
      Updates σ cmd τ (τ.setFrame (τ.baseKey v d) f)
  | inst (i : InstId) (x y : Inst) (hx : τ.insts[i]? = some x) (hy : y.cls = x.cls)
      (hn : KeysNodup x.loc → KeysNodup y.loc) (hsrc : (∃ o, cmd = .op (.inst i) o) ∨ ∃ m, cmd = .assign i m) :
      Updates σ cmd τ (setInst τ i y)
  | newInst (y : Inst) (hy : y.cls < τ.classes.length) (hn : KeysNodup y.loc) :
      Updates σ cmd τ { τ with insts := τ.insts ++ [y] }

theorem step_cases (σ : State) (cmd : Cmd) : ∃ τ, Derives σ cmd τ ∧ Updates σ cmd τ (step σ cmd).1 := by
  cases cmd with
  | op V o =>
    refine ⟨σ, .same, ?_⟩
    cases V with
    | cls c =>
      simp only [step]
      rcases classOp_state σ c o with e | ⟨d, f, hv, hd, e⟩ <;> rw [e]
      · exact .same
      · exact .frame c d f hv hd (.inl ⟨o, rfl⟩)
    | inst i =>
      simp only [step]
      rcases instOp_state σ i o with e | ⟨x, y, hx, hy, hn, e⟩ <;> rw [e]
      · exact .same
      · exact .inst i x y hx hy hn (.inl ⟨o, rfl⟩)
  | subclass p =>
    simp only [step]; split
    · rename_i hp; exact ⟨_, .sub p hp, .same⟩
    · exact ⟨σ, .same, .same⟩
  | subclassMI tail =>
    simp only [step]; split
    · rename_i h; exact ⟨_, .mi tail rfl h, .same⟩
    · exact ⟨σ, .same, .same⟩
  | usingProps p init =>
    simp only [step]; split
    · exact ⟨_, .fresh p init, .same⟩
    · exact ⟨σ, .same, .same⟩
  | usingShared p ow init =>
    simp only [step]; split
    · split
      · exact ⟨_, .fresh p init, .same⟩
      · exact ⟨σ, .same, .same⟩
    · exact ⟨σ, .same, .same⟩
  | withProps p ps =>
    simp only [step]; split
    · rename_i hp
      refine ⟨_, .sub p hp, ?_⟩
      rcases classOp_state (addClass σ (σ.mroOf p) none) σ.classes.length (.update ps) with e | ⟨d, f, hv, hd, e⟩ <;>
        rw [e]
      · exact .same
      · exact .frame _ d f hv hd (.inr (Nat.le_refl _))
    · exact ⟨σ, .same, .same⟩
  | newInst c =>
    simp only [step]; split
    · rename_i hc; exact ⟨σ, .same, .newInst ⟨c, .storage []⟩ hc List.nodup_nil⟩
    · exact ⟨σ, .same, .same⟩
  | newInstWith c m =>
    simp only [step]; split
    · rename_i hc; exact ⟨σ, .same, .newInst ⟨c, .plain _⟩ hc trivial⟩
    · exact ⟨σ, .same, .same⟩
  | assign i m =>
    simp only [step]; split
    · exact ⟨σ, .same, .same⟩
    · rename_i x hx
      exact ⟨σ, .same, .inst i x { x with loc := .plain _ } hx rfl (fun _ => trivial) (.inr ⟨m, rfl⟩)⟩
  | newInstCompound c m =>
    simp only [step]; split
    · exact ⟨_, .fresh c m, .newInst ⟨σ.classes.length, .storage []⟩ (by simp [usingPropsStep, addClass])
        List.nodup_nil⟩
    · exact ⟨σ, .same, .same⟩

theorem Derives.insts {σ τ : State} {cmd : Cmd} (h : Derives σ cmd τ) : τ.insts = σ.insts := by
  cases h <;> rfl

theorem Derives.length_le {σ τ : State} {cmd : Cmd} (h : Derives σ cmd τ) :
    σ.classes.length ≤ τ.classes.length := by
  cases h <;> simp [usingPropsStep, addClass]

theorem Updates.classes {σ τ υ : State} {cmd : Cmd} (h : Updates σ cmd τ υ) : υ.classes = τ.classes := by
  cases h <;> rfl

theorem step_insts_other (σ : State) (i : InstId) (x : Inst) (hx : σ.insts[i]? = some x)
    (cmd : Cmd) (hc : NotAddressed i cmd) : (step σ cmd).1.insts[i]? = some x := by
  obtain ⟨τ, hd, hu⟩ := step_cases σ cmd
  generalize (step σ cmd).1 = υ at hu
  rw [← hd.insts] at hx
  cases hu with
  | same => exact hx
  | frame v d f => exact hx
  | inst j _ y _ _ _ hsrc =>
    have hj : j ≠ i := by rcases hsrc with ⟨o, rfl⟩ | ⟨m, rfl⟩ <;> exact hc
    simp only [setInst, List.getElem?_set_ne hj]; exact hx
  | newInst y =>
    show (τ.insts ++ [y])[i]? = _
    rw [List.getElem?_append_left (lt_of_getElem? _ _ _ hx)]; exact hx

/-- Detached: an instance that was assigned a plain mapping shows that mapping and nothing
    else, and no command addressed to another view (any class, any other instance, any
    derivation or instantiation) changes it. -/
theorem detached (σ : State) (i : InstId) (x : Inst) (m : Dict Val)
    (hx : σ.insts[i]? = some x) (hloc : x.loc = .plain m) :
    visible σ (.inst i) = (fun k => AList.get? m k) ∧
    ∀ cmd, NotAddressed i cmd → visible (step σ cmd).1 (.inst i) = visible σ (.inst i) := by
  have h1 : ∀ σ' : State, σ'.insts[i]? = some x → visible σ' (.inst i) = (fun k => AList.get? m k) := by
    intro σ' h; funext k; simp only [visible, h, hloc]
  exact ⟨h1 σ hx, fun cmd hc => by rw [h1 _ (step_insts_other σ i x hx cmd hc), h1 σ hx]⟩

/-- no sequence of commands addressed elsewhere changes a detached instance -/
theorem detached_history (i : InstId) (x : Inst) (m : Dict Val) (hloc : x.loc = .plain m) :
    ∀ (cmds : List Cmd) (σ : State), σ.insts[i]? = some x → (∀ c ∈ cmds, NotAddressed i c) →
      visible (run σ cmds).1 (.inst i) = (fun k => AList.get? m k)
  | [], σ, hx, _ => (detached σ i x m hx hloc).1
  | c :: cs, σ, hx, hall => by
    simp only [run]
    exact detached_history i x m hloc cs (step σ c).1
      (step_insts_other σ i x hx c (hall c (List.mem_cons_self ..)))
      (fun c' hc' => hall c' (List.mem_cons_of_mem _ hc'))

/-- side condition on the inputs the model takes from Python: a C3 linearisation lists no class twice -/
def CmdOK : Cmd → Prop
  | .subclassMI tail => tail.Nodup
  | _ => True

/-- KF-C17-b (closed): since /repo 936c1b4 handing the same `Properties` object to a second class
    shares nothing (each class gets a copy of its initial mapping), so this excludes no command. -/
def NoSharing : Cmd → Prop := fun _ => True

theorem mro_tail_lt (σ : State) (hwf : WF σ) (p : ClassId) : ∀ x ∈ σ.mroOf p, x < σ.classes.length :=
  fun x hx => hwf.mro_lt p x hx

theorem Derives.wf {σ τ : State} {cmd : Cmd} (h : Derives σ cmd τ) (hwf : WF σ) (hok : CmdOK cmd) : WF τ := by
  cases h with
  | same => exact hwf
  | sub p hp => exact WF_addClass σ hwf _ none (hwf.mro_lt p) (hwf.mro_nodup p) (by simp)
  | mi tail hc hlt =>
    subst hc
    exact WF_addClass σ hwf tail none (fun x hx => by simpa using List.all_eq_true.1 hlt x hx) hok (by simp)
  | fresh p init => exact WF_usingPropsStep σ hwf p init

theorem WF_step (σ : State) (hwf : WF σ) (cmd : Cmd) (hok : CmdOK cmd) : WF (step σ cmd).1 := by
  obtain ⟨τ, hd, hu⟩ := step_cases σ cmd
  generalize (step σ cmd).1 = υ at hu
  have hτ := hd.wf hwf hok
  cases hu with
  | same => exact hτ
  | frame v d f hv hd => exact WF_setFrame τ hτ _ f (baseKey_lt τ hτ v d hv hd)
  | inst i x y hx hy => exact WF_setInst τ hτ i y (hy ▸ hτ.inst_lt i x hx)
  | newInst y hy => exact WF_addInst τ hτ y hy

theorem NoShared_addClass (σ : State) (hs : NoShared σ) (tail : List ClassId) (own : Option DescId)
    (hown : ∀ d, own = some d → ∀ c, σ.ownOf c ≠ some d) : NoShared (addClass σ tail own) := by
  intro c c' d h h'
  rw [ownOf_addClass] at h h'
  split at h <;> split at h'
  · rename_i e e'; rw [e, e']
  · exact absurd h' (hown d h c')
  · exact absurd h (hown d h' c)
  · exact hs c c' d h h'

theorem NoShared_congr {σ σ' : State} (hc : σ'.classes = σ.classes) (hs : NoShared σ) : NoShared σ' := by
  intro c c' d h h'
  rw [ownOf_congr hc] at h h'
  exact hs c c' d h h'

theorem NoShared_usingPropsStep (σ : State) (hwf : WF σ) (hs : NoShared σ) (p : ClassId)
    (init : List (Key × Val)) : NoShared (usingPropsStep σ p init) := by
  apply NoShared_congr (σ := addClass σ (σ.mroOf p) (some σ.ndesc)) rfl
  apply NoShared_addClass σ hs
  intro d h c hc
  simp only [Option.some.injEq] at h; subst h
  exact Nat.lt_irrefl _ (hwf.own_lt c _ hc)

theorem Derives.noShared {σ τ : State} {cmd : Cmd} (h : Derives σ cmd τ) (hwf : WF σ) (hs : NoShared σ) :
    NoShared τ := by
  cases h with
  | same => exact hs
  | sub p => exact NoShared_addClass σ hs _ none (by simp)
  | mi tail => exact NoShared_addClass σ hs _ none (by simp)
  | fresh p init => exact NoShared_usingPropsStep σ hwf hs p init

/-- no command makes two classes share one `Properties` object -/
theorem NoShared_step (σ : State) (hwf : WF σ) (hs : NoShared σ) (cmd : Cmd) (hn : NoSharing cmd) :
    NoShared (step σ cmd).1 := by
  obtain ⟨τ, hd, hu⟩ := step_cases σ cmd
  exact NoShared_congr hu.classes (hd.noShared hwf hs)

/-- `initState init` is this store after `using(properties=init)`: `usingPropsStep noState 0 init`, by `rfl` -/
def noState : State := ⟨[], 0, [], []⟩

theorem WF_noState : WF noState where
  mro_lt := fun _ _ h => absurd h List.not_mem_nil
  mro_head := fun _ h => absurd h (Nat.not_lt_zero _)
  mro_nodup := fun _ => List.nodup_nil
  own_lt := fun _ _ h => by cases h
  key_lt := fun _ _ h => absurd h List.not_mem_nil
  inst_lt := fun _ _ h => by cases h

theorem WF_initState (init : List (Key × Val)) : WF (initState init) :=
  WF_usingPropsStep noState WF_noState 0 init

theorem NoShared_initState (init : List (Key × Val)) : NoShared (initState init) :=
  NoShared_usingPropsStep noState WF_noState (fun _ _ _ h => by cases h) 0 init

def ValidView (σ : State) : View → Prop
  | .cls w => w < σ.classes.length
  | .inst i => i < σ.insts.length

theorem viewMro_lt (σ : State) (hwf : WF σ) (W : View) : ∀ x ∈ viewMro σ W, x < σ.classes.length := by
  intro x hx
  cases W with
  | cls w => exact hwf.mro_lt w x hx
  | inst i =>
    simp only [viewMro] at hx
    split at hx
    · rename_i y _; exact hwf.mro_lt y.cls x hx
    · simp at hx

theorem mroOf_new (σ τ : State) (tail : List ClassId) (own : Option DescId)
    (hcl : τ.classes = (addClass σ tail own).classes) :
    τ.mroOf σ.classes.length = σ.classes.length :: tail :=
  (mroOf_congr (σ := addClass σ tail own) hcl _).trans (by rw [mroOf_addClass, if_pos rfl])

theorem ownOf_new (σ τ : State) (tail : List ClassId) (own : Option DescId)
    (hcl : τ.classes = (addClass σ tail own).classes) : τ.ownOf σ.classes.length = own :=
  (ownOf_congr (σ := addClass σ tail own) hcl _).trans (by rw [ownOf_addClass, if_pos rfl])

section extend
set_option linter.unusedSectionVars false
variable (σ τ : State) (hwf : WF σ) (tail : List ClassId) (own : Option DescId)
  (hcl : τ.classes = (addClass σ tail own).classes)
include hcl

theorem mroOf_extend (c : ClassId) (hc : c < σ.classes.length) : τ.mroOf c = σ.mroOf c :=
  (mroOf_congr (σ := addClass σ tail own) hcl c).trans (by rw [mroOf_addClass, if_neg (Nat.ne_of_lt hc)])

theorem ownOf_extend (c : ClassId) (hc : c < σ.classes.length) : τ.ownOf c = σ.ownOf c :=
  (ownOf_congr (σ := addClass σ tail own) hcl c).trans (by rw [ownOf_addClass, if_neg (Nat.ne_of_lt hc)])

include hwf

theorem descOf_extend (c : ClassId) (hc : c < σ.classes.length) : τ.descOf c = σ.descOf c :=
  descOf_ext σ τ c (mroOf_extend σ τ tail own hcl c hc)
    (fun x hx => ownOf_extend σ τ tail own hcl x (hwf.mro_lt c x hx))

end extend

theorem descOf_lt (σ : State) (hwf : WF σ) (c : ClassId) (d : DescId) (h : σ.descOf c = some d) :
    d < σ.ndesc := by
  obtain ⟨y, _, hoy⟩ := descOf_owner σ c d h
  exact hwf.own_lt y d hoy

theorem SameFor_extend (σ τ : State) (hwf : WF σ) (tail : List ClassId) (own : Option DescId)
    (hcl : τ.classes = (addClass σ tail own).classes) (hin : τ.insts = σ.insts)
    (hframes : ∀ x d, AList.get? τ.frames (σ.baseKey x d) = AList.get? σ.frames (σ.baseKey x d))
    (W : View) (hW : ValidView σ W) : SameFor W σ τ := by
  have hlt := viewMro_lt σ hwf W
  refine ⟨fun i _ => by rw [hin], ?_, fun x hx => ownOf_extend σ τ tail own hcl x (hlt x hx),
    fun x _ => hframes x⟩
  cases W with
  | cls w => exact mroOf_extend σ τ tail own hcl w hW
  | inst i =>
    simp only [viewMro, hin]
    cases hx : σ.insts[i]? with
    | none => rfl
    | some x => exact mroOf_extend σ τ tail own hcl x.cls (hwf.inst_lt i x hx)

/-- `using(properties=…)` creates its dict under a descriptor id that no class owns yet -/
theorem frames_usingPropsStep (σ : State) (hwf : WF σ) (p : ClassId) (init : List (Key × Val)) (x : ClassId)
    (d : DescId) :
    AList.get? (usingPropsStep σ p init).frames (σ.baseKey x d) = AList.get? σ.frames (σ.baseKey x d) := by
  show AList.get? (AList.set σ.frames (.init σ.ndesc) _) _ = _
  rw [get?_set, if_neg]
  unfold State.baseKey State.owns
  split
  · rename_i ho
    exact fun e => Nat.lt_irrefl _ (FrameKey.init.inj e ▸ hwf.own_lt x d (beq_iff_eq.1 ho))
  · exact fun e => nomatch e

/-- the command goes through a view that `W` inherits from, or rebinds `W` itself -/
def Touches (σ : State) (W : View) : Cmd → Prop
  | .op V _ => Inherits σ W V
  | .assign i _ => W = .inst i
  | _ => False

/-- No upward leak, one step of any kind: a command that neither goes through a view `W`
    inherits from nor rebinds `W` leaves what `W` shows unchanged: operations through parents'
    siblings, cousins, other instances, every derivation and every instantiation. -/
theorem step_untouched (σ : State) (hwf : WF σ) (hs : NoShared σ) (W : View) (hW : ValidView σ W)
    (cmd : Cmd) (ht : ¬ Touches σ W cmd) : visible (step σ cmd).1 W = visible σ W := by
  obtain ⟨τ, hd, hu⟩ := step_cases σ cmd
  generalize (step σ cmd).1 = υ at hu
  have hτ : SameFor W σ τ := by
    cases hd with
    | same => exact SameFor_insts rfl rfl W (fun _ _ => rfl)
    | sub p => exact SameFor_extend σ _ hwf _ none rfl rfl (fun _ _ => rfl) W hW
    | mi tail => exact SameFor_extend σ _ hwf _ none rfl rfl (fun _ _ => rfl) W hW
    | fresh p init =>
      exact SameFor_extend σ (usingPropsStep σ p init) hwf _ (some σ.ndesc) rfl rfl
        (frames_usingPropsStep σ hwf p init) W hW
  rw [← hτ.visible]
  cases hu with
  | same => rfl
  | frame v d f _ _ hsrc =>
    refine (SameFor_setFrame τ (hd.noShared hwf hs) v d f W ?_).visible
    rw [hτ.mro]
    rcases hsrc with ⟨o, rfl⟩ | hle
    · exact ht
    · exact fun h => Nat.lt_irrefl _ (Nat.lt_of_lt_of_le (viewMro_lt σ hwf W _ h) hle)
  | inst i x y hx hy hn hsrc =>
    refine (SameFor_insts (σ := τ) (τ := setInst τ i y) rfl rfl W
      (fun j e => List.getElem?_set_ne (fun e' : i = j => ?_))).visible
    subst e'
    rcases hsrc with ⟨o, rfl⟩ | ⟨m, rfl⟩ <;> exact ht e
  | newInst y =>
    refine (SameFor_insts (σ := τ) (τ := { τ with insts := τ.insts ++ [y] }) rfl rfl W ?_).visible
    intro i e; subst e
    exact List.getElem?_append_left (hd.insts ▸ hW)

theorem length_mono (σ : State) (cmd : Cmd) :
    σ.classes.length ≤ (step σ cmd).1.classes.length ∧ σ.insts.length ≤ (step σ cmd).1.insts.length := by
  obtain ⟨τ, hd, hu⟩ := step_cases σ cmd
  generalize (step σ cmd).1 = υ at hu
  rw [hu.classes, ← hd.insts]
  refine ⟨hd.length_le, ?_⟩
  cases hu with
  | same => exact Nat.le_refl _
  | frame => exact Nat.le_refl _
  | inst => simp [setInst]
  | newInst => simp

theorem ValidView_step (σ : State) (W : View) (hW : ValidView σ W) (cmd : Cmd) :
    ValidView (step σ cmd).1 W := by
  have := length_mono σ cmd
  cases W with
  | cls w => exact Nat.lt_of_lt_of_le hW this.1
  | inst i => exact Nat.lt_of_lt_of_le hW this.2

/-- along the history, no command touches `W` (judged in the state it is executed in) -/
def Untouched (W : View) : State → List Cmd → Prop
  | _, [] => True
  | σ, c :: cs => ¬ Touches σ W c ∧ Untouched W (step σ c).1 cs

/-- No upward leak, all histories: whatever is done — in any order and any number of
    times — through views `W` does not inherit from, and whatever is derived or instantiated,
    `W` keeps showing the same mapping. -/
theorem no_upward_leak_history (W : View) :
    ∀ (cmds : List Cmd) (σ : State), WF σ → NoShared σ → ValidView σ W →
      (∀ c ∈ cmds, CmdOK c ∧ NoSharing c) → Untouched W σ cmds →
      visible (run σ cmds).1 W = visible σ W
  | [], _, _, _, _, _, _ => rfl
  | c :: cs, σ, hwf, hs, hW, hall, hu => by
    have hc := hall c (List.mem_cons_self ..)
    simp only [run]
    rw [no_upward_leak_history W cs (step σ c).1 (WF_step σ hwf c hc.1) (NoShared_step σ hwf hs c hc.2)
      (ValidView_step σ W hW c) (fun c' h' => hall c' (List.mem_cons_of_mem _ h')) hu.2]
    exact step_untouched σ hwf hs W hW c hu.1

/-- The full statement (sentence 1 of the property over all histories): after any history from a
    fresh root, every view reads exactly as the layered store of the property text would read
    after the same history — every write and deletion made through the views above it, overlaid
    from the most basic class down to the view. -/
def C17_Full : Prop :=
  ∀ (init : List (Key × Val)) (cmds : List Cmd) (v : View) (k : Key), (∀ c ∈ cmds, CmdOK c) →
    visible (run (initState init) cmds).1 v k
      = Spec.visible (Spec.run (abs (initState init)) cmds) v k

def kA : Key := ['a']

/-- KF-C17-a: `instance.properties.clear()` forgets the instance's own deletion of a key the
    class does not show; when the class later defines the key it shows through the instance -/
def witnessClear : List Cmd :=
  [.newInst 0, .op (.inst 0) (.setitem kA (.int 1)), .op (.inst 0) (.delitem kA),
   .op (.inst 0) .clear, .op (.cls 0) (.setitem kA (.int 2))]

theorem witnessClear_model : visible (run (initState []) witnessClear).1 (.inst 0) kA = some (.int 2) := by
  decide +kernel

theorem witnessClear_spec :
    Spec.visible (Spec.run (abs (initState [])) witnessClear) (.inst 0) kA = none := by
  decide +kernel

theorem C17_full_fails : ¬ C17_Full := by
  intro h
  have := h [] witnessClear (.inst 0) kA (by intro c hc; simp [witnessClear] at hc; rcases hc with rfl | rfl | rfl | rfl | rfl <;> trivial)
  rw [witnessClear_model, witnessClear_spec] at this
  exact absurd this (by decide)

def kS : Key := ['s']
def kT : Key := ['t']
def kB : Key := ['b']

/-- KF-C17-b (closed by /repo 936c1b4): one `Properties` object handed to a second class.
    A write through the new class does not show through the class that held the object first,
    and the new class starts from the initial mapping the object was built with. -/
def witnessShared : List Cmd :=
  [.op (.cls 0) (.setitem kB (.int 9)), .usingShared 0 0 [(kS, .int 1)], .op (.cls 1) (.setitem kT (.int 2))]

theorem shared_object_shares_nothing :
    visible (run (initState [(kS, .int 1)]) witnessShared).1 (.cls 0) kT = none ∧
    visible (run (initState [(kS, .int 1)]) witnessShared).1 (.cls 1) kS = some (.int 1) ∧
    visible (run (initState [(kS, .int 1)]) witnessShared).1 (.cls 1) kB = none ∧
    Spec.visible (Spec.run (abs (initState [(kS, .int 1)])) witnessShared) (.cls 0) kT = none := by
  decide +kernel

/-- KF-C17-c: `class X(A, B)` where `B` restarts `properties` and `A` does not — `A`'s write is
    above `X` in its chain but does not show through `X` -/
def witnessMI : List Cmd :=
  [.subclass 0, .usingProps 0 [], .op (.cls 1) (.setitem kB (.int 1)), .subclassMI [1, 2, 0]]

theorem C17_full_fails_mi :
    visible (run (initState []) witnessMI).1 (.cls 3) kB = none ∧
    Spec.visible (Spec.run (abs (initState [])) witnessMI) (.cls 3) kB = some (.int 1) := by
  decide +kernel

instance (σ : State) (W V : View) : Decidable (Inherits σ W V) := by
  cases V <;> unfold Inherits <;> infer_instance
instance : DecidablePred CmdOK := fun c => by cases c <;> unfold CmdOK <;> infer_instance
instance : DecidablePred NoSharing := fun c => by cases c <;> unfold NoSharing <;> infer_instance

theorem run_invariant (P : State → Prop) (Q : Cmd → Prop) (hstep : ∀ σ, P σ → ∀ c, Q c → P (step σ c).1)
    (cmds : List Cmd) (σ : State) (h : P σ) (hall : ∀ c ∈ cmds, Q c) : P (run σ cmds).1 := by
  induction cmds generalizing σ with
  | nil => exact h
  | cons c cs ih =>
    simp only [run]
    exact ih _ (hstep σ h c (hall c (List.mem_cons_self ..))) (fun c' h' => hall c' (List.mem_cons_of_mem _ h'))

theorem inv_run : ∀ (cmds : List Cmd) (σ : State), WF σ → NoShared σ →
    (∀ c ∈ cmds, CmdOK c ∧ NoSharing c) → WF (run σ cmds).1 ∧ NoShared (run σ cmds).1 :=
  fun cmds σ hwf hs hall =>
    run_invariant (fun σ => WF σ ∧ NoShared σ) (fun c => CmdOK c ∧ NoSharing c)
      (fun σ h c hc => ⟨WF_step σ h.1 c hc.1, NoShared_step σ h.1 h.2 c hc.2⟩) cmds σ ⟨hwf, hs⟩ hall

theorem WF_run (cmds : List Cmd) (σ : State) (hwf : WF σ) (hall : ∀ c ∈ cmds, CmdOK c) :
    WF (run σ cmds).1 := run_invariant WF CmdOK WF_step cmds σ hwf hall

/-- `read_is_overlay_class` really needs `Coherent`: in the (well-formed) state reached by `witnessMI`
    class 3 does not read as the overlay of its chain -/
theorem read_is_overlay_fails_mi :
    ¬ ∀ (σ : State) (c : ClassId), WF σ → visible σ (.cls c) = Spec.visible (abs σ) (.cls c) := by
  intro h
  have hwf : WF (run (initState []) witnessMI).1 :=
    WF_run witnessMI _ (WF_initState []) (by decide +kernel)
  have := congrFun (h _ 3 hwf) kB
  revert this
  decide +kernel

/-! ## non-vacuity: the hypotheses of the main theorems hold in concrete, non-trivial stores -/

def kK : Key := ['k']

/-- R(0) ← A(1) ← B(2), sibling A2(3) of A, a detached class D(4) below A, two instances of B,
    one instance of A2, one detached instance of B -/
def exCmds : List Cmd :=
  [.subclass 0, .withProps 1 [(kB, .int 5)], .subclass 0, .usingProps 1 [(kT, .none)],
   .newInst 2, .newInst 2, .newInst 3, .newInstWith 2 [(kS, .int 7)],
   .op (.cls 1) (.setitem kA (.int 1)), .op (.inst 0) (.delitem kK)]

def exState : State := (run (initState [(kK, .int 0)]) exCmds).1

theorem exState_inv : WF exState ∧ NoShared exState :=
  inv_run exCmds _ (WF_initState _) (NoShared_initState _) (by decide +kernel)

/-- `no_upward_leak`: a `pop` through class A is not seen by the sibling A2 nor its instance … -/
example : visible (step exState (.op (.cls 1) (.pop kK none))).1 (.cls 3) = visible exState (.cls 3) :=
  no_upward_leak exState exState_inv.2 (.cls 1) (.cls 3) _ (by decide +kernel)
example : visible (step exState (.op (.cls 1) (.pop kK none))).1 (.inst 2) = visible exState (.inst 2) :=
  no_upward_leak exState exState_inv.2 (.cls 1) (.inst 2) _ (by decide +kernel)
/-- … while it does change what A itself shows (the theorem is not about a no-op) -/
example : visible (step exState (.op (.cls 1) (.pop kK none))).1 (.cls 1) kK = none ∧
    visible exState (.cls 1) kK = some (.int 0) := by decide +kernel
/-- an instance operation is invisible to the other instance of the same class and to the class -/
example : visible (step exState (.op (.inst 0) .clear)).1 (.inst 1) = visible exState (.inst 1) :=
  no_upward_leak exState exState_inv.2 (.inst 0) (.inst 1) _ (by decide +kernel)

/-- `read_is_overlay_class`: class B is coherent; its chain has three layers -/
example : Coherent exState 2 := ⟨0, by decide +kernel, by decide +kernel⟩
example : (chain (abs exState) 2).length = 3 := by decide +kernel
example : visible exState (.cls 2) = Spec.visible (abs exState) (.cls 2) :=
  read_is_overlay_class exState exState_inv.1 2 ⟨0, by decide +kernel, by decide +kernel⟩

/-- `write_visible_below`: key `k` written through the root is seen through B (two levels down) … -/
example : Unshadowed exState 2 0 kK := ⟨[2, 1], 0, by decide +kernel, by decide +kernel, by decide +kernel⟩
example : visible (step exState (.op (.cls 0) (.setitem kK (.int 9)))).1 (.cls 2) kK = some (.int 9) := by
  rw [write_visible_below exState exState_inv.1 2 0 (by decide +kernel) kK _ ⟨[2, 1], 0, by decide +kernel, by decide +kernel, by decide +kernel⟩]
  decide +kernel
/-- … but not through instance 0 of B, which deleted `k` itself (shadowed): the hypothesis matters -/
example : visible (step exState (.op (.cls 0) (.setitem kK (.int 9)))).1 (.inst 0) kK = none := by decide +kernel

/-- `detached`: instance 3 was created with `properties={…}` -/
example : visible exState (.inst 3) kS = some (.int 7) ∧ visible exState (.inst 3) kK = none := by decide +kernel

/-- `dict_result_inst`: `setdefault` on a key deleted at this level revives it (fix f6834ef) -/
example : (step exState (.op (.inst 0) (.setdefault kK (.int 4)))).2 = .val (.int 4) := by decide +kernel

theorem SState.ext' {a b : SState} (h1 : a.nclasses = b.nclasses) (h2 : a.mro = b.mro)
    (h3 : a.fresh = b.fresh) (h4 : a.layer = b.layer) (h5 : a.insts = b.insts) : a = b := by
  cases a; cases b; simp_all

def AllCoherent (σ : State) : Prop := ∀ c, c < σ.classes.length → Coherent σ c

theorem Coherent_of_coherentAt (σ : State) (c : ClassId) (h : coherentAt σ c = true) : Coherent σ c := by
  simp only [coherentAt, Bool.and_eq_true, List.all_eq_true, beq_iff_eq] at h
  obtain ⟨h1, h2⟩ := h
  obtain ⟨d, hd⟩ := Option.isSome_iff_exists.1 h1
  exact ⟨d, hd, fun x hx => (h2 x hx).trans hd⟩

theorem Coherent_congr {σ σ' : State} (hc : σ'.classes = σ.classes) (c : ClassId) (h : Coherent σ c) :
    Coherent σ' c := by
  obtain ⟨d, hd, hall⟩ := h
  have ho : σ'.ownOf = σ.ownOf := funext (ownOf_congr hc)
  refine ⟨d, (descOf_congr hc c).trans hd, fun x hx => ?_⟩
  rw [mroOf_congr hc, ho] at hx
  exact (descOf_congr hc x).trans (hall x hx)

theorem AllCoherent_congr {σ σ' : State} (hc : σ'.classes = σ.classes) (h : AllCoherent σ) :
    AllCoherent σ' := fun c hlt => Coherent_congr hc c (h c (hc ▸ hlt))

theorem absLayer_setFrame_ne (σ : State) (hs : NoShared σ) (v c' : ClassId) (d : DescId) (f : Frame)
    (hne : c' ≠ v) : absLayer (σ.setFrame (σ.baseKey v d) f) c' = absLayer σ c' := by
  simp only [absLayer, descOf_setFrame]
  cases σ.descOf c' with
  | none => rfl
  | some d' =>
    simp only [State.baseFrame, baseKey_congr (σ := σ) (σ' := σ.setFrame (σ.baseKey v d) f) rfl,
      frameD_setFrame, if_neg (Ne.symm (baseKey_ne σ hs c' v d d' hne))]

theorem tWrite_insts (σ : State) (v : ClassId) (d : DescId) (o : Op) :
    (tWrite σ v d o).1.insts = σ.insts := by
  rcases tWrite_state σ v d o with e | ⟨f, e⟩ <;> rw [e]; rfl

theorem refine_classOp (σ : State) (hwf : WF σ) (hs : NoShared σ) (v : ClassId) (o : Op)
    (hv : v < σ.classes.length) (hc : Coherent σ v) :
    abs (classOp σ v o).1 = Spec.step (abs σ) (.op (.cls v) o) := by
  obtain ⟨d, hd, _⟩ := id hc
  have hvis := classVisible_abs σ hwf v d hc hd
  simp only [Spec.step]
  rw [if_pos (show v < (abs σ).nclasses from hv), classOp_eq σ v d o hv hd]
  have hcl := tWrite_classes σ v d o
  apply SState.ext'
  · show (tWrite σ v d o).1.classes.length = σ.classes.length
    rw [hcl]
  · funext c; exact mroOf_congr hcl c
  · funext c
    show ((tWrite σ v d o).1.ownOf c).isSome = _
    rw [ownOf_congr hcl]; rfl
  · funext c'
    show absLayer (tWrite σ v d o).1 c' = fupd (absLayer σ) v (applyOp (classVisible (abs σ) v) (absLayer σ v) o) c'
    by_cases e : c' = v
    · subst e
      have h0 : absLayer σ c' = frameLayer (σ.baseFrame c' d) := by simp only [absLayer, hd]
      have h1 : absLayer (tWrite σ c' d o).1 c' = frameLayer ((tWrite σ c' d o).1.baseFrame c' d) := by
        simp only [absLayer, descOf_congr hcl, hd]
      simp only [fupd, if_true]
      rw [hvis, h0, h1, tWrite_layer]
    · simp only [fupd, if_neg e]
      rcases tWrite_state σ v d o with h | ⟨f, h⟩ <;> rw [h]
      exact absLayer_setFrame_ne σ hs v c' d f e
  · show (tWrite σ v d o).1.insts.map absInst = σ.insts.map absInst
    rw [tWrite_insts]

theorem abs_setInst (σ : State) (i : InstId) (y : Inst) :
    abs (setInst σ i y) = { abs σ with insts := (abs σ).insts.set i (absInst y) } := by
  refine SState.ext' rfl rfl rfl rfl ?_
  show (σ.insts.set i y).map absInst = (σ.insts.map absInst).set i (absInst y)
  rw [List.map_set]

theorem abs_insts_get (σ : State) (i : InstId) : (abs σ).insts[i]? = (σ.insts[i]?).map absInst := by
  simp [abs]

theorem instOp_storage (σ : State) (i : InstId) (x : Inst) (f : Frame) (d : DescId) (o : Op)
    (hx : σ.insts[i]? = some x) (hloc : x.loc = .storage f) (hd : σ.descOf x.cls = some d) :
    abs (instOp σ i o).1
      = { abs σ with insts := (abs σ).insts.set i (.attached x.cls (frameLayer (iWrite σ f x.cls d o).1)) } := by
  rw [instOp_eq σ i x f d o hx hloc hd, abs_setInst]; rfl

theorem iWrite_clear_guarded (σ : State) (f : Frame) (c : ClassId) (d : DescId) (below : Mapping)
    (hb : below = fun k => (tGet σ c d k).toOption)
    (hg : f.any (fun kv => (tGet σ c d kv.1).toOption.isNone) = false) :
    frameLayer (iWrite σ f c d .clear).1
      = applyOp (overlay below (frameLayer f)) (frameLayer f) .clear := by
  rw [iWrite_clear_layer]
  funext k
  simp only [applyOp, overlay, frameLayer, hb]
  cases hl : AList.get? f k with
  | none => simp
  | some s =>
    have hmem := mem_of_get? f k s hl
    have hall := List.any_eq_false.1 hg (k, s) hmem
    simp only [Option.isNone_iff_eq_none] at hall
    cases hk : (tGet σ c d k).toOption with
    | none => exact absurd hk hall
    | some v => cases s <;> simp

theorem refine_instOp (σ : State) (hwf : WF σ) (hco : AllCoherent σ) (i : InstId) (o : Op)
    (hg : badClear σ (.op (.inst i) o) = false) :
    abs (instOp σ i o).1 = Spec.step (abs σ) (.op (.inst i) o) := by
  cases hx : σ.insts[i]? with
  | none =>
    have hi : (abs σ).insts[i]? = none := by rw [abs_insts_get, hx]; rfl
    simp only [Spec.step, hi, instOp, hx]
  | some x =>
    cases hloc : x.loc with
    | plain m =>
      have hi : (abs σ).insts[i]? = some (.detached x.cls m) := by
        rw [abs_insts_get, hx]; simp [absInst, hloc]
      simp only [Spec.step, hi, instOp, hx, hloc, abs_setInst]
      rfl
    | storage f =>
      have hcx := hco x.cls (hwf.inst_lt i x hx)
      obtain ⟨d, hd, _⟩ := id hcx
      have hvis := classVisible_abs σ hwf x.cls d hcx hd
      have hi : (abs σ).insts[i]? = some (.attached x.cls (frameLayer f)) := by
        rw [abs_insts_get, hx]; simp [absInst, hloc]
      rw [instOp_storage σ i x f d o hx hloc hd]
      simp only [Spec.step, hi]
      have key : frameLayer (iWrite σ f x.cls d o).1
          = applyOp (overlay (classVisible (abs σ) x.cls) (frameLayer f)) (frameLayer f) o := by
        by_cases hc : o = .clear
        · subst hc
          apply iWrite_clear_guarded σ f x.cls d _ hvis
          obtain ⟨c, l⟩ := x
          simp only at hloc hd
          subst hloc
          simpa [badClear, hx, hd] using hg
        · rw [iWrite_layer σ f x.cls d o hc, hvis]
          congr 1
          funext k
          exact iGet_overlay σ f x.cls d k
      rw [key]

theorem descOf_ge (σ : State) (c : ClassId) (h : σ.classes.length ≤ c) : σ.descOf c = none := by
  simp [State.descOf, mroOf_ge σ c h]

theorem absLayer_ge (σ : State) (c : ClassId) (h : σ.classes.length ≤ c) : absLayer σ c = Layer.empty := by
  simp only [absLayer, descOf_ge σ c h]

theorem absLayer_extend (σ τ : State) (hwf : WF σ) (tail : List ClassId) (own : Option DescId)
    (hcl : τ.classes = (addClass σ tail own).classes)
    (hframes : ∀ x d, AList.get? τ.frames (σ.baseKey x d) = AList.get? σ.frames (σ.baseKey x d))
    (c : ClassId) (hc : c < σ.classes.length) : absLayer τ c = absLayer σ c := by
  have ho := ownOf_extend σ τ tail own hcl
  have hd := descOf_extend σ τ hwf tail own hcl c hc
  simp only [absLayer, hd]
  cases hdc : σ.descOf c with
  | none => rfl
  | some d =>
    have hk : τ.baseKey c d = σ.baseKey c d := by
      unfold State.baseKey State.owns; rw [ho c hc]
    simp only [State.baseFrame, State.frameD, hk, hframes c d]

theorem abs_extend (σ τ : State) (hwf : WF σ) (tail : List ClassId) (own : Option DescId)
    (hcl : τ.classes = (addClass σ tail own).classes) (hin : τ.insts = σ.insts)
    (hframes : ∀ x d, AList.get? τ.frames (σ.baseKey x d) = AList.get? σ.frames (σ.baseKey x d))
    (l : Layer) (hl : absLayer τ σ.classes.length = l) :
    abs τ = Spec.addClass (abs σ) tail own.isSome l := by
  have hlen : τ.classes.length = σ.classes.length + 1 := by rw [hcl, length_addClass]
  apply SState.ext'
  · exact hlen
  · funext c
    show τ.mroOf c = fupd σ.mroOf σ.classes.length (σ.classes.length :: tail) c
    rw [mroOf_congr (σ := addClass σ tail own) hcl c, mroOf_addClass]; rfl
  · funext c
    show (τ.ownOf c).isSome = fupd (fun c => (σ.ownOf c).isSome) σ.classes.length own.isSome c
    rw [ownOf_congr (σ := addClass σ tail own) hcl c, ownOf_addClass]
    simp only [fupd]; split <;> rfl
  · funext c
    show absLayer τ c = fupd (absLayer σ) σ.classes.length l c
    simp only [fupd]
    rcases Nat.lt_trichotomy c σ.classes.length with h | h | h
    · rw [if_neg (Nat.ne_of_lt h)]; exact absLayer_extend σ τ hwf tail own hcl hframes c h
    · rw [if_pos h, h]; exact hl
    · rw [if_neg (Nat.ne_of_gt h), absLayer_ge σ c (Nat.le_of_lt h), absLayer_ge τ c (by omega)]
  · show τ.insts.map absInst = σ.insts.map absInst
    rw [hin]

theorem frames_ge (σ : State) (hwf : WF σ) (d : DescId) (c : ClassId) (hc : σ.classes.length ≤ c) :
    AList.get? σ.frames (.cls d c) = none := by
  rw [get?_eq_none_iff]
  intro h
  obtain ⟨p, hp, e⟩ := List.mem_map.1 h
  obtain ⟨key, f⟩ := p
  simp only at e
  subst e
  exact Nat.not_lt.2 hc (hwf.key_lt _ f hp).2

theorem abs_addClass_none (σ : State) (hwf : WF σ) (tail : List ClassId) :
    abs (addClass σ tail none) = Spec.addClass (abs σ) tail false Layer.empty := by
  apply abs_extend σ _ hwf tail none rfl rfl (fun _ _ => rfl)
  simp only [absLayer]
  cases hd : (addClass σ tail none).descOf σ.classes.length with
  | none => rfl
  | some d =>
    have ho : (addClass σ tail none).owns σ.classes.length d = false := by
      simp [State.owns, ownOf_addClass]
    simp only [State.baseFrame, State.baseKey, ho, Bool.false_eq_true, if_false, State.frameD]
    rw [show (addClass σ tail none).frames = σ.frames from rfl, frames_ge σ hwf d _ (Nat.le_refl _)]
    rfl

theorem abs_usingPropsStep (σ : State) (hwf : WF σ) (p : ClassId) (init : List (Key × Val)) :
    abs (usingPropsStep σ p init) = Spec.addClass (abs σ) (σ.mroOf p) true (layerOfPairs init) := by
  apply abs_extend σ (usingPropsStep σ p init) hwf (σ.mroOf p) (some σ.ndesc) rfl rfl
    (frames_usingPropsStep σ hwf p init)
  · have ho := ownOf_new σ (usingPropsStep σ p init) (σ.mroOf p) (some σ.ndesc) rfl
    have hm := mroOf_new σ (usingPropsStep σ p init) (σ.mroOf p) (some σ.ndesc) rfl
    have hd := descOf_of_head _ _ _ _ hm ho
    have hown : (usingPropsStep σ p init).owns σ.classes.length σ.ndesc = true := by
      simp [State.owns, ho]
    simp only [absLayer, hd, State.baseFrame, State.baseKey, hown, if_true, State.frameD]
    rw [show (usingPropsStep σ p init).frames = AList.set σ.frames (.init σ.ndesc) (valFrame init) from rfl,
      get?_set, if_pos rfl, layerOfPairs_eq]
    rfl

section extend
set_option linter.unusedSectionVars false
variable (σ τ : State) (hwf : WF σ) (tail : List ClassId) (own : Option DescId)
  (hcl : τ.classes = (addClass σ tail own).classes)
include hcl

theorem cut_extend (l : List ClassId) (hl : ∀ x ∈ l, x < σ.classes.length) :
    cut (fun x => (τ.ownOf x).isSome) l = cut (fun x => (σ.ownOf x).isSome) l :=
  cut_congr _ _ l (fun x hx => by simp only [ownOf_extend σ τ tail own hcl x (hl x hx)])

include hwf

theorem Coherent_extend (c : ClassId) (hc : c < σ.classes.length) (h : Coherent σ c) : Coherent τ c := by
  obtain ⟨d, hd, hall⟩ := h
  refine ⟨d, (descOf_extend σ τ hwf tail own hcl c hc).trans hd, fun x hx => ?_⟩
  rw [mroOf_extend σ τ tail own hcl c hc,
    cut_extend σ τ tail own hcl _ (fun y hy => hwf.mro_lt c y hy)] at hx
  exact (descOf_extend σ τ hwf tail own hcl x (hwf.mro_lt c x (mem_cut hx))).trans (hall x hx)

theorem AllCoherent_extend (hco : AllCoherent σ) (hnew : Coherent τ σ.classes.length) : AllCoherent τ := by
  intro c hc
  rw [hcl, length_addClass] at hc
  rcases Nat.lt_or_ge c σ.classes.length with h | h
  · exact Coherent_extend σ τ hwf tail own hcl c h (hco c h)
  · have : c = σ.classes.length := by omega
    rw [this]; exact hnew

end extend

theorem Coherent_new_none (σ : State) (hwf : WF σ) (p : ClassId)
    (h : Coherent σ p) : Coherent (addClass σ (σ.mroOf p) none) σ.classes.length := by
  obtain ⟨d, hd, hall⟩ := h
  have hm := mroOf_new σ (addClass σ (σ.mroOf p) none) (σ.mroOf p) none rfl
  have ho := ownOf_new σ (addClass σ (σ.mroOf p) none) (σ.mroOf p) none rfl
  have hlt : ∀ x ∈ σ.mroOf p, x < σ.classes.length := fun x hx => hwf.mro_lt p x hx
  have hdn : (addClass σ (σ.mroOf p) none).descOf σ.classes.length = some d := by
    unfold State.descOf
    rw [hm, List.findSome?_cons, ho]
    simp only
    rw [Lists.findSome?_ext _ σ.ownOf _ (fun x hx => ownOf_extend σ _ _ none rfl x (hlt x hx))]
    exact hd
  refine ⟨d, hdn, fun x hx => ?_⟩
  rw [hm] at hx
  simp only [cut, ho, Option.isSome_none, Bool.false_eq_true, if_false] at hx
  rcases List.mem_cons.1 hx with e | hx
  · rw [e]; exact hdn
  · rw [cut_extend σ _ _ none rfl _ hlt] at hx
    exact (descOf_extend σ _ hwf _ none rfl x (hlt x (mem_cut hx))).trans (hall x hx)

theorem Coherent_new_some (σ τ : State) (tail : List ClassId) (d : DescId)
    (hcl : τ.classes = (addClass σ tail (some d)).classes) : Coherent τ σ.classes.length := by
  have hm := mroOf_new σ τ tail (some d) hcl
  have ho := ownOf_new σ τ tail (some d) hcl
  have hd := descOf_of_head τ _ _ _ hm ho
  refine ⟨d, hd, fun x hx => ?_⟩
  rw [hm] at hx
  simp only [cut, ho, Option.isSome_some, if_true, List.mem_singleton] at hx
  rw [hx]; exact hd

theorem AllCoherent_initState (init : List (Key × Val)) : AllCoherent (initState init) :=
  AllCoherent_extend noState (initState init) WF_noState [] (some 0) rfl (fun _ h => absurd h (Nat.not_lt_zero _))
    (Coherent_new_some noState _ [] 0 rfl)

/-- KF-C17-c excluded: a `class X(b1, b2, …)` statement must produce a class whose chain resolves
    `properties` to one descriptor (always the case unless one base line restarted `properties`
    with `using(properties=…)` and an earlier one did not) -/
def miGuard (σ : State) : Cmd → Bool
  | .subclassMI tail =>
    !(tail.all (· < σ.classes.length)) || coherentAt (addClass σ tail none) σ.classes.length
  | _ => true

/-- the guard of one command, judged in the state it is executed in: a legal MRO tail, no instance
    `clear()` while the instance holds a key its class does not show (KF-C17-a), no mixed-descriptor
    MRO (KF-C17-c); `NoSharing` (KF-C17-b, closed) excludes nothing -/
def cmdGuard (σ : State) (c : Cmd) : Bool :=
  decide (CmdOK c) && decide (NoSharing c) && !(badClear σ c) && miGuard σ c

def histGuard : State → List Cmd → Bool
  | _, [] => true
  | σ, c :: cs => cmdGuard σ c && histGuard (step σ c).1 cs

theorem cmdGuard_iff (σ : State) (c : Cmd) :
    cmdGuard σ c = true ↔ CmdOK c ∧ NoSharing c ∧ badClear σ c = false ∧ miGuard σ c = true := by
  simp only [cmdGuard, Bool.and_eq_true, decide_eq_true_eq, Bool.not_eq_true', and_assoc]

/-- what the refinement needs of a state; holds initially and is kept by every guarded step -/
structure Inv (σ : State) : Prop where
  wf : WF σ
  ns : NoShared σ
  co : AllCoherent σ

theorem AllCoherent_step (σ : State) (hwf : WF σ) (hco : AllCoherent σ) (cmd : Cmd)
    (hmi : miGuard σ cmd = true) : AllCoherent (step σ cmd).1 := by
  obtain ⟨τ, hd, hu⟩ := step_cases σ cmd
  refine AllCoherent_congr hu.classes ?_
  cases hd with
  | same => exact hco
  | sub p hp => exact AllCoherent_extend σ _ hwf _ none rfl hco (Coherent_new_none σ hwf p (hco p hp))
  | mi tail hc hlt =>
    subst hc
    simp only [miGuard, hlt, Bool.not_true, Bool.false_or] at hmi
    exact AllCoherent_extend σ _ hwf _ none rfl hco (Coherent_of_coherentAt _ _ hmi)
  | fresh p init =>
    exact AllCoherent_extend σ (usingPropsStep σ p init) hwf _ (some σ.ndesc) rfl hco
      (Coherent_new_some σ _ _ σ.ndesc rfl)

/-- the invariant needs the legal MRO tail and `miGuard` only, not the `clear()` guard -/
theorem Inv_step' (σ : State) (h : Inv σ) (cmd : Cmd) (hok : CmdOK cmd) (hmi : miGuard σ cmd = true) :
    Inv (step σ cmd).1 :=
  ⟨WF_step σ h.wf cmd hok, NoShared_step σ h.wf h.ns cmd trivial, AllCoherent_step σ h.wf h.co cmd hmi⟩

theorem Inv_step (σ : State) (h : Inv σ) (cmd : Cmd) (hg : cmdGuard σ cmd = true) : Inv (step σ cmd).1 := by
  obtain ⟨hok, _, _, hmi⟩ := (cmdGuard_iff σ cmd).1 hg
  exact Inv_step' σ h cmd hok hmi

theorem Inv_initState (init : List (Key × Val)) : Inv (initState init) :=
  ⟨WF_initState init, NoShared_initState init, AllCoherent_initState init⟩

theorem abs_addInst (σ : State) (y : Inst) :
    abs { σ with insts := σ.insts ++ [y] } = { abs σ with insts := (abs σ).insts ++ [absInst y] } := by
  refine SState.ext' rfl rfl rfl rfl ?_
  show (σ.insts ++ [y]).map absInst = σ.insts.map absInst ++ [absInst y]
  rw [List.map_append]; rfl

/-- One step of model A is one step of the layered store: under the guards, executing a
    command on the frames / descriptors / `__dict__` entries of the model and then reading off the
    layers gives the same layered store as recording the command in the layer of the view it was
    made through. -/
theorem refine_step (σ : State) (h : Inv σ) (cmd : Cmd) (hg : cmdGuard σ cmd = true) :
    abs (step σ cmd).1 = Spec.step (abs σ) cmd := by
  obtain ⟨_, hn, hbc, _⟩ := (cmdGuard_iff σ cmd).1 hg
  have hwf := h.wf
  have hnc : (abs σ).nclasses = σ.classes.length := rfl
  cases cmd with
  | op V o =>
    cases V with
    | cls c =>
      by_cases hc : c < σ.classes.length
      · exact refine_classOp σ hwf h.ns c o hc (h.co c hc)
      · simp only [step, classOp, Spec.step, hnc, hc, if_false]
    | inst i => exact refine_instOp σ hwf h.co i o hbc
  | subclass p =>
    simp only [step, Spec.step, hnc]; split
    · exact abs_addClass_none σ hwf _
    · rfl
  | subclassMI tail =>
    simp only [step, Spec.step, hnc]; split
    · exact abs_addClass_none σ hwf _
    · rfl
  | usingProps p init =>
    simp only [step, Spec.step, hnc]; split
    · exact abs_usingPropsStep σ hwf p init
    · rfl
  | usingShared p ow init =>
    simp only [step, Spec.step, hnc]
    by_cases hp : p < σ.classes.length
    · cases ho : σ.ownOf ow with
      | none => simp [hp, abs, ho]
      | some d =>
        have hlt : ow < σ.classes.length := by
          rcases Nat.lt_or_ge ow σ.classes.length with h' | h'
          · exact h'
          · rw [ownOf_ge σ ow h'] at ho; exact absurd ho (by simp)
        have hcond : p < σ.classes.length ∧ (abs σ).fresh ow = true ∧ ow < σ.classes.length :=
          ⟨hp, by simp [abs, ho], hlt⟩
        simp only [hp, if_true]
        rw [if_pos ⟨trivial, hcond.2.1, hcond.2.2⟩]
        exact abs_usingPropsStep σ hwf p init
    · simp [hp]
  | withProps p ps =>
    simp only [step, Spec.step, hnc]; split
    · rename_i hp
      have hwf1 := WF_addClass σ hwf (σ.mroOf p) none (fun x hx => hwf.mro_lt p x hx) (hwf.mro_nodup p) (by simp)
      have hs1 := NoShared_addClass σ h.ns (σ.mroOf p) none (by simp)
      have hc1 := Coherent_new_none σ hwf p (h.co p hp)
      rw [refine_classOp _ hwf1 hs1 σ.classes.length (.update ps) (by simp [addClass]) hc1,
        abs_addClass_none σ hwf]
      simp only [Spec.step, Spec.addClass, hnc, Nat.lt_succ_self, if_true]
      refine SState.ext' rfl rfl rfl ?_ rfl
      funext c
      simp only [fupd]
      split
      · simp only [applyOp, layerOfPairs, if_true]
      · rfl
    · rfl
  | newInst c =>
    simp only [step, Spec.step, hnc]; split
    · exact abs_addInst σ _
    · rfl
  | newInstWith c m =>
    simp only [step, Spec.step, hnc]; split
    · exact abs_addInst σ _
    · rfl
  | assign i m =>
    cases hx : σ.insts[i]? with
    | none =>
      have hi : (abs σ).insts[i]? = none := by rw [abs_insts_get, hx]; rfl
      simp only [step, Spec.step, hi, hx]
    | some x =>
      have hi : (abs σ).insts[i]? = some (absInst x) := by rw [abs_insts_get, hx]; rfl
      simp only [step, Spec.step, hi, hx, abs_setInst]
      unfold absInst
      cases x.loc <;> rfl
  | newInstCompound c m =>
    simp only [step, Spec.step, hnc]; split
    · have := abs_addInst (usingPropsStep σ c m) ⟨σ.classes.length, .storage []⟩
      rw [abs_usingPropsStep σ hwf c m] at this
      exact this
    · rfl

theorem refine_run : ∀ (cmds : List Cmd) (σ : State), Inv σ → histGuard σ cmds = true →
    abs (run σ cmds).1 = Spec.run (abs σ) cmds ∧ Inv (run σ cmds).1
  | [], _, h, _ => ⟨rfl, h⟩
  | c :: cs, σ, h, hg => by
    simp only [histGuard, Bool.and_eq_true] at hg
    have ih := refine_run cs (step σ c).1 (Inv_step σ h c hg.1) hg.2
    simp only [run, Spec.run, List.foldl_cons]
    rw [← refine_step σ h c hg.1]
    exact ih

/-- in a well-formed coherent store every view — existing or not — reads as the overlay of the
    layers of its chain -/
theorem read_is_overlay_all (σ : State) (hwf : WF σ) (hco : AllCoherent σ) (v : View) :
    visible σ v = Spec.visible (abs σ) v := by
  cases v with
  | cls c =>
    by_cases hc : c < σ.classes.length
    · exact read_is_overlay_class σ hwf c (hco c hc)
    · have hge : σ.classes.length ≤ c := Nat.le_of_not_lt hc
      funext k
      simp only [visible, descOf_ge σ c hge, Spec.visible, classVisible, chain]
      rw [show (abs σ).mro c = σ.mroOf c from rfl, mroOf_ge σ c hge]
      rfl
  | inst i =>
    cases hx : σ.insts[i]? with
    | none =>
      have hi : (abs σ).insts[i]? = none := by rw [abs_insts_get, hx]; rfl
      funext k
      simp only [visible, hx, Spec.visible, hi]
      rfl
    | some x => exact read_is_overlay_inst σ hwf i x hx (hco x.cls (hwf.inst_lt i x hx))

theorem c17_histories_from (σ : State) (h : Inv σ) (cmds : List Cmd) (hg : histGuard σ cmds = true)
    (v : View) : visible (run σ cmds).1 v = Spec.visible (Spec.run (abs σ) cmds) v := by
  obtain ⟨hr, hi⟩ := refine_run cmds σ h hg
  rw [← hr]
  exact read_is_overlay_all _ hi.wf hi.co v

/-- `C17_Full` restricted to the histories that stay outside the open findings KF-C17-a and KF-C17-c -/
def C17_Partial : Prop :=
  ∀ (init : List (Key × Val)) (cmds : List Cmd) (v : View) (k : Key),
    histGuard (initState init) cmds = true →
    visible (run (initState init) cmds).1 v k
      = Spec.visible (Spec.run (abs (initState init)) cmds) v k

/-- C17, sentence 1, over whole histories (guarded): after every history of commands from a
    fresh root that contains no instance `clear()` over a key unknown to the class (KF-C17-a) and no
    mixed-descriptor `class X(A, B)` (KF-C17-c), every view — class or instance, existing or not — reads exactly as
    the layered store of the property text reads after the same history: its own writes and
    tombstones over what its parents show, instances over their class, nothing flowing upward. -/
theorem c17_histories_partial : C17_Partial := fun init cmds v k hg =>
  congrFun (c17_histories_from (initState init) (Inv_initState init) cmds hg v) k

/-- the guard is what separates `C17_Partial` from the refuted `C17_Full`: both negation witnesses
    are rejected by it -/
theorem histGuard_rejects_witnesses :
    histGuard (initState []) witnessClear = false ∧
    histGuard (initState []) witnessMI = false := by decide +kernel

/-- … and a history that hands one `Properties` object to a second class passes it (KF-C17-b closed) -/
theorem histGuard_accepts_shared : histGuard (initState [(kS, .int 1)]) witnessShared = true := by decide +kernel

def LocalNodup (σ : State) : Prop := ∀ (i : Nat) (x : Inst), σ.insts[i]? = some x → KeysNodup x.loc

theorem LocalNodup_step (σ : State) (h : LocalNodup σ) (cmd : Cmd) : LocalNodup (step σ cmd).1 := by
  obtain ⟨τ, hd, hu⟩ := step_cases σ cmd
  generalize (step σ cmd).1 = υ at hu
  have hτ : LocalNodup τ := fun i x hx => h i x (hd.insts ▸ hx)
  cases hu with
  | same => exact hτ
  | frame => exact hτ
  | inst i x y hx _ hn =>
    intro j z hz
    simp only [setInst] at hz
    by_cases e : i = j
    · subst e
      rw [List.getElem?_set_self (lt_of_getElem? _ _ _ hx)] at hz
      cases hz
      exact hn (hτ i x hx)
    · rw [List.getElem?_set_ne e] at hz; exact hτ j z hz
  | newInst y _ hn =>
    intro j z hz
    rw [show ({ τ with insts := τ.insts ++ [y] } : State).insts = τ.insts ++ [y] from rfl,
      Lists.getElem?_append_singleton] at hz
    split at hz
    · cases hz; exact hn
    · exact hτ j z hz

theorem LocalNodup_run (cmds : List Cmd) (σ : State) (h : LocalNodup σ) : LocalNodup (run σ cmds).1 :=
  run_invariant LocalNodup (fun _ => True) (fun σ h c _ => LocalNodup_step σ h c) cmds σ h (fun _ _ => trivial)

theorem LocalNodup_initState (init : List (Key × Val)) : LocalNodup (initState init) := by
  intro i x hx; simp [initState] at hx

/-- the view goes through `_TypeLookup` / `_InstanceLookup` (an existing class, or an instance
    that still uses local storage) -/
def lookupView (σ : State) : View → Bool
  | .cls c => decide (c < σ.classes.length)
  | .inst i =>
    match σ.insts[i]? with
    | some ⟨_, .storage _⟩ => true
    | _ => false

/-- Results along guarded histories: after any guarded history, whatever method is called
    next through a class view or an attached instance view returns what a Python dict holding the
    *reference* mapping of that view would return (order-free methods: `[]`, `get`, `in`, `del`,
    `pop`, `setdefault`, …), and the iterating methods (`items`, `keys`, `values`, `copy`, `bool`,
    `==`, `!=`) are computed on a duplicate-free listing of exactly the reference mapping. -/
theorem c17_results_partial (init : List (Key × Val)) (pre : List Cmd)
    (hg : histGuard (initState init) pre = true) (v : View) (o : Op)
    (hv : lookupView (run (initState init) pre).1 v = true) :
    let m := Spec.visible (Spec.run (abs (initState init)) pre) v
    (∀ r, dictResult o m = some r → (step (run (initState init) pre).1 (.op v o)).2 = r) ∧
    ∃ l, ItemsOf m l ∧ ∀ r, iterResult l o = some r → (step (run (initState init) pre).1 (.op v o)).2 = r := by
  obtain ⟨hr, hi⟩ := refine_run pre _ (Inv_initState init) hg
  have hn := LocalNodup_run pre _ (LocalNodup_initState init)
  have hm := read_is_overlay_all _ hi.wf hi.co v
  rw [hr] at hm
  simp only
  rw [← hm]
  generalize (run (initState init) pre).1 = σ at hi hn hv
  cases v with
  | cls c =>
    have hc : c < σ.classes.length := by simpa [lookupView] using hv
    obtain ⟨d, hd, _⟩ := hi.co c hc
    exact ⟨fun r h => dict_result_class σ c hc d hd o r h, iter_result_class σ c hc d hd o⟩
  | inst i =>
    cases hx : σ.insts[i]? with
    | none => simp [lookupView, hx] at hv
    | some x =>
      obtain ⟨c, loc⟩ := x
      cases loc with
      | plain m => simp [lookupView, hx] at hv
      | storage f =>
        obtain ⟨d, hd, _⟩ := hi.co c (hi.wf.inst_lt i _ hx)
        have hnf : (f.map (·.1)).Nodup := hn i _ hx
        exact ⟨fun r h => dict_result_inst σ i _ f d hx rfl hd hnf o r h,
          iter_result_inst σ i _ f d hx rfl hd hnf o⟩

/-- each witness trips its own guard component and no other -/
theorem witnesses_trip_own_guard :
    (witnessClear.all (fun c => decide (CmdOK c) && decide (NoSharing c)) = true ∧
      badClear (run (initState []) (witnessClear.take 3)).1 (.op (.inst 0) .clear) = true) ∧
    (witnessMI.all (fun c => decide (CmdOK c) && decide (NoSharing c)) = true ∧
      miGuard (run (initState []) (witnessMI.take 3)).1 (.subclassMI [1, 2, 0]) = false) := by decide +kernel

/-- for the non-vacuity of `c17_histories_partial`: parent P(0) with `{k: 0}`, children A(1) and B(2),
    grandchild G(3) of A, a class D(4) made by `A.using(properties={t: None})`, a diamond X(5) =
    `class X(A, B)`, instances of A (0) and G (1);
    then writes, deletions, `pop`, `setdefault`, `update`, `clear` on a class and on an instance,
    an instance created with `properties={…}`, and reads through class and instance views -/
def guardedHist : List Cmd :=
  [.subclass 0, .subclass 0, .subclass 1, .usingProps 1 [(kT, .none)], .subclassMI [1, 2, 0],
   .newInst 1, .newInst 3,
   .op (.cls 0) (.setitem kA (.int 1)),
   .op (.cls 1) (.setitem kB (.int 2)),
   .op (.cls 1) (.delitem kA),
   .op (.cls 2) (.pop kK none),
   .op (.inst 0) (.setdefault kA (.int 5)),
   .op (.cls 3) (.setdefault kB (.int 9)),
   .op (.inst 1) (.delitem kB),
   .op (.cls 3) (.update [(kS, .int 3), (kA, .int 4)]),
   .op (.inst 1) .clear,
   .op (.cls 1) .clear,
   .op (.cls 0) (.setitem kB (.int 7)),
   .op (.cls 4) (.pop kT (some (.int 0))),
   .withProps 2 [(kS, .int 8)],
   .newInstWith 6 [(kA, .int 6)],
   .op (.cls 0) .items, .op (.cls 1) (.getitem kB), .op (.cls 2) (.get kA .none),
   .op (.inst 0) .keys, .op (.inst 1) (.contains kS), .op (.cls 5) .items]

theorem guardedHist_ok : histGuard (initState [(kK, .int 0)]) guardedHist = true := by decide +kernel

/-- so every view reads as the layered reference after this history … -/
example (v : View) (k : Key) :
    visible (run (initState [(kK, .int 0)]) guardedHist).1 v k
      = Spec.visible (Spec.run (abs (initState [(kK, .int 0)])) guardedHist) v k :=
  c17_histories_partial _ _ v k guardedHist_ok

/-- … and the history is not a no-op: the views differ from each other in the expected ways
    (P keeps `k`, A was cleared and then sees only P's later write, B popped `k`, G's own `update`
    survives A's `clear`, the instance of A keeps its own `setdefault`, the diamond X sees A's
    tombstones before B and P, the `with_properties` class 6 adds `s`, its instance is detached) -/
example :
    let σ := (run (initState [(kK, .int 0)]) guardedHist).1
    visible σ (.cls 0) kK = some (.int 0) ∧ visible σ (.cls 0) kA = some (.int 1) ∧
    visible σ (.cls 1) kK = none ∧ visible σ (.cls 1) kA = none ∧ visible σ (.cls 1) kB = none ∧
    visible σ (.cls 2) kK = none ∧ visible σ (.cls 2) kA = some (.int 1) ∧ visible σ (.cls 2) kB = some (.int 7) ∧
    visible σ (.cls 3) kA = some (.int 4) ∧ visible σ (.cls 3) kS = some (.int 3) ∧
    visible σ (.cls 4) kT = none ∧ visible σ (.cls 4) kK = none ∧
    visible σ (.cls 5) kA = none ∧ visible σ (.cls 5) kB = none ∧
    visible σ (.cls 6) kS = some (.int 8) ∧ visible σ (.cls 6) kB = some (.int 7) ∧
    visible σ (.inst 0) kA = some (.int 5) ∧ visible σ (.inst 1) kS = none ∧
    visible σ (.inst 2) kA = some (.int 6) ∧ visible σ (.inst 2) kK = none := by decide +kernel

/-- `c17_results_partial`: after the history, `pop` through B returns the value inherited from P,
    and through the instance of G (cleared, then nothing written) `in` is false -/
example : (step (run (initState [(kK, .int 0)]) guardedHist).1 (.op (.cls 2) (.pop kA none))).2 = .val (.int 1) :=
  (c17_results_partial _ guardedHist guardedHist_ok (.cls 2) _ (by decide +kernel)).1 _ (by decide +kernel)
example : (step (run (initState [(kK, .int 0)]) guardedHist).1 (.op (.inst 1) (.contains kS))).2 = .bool false :=
  (c17_results_partial _ guardedHist guardedHist_ok (.inst 1) _ (by decide +kernel)).1 _ (by decide +kernel)

end Flatland.C17.Proofs
