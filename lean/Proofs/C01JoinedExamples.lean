/-
C01: the round-trip theorems speak about schemas that contain a JoinedString with
`prune_empty = False`.  For such a kind the empty text splits into ONE empty member
(`''.split(',') == ['']`), while a JoinedString that was never set has no members at all.  Both
states conform (`OkP`): the first is settled, the second fresh.  They flatten to the same pair; the
round trip runs `set('')` and therefore rebuilds the settled state from either.
-/
import Proofs.C01Examples
import Proofs.C01Second
namespace Flatland.Flat.Proofs
open Flatland.Flat Flatland.Flat.Spec

/-- texts are kept as they are; a JoinedString's text without a separator in it is its one member —
    in particular the empty text gives one empty member (the non-pruning behaviour) -/
def exEnvJ : Env :=
  { norm := fun _ s => s, compose := fun _ _ => [], joinedMembers := fun _ t => [t],
    ndZeros := [48], maxDigits := 4300 }

example : exEnvJ.joinedMembers 0 [] = [[]] := rfl

theorem exEnvJ_OK : EnvOK exEnvJ := ⟨[], rfl⟩

/-- `Dict.of(JoinedString.named('j').using(prune_empty=False))` -/
def exSchemaJ : Schema :=
  .dict none false .dense [.joined (some "j".toList) false 0 (.leaf none false 0)]

/-- after `el['j'].set('')`: text `''`, one empty member -/
def exElemJSet : Elem := .dict [("j".toList, .joined [] [.leaf []])]

/-- never set: text `''`, no members -/
def exElemJFresh : Elem := .dict [("j".toList, .joined [] [])]

theorem exJ_sepSafe : SepSafe exEnvJ "_".toList (Tok exSchemaJ) :=
  sepSafe_single_char exEnvJ exEnvJ_OK exSchemaJ '_' (by decide +kernel) (by decide +kernel)

theorem exJSet_okP : OkP exEnvJ exSchemaJ exElemJSet := by
  simp [exSchemaJ, exElemJSet, OkP, OkPFields, Schema.name, exEnvJ]

theorem exJSet_pr : pr exEnvJ false exSchemaJ exElemJSet = exElemJSet := by
  simp [exSchemaJ, exElemJSet, pr, prFields, exEnvJ]

example : fromFlat exEnvJ "_".toList exSchemaJ (flatten exEnvJ "_".toList exSchemaJ exElemJSet)
    = exElemJSet := by
  rw [roundtrip_pruned exEnvJ "_".toList exSchemaJ exElemJSet exJ_sepSafe exEnvJ_OK (by decide +kernel)
    (by decide +kernel) (by decide +kernel) exJSet_okP, exJSet_pr]

theorem exJFresh_okP : OkP exEnvJ exSchemaJ exElemJFresh := by
  simp [exSchemaJ, exElemJFresh, OkP, OkPFields, Schema.name, exEnvJ]

theorem exJFresh_pr : pr exEnvJ false exSchemaJ exElemJFresh = exElemJSet := by
  simp [exSchemaJ, exElemJFresh, exElemJSet, pr, prFields, exEnvJ]

/-- `from_flat` runs `set('')` on the JoinedString: one empty member appears -/
theorem exJFresh_roundtrip :
    fromFlat exEnvJ "_".toList exSchemaJ (flatten exEnvJ "_".toList exSchemaJ exElemJFresh)
      = .dict [("j".toList, .joined [] [.leaf []])] := by
  rw [roundtrip_pruned exEnvJ "_".toList exSchemaJ exElemJFresh exJ_sepSafe exEnvJ_OK (by decide +kernel)
    (by decide +kernel) (by decide +kernel) exJFresh_okP, exJFresh_pr]
  rfl

/-- … which `flatten` does not show (the members of a JoinedString are never flattened) -/
example : flatten exEnvJ "_".toList exSchemaJ
      (fromFlat exEnvJ "_".toList exSchemaJ (flatten exEnvJ "_".toList exSchemaJ exElemJFresh))
    = flatten exEnvJ "_".toList exSchemaJ exElemJFresh :=
  roundtrip_flatten_noprune exEnvJ "_".toList exSchemaJ exElemJFresh exJ_sepSafe exEnvJ_OK (by decide +kernel)
    (by decide +kernel) (by decide +kernel) (by decide +kernel) exJFresh_okP

theorem exJ_flatten :
    flatten exEnvJ "_".toList exSchemaJ exElemJFresh = [("j".toList, "".toList)] ∧
    flatten exEnvJ "_".toList exSchemaJ exElemJSet = [("j".toList, "".toList)] := by
  simp only [flatten_eq_flattenE]; decide +kernel

/-- `List.named('l').of(JoinedString.using(prune_empty=False))` -/
def exSchemaLJ : Schema := .list (some "l".toList) false true 1024 (.joined none false 0 (.leaf none false 0))

/-- `[<set('')>, <set('x')>]` -/
def exElemLJ : Elem := .list [.joined [] [.leaf []], .joined "x".toList [.leaf "x".toList]]

theorem exLJ_sepSafe : SepSafe exEnvJ "_".toList (Tok exSchemaLJ) :=
  sepSafe_single_char exEnvJ exEnvJ_OK exSchemaLJ '_' (by decide +kernel) (by decide +kernel)

theorem exLJ_okP : OkP exEnvJ exSchemaLJ exElemLJ := by
  simp only [exSchemaLJ, exElemLJ, OkP]
  refine ⟨by decide, ?_, ?_⟩
  · intro i hi
    simp only [List.length_cons, List.length_nil] at hi
    have : i = 0 ∨ i = 1 := by omega
    rcases this with rfl | rfl
    · rw [natStr_lt 0 (by omega)]; decide +kernel
    · rw [natStr_lt 1 (by omega)]; decide +kernel
  · intro e he
    simp only [List.mem_cons, List.not_mem_nil, or_false] at he
    rcases he with rfl | rfl <;> simp [OkP, exEnvJ]

theorem exLJ_pr : pr exEnvJ false exSchemaLJ exElemLJ = .list [.joined "x".toList [.leaf "x".toList]] := by
  simp only [exSchemaLJ, exElemLJ, pr, if_true, List.filter_cons, List.filter_nil, emitsB_joined]
  simp [pr, exEnvJ]

/-- below a pruning List: the dropped pair leaves the member out, the kept one is re-set -/
example : fromFlat exEnvJ "_".toList exSchemaLJ (flatten exEnvJ "_".toList exSchemaLJ exElemLJ)
    = .list [.joined "x".toList [.leaf "x".toList]] := by
  rw [roundtrip_pruned exEnvJ "_".toList exSchemaLJ exElemLJ exLJ_sepSafe exEnvJ_OK (by decide +kernel)
    (by decide +kernel) (by decide +kernel) exLJ_okP, exLJ_pr]

end Flatland.Flat.Proofs
