/-
C07 — uniqueness of keys: under `SepSafe`, two emitted pairs with the same key belong to elements
with the same *name path* (the names on the path from the root, list members contributing their
index).  Distinct name paths occur only once in a tree except for the members of one Array /
MultiValue, which all share their parent's path — so keys are unique except for those.
-/
import Proofs.C07
import Proofs.Lemmas.SepSafe
namespace Flatland.Flat.Proofs
open Flatland.Flat

variable {env : Env} {sep : Str} {T : Str → Prop}

theorem joinSep_inj (hs : SepSafe env sep T) : ∀ (π π' : List Str), (∀ t ∈ π, T t) → (∀ t ∈ π', T t) →
    joinSep sep π = joinSep sep π' → π = π'
  | [], [], _, _, _ => rfl
  | [], t' :: r', _, h', h => by
    have hne := hs.tok_ne t' (h' t' (by simp))
    exfalso
    cases r' with
    | nil => rw [joinSep_single] at h; exact hne h.symm
    | cons u r =>
      rw [joinSep_cons_cons] at h
      simp only [joinSep] at h
      exact hne (List.append_eq_nil_iff.mp (List.append_eq_nil_iff.mp h.symm).1).1
  | t :: r, [], h1, _, h => by
    have hne := hs.tok_ne t (h1 t (by simp))
    exfalso
    cases r with
    | nil => rw [joinSep_single] at h; exact hne h
    | cons u r =>
      rw [joinSep_cons_cons] at h
      simp only [joinSep] at h
      exact hne (List.append_eq_nil_iff.mp (List.append_eq_nil_iff.mp h).1).1
  | [t], [t'], _, _, h => by
    simp only [joinSep_single] at h; rw [h]
  | [t], t' :: u' :: r', h1, _, h => by
    rw [joinSep_single, joinSep_cons_cons] at h
    exact absurd h (hs.no_sep t (h1 t (by simp)) t' _)
  | t :: u :: r, [t'], _, h', h => by
    rw [joinSep_single, joinSep_cons_cons] at h
    exact absurd h.symm (hs.no_sep t' (h' t' (by simp)) t _)
  | t :: u :: r, t' :: u' :: r', h1, h', h => by
    rw [joinSep_cons_cons, joinSep_cons_cons] at h
    have htt := hs.split t t' (h1 t (by simp)) (h' t' (by simp)) _ _ h
    subst htt
    rw [joinSep_inj hs (u :: r) (u' :: r') (fun x hx => h1 x (List.mem_cons_of_mem _ hx))
      (fun x hx => h' x (List.mem_cons_of_mem _ hx)) (List.append_cancel_left h)]

mutual
/-- every name in the tree satisfies `P` -/
def allNames (P : Str → Prop) : FNode → Prop
  | .mk nm _ _ _ _ kids => (∀ x, nm = some x → P x) ∧ allNamesL P kids
def allNamesL (P : Str → Prop) : List FNode → Prop
  | [] => True
  | k :: ks => allNames P k ∧ allNamesL P ks
end

theorem allNamesL_get (P : Str → Prop) (ks : List FNode) (h : allNamesL P ks) (i : Nat) (hi : i < ks.length) :
    allNames P (ks[i]!) := by
  induction ks generalizing i with
  | nil => simp at hi
  | cons k ks ih =>
    simp only [allNamesL] at h
    cases i with
    | zero => simpa using h.1
    | succ j =>
      simp only [List.length_cons, Nat.add_lt_add_iff_right] at hi
      simpa using ih h.2 j hi

theorem below_tokens (P : Str → Prop) (hidx : ∀ i, P (natStr i)) {p : List Str} {n : FNode}
    {p' : List Str} {n' : FNode} (hb : Below p n p' n') (hp : ∀ t ∈ p, P t) (hn : allNames P n) :
    (∀ t ∈ namePath p' n', P t) := by
  induction hb with
  | here p n =>
    intro t ht
    obtain ⟨nm, fl, cfl, u, slots, kids⟩ := n
    simp only [namePath, FNode.name, List.mem_append] at ht
    rcases ht with ht | ht
    · exact hp t ht
    · exact hn.1 t (Option.mem_toList.mp ht)
  | @kid p n p' n' i hc hi _ ih =>
    obtain ⟨nm, fl, cfl, u, slots, kids⟩ := n
    apply ih
    · intro t ht
      simp only [childPath, FNode.slots, namePath, FNode.name] at ht
      have hnm : ∀ t ∈ p ++ nm.toList, P t := by
        intro t ht
        rcases List.mem_append.mp ht with h | h
        · exact hp t h
        · exact hn.1 t (Option.mem_toList.mp h)
      cases slots with
      | true =>
        simp only [if_true] at ht
        rcases List.mem_append.mp ht with h | h
        · exact hnm t h
        · simp at h; subst h; exact hidx i
      | false =>
        simp only [Bool.false_eq_true, if_false] at ht
        exact hnm t ht
    · exact allNamesL_get P kids hn.2 i hi

/-- C07, keys are unique up to the name path: if two pairs emitted by `flatten()` carry the same key,
    the two elements they belong to have the same name path (so they are the same element, or two
    members of one Array / MultiValue, the only elements that share a name path). -/
theorem keys_unique_paths (hs : SepSafe env sep T) (hidx : ∀ i, T (natStr i)) (n : FNode)
    (hn : allNames T n) (x y : Str × Str) (hx : x ∈ flattenNode sep n) (hy : y ∈ flattenNode sep n)
    (hk : x.1 = y.1) :
    ∃ p₁ n₁ p₂ n₂, Below [] n p₁ n₁ ∧ Below [] n p₂ n₂ ∧ n₁.fl = true ∧ n₂.fl = true ∧
      x = (joinSep sep (namePath p₁ n₁), n₁.u) ∧ y = (joinSep sep (namePath p₂ n₂), n₂.u) ∧
      namePath p₁ n₁ = namePath p₂ n₂ := by
  obtain ⟨p₁, n₁, hb₁, hf₁, hx⟩ := keys_are_paths sep n x hx
  obtain ⟨p₂, n₂, hb₂, hf₂, hy⟩ := keys_are_paths sep n y hy
  refine ⟨p₁, n₁, p₂, n₂, hb₁, hb₂, hf₁, hf₂, hx, hy, ?_⟩
  have h1 := below_tokens T hidx hb₁ (by simp) hn
  have h2 := below_tokens T hidx hb₂ (by simp) hn
  apply joinSep_inj hs _ _ h1 h2
  rw [hx, hy] at hk
  exact hk

end Flatland.Flat.Proofs
