/-
Identity accounting for every list-protocol and dict-protocol call of the model, for a call applied anywhere
in a tree (`stepAt`), and for histories.
-/
import Proofs.C08IdsBuild
import Proofs.C08All
namespace Flatland.C08.Proofs
open Flatland.Tree Flatland.PyList Flatland.C08 Flatland.C08.Spec
open Flatland.C10.Proofs (findKid_some findKid_none fieldFor_some keep replaceKid_keys hdr_parts hdr_eq_parts)

theorem LS.pure (next : Nat) {old new : List Node} (hk : kokL new = true) (hc : ∀ a, cntL a new ≤ cntL a old) :
    LS next old next new :=
  ⟨Nat.le_refl _, hk, fun a => by have := hc a; omega⟩

theorem keep_ls {n : Node} (hk : kok n = true) (extra : List Node) {next n1 : Nat} (h : next ≤ n1) :
    LS next (n :: extra) n1 [n] :=
  (LS.pure next (kok_single.mpr hk) (fun a => by simp only [cntL_cons, cntL_nil]; omega)).mono h

theorem wrap_ok_ls {m : Schema} (hm : swf m = true) {a : Arg} (ha : kokL (argElems a) = true) {next n1 : Nat} {w : Node}
    (h : wrap m a next = (.ok w, n1)) : LS next (argElems a) n1 [w] := by
  cases a with
  | elem e => simp only [wrap, Prod.mk.injEq, Except.ok.injEq] at h; rw [← h.1, ← h.2]; exact LS.refl _ ha
  | plain r => exact construct_ls m r none [] next hm w n1 h

theorem wrap_le {m : Schema} (hm : swf m = true) (a : Arg) (next : Nat) : next ≤ (wrap m a next).2 := by
  cases a with
  | elem e => exact Nat.le_refl _
  | plain r => exact construct_next_le m r none [] next hm

theorem wrap_le' {m : Schema} (hm : swf m = true) {a : Arg} {next n1 : Nat} {x : Except Exc Node}
    (h : wrap m a next = (x, n1)) : next ≤ n1 := by
  have := wrap_le hm a next; rw [h] at this; exact this

theorem wrapAll_le {m : Schema} (hm : swf m = true) (as : List Arg) : ∀ next, next ≤ (wrapAll m as next).2 := by
  induction as with
  | nil => intro next; exact Nat.le_refl _
  | cons a as ih =>
    intro next
    rw [wrapAll]
    split
    · rename_i h; exact wrap_le' hm h
    · rename_i w n1 h
      have h1 := wrap_le' hm h
      have h2 := ih n1
      split
      · rename_i h'; rw [h'] at h2; exact Nat.le_trans h1 h2
      · rename_i h'; rw [h'] at h2; exact Nat.le_trans h1 h2

theorem wrapAll_ok_ls {m : Schema} (hm : swf m = true) (as : List Arg) : ∀ (next n1 : Nat) (ws : List Node),
    kokL (as.flatMap argElems) = true → wrapAll m as next = (.ok ws, n1) → LS next (as.flatMap argElems) n1 ws := by
  induction as with
  | nil =>
    intro next n1 ws _ h
    simp only [wrapAll, Prod.mk.injEq, Except.ok.injEq] at h
    rw [← h.1, ← h.2]; exact LS.nil _ _
  | cons a as ih =>
    intro next n1 ws ha h
    rw [List.flatMap_cons, kokL_append] at ha
    rw [wrapAll] at h
    split at h
    · cases h
    · rename_i w n2 hw
      split at h
      · cases h
      · rename_i ws' n3 hws
        cases h
        have h1 := wrap_ok_ls hm ha.1 hw
        have h2 := ih n2 _ ws' ha.2 hws
        rw [List.flatMap_cons]
        exact h1.append h2

theorem newSlots_ls (lst len : Nat) (ws : List Node) : ∀ (next : Nat), kokL ws = true →
    LS next ws (newSlots lst len ws next).2 (newSlots lst len ws next).1 := by
  induction ws with
  | nil => intro next _; rw [newSlots]; exact LS.nil _ _
  | cons w ws ih =>
    intro next h
    rw [kokL, Bool.and_eq_true] at h
    rw [newSlots]
    exact LS.cons (mkSlot_ls next lst len h.1) (ih (next + 1) h.2)

theorem kok_withKids {n : Node} (hk : kok n = true) {ks : List Node}
    (hkeys : isMap n.kind = true → (ks.map Node.key).Nodup) (h : kokL ks = true) : kok (n.withKids ks) = true := by
  cases n with
  | mk i s kids =>
    rw [Node.withKids, kok_iff]
    exact ⟨(kok_swf hk :), hkeys, (kokL_iff _).mp h⟩

theorem set_slot_ls {a b : Nat} {l extra sub : List Node} {k : Nat} {slot x : Node} (hl : l[k]? = some slot)
    (hkl : kokL l = true) (h : LS a sub b [x]) (hsub : ∀ y, cntL y sub ≤ cntL y slot.kids + cntL y extra) :
    LS a (l ++ extra) b (l.set k (slot.withKids [x])) := by
  have hsm : slot ∈ l := List.mem_of_getElem? hl
  refine ⟨h.hle, ?_, fun y => ?_⟩
  · rw [kokL_iff]
    intro z hz
    rcases List.mem_or_eq_of_mem_set hz with h1 | h1
    · exact (kokL_iff _).mp hkl z h1
    · rw [h1]; exact kok_withKids ((kokL_iff _).mp hkl slot hsm) (fun _ => by simp) h.hkok
  · have h1 := cntL_set y hl (slot.withKids [x])
    have h2 := h.hcnt y
    have h3 := hsub y
    rw [cnt_withKids, cnt_eq y slot, cntL_singleton] at h1
    rw [cntL_singleton] at h2
    rw [cntL_append]; omega

theorem take_drop_sub {α : Type} {l : List α} {a b : Nat} {x : α} (h : x ∈ (l.drop a).take b) : x ∈ l :=
  List.mem_of_mem_drop (List.mem_of_mem_take h)

theorem cntL_map_withParent (a : Nat) (l : List Node) (p : Option Nat) :
    cntL a (l.map (fun w => w.withParent p)) = cntL a l := by
  induction l with
  | nil => rfl
  | cons x xs ih => rw [List.map_cons, cntL_cons, cntL_cons, cnt_withParent, ih]

theorem kokL_map_withParent (l : List Node) (p : Option Nat) : kokL (l.map (fun w => w.withParent p)) = kokL l := by
  induction l with
  | nil => rfl
  | cons x xs ih => simp only [List.map_cons, kokL, kok_withParent, ih]

theorem seqItems_ls (n : Node) {ws : List Node} (k : Nat) (h : kokL ws = true) :
    LS k ws (seqItems n ws k).2 (seqItems n ws k).1 := by
  unfold seqItems
  split
  · exact newSlots_ls n.id n.kids.length ws k h
  · exact (LS.refl k h).congr_new (fun x => cntL_map_withParent x ws _) (kokL_map_withParent ws _)

theorem newSlots_next (lst len : Nat) (ws : List Node) : ∀ k, (newSlots lst len ws k).2 = k + ws.length := by
  induction ws with
  | nil => intro k; rfl
  | cons w ws ih => intro k; rw [newSlots, ih, List.length_cons]; omega

theorem Reached.le {n : Node} {next n1 : Nat} (h : Reached n next n1) (hs : swf n.sch = true) : next ≤ n1 := by
  rcases h with rfl | ⟨m, hm, args, rfl | ⟨ws, k, hw, rfl⟩⟩
  · exact Nat.le_refl _
  · exact wrapAll_le (swf_member hs hm) args next
  · have h1 := wrapAll_le (swf_member hs hm) args next
    rw [hw] at h1
    unfold seqItems
    split
    · rw [newSlots_next]; omega
    · exact h1

theorem kokL_seqFin (n : Node) {ks : List Node} (h : kokL ks = true) : kokL (seqFin n ks) = true := by
  unfold seqFin; split
  · exact kokL_renumberFrom 0 ks h
  · exact h

theorem cntL_seqFin (a : Nat) (n : Node) (ks : List Node) : cntL a (seqFin n ks) = cntL a ks := by
  unfold seqFin; split
  · exact cntL_renumber a ks
  · rfl

theorem kok_withKids_seq {n : Node} (hk : kok n = true) (hm : isMap n.kind = false) {ks : List Node}
    (h : kokL ks = true) : kok (n.withKids ks) = true :=
  kok_withKids hk (fun hm' => absurd (hm.symm.trans hm') (by simp)) h

theorem Appends.ls {m : Schema} (hm : swf m = true) {n n' : Node} {k k' : Nat} {used : List Arg}
    (h : Appends m n k used n' k') (hk : kok n = true) (hmap : isMap n.kind = false)
    (ha : kokL (used.flatMap argElems) = true) : LS k (n :: used.flatMap argElems) k' [n'] := by
  induction h with
  | done => exact LS.refl _ (kok_single.mpr hk)
  | bump a _ ih => exact (ih hk hmap ha).mono_left (wrap_le hm a _)
  | @step n k a w k1 used n' k' hw _ ih =>
    rw [List.flatMap_cons, kokL_append] at ha
    have h1 := wrap_ok_ls hm ha.1 hw
    have h2 := appendEl_ls n w k1 hk hmap (kok_single.mp h1.hkok)
    have h3 := ih (kok_single.mp h2.hkok) (by rw [appendEl_kind]; exact hmap) ha.2
    rw [List.flatMap_cons]
    exact (((LS.frame hk h1).trans h2).append (LS.refl _ ha.2)).trans h3

/-- the accounting inequality with the members that left the container on the left -/
def Det (n : Node) (args : List Node) (next : Nat) (r : StepR) : Prop :=
  ∀ a, cnt a r.node + cntL a r.detached ≤ cnt a n + cntL a args + ind next r.next a

theorem det_of_ls {n : Node} {args : List Node} {next : Nat} {r : StepR} (h : LS next (n :: args) r.next [r.node])
    (hd : r.detached = []) : Det n args next r := fun a => by
  have := h.hcnt a
  simp only [cntL_cons, cntL_nil] at this
  rw [hd, cntL_nil]; omega

/-- `Sequence.set` starts with `del self[:]`: what was there plays no part -/
theorem setNode_seq_forget (n : Node) (h : IsSeq n.kind) (raw : Raw) (pol : Option Policy) (next : Nat) :
    setNode n raw pol next = setNode (n.withKids []) raw pol next := by
  cases n with
  | mk i s kids =>
    show setNode (.mk i s kids) raw pol next = setNode (.mk i s []) raw pol next
    rw [setNode_seq i s kids raw pol next h, setNode_seq i s [] raw pol next h]

theorem SeqShape.ls {n : Node} {next : Nat} {op : SeqOp} {r : StepR} (h : SeqShape n next op r) (hk : kok n = true)
    (hmap : isMap n.kind = false) (hop : kokL (placedSeq op) = true) :
    LS next (n :: placedSeq op) r.next [r.node] ∧ (IsSeq n.kind → Det n (placedSeq op) next r) := by
  have hkids : kokL n.kids = true := kokL_of_kok hk
  have hkid : ∀ x ∈ n.kids, kok x = true := (kokL_iff _).mp hkids
  have hs : swf n.sch = true := kok_swf hk
  have of_ls : ∀ {r : StepR}, LS next (n :: placedSeq op) r.next [r.node] → r.detached = [] →
      LS next (n :: placedSeq op) r.next [r.node] ∧ (IsSeq n.kind → Det n (placedSeq op) next r) :=
    fun L hd => ⟨L, fun _ => det_of_ls L hd⟩
  have of_det : ∀ {r : StepR}, next ≤ r.next → kok r.node = true → Det n (placedSeq op) next r →
      LS next (n :: placedSeq op) r.next [r.node] ∧ (IsSeq n.kind → Det n (placedSeq op) next r) :=
    fun h1 h2 h3 =>
      ⟨⟨h1, kok_single.mpr h2, fun a => by have := h3 a; simp only [cntL_cons, cntL_nil]; omega⟩, fun _ => h3⟩
  cases h with
  | keep hn _ => exact of_ls (keep_ls hk _ (hn.le hs)) rfl
  | @place m args ws k news n2 ks ks' rem hm hwr hpl hit hin hperm hks =>
    have h1 := wrapAll_ok_ls (swf_member hs hm) args next k ws (hpl ▸ hop) hwr
    have h2 : LS k ws n2 news := by
      have := seqItems_ls n k h1.hkok
      rw [hit] at this; exact this
    have h12 := h1.trans h2
    refine of_det h12.hle (kok_withKids_seq hk hmap ?_) (fun a => ?_)
    · rw [hks]
      exact kokL_seqFin n ((kokL_iff _).mpr (fun x hx =>
        (List.mem_append.mp (hperm.subset (List.mem_append_left _ hx))).elim (hkid x) ((kokL_iff _).mp h12.hkok x)))
    · have h3 := cntL_perm a hperm
      have h4 := h12.hcnt a
      rw [cntL_append, cntL_append] at h3
      show cnt a (n.withKids ks') + cntL a rem ≤ cnt a n + cntL a (placedSeq op) + ind next n2 a
      rw [cnt_withKids, hks, cntL_seqFin, cnt_eq a n, hpl]; omega
  | @drop n1 out ks ks' rem det hn hout hpl hperm hdet hks =>
    refine of_det (hn.le hs) (kok_withKids_seq hk hmap ?_) (fun a => ?_)
    · rw [hks]; exact kokL_seqFin n (kokL_sub hkids (fun x hx => hperm.subset (List.mem_append_left _ hx)))
    · have h3 := cntL_perm a hperm
      rw [cntL_append] at h3
      have hd : cntL a det = cntL a rem := by
        rcases hdet with rfl | rfl
        · rfl
        · exact cntL_map_withParent a rem none
      show cnt a (n.withKids ks') + cntL a det ≤ cnt a n + cntL a (placedSeq op) + ind next n1 a
      rw [cnt_withKids, hks, cntL_seqFin, cnt_eq a n, hd]; omega
  | @grow m used n' k out hm hch hpl hfull hexc =>
    have L := hch.ls (swf_member hs hm) hk hmap (kokL_sub hop (fun x hx => hpl.subset hx))
    exact of_ls (L.of_le (fun x => by have := cntL_sublist hpl x; simp only [cntL_cons]; omega)) rfl
  | @slotElem i e slot k hopq hlist hl =>
    subst hopq
    have he : kok e = true := by simpa [placedSeq, argElems, kokL] using hop
    have h0 : LS next [e] next [e.withParent (some slot.id)] := (LS.refl next (kok_single.mpr he)).withParent_new _
    have L := withKids_ls hk hmap (set_slot_ls (extra := [e]) hl hkids h0 (fun y => by simp))
    refine of_det (Nat.le_refl _) (kok_single.mp L.hkok) (fun a => ?_)
    have h1 := cntL_set a hl (slot.withKids [e.withParent (some slot.id)])
    rw [cnt_withKids, cntL_singleton, cnt_withParent, cnt_eq a slot] at h1
    show cnt a (n.withKids _) + cntL a slot.kids ≤ cnt a n + cntL a [e] + ind next next a
    rw [cnt_withKids, cnt_eq a n, cntL_singleton]; omega
  | @slotSet i r slot el k out hopq hlist hg hl hel =>
    subst hopq
    have hslot := hkid slot (List.mem_of_getElem? hl)
    have helm : el ∈ slot.kids := List.mem_of_mem_head? hel
    have hS := setNode_ls r el none next ((kokL_iff _).mp (kokL_of_kok hslot) el helm)
    exact of_ls (withKids_ls (extra := []) hk hmap
      (set_slot_ls (extra := []) hl hkids hS (fun y => by
        have := cnt_le_cntL (a := y) helm
        simp only [cntL_singleton, cntL_nil]; omega))) rfl
  | @set r out hopq =>
    subst hopq
    have L := setNode_ls r n none next hk
    refine ⟨L, fun hseq a => ?_⟩
    have h1 := (setNode_ls r (n.withKids []) none next (kok_withKids hk (fun _ => by simp) rfl)).hcnt a
    rw [← setNode_seq_forget n hseq] at h1
    simp only [cntL_singleton, cnt_withKids, cntL_nil] at h1
    show cnt a (setNode n r none next).node + cntL a n.kids ≤
      cnt a n + cntL a ([] : List Node) + ind next (setNode n r none next).next a
    rw [cnt_eq a n]; omega
  | @setDefault out hopq => subst hopq; exact of_ls (setDefault_ls n next hk) rfl

theorem seqStep_ls (n : Node) (hk : kok n = true) (hmap : isMap n.kind = false) (op : SeqOp)
    (hop : kokL (placedSeq op) = true) (next : Nat) :
    LS next (n :: placedSeq op) (seqStep n op next).next [(seqStep n op next).node] :=
  ((seqStep_shape n op next).ls hk hmap hop).1

theorem seqStep_det (n : Node) (hk : kok n = true) (hseq : IsSeq n.kind) (op : SeqOp)
    (hop : kokL (placedSeq op) = true) (next : Nat) : Det n (placedSeq op) next (seqStep n op next) :=
  ((seqStep_shape n op next).ls hk (not_isMap_of_seq hseq) hop).2 hseq

theorem setChild_ls (child : Node) (a : Arg) (next : Nat) (hk : kok child = true) :
    LS next [child] (setChild child a next).next [(setChild child a next).node] := by
  unfold setChild
  split
  · exact setNode_ls _ child none next hk
  · split
    · exact (LS.refl next (kok_single.mpr hk)).congr_new
        (fun x => by rw [cntL_singleton, cntL_singleton, cnt_withScalar]) (by simp [kokL, kok_withScalar])
    · exact LS.refl next (kok_single.mpr hk)

theorem key_withKey (x : Node) (k : Str) : (x.withKey k).key = k := by cases x; rfl

theorem isMap_of_hdr {r n : Node} (h : r.hdr = n.hdr) (hm : isMap n.kind = true) : isMap r.kind = true := by
  rw [kind_of_hdr h]; exact hm

theorem mapReset_ls (n : Node) (hk : kok n = true) (hm : isMap n.kind = true) (next : Nat) :
    LS next [n] (mapReset n next).2 [(mapReset n next).1] ∧ (mapReset n next).1.hdr = n.hdr := by
  obtain ⟨hls, hnd⟩ := freshKids_ls n.ni (kok_swf hk) hm next
  rw [mapReset_eq]
  exact ⟨withKids_ls_map (extra := []) hk (fun _ => hnd) hls.forget, rfl⟩

theorem mapReset_fresh (n : Node) (hk : kok n = true) (hm : isMap n.kind = true) (next : Nat) (a : Nat) :
    cntL a (mapReset n next).1.kids ≤ ind next (mapReset n next).2 a := by
  have := (freshKids_ls n.ni (kok_swf hk) hm next).1.hcnt a
  rw [mapReset_eq]; simpa using this

theorem nodup_keys_eraseKey {kids : List Node} (h : (kids.map Node.key).Nodup) (k : Str) :
    ((eraseKey kids k).map Node.key).Nodup :=
  List.Nodup.sublist (List.Sublist.map _ List.filter_sublist) h

theorem NewKid.ls {n : Node} {key : Str} {next : Nat} {a : Arg} {x : Node} {n1 : Nat} (h : NewKid n key next a x n1)
    (hs : swf n.sch = true) (ha : kokL (argElems a) = true) : LS next (argElems a) n1 [x] ∧ x.key = key := by
  have hsf : ∀ {f}, fieldFor n.sch.subs key = some f → swf f = true := fun hf => swf_subs hs _ (fieldFor_some hf).1
  cases h with
  | @placed e f hf hi =>
    have he : kok e = true := by simpa [argElems, kokL] using ha
    exact ⟨(LS.refl next (kok_single.mpr he)).congr_new
        (fun x => by rw [cntL_singleton, cntL_singleton, cnt_withKey, cnt_withParent])
        (by simp [kokL, kok_withKey, kok_withParent]), key_withKey _ _⟩
  | @scalar e f v u ok hf hadapt =>
    exact ⟨((blank_ls f (some n.id) key next (hsf hf)).congr_new
        (fun x => by rw [cntL_singleton, cntL_singleton, cnt_withScalar]) (by simp [kokL, kok_withScalar])).forget,
      by rw [key_withScalar]; exact (hdr_eq_parts (blank_hdr f (some n.id) key next)).2.2.2.1⟩
  | @built r f x n1 hf hc =>
    exact ⟨construct_ls f r (some n.id) key next (hsf hf) x n1 hc,
      (hdr_eq_parts (construct_hdr f r (some n.id) key next x (by rw [hc]))).2.2.2.1⟩
  | @defaulted d f hf =>
    have hb := (blank_ls f none key next (hsf hf)).withParent_new (some n.id)
    refine ⟨hb.trans (setNode_ls d _ none _ (kok_single.mp hb.hkok)), ?_⟩
    rw [key_of_hdr (setNode_hdr _ d none _), key_withParent]
    exact (hdr_eq_parts (blank_hdr f none key next)).2.2.2.1

theorem ItemShape.ls {n : Node} {next : Nat} {key : Str} {a : Arg} {r : StepR} (h : ItemShape n next key a r)
    (hk : kok n = true) (hm : isMap n.kind = true) (ha : kokL (argElems a) = true) :
    (LS next (n :: argElems a) r.next [r.node] ∧ r.node.hdr = n.hdr) ∧ Det n (argElems a) next r := by
  have hkids : kokL n.kids = true := kokL_of_kok hk
  have hs : swf n.sch = true := kok_swf hk
  have hnd : (n.kids.map Node.key).Nodup := ((kok_iff n).mp hk).2.1 hm
  have of_ls : ∀ {r : StepR}, LS next (n :: argElems a) r.next [r.node] → r.node.hdr = n.hdr → r.detached = [] →
      (LS next (n :: argElems a) r.next [r.node] ∧ r.node.hdr = n.hdr) ∧ Det n (argElems a) next r :=
    fun L hh hd => ⟨⟨L, hh⟩, det_of_ls L hd⟩
  cases h with
  | keep hn =>
    refine of_ls (keep_ls hk _ ?_) rfl rfl
    rcases hn with rfl | ⟨f, r, hf, rfl⟩
    · exact Nat.le_refl _
    · exact construct_next_le f r (some n.id) key next (swf_subs hs f (fieldFor_some hf).1)
  | add hsp hnone hx =>
    obtain ⟨hL, hkey⟩ := hx.ls hs ha
    exact of_ls (withKids_ls_map hk (fun _ => nodup_keys_append hnd (by rw [hkey]; exact findKid_none hnone))
      ((LS.refl next hkids).append hL)) rfl rfl
  | @put e child f hae hsp hc hf hi =>
    subst hae
    have he : kok e = true := by simpa [argElems, kokL] using ha
    have L : LS next (n :: argElems (.elem e)) next
        [n.withKids (replaceKid n.kids key ((e.withParent (some n.id)).withKey key))] := by
      refine withKids_ls_map hk (fun _ => ?_) (replace_ls hkids hnd hc ?_)
      · rw [replaceKid_keys _ _ _ (key_withKey _ _)]; exact hnd
      · exact LS.pure next (by simp [kokL, kok_withKey, kok_withParent, he])
          (fun x => by simp only [cntL_cons, cntL_nil, cnt_withKey, cnt_withParent, argElems]; omega)
    refine ⟨⟨L, rfl⟩, fun x => ?_⟩
    have h1 := cntL_perm x (perm_replaceKid n.kids key ((e.withParent (some n.id)).withKey key) child hnd hc)
    simp only [cntL_append, cntL_singleton, cnt_withKey, cnt_withParent] at h1
    show cnt x (n.withKids _) + cntL x [child] ≤ cnt x n + cntL x [e] + ind next next x
    rw [cnt_withKids, cntL_singleton, cntL_singleton, cnt_eq x n]
    omega
  | @update child out hc =>
    have hcm := findKid_some hc
    have h1 := setChild_ls child a next ((kokL_iff _).mp hkids child hcm.1)
    have h2 : LS next (child :: argElems a) (setChild child a next).next [(setChild child a next).node] :=
      h1.of_le (fun x => by simp only [cntL_cons, cntL_nil]; omega)
    refine of_ls (withKids_ls_map hk (fun _ => ?_) (replace_ls hkids hnd hc h2)) rfl rfl
    rw [replaceKid_keys _ _ _ (by rw [key_of_hdr (Flatland.C10.Proofs.setChild_hdr child a next)]; exact hcm.2)]
    exact hnd

theorem ItemSteps.ls {n : Node} {k : Nat} {used : List (Str × Arg)} {r : StepR} (h : ItemSteps n k used r) :
    kok n = true → isMap n.kind = true → kokL (used.flatMap (fun p => argElems p.2)) = true →
    (LS k (n :: used.flatMap (fun p => argElems p.2)) r.next [r.node] ∧ r.node.hdr = n.hdr) ∧
      Det n (used.flatMap (fun p => argElems p.2)) k r := by
  induction h with
  | done => intro hk _ _; exact ⟨⟨LS.refl _ (kok_single.mpr hk), rfl⟩, fun a => by simp [cntL_nil]⟩
  | @stop n k key a r h he =>
    intro hk hm ha
    rw [List.flatMap_cons, List.flatMap_nil, List.append_nil] at ha ⊢
    exact h.ls hk hm ha
  | @step n k key a r rest q h hok hrest ih =>
    intro hk hm ha
    rw [List.flatMap_cons, kokL_append] at ha
    obtain ⟨⟨L1, hh1⟩, D1⟩ := h.ls hk hm ha.1
    obtain ⟨⟨L2, hh2⟩, D2⟩ := ih (kok_single.mp L1.hkok) (isMap_of_hdr hh1 hm) ha.2
    rw [List.flatMap_cons]
    refine ⟨⟨(L1.append (LS.refl r.next ha.2)).trans L2, hh2.trans hh1⟩, fun x => ?_⟩
    have := D1 x; have := D2 x; have := ind_add x L1.hle L2.hle
    show cnt x q.node + cntL x (r.detached ++ q.detached) ≤ cnt x n + cntL x (argElems a ++ _) + ind k q.next x
    rw [cntL_append, cntL_append]; omega

theorem erase_det (a : Nat) (kids : List Node) (k : Str) :
    cntL a (eraseKey kids k) + cntL a (findKid kids k).toList ≤ cntL a kids := by
  have h1 := cntL_perm a (List.filter_append_perm (fun c => !(c.key == k)) kids)
  rw [cntL_append] at h1
  unfold eraseKey
  cases hf : findKid kids k with
  | none => simp only [Option.toList, cntL_nil]; omega
  | some c =>
    have hc := findKid_some hf
    have := cnt_le_cntL (a := a) (List.mem_filter.mpr ⟨hc.1, by simp [hc.2]⟩ : c ∈ kids.filter (fun x => !(!(x.key == k))))
    simp only [Option.toList, cntL_singleton]; omega

theorem MapShape.ls {n : Node} {next : Nat} {op : MapOp} {r : StepR} (h : MapShape n next op r) (hk : kok n = true)
    (hm : isMap n.kind = true) (hop : kokL (placedMap op) = true) :
    (LS next (n :: placedMap op) r.next [r.node] ∧ r.node.hdr = n.hdr) ∧ Det n (placedMap op) next r := by
  have hkids : kokL n.kids = true := kokL_of_kok hk
  have hnd : (n.kids.map Node.key).Nodup := ((kok_iff n).mp hk).2.1 hm
  have of_ls : ∀ {r : StepR}, LS next (n :: placedMap op) r.next [r.node] → r.node.hdr = n.hdr → r.detached = [] →
      (LS next (n :: placedMap op) r.next [r.node] ∧ r.node.hdr = n.hdr) ∧ Det n (placedMap op) next r :=
    fun L hh hd => ⟨⟨L, hh⟩, det_of_ls L hd⟩
  cases h with
  | keep => exact of_ls (keep_ls hk _ (Nat.le_refl _)) rfl rfl
  | item hopq h => subst hopq; exact h.ls hk hm hop
  | default hopq hs h => subst hopq; exact h.ls hk hm rfl
  | @erase k out _ _ hout hpl =>
    have L : LS next [n] next [n.withKids (eraseKey n.kids k)] := by
      refine withKids_ls_map (extra := []) hk (fun _ => nodup_keys_eraseKey hnd k) ?_
      refine LS.pure next (kokL_sub hkids (fun x hx => (List.mem_filter.mp hx).1)) (fun a => ?_)
      rw [List.append_nil]; exact cntL_sublist List.filter_sublist a
    rw [hpl]
    refine ⟨⟨L, rfl⟩, fun a => ?_⟩
    have := erase_det a n.kids k
    show cnt a (n.withKids _) + cntL a (findKid n.kids k).toList ≤ cnt a n + cntL a [] + ind next next a
    rw [cnt_withKids, cnt_eq a n]; omega
  | reset hopq =>
    subst hopq
    obtain ⟨L, hh⟩ := mapReset_ls n hk hm next
    refine ⟨⟨L, hh⟩, fun a => ?_⟩
    have hfresh := mapReset_fresh n hk hm next a
    show cnt a (mapReset n next).1 + cntL a n.kids ≤ cnt a n + cntL a (placedMap .clear) + ind next (mapReset n next).2 a
    rw [cnt_eq a (mapReset n next).1, (hdr_parts hh).1, cnt_eq a n]; omega
  | @items used r h hpl hopq =>
    obtain ⟨⟨L, hh⟩, D⟩ := h.ls hk hm (kokL_sub hop (fun x hx => hpl.subset hx))
    have hc := cntL_sublist hpl
    exact ⟨⟨L.of_le (fun x => by have := hc x; simp only [cntL_cons]; omega), hh⟩,
      fun x => by have := D x; have := hc x; omega⟩
  | set hopq => subst hopq; exact of_ls (setNode_ls _ n _ _ hk) (setNode_hdr _ _ _ _) rfl
  | setDefault hopq => subst hopq; exact of_ls (setDefault_ls n next hk) (setDefault_hdr _ _) rfl

theorem mapStep_ls (n : Node) (hk : kok n = true) (hm : isMap n.kind = true) (op : MapOp)
    (hop : kokL (placedMap op) = true) (next : Nat) :
    LS next (n :: placedMap op) (mapStep n op next).next [(mapStep n op next).node] ∧
      (mapStep n op next).node.hdr = n.hdr :=
  ((mapStep_shape n op next).ls hk hm hop).1

theorem mapStep_det (n : Node) (hk : kok n = true) (hm : isMap n.kind = true) (op : MapOp)
    (hop : kokL (placedMap op) = true) (next : Nat) : Det n (placedMap op) next (mapStep n op next) :=
  ((mapStep_shape n op next).ls hk hm hop).2

theorem isMap_cases (k : SKind) : isMap k = true ↔ k = .dict ∨ k = .sparse := by
  cases k <;> simp [isMap]

theorem nodeStep_ls (n : Node) (hk : kok n = true) (op : Op) (hop : kokL (placedArgs op) = true) (next : Nat) :
    LS next (n :: placedArgs op) (nodeStep n op next).next [(nodeStep n op next).node] ∧
      (nodeStep n op next).node.hdr = n.hdr := by
  rcases nodeStep_cases n op next with ⟨o, rfl, hs, h⟩ | ⟨o, rfl, hm, h⟩ | h <;> rw [h]
  · exact ⟨seqStep_ls n hk (not_isMap_of_seq hs) o hop next, seqStep_hdr n o next⟩
  · exact mapStep_ls n hk hm o hop next
  · exact ⟨keep_ls hk _ (Nat.le_refl _), rfl⟩

theorem ls_swap {A pre post : List Node} {k k' : Node} {next next' : Nat} (hk : kokL (pre ++ k :: post) = true)
    (h : LS next (k :: A) next' [k']) : LS next ((pre ++ k :: post) ++ A) next' (pre ++ k' :: post) :=
  ⟨h.hle, (kokL_iff _).mpr (forall_mem_swap ((kokL_iff _).mp hk) (fun _ => kok_single.mp h.hkok)), fun a => by
    have := h.hcnt a
    simp only [cntL_append, cntL_cons, cntL_nil] at this ⊢; omega⟩

theorem _root_.Flatland.Tree.Swap.ls {A : List Node} {next next' : Nat} {n n' t t' : Node} (h : Swap n n' t t')
    (hn : kok n = true → LS next (n :: A) next' [n'] ∧ n'.hdr = n.hdr) :
    kok t = true → LS next (t :: A) next' [t'] ∧ t'.hdr = t.hdr := by
  induction h with
  | here => exact hn
  | @kid i s pre post k k' _ ih =>
    intro hk
    have hks := kok_kids hk
    have hkk := ih ((kokL_iff _).mp hks k (by simp))
    exact ⟨withKids_ls_map hk (fun hm => by rw [keys_swap hkk.2]; exact kok_keys hk hm) (ls_swap hks hkk.1), rfl⟩

theorem stepAt_ls (op : Op) (hop : kokL (placedArgs op) = true) (tid : Nat) :
    ∀ (t : Node) (next : Nat) (r : StepR), kok t = true → stepAt t tid op next = some r →
      LS next (t :: placedArgs op) r.next [r.node] ∧ r.node.hdr = t.hdr := by
  intro t next r hk hr
  obtain ⟨n, _, hs, he, _⟩ := stepAt_swap op tid next t r hr
  rw [he]
  exact hs.ls (fun hkn => nodeStep_ls n hkn op hop next) hk

theorem stepAtL_ls (op : Op) (hop : kokL (placedArgs op) = true) (tid : Nat) :
    ∀ (ks : List Node) (next : Nat) (ks' : List Node) (r : StepR), kokL ks = true →
      stepAtL ks tid op next = some (ks', r) →
      LS next (ks ++ placedArgs op) r.next ks' ∧ ks'.map Node.key = ks.map Node.key := by
  intro ks next ks' r hk hr
  obtain ⟨pre, k, post, rfl, rfl, hs⟩ := stepAtL_split op tid next _ _ _ hr
  have := stepAt_ls op hop tid k next r ((kokL_iff _).mp hk k (by simp)) hs
  exact ⟨ls_swap hk this.1, keys_swap this.2⟩

theorem cntL_eq_count (a : Nat) (l : List Node) : cntL a l = (l.flatMap ids).count a := by
  have : (nodesL l).map Node.id = l.flatMap ids := by
    induction l with
    | nil => rfl
    | cons k ks ih => rw [nodesL, List.map_append, ih, List.flatMap_cons]; rfl
  unfold cntL; rw [this]

/-- what the accounting inequality gives for a whole tree: old identities are distinct and below the counter, so
    none is handed out again -/
theorem idinv_of_ls {old : List Node} {root' : Node} {next next' : Nat}
    (hnd : (old.flatMap ids).Nodup) (hb : ∀ a ∈ old.flatMap ids, a < next) (h : LS next old next' [root']) :
    IdInv ⟨root', next'⟩ := by
  have hc : ∀ a, cnt a root' ≤ (old.flatMap ids).count a + ind next next' a := fun a => by
    have := h.hcnt a; rwa [cntL_singleton, cntL_eq_count] at this
  have hold : ∀ a, 0 < (old.flatMap ids).count a → (old.flatMap ids).count a ≤ 1 ∧ ind next next' a = 0 ∧ a < next :=
    fun a ha => ⟨List.nodup_iff_count.mp hnd a, ind_eq_zero_of_lt (hb a (List.count_pos_iff.mp ha)),
      hb a (List.count_pos_iff.mp ha)⟩
  refine ⟨nodup_of_cnt (fun a => ?_), fun a ha => ?_, kok_single.mp h.hkok⟩
  · show cnt a root' ≤ 1
    have h1 := hc a
    have h3 := ind_le_one next next' a
    by_cases hz : 0 < (old.flatMap ids).count a
    · have := hold a hz; omega
    · omega
  · have h0 := (mem_ids_iff a root').mp ha
    have h1 := hc a
    have hle := h.hle
    by_cases hz : 0 < (old.flatMap ids).count a
    · have := hold a hz; show a < next'; omega
    · exact (ind_pos (lo := next) (hi := next') (a := a) (by omega)).2

/-- `UniqueIds` is preserved by every call of the model (with it: every identity stays below
    the allocation counter, keys stay unique), provided the Element arguments the call places
    are fresh or detached objects. -/
theorem hstep_idinv (s : HState) (h : HOp) (hi : IdInv s) (ha : ArgsFresh s h.op) : IdInv (hstep s h) := by
  rcases hstep_cases s h with ⟨_, e⟩ | ⟨r, hs, e⟩ <;> rw [e]
  · exact hi
  · refine idinv_of_ls (old := s.root :: placedArgs h.op) ?_ ?_
      (stepAt_ls h.op ((kokL_iff _).mpr ha.2.2) h.target s.root s.next r hi.keys hs).1
    · rw [List.flatMap_cons]; exact (List.perm_append_comm.nodup_iff).mp ha.1
    · intro a ha'
      rw [List.flatMap_cons] at ha'
      exact (List.mem_append.mp ha').elim (hi.below a) (ha.2.1 a)

theorem hrun_idinv (hs : List HOp) : ∀ (s : HState), IdInv s → HistFresh s hs → IdInv (hrun s hs) :=
  hrun_induct (H := HistFresh) (fun s h _ hi hf => ⟨hstep_idinv s h hi hf.1, hf.2⟩) hs

/-- every construction route of the model yields unique identities below the counter; `set` and `set_default` on a
    root keep them -/
theorem idinv_init (s : Schema) (hs : swf s = true) (key : Str) (next : Nat) :
    IdInv ⟨(blank s none key next).1, (blank s none key next).2⟩ ∧
    (∀ raw e n1, construct s raw none key next = (.ok e, n1) → IdInv ⟨e, n1⟩) ∧
    IdInv ⟨(fromDefaults s none key next).node, (fromDefaults s none key next).next⟩ ∧
    (∀ (st : HState) raw pol, IdInv st → IdInv ⟨(setNode st.root raw pol st.next).node, (setNode st.root raw pol st.next).next⟩) ∧
    (∀ (st : HState), IdInv st → IdInv ⟨(setDefault st.root st.next).node, (setDefault st.root st.next).next⟩) := by
  have hnew : ∀ {n' : Node} {next' : Nat}, LS next [] next' [n'] → IdInv ⟨n', next'⟩ :=
    idinv_of_ls (old := []) List.nodup_nil (fun _ h => nomatch h)
  have hupd : ∀ {st : HState} {n' : Node} {next' : Nat}, IdInv st → LS st.next [st.root] next' [n'] → IdInv ⟨n', next'⟩ :=
    fun hi => idinv_of_ls (old := [_]) (by simpa [UniqueIds] using hi.uniq) (by simpa using hi.below)
  refine ⟨hnew (blank_ls s none key next hs), ?_, hnew (fromDefaults_ls s none key next hs), ?_, ?_⟩
  · intro raw e n1 h; exact hnew (construct_ls s raw none key next hs e n1 h)
  · intro st raw pol hi; exact hupd hi (setNode_ls raw st.root pol st.next hi.keys)
  · intro st hi; exact hupd hi (setDefault_ls st.root st.next hi.keys)

end Flatland.C08.Proofs
