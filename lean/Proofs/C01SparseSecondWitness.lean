/-
C01 with SparseDicts, the clause "a second round trip changes no flat output": each of its two extra hypotheses
`blankSettled`, `prefixFree` is needed (a schema, state and environment under every other hypothesis on which the
second trip changes the flat output), and a state under all hypotheses on which the first trip really reorders, prunes
and loses a member.  Trees and flat outputs are evaluated in the model step by step (Lemmas/FlattenE.lean) and stated
as theorems.
-/
import Proofs.C01SecondExamples
import Proofs.C01SparseExamples
import Proofs.Lemmas.FlattenE
namespace Flatland.Flat.Proofs
open Flatland.Flat Flatland.Flat.Spec

/-- a Boolean-like scalar kind (kind 1, `Boolean(true='yes', false='no')`): every text that is not
    the true token — the empty text included — is read back as the false token 'no'.  All other
    kinds keep their text. -/
def exEnvBool : Env :=
  { norm := fun k s => if k = 1 then (if s = "yes".toList then "yes".toList else "no".toList) else s,
    compose := fun _ _ => [], joinedMembers := fun _ _ => [], ndZeros := [48], maxDigits := 4300 }

theorem exEnvBoolOK : EnvOK exEnvBool := ⟨[], rfl⟩

/-! ### 1. `blankSettled` is needed — with a `prefixFree` schema

`SparseDict(minimum_fields='required'){ r: Boolean(true='yes', false='no') }` holding `{}` (the
required member absent: `OkS` allows any subset).  Trip 1 re-creates `r` blank: flat `[(r, '')]`;
trip 2 reads `''` back as `'no'`: flat `[(r, 'no')]`. -/

def exBSSchema : Schema := .dict none false .sparseReq [ .leaf (some "r".toList) false 1 ]
def exBSElem : Elem := .dict []

theorem exBS_sepSafe : SepSafe exEnvBool "_".toList (Tok exBSSchema) :=
  sepSafe_single_char exEnvBool exEnvBoolOK exBSSchema '_' (by decide +kernel) (by decide +kernel)

theorem exBS_ok : OkS exEnvBool exBSSchema exBSElem := okSB_sound _ _ _ (by decide +kernel)

theorem exBS_flat0 : flatten exEnvBool "_".toList exBSSchema exBSElem = [] := by
  rw [flatten_eq_flattenE]; decide +kernel

theorem exBS_trip1 : fromFlat exEnvBool "_".toList exBSSchema [] = .dict [("r".toList, .leaf [])] :=
  eq_of_elemBeq _ _ (by decide +kernel)

theorem exBS_flat1 : flatten exEnvBool "_".toList exBSSchema (.dict [("r".toList, .leaf [])])
    = [("r".toList, [])] := by
  rw [flatten_eq_flattenE]; decide +kernel

theorem exBS_trip2 : fromFlat exEnvBool "_".toList exBSSchema [("r".toList, [])]
    = .dict [("r".toList, .leaf "no".toList)] :=
  eq_of_elemBeq _ _ (by decide +kernel)

theorem exBS_flat2 : flatten exEnvBool "_".toList exBSSchema (.dict [("r".toList, .leaf "no".toList)])
    = [("r".toList, "no".toList)] := by
  rw [flatten_eq_flattenE]; decide +kernel

/-- **`blankSettled` is needed** for "a second trip changes nothing", even for `prefixFree` schemas:
    every other hypothesis holds, the second trip turns `r = ''` into `r = 'no'`. -/
theorem second_trip_needs_blankSettled : ∃ (env : Env) (sep : Str) (s : Schema) (e : Elem),
    SepSafe env sep (Tok s) ∧ EnvOK env ∧ wf s = true ∧ rootOK s = true ∧ OkS env s e ∧
    prefixFree s = true ∧ blankSettled env s = false ∧
    flatten env sep s (fromFlat env sep s (flatten env sep s (fromFlat env sep s (flatten env sep s e))))
      ≠ flatten env sep s (fromFlat env sep s (flatten env sep s e)) := by
  refine ⟨exEnvBool, "_".toList, exBSSchema, exBSElem, exBS_sepSafe, exEnvBoolOK, by decide, by decide,
    exBS_ok, by decide, by decide, ?_⟩
  rw [exBS_flat0, exBS_trip1, exBS_flat1, exBS_trip2, exBS_flat2]
  decide +kernel

/-! ### 1'. the witness the runner found — not `prefixFree`

`SparseDict{ abc: Boolean(true='yes', false='no'), abc1: Integer }` holding `{abc1: 588}`: trip 1
materialises `abc` blank (`abc` is a prefix of `abc1`), trip 2 reads `''` back as `'no'`. -/

def exBS'Schema : Schema :=
  .dict none false .sparse [ .leaf (some "abc".toList) false 1, .leaf (some "abc1".toList) false 0 ]
def exBS'Elem : Elem := .dict [("abc1".toList, .leaf "588".toList)]

theorem exBS'_sepSafe : SepSafe exEnvBool "_".toList (Tok exBS'Schema) :=
  sepSafe_single_char exEnvBool exEnvBoolOK exBS'Schema '_' (by decide +kernel) (by decide +kernel)

theorem exBS'_ok : OkS exEnvBool exBS'Schema exBS'Elem := okSB_sound _ _ _ (by decide +kernel)

theorem exBS'_flat0 : flatten exEnvBool "_".toList exBS'Schema exBS'Elem
    = [("abc1".toList, "588".toList)] := by
  rw [flatten_eq_flattenE]; decide +kernel

theorem exBS'_trip1 : fromFlat exEnvBool "_".toList exBS'Schema [("abc1".toList, "588".toList)]
    = .dict [("abc".toList, .leaf []), ("abc1".toList, .leaf "588".toList)] :=
  eq_of_elemBeq _ _ (by decide +kernel)

theorem exBS'_flat1 : flatten exEnvBool "_".toList exBS'Schema
      (.dict [("abc".toList, .leaf []), ("abc1".toList, .leaf "588".toList)])
    = [("abc".toList, []), ("abc1".toList, "588".toList)] := by
  rw [flatten_eq_flattenE]; decide +kernel

theorem exBS'_trip2 : fromFlat exEnvBool "_".toList exBS'Schema
      [("abc".toList, []), ("abc1".toList, "588".toList)]
    = .dict [("abc".toList, .leaf "no".toList), ("abc1".toList, .leaf "588".toList)] :=
  eq_of_elemBeq _ _ (by decide +kernel)

theorem exBS'_flat2 : flatten exEnvBool "_".toList exBS'Schema
      (.dict [("abc".toList, .leaf "no".toList), ("abc1".toList, .leaf "588".toList)])
    = [("abc".toList, "no".toList), ("abc1".toList, "588".toList)] := by
  rw [flatten_eq_flattenE]; decide +kernel

/-- the runner's witness: neither `blankSettled` nor `prefixFree` -/
theorem second_trip_needs_blankSettled' : ∃ (env : Env) (sep : Str) (s : Schema) (e : Elem),
    SepSafe env sep (Tok s) ∧ EnvOK env ∧ wf s = true ∧ rootOK s = true ∧ OkS env s e ∧
    prefixFree s = false ∧ blankSettled env s = false ∧
    flatten env sep s (fromFlat env sep s (flatten env sep s (fromFlat env sep s (flatten env sep s e))))
      ≠ flatten env sep s (fromFlat env sep s (flatten env sep s e)) := by
  refine ⟨exEnvBool, "_".toList, exBS'Schema, exBS'Elem, exBS'_sepSafe, exEnvBoolOK, by decide, by decide,
    exBS'_ok, by decide, by decide, ?_⟩
  rw [exBS'_flat0, exBS'_trip1, exBS'_flat1, exBS'_trip2, exBS'_flat2]
  decide +kernel

/-! ### 2. `prefixFree` is needed — a cascade (minimised from a runner case)

`SparseDict{ y?: Dict{ s: SparseDict(minimum_fields='required'){ b?: String, bb: String } }, yb: String }`
holding `{yb: '1'}`; all kinds read `''` back as `''` (`exEnv01`).  Trip 1 materialises `y` (a prefix of
`yb`) as a blank Dict whose inner `s` holds its required `bb` blank: flat `[yb=1, y_s_bb='']`.  Trip 2
sees the key `bb` inside `s` and materialises the optional `b` (a prefix of `bb`): the flat output
GROWS, on the second trip, by `y_s_b=''`.  (A third trip changes nothing more.) -/

def exPFSchema : Schema := .dict none false .sparse
  [ .dict (some "y".toList) true .dense
      [ .dict (some "s".toList) false .sparseReq
          [ .leaf (some "b".toList) true 0, .leaf (some "bb".toList) false 0 ] ],
    .leaf (some "yb".toList) false 0 ]

def exPFElem : Elem := .dict [("yb".toList, .leaf "1".toList)]

/-- the tree after trip 1 -/
def exPFElem1 : Elem :=
  .dict [ ("y".toList, .dict [("s".toList, .dict [("bb".toList, .leaf [])])]),
          ("yb".toList, .leaf "1".toList) ]

/-- the tree after trip 2 -/
def exPFElem2 : Elem :=
  .dict [ ("y".toList, .dict [("s".toList, .dict [("bb".toList, .leaf []), ("b".toList, .leaf [])])]),
          ("yb".toList, .leaf "1".toList) ]

theorem exPF_sepSafe : SepSafe exEnv01 "_".toList (Tok exPFSchema) :=
  sepSafe_single_char exEnv01 exEnvOK exPFSchema '_' (by decide +kernel) (by decide +kernel)

theorem exPF_ok : OkS exEnv01 exPFSchema exPFElem := okSB_sound _ _ _ (by decide +kernel)

theorem exPF_flat0 : flatten exEnv01 "_".toList exPFSchema exPFElem = [("yb".toList, "1".toList)] := by
  rw [flatten_eq_flattenE]; decide +kernel

theorem exPF_trip1 : fromFlat exEnv01 "_".toList exPFSchema [("yb".toList, "1".toList)] = exPFElem1 :=
  eq_of_elemBeq _ _ (by decide +kernel)

theorem exPF_flat1 : flatten exEnv01 "_".toList exPFSchema exPFElem1
    = [("yb".toList, "1".toList), ("y_s_bb".toList, [])] := by
  rw [flatten_eq_flattenE]; decide +kernel

theorem exPF_trip2 : fromFlat exEnv01 "_".toList exPFSchema
    [("yb".toList, "1".toList), ("y_s_bb".toList, [])] = exPFElem2 :=
  eq_of_elemBeq _ _ (by decide +kernel)

theorem exPF_flat2 : flatten exEnv01 "_".toList exPFSchema exPFElem2
    = [("yb".toList, "1".toList), ("y_s_bb".toList, []), ("y_s_b".toList, [])] := by
  rw [flatten_eq_flattenE]; decide +kernel

/-- `prS` (the specification of one trip) says the same: `prS e` and `prS (prS e)` are these trees -/
theorem exPF_prS1 : prS exEnv01 "_".toList false exPFSchema exPFElem = exPFElem1 := by
  rw [← roundtrip_sparse exEnv01 "_".toList exPFSchema exPFElem exPF_sepSafe exEnvOK (by decide +kernel)
    (by decide +kernel) exPF_ok, exPF_flat0, exPF_trip1]

theorem exPF_prS2 : prS exEnv01 "_".toList false exPFSchema exPFElem1 = exPFElem2 := by
  rw [← roundtrip_sparse exEnv01 "_".toList exPFSchema exPFElem1 exPF_sepSafe exEnvOK (by decide +kernel)
    (by decide +kernel) (okSB_sound _ _ _ (by decide +kernel)), exPF_flat1, exPF_trip2]

/-- **`prefixFree` is needed** for "a second trip changes nothing": every other hypothesis holds
    (`blankSettled` included), the flat output grows on the second trip. -/
theorem second_trip_needs_prefixFree : ∃ (env : Env) (sep : Str) (s : Schema) (e : Elem),
    SepSafe env sep (Tok s) ∧ EnvOK env ∧ wf s = true ∧ rootOK s = true ∧ OkS env s e ∧
    blankSettled env s = true ∧ prefixFree s = false ∧
    flatten env sep s (fromFlat env sep s (flatten env sep s (fromFlat env sep s (flatten env sep s e))))
      ≠ flatten env sep s (fromFlat env sep s (flatten env sep s e)) := by
  refine ⟨exEnv01, "_".toList, exPFSchema, exPFElem, exPF_sepSafe, exEnvOK, by decide, by decide,
    exPF_ok, by decide, by decide, ?_⟩
  rw [exPF_flat0, exPF_trip1, exPF_flat1, exPF_trip2, exPF_flat2]
  decide +kernel

/-! ### 3. non-vacuity material for the positive theorem

List `l` (pruning) of `Dict{ id: String, sp: SparseDict(minimum_fields='required'){ o1?, r, o2? } }`;
three members: one whose `sp` is held out of order (`o2`, `r`), one whose values are all empty (trip 1
PRUNES it), one whose optional `o1` is empty (lost below the pruning List).  All hypotheses hold —
`blankSettled` and `prefixFree` included — the first trip changes the tree and the flat output, the
second trip is the identity. -/

def exSecSchema : Schema :=
  .list (some "l".toList) false true 1024
    (.dict none false .dense
      [ .leaf (some "id".toList) false 0,
        .dict (some "sp".toList) false .sparseReq
          [ .leaf (some "o1".toList) true 0, .leaf (some "r".toList) false 0,
            .leaf (some "o2".toList) true 0 ] ])

def exSecElem : Elem :=
  .list [ .dict [ ("id".toList, .leaf "1".toList),
                  ("sp".toList, .dict [("o2".toList, .leaf "y".toList), ("r".toList, .leaf "x".toList)]) ],
          .dict [ ("id".toList, .leaf []), ("sp".toList, .dict [("r".toList, .leaf [])]) ],
          .dict [ ("id".toList, .leaf "3".toList),
                  ("sp".toList, .dict [("o1".toList, .leaf []), ("r".toList, .leaf "z".toList)]) ] ]

/-- the tree after trip 1: two members; `sp` of the first reordered (required `r` first), `o1` of the
    last gone -/
def exSecElem1 : Elem :=
  .list [ .dict [ ("id".toList, .leaf "1".toList),
                  ("sp".toList, .dict [("r".toList, .leaf "x".toList), ("o2".toList, .leaf "y".toList)]) ],
          .dict [ ("id".toList, .leaf "3".toList),
                  ("sp".toList, .dict [("r".toList, .leaf "z".toList)]) ] ]

theorem exSec_sepSafe : SepSafe exEnv01 "_".toList (Tok exSecSchema) :=
  sepSafe_single_char exEnv01 exEnvOK exSecSchema '_' (by decide +kernel) (by decide +kernel)

theorem exSec_envOK : EnvOK exEnv01 := exEnvOK
theorem exSec_wf : wf exSecSchema = true := by decide +kernel
theorem exSec_rootOK : rootOK exSecSchema = true := by decide +kernel
theorem exSec_blankSettled : blankSettled exEnv01 exSecSchema = true := by decide +kernel
theorem exSec_prefixFree : prefixFree exSecSchema = true := by decide +kernel

theorem exSec_ok : OkS exEnv01 exSecSchema exSecElem :=
  okS_short_list (by decide +kernel) (by decide +kernel) (by decide +kernel)

theorem exSec_ok1 : OkS exEnv01 exSecSchema exSecElem1 :=
  okS_short_list (by decide +kernel) (by decide +kernel) (by decide +kernel)

theorem exSec_not_normal : sparseNormal exSecSchema exSecElem = false := by decide +kernel
theorem exSec_normal1 : sparseNormal exSecSchema exSecElem1 = true := by decide +kernel

theorem exSec_flat0 : flatten exEnv01 "_".toList exSecSchema exSecElem
    = [ ("l_0_id".toList, "1".toList), ("l_1_id".toList, []), ("l_2_id".toList, "3".toList),
        ("l_0_sp_o2".toList, "y".toList), ("l_0_sp_r".toList, "x".toList), ("l_1_sp_r".toList, []),
        ("l_2_sp_o1".toList, []), ("l_2_sp_r".toList, "z".toList) ] := by
  rw [flatten_eq_flattenE]; decide +kernel

theorem exSec_flat1 : flatten exEnv01 "_".toList exSecSchema exSecElem1
    = [ ("l_0_id".toList, "1".toList), ("l_1_id".toList, "3".toList), ("l_0_sp_r".toList, "x".toList),
        ("l_0_sp_o2".toList, "y".toList), ("l_1_sp_r".toList, "z".toList) ] := by
  rw [flatten_eq_flattenE]; decide +kernel

theorem exSec_roundtrip1 :
    fromFlat exEnv01 "_".toList exSecSchema (flatten exEnv01 "_".toList exSecSchema exSecElem) = exSecElem1 := by
  rw [exSec_flat0]; exact eq_of_elemBeq _ _ (by decide +kernel)

theorem exSec_roundtrip2 :
    fromFlat exEnv01 "_".toList exSecSchema (flatten exEnv01 "_".toList exSecSchema exSecElem1) = exSecElem1 := by
  rw [exSec_flat1]; exact eq_of_elemBeq _ _ (by decide +kernel)

theorem exSec_prS1 : prS exEnv01 "_".toList false exSecSchema exSecElem = exSecElem1 := by
  rw [← roundtrip_sparse exEnv01 "_".toList exSecSchema exSecElem exSec_sepSafe exEnvOK exSec_wf exSec_rootOK
    exSec_ok, exSec_roundtrip1]

theorem exSec_trip1_changes : prS exEnv01 "_".toList false exSecSchema exSecElem ≠ exSecElem := by
  rw [exSec_prS1]; simp [exSecElem, exSecElem1]

theorem exSec_flat_changes : flatten exEnv01 "_".toList exSecSchema
      (prS exEnv01 "_".toList false exSecSchema exSecElem)
    ≠ flatten exEnv01 "_".toList exSecSchema exSecElem := by
  rw [exSec_prS1, exSec_flat1, exSec_flat0]; decide +kernel

theorem exSec_trip2_identity : prS exEnv01 "_".toList false exSecSchema
      (prS exEnv01 "_".toList false exSecSchema exSecElem)
    = prS exEnv01 "_".toList false exSecSchema exSecElem := by
  rw [exSec_prS1, ← roundtrip_sparse exEnv01 "_".toList exSecSchema exSecElem1 exSec_sepSafe exEnvOK exSec_wf
    exSec_rootOK exSec_ok1, exSec_roundtrip2]

theorem exSec_second_flatten :
    flatten exEnv01 "_".toList exSecSchema (fromFlat exEnv01 "_".toList exSecSchema
      (flatten exEnv01 "_".toList exSecSchema (fromFlat exEnv01 "_".toList exSecSchema
        (flatten exEnv01 "_".toList exSecSchema exSecElem))))
    = flatten exEnv01 "_".toList exSecSchema (fromFlat exEnv01 "_".toList exSecSchema
      (flatten exEnv01 "_".toList exSecSchema exSecElem)) := by
  rw [exSec_roundtrip1, exSec_roundtrip2]

end Flatland.Flat.Proofs
