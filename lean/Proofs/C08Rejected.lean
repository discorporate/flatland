/-
Failure paths (C08 / C09): a rejected call of the model changes nothing.  `seqAtomic` / `mapAtomic` name the calls
whose exceptions are rejections (raised before any documented effect) — the routes of `atomic_route` in
harness/props/g1common.py.  For those, whenever the model's call raises, the element it was aimed at — structure,
stored parent pointers, slot names, identities — and hence the whole tree is returned as it was, and nothing is
reported as detached.  The excluded calls are those with documented effects before a later failure, each with a
witness below (`extend_keeps_prefix`, `setitem_plain_sets_in_place`).

No sort is a rejection route here.  The code has two raising paths for `seq.sort(key=f)`: `f` raises (CPython
computes all keys first and restores the list: a rejection, the oracle's route `sort-key`), or a comparison of two
keys raises (CPython leaves the list rearranged: no rejection).  The model's keyed sort has neither: it sorts, or it
answers `.unsupported` (`keyed_sort_only_refuses`); calling it atomic would make `rejected_seq_unchanged` cover the
comparison-failure path with a vacuous instance.  What holds on that path is `sort_failure_any_permutation_dps`
(Proofs/C09SortFailure.lean), checked on the code by `g1common.check_sort_failure`.

Wherever the theorems below are instantiated with `e = .unsupported` (a sequence without a member schema, a path
outside the modelled code) they say "the model returns its input": true, and no claim about the code; the runners
answer `{"unsupported": true}` for such histories and the harness counts them as oracle-only.
-/
import Proofs.C08TreeExamples
namespace Flatland.C08.Proofs
open Flatland.Tree Flatland.PyList Flatland.C08

/-- list-protocol calls whose exceptions are rejections.  Excluded: `extend` / `+=` / `*=` (the items placed
    before the failing one stay), `set` / `set_default` (empty first), `lst[i] = <plain>` on a List with a
    valid index (`lst[i].set(value)`: the member is set in place and may raise afterwards, KF-C09-b), and every
    sort. -/
def seqAtomic (n : Node) : SeqOp → Bool
  | .extend _ | .iadd _ | .imul _ | .set _ | .setDefault => false
  | .setitem i (.plain _) => !(n.kind = .list) || (getItem n.kids i).isNone
  | .sort _ _ => false
  | _ => true

/-- dict-protocol calls whose exceptions are rejections.  Excluded: item assignment of a key that is present (or,
    on a SparseDict, declared): the child's `set` may raise after it changed; `update` / `|=` (pairs before the
    failing one stay); `set` / `set_default`; `setdefault` of an allowed key on a SparseDict. -/
def mapAtomic (n : Node) : MapOp → Bool
  | .setitem k _ => (findKid n.kids k).isNone && (!(n.kind = .sparse) || (fieldFor n.sch.subs k).isNone)
  | .delitem _ | .pop _ | .popitem | .clear | .get _ | .contains _ | .len => true
  | .setdefault k _ => !(n.kind = .sparse) || !((findKid n.kids k).isSome || (fieldFor n.sch.subs k).isSome)
  | _ => false

def opAtomic (n : Node) : Op → Bool
  | .seq o => seqAtomic n o
  | .map o => mapAtomic n o

/-- the model's keyed sort has no failure path: whenever it "raises", the exception is the marker `.unsupported`
    (the model declines: the key is not defined on every item, or the class has no member schema) -/
theorem keyed_sort_only_refuses (n : Node) (k : SortKey) (rev : Bool) (next : Nat) (e : Exc)
    (h : (seqStep n (.sort (some k) rev) next).out = .exc e) : e = .unsupported := by
  unfold seqStep at h
  split at h
  · simp [excOut] at h; exact h.symm
  · dsimp only at h
    split at h
    · simp at h
    · simp [excOut] at h; exact h.symm

theorem keyed_sort_sorts (n : Node) (m : Schema) (k : SortKey) (rev : Bool) (next : Nat)
    (hm : n.sch.member = some m) (hg : sortGate k n = true) :
    seqStep n (.sort (some k) rev) next =
      ⟨n.withKids (if n.kind = .list then renumber (sortBy (sortLe k rev) n.kids) else sortBy (sortLe k rev) n.kids),
       next, .ok, []⟩ := by
  unfold seqStep
  simp only [hm, hg, if_true]

theorem SeqShape.rejected {n : Node} {next : Nat} {op : SeqOp} {r : StepR} (h : SeqShape n next op r) {e : Exc}
    (hat : seqAtomic n op = true) (he : r.out = .exc e) : r.node = n ∧ r.detached = [] := by
  cases h with
  | keep => exact ⟨rfl, rfl⟩
  | place => cases he
  | drop hn hout => subst he; exact hout.elim
  | grow hm hch hpl hfull hexc =>
    subst he
    rcases hexc with h | ⟨as, rfl | rfl⟩ | ⟨c, rfl⟩
    · exact h.elim
    all_goals cases hat
  | slotElem => cases he
  | slotSet hopq hlist hg => subst hopq; simp [seqAtomic, hlist, hg] at hat
  | set hopq => subst hopq; cases hat
  | setDefault hopq => subst hopq; cases hat

/-- a list-protocol call of the model on a rejection route that raises returns the node unchanged -/
theorem rejected_seq_unchanged (n : Node) (op : SeqOp) (next : Nat) (e : Exc)
    (hat : seqAtomic n op = true) (h : (seqStep n op next).out = .exc e) :
    (seqStep n op next).node = n ∧ (seqStep n op next).detached = [] :=
  (seqStep_shape n op next).rejected hat h

theorem ItemShape.changed {n : Node} {next : Nat} {key : Str} {a : Arg} {r : StepR} (h : ItemShape n next key a r) :
    (r.node = n ∧ r.detached = []) ∨ (∃ c, findKid n.kids key = some c) ∨
      (n.kind = .sparse ∧ ∃ f, fieldFor n.sch.subs key = some f) := by
  cases h with
  | keep => exact .inl ⟨rfl, rfl⟩
  | add hs hnone hx =>
    refine .inr (.inr ⟨hs, ?_⟩)
    cases hx with
    | placed hf | scalar hf | built hf | defaulted hf => exact ⟨_, hf⟩
  | put ha hs hc => exact .inr (.inl ⟨_, hc⟩)
  | update hc => exact .inr (.inl ⟨_, hc⟩)

theorem MapShape.rejected {n : Node} {next : Nat} {op : MapOp} {r : StepR} (h : MapShape n next op r) {e : Exc}
    (hat : mapAtomic n op = true) (he : r.out = .exc e) : r.node = n ∧ r.detached = [] := by
  cases h with
  | keep => exact ⟨rfl, rfl⟩
  | item hopq h =>
    subst hopq
    rcases h.changed with h | ⟨c, hc⟩ | ⟨hs, f, hf⟩
    · exact h
    · simp [mapAtomic, hc] at hat
    · simp [mapAtomic, hs, hf] at hat
  | default hopq hs h =>
    subst hopq
    rcases h.changed with h | ⟨c, hc⟩ | ⟨_, f, hf⟩
    · exact h
    · simp [mapAtomic, hs, hc] at hat
    · simp [mapAtomic, hs, hf] at hat
  | erase hs hopt hout => subst he; exact hout.elim
  | reset => cases he
  | items h hpl hopq =>
    rcases hopq with ⟨_, _, rfl⟩ | ⟨_, rfl⟩ | ⟨_, rfl, _⟩ <;> cases hat
  | set hopq => subst hopq; cases hat
  | setDefault hopq => subst hopq; cases hat

theorem rejected_map_unchanged (n : Node) (op : MapOp) (next : Nat) (e : Exc)
    (hat : mapAtomic n op = true) (h : (mapStep n op next).out = .exc e) :
    (mapStep n op next).node = n ∧ (mapStep n op next).detached = [] :=
  (mapStep_shape n op next).rejected hat h

theorem rejected_node_unchanged (n : Node) (op : Op) (next : Nat) (e : Exc)
    (hat : opAtomic n op = true) (h : (nodeStep n op next).out = .exc e) :
    (nodeStep n op next).node = n ∧ (nodeStep n op next).detached = [] := by
  rcases nodeStep_cases n op next with ⟨o, rfl, _, hn⟩ | ⟨o, rfl, _, hn⟩ | hn <;> rw [hn] at h ⊢
  · exact rejected_seq_unchanged n o next e hat h
  · exact rejected_map_unchanged n o next e hat h
  · exact ⟨rfl, rfl⟩

/-- A call aimed at the element with identity `tid` of a tree, on a rejection route
    at that element, that raises: the tree is returned as it was and nothing is reported as detached. -/
theorem rejected_step_unchanged (op : Op) (tid : Nat) (e : Exc) : ∀ (t : Node) (next : Nat) (r : StepR),
    stepAt t tid op next = some r → r.out = .exc e →
    (∀ n ∈ nodes t, n.id = tid → opAtomic n op = true) → r.node = t ∧ r.detached = [] := by
  intro t next r hr he hat
  obtain ⟨n, hid, hs, _, ho, hd⟩ := stepAt_swap op tid next t r hr
  have := rejected_node_unchanged n op next e (hat n hs.mem hid) (ho ▸ he)
  exact ⟨hs.eq_of_eq this.1, hd.trans this.2⟩

theorem rejected_stepL_unchanged (op : Op) (tid : Nat) (e : Exc) : ∀ (ks : List Node) (next : Nat)
    (ks' : List Node) (r : StepR), stepAtL ks tid op next = some (ks', r) → r.out = .exc e →
    (∀ n ∈ nodesL ks, n.id = tid → opAtomic n op = true) → ks' = ks ∧ r.detached = [] := by
  intro ks next ks' r hr he hat
  obtain ⟨pre, k, post, rfl, rfl, hk⟩ := stepAtL_split op tid next _ _ _ hr
  have := rejected_step_unchanged op tid e k next r hk he (fun n hn => hat n (mem_nodesL_swap hn))
  exact ⟨by rw [this.1], this.2⟩

def isExc (r : StepR) : Bool := match r.out with | .exc _ => true | _ => false
def sameIds (a b : Node) : Bool := ids a == ids b

/-- non-vacuity: `lst[9] = <element>` on the 3-member List of the example tree is a rejection route, the call
    raises, and (by the theorem) the tree comes back as it was -/
example : opAtomic exS3.root (.seq (.setitem 9 (.elem exArg))) = true := by rw [exS3_eq]; decide +kernel
example : (stepAt exS3.root 1 (.seq (.setitem 9 (.elem exArg))) exS3.next).map
    (fun r => (isExc r, sameIds r.node exS3.root)) = some (true, true) := by rw [exS3_eq]; decide +kernel
/-- an undeclared key on the Dict two levels down: rejected, nothing changes -/
example : (stepAt exS3.root 1000 (.map (.setitem ['q'] (.plain (.int 1)))) exS3.next).map
    (fun r => (isExc r, sameIds r.node exS3.root)) = some (true, true) := by rw [exS3_eq]; decide +kernel

/-- the exclusion of `extend` is needed: the call raises (the second item has an undeclared key) and the member
    built from the first item stays — 4 more identities (slot, Dict, two fields) -/
theorem extend_keeps_prefix :
    (stepAt exS3.root 1 (.seq (.extend [.plain (.dict [(['x'], .int 1)]), .plain (.dict [(['z'], .int 1)])])) exS3.next).map
      (fun r => (isExc r, (ids r.node).length, (ids exS3.root).length)) = some (true, 20, 16) := by rw [exS3_eq]; decide +kernel
/-- the exclusion of `lst[i] = <plain value>` with a valid index on a List is needed: `lst[0].set({'z': 1})` raises
    after the Dict member was reset (KF-C09-b) -/
theorem setitem_plain_sets_in_place :
    (stepAt exS3.root 1 (.seq (.setitem 0 (.plain (.dict [(['z'], .int 1)])))) exS3.next).map
      (fun r => (isExc r, sameIds r.node exS3.root)) = some (true, false) := by rw [exS3_eq]; decide +kernel

end Flatland.C08.Proofs

/- C09 reading: a rejected list-protocol call leaves the sequence as it was (members, slot names, parents) —
   the counterpart of a Python list being unchanged after IndexError / TypeError / ValueError. -/
namespace Flatland.C09.Proofs
open Flatland.Tree Flatland.PyList Flatland.C08.Proofs

/-- With `e = .unsupported` the statement is the model handing back its input when it declines a path, not a
    claim about the code. -/
theorem rejected_call_keeps_members (n : Node) (op : SeqOp) (next : Nat) (e : Exc)
    (hat : seqAtomic n op = true) (h : (seqStep n op next).out = .exc e) :
    members (seqStep n op next).node = members n ∧ (seqStep n op next).node.kids = n.kids := by
  rw [(rejected_seq_unchanged n op next e hat h).1]; exact ⟨rfl, rfl⟩

end Flatland.C09.Proofs
