/-
C08 — the tree clauses of the property along histories, with identity uniqueness proved, not
assumed: `c08_tree_inv` (well-parented, parentless root, unique identities below the counter,
unique keys, from the initial state and the arguments alone), with it `navinv_hrun` and
`allChildren_hrun`; `placed_is_child`; and `detached_unreachable`, "removed ⇒ unreachable" named by the call.
-/
import Proofs.C08Placed
namespace Flatland.C08.Proofs
open Flatland.Tree Flatland.PyList Flatland.C08 Flatland.C08.Spec

theorem wp_kids {p : Node} (hp : wp p = true) : ∀ c ∈ p.kids, wp c = true :=
  fun c hc => ((wp_iff p).mp hp c hc).2

theorem wp_of_mem_nodes (t n : Node) (hw : wp t = true) (h : n ∈ nodes t) : wp n = true :=
  forall_nodes (P := fun x => wp x = true) (fun _ => wp_kids) t hw n h

theorem wpL_of_mem_nodesL : ∀ (ks : List Node) (p : Nat) (n : Node), wpL p ks = true → n ∈ nodesL ks → wp n = true :=
  fun ks p n hw h =>
    forall_nodesL (P := fun x => wp x = true) (fun _ => wp_kids) ks (fun k hk => ((wpL_iff p ks).mp hw k hk).2) n h

theorem nodeStep_placed (n : Node) (hw : wp n = true) (op : Op) (next : Nat) (e : Node) (hp : Places n op e)
    (hno : noExc (nodeStep n op next).out) : PlacedIn (nodeStep n op next).node e := by
  rcases nodeStep_cases n op next with ⟨o, rfl, hs, h⟩ | ⟨o, rfl, _, h⟩ | h <;> rw [h] at hno ⊢
  · exact seqStep_placed n hw hs o next hno e hp.2
  · cases o with
    | setitem k a =>
      cases a with
      | plain r => exact hp.elim
      | elem e' =>
        obtain ⟨rfl, hs, f, hf, hi⟩ := hp
        exact (mapSetItem_placed n hs k e' f hf hi next).2.2
    | updateArgs kvs =>
      obtain ⟨hs, pre, post, k, f, rfl, hpost, hf, hi⟩ := hp
      exact mapUpdateArgs_placed pre post k e f n next hs hf hi hpost hno
    | delitem _ | pop _ | popitem | clear | update _ _ | ior _ | setdefault _ _ | get _ | set _ _ | setDefault
    | contains _ | len => exact hp.elim
  · exact hno.elim

/-- placed ⇒ child (every placing call of the model that returns normally, anywhere in a
    tree).  After a call on the element `n` of the tree that stores the Element `e`
    (`Places`), the element with the target's identity in the new tree lists `e` among its
    children with the same identity and subtree, and the stored parent pointer of `e` designates
    that container (`PlacedIn`: through the ListSlot holding it for a List). -/
theorem placed_is_child (s : HState) (h : HOp) (hi : IdInv s) (hw : wp s.root = true)
    (n : Node) (hn : n ∈ nodes s.root) (hid : n.id = h.target) (e : Node) (hp : Places n h.op e)
    (hno : noExc (nodeStep n h.op s.next).out) :
    (nodeStep n h.op s.next).node ∈ nodes (hstep s h).root ∧
    (nodeStep n h.op s.next).node.id = h.target ∧
    PlacedIn (nodeStep n h.op s.next).node e ∧
    ∃ c ∈ children (nodeStep n h.op s.next).node, c.id = e.id ∧ c.kids = e.kids ∧ c.sch = e.sch := by
  have hpl := nodeStep_placed n (wp_of_mem_nodes s.root n hw hn) h.op s.next e hp hno
  refine ⟨(hstep_framed s h hi n hn hid).mem', ?_, hpl, placedIn_child hpl⟩
  exact (id_of_hdr (nodeStep_hdr n h.op s.next)).trans hid

def HistOK (s : HState) (hs : List HOp) : Prop := (∀ h ∈ hs, OpArgsWP h.op) ∧ HistFresh s hs

/-- the whole invariant of the property -/
structure TreeOK (s : HState) : Prop where
  wp : wp s.root = true
  rootless : s.root.parent = none
  ids : IdInv s

/-- the tree invariant along histories: well-parented, parentless root, unique identities
    below the counter, unique keys — from the initial state and the arguments alone -/
theorem c08_tree_inv (hs : List HOp) : ∀ (s : HState), TreeOK s → HistOK s hs → TreeOK (hrun s hs) :=
  fun s hok hh =>
    have h := hrun_wp hs s (fun x hx => good_all x.op (hh.1 x hx)) hok.wp hok.rootless
    ⟨h.1, h.2, hrun_idinv hs s hok.ids hh.2⟩

/-- navigation along histories (`navinv_of_wp` without the `UniqueIds` hypothesis): after any
    history of calls with fresh / detached Element arguments, `parents`, `root` and `path` of every
    node of the tree are its holders, the tree root, and the way from the root to it. -/
theorem navinv_hrun (s : HState) (hs : List HOp) (hok : TreeOK s) (hh : HistOK s hs) : NavInv (hrun s hs).root := by
  have := c08_tree_inv hs s hok hh
  exact navinv_of_wp this.wp this.rootless this.ids.uniq

theorem allChildren_hrun (s : HState) (hs : List HOp) (hok : TreeOK s) (hh : HistOK s hs) :
    AllChildrenSpec (hrun s hs).root :=
  allChildren_spec (c08_tree_inv hs s hok hh).ids.uniq

/-- every construction route of the model starts a history in a `TreeOK` state -/
theorem treeok_init (sc : Schema) (hsc : swf sc = true) (key : Str) (next : Nat) :
    TreeOK ⟨(blank sc none key next).1, (blank sc none key next).2⟩ ∧
    (∀ raw e n1, construct sc raw none key next = (.ok e, n1) → TreeOK ⟨e, n1⟩) ∧
    TreeOK ⟨(fromDefaults sc none key next).node, (fromDefaults sc none key next).next⟩ ∧
    (∀ (st : HState) raw pol, TreeOK st → TreeOK ⟨(setNode st.root raw pol st.next).node, (setNode st.root raw pol st.next).next⟩) ∧
    (∀ (st : HState), TreeOK st → TreeOK ⟨(setDefault st.root st.next).node, (setDefault st.root st.next).next⟩) := by
  obtain ⟨w1, w2, w3, w4, w5⟩ := inv_init sc key next
  obtain ⟨i1, i2, i3, i4, i5⟩ := idinv_init sc hsc key next
  refine ⟨⟨w1.1, w1.2, i1⟩, ?_, ⟨w3.1, w3.2, i3⟩, ?_, ?_⟩
  · intro raw e n1 h; exact ⟨(w2 raw e n1 h).1, (w2 raw e n1 h).2, i2 raw e n1 h⟩
  · intro st raw pol hok
    exact ⟨(w4 st.root raw pol st.next hok.wp hok.rootless).1, (w4 st.root raw pol st.next hok.wp hok.rootless).2, i4 st raw pol hok.ids⟩
  · intro st hok
    exact ⟨(w5 st.root st.next hok.wp hok.rootless).1, (w5 st.root st.next hok.wp hok.rootless).2, i5 st hok.ids⟩

/- "Removed ⇒ unreachable", named by the call (`StepR.detached`).  Complements `removed_unreachable`
   (Proofs/C08Frame.lean), which says the same of every child that is not a child any more without asking
   which call it was. -/
/-- detached ⇒ unreachable (every call of the model).  Whatever a call reports as having
    left the container — the popped, deleted, replaced, cleared members, with everything below
    them — occurs nowhere in the tree afterwards: no identity of the old tree that is in a
    detached member is an identity of the new tree. -/
theorem detached_unreachable (s : HState) (h : HOp) (hi : IdInv s) (ha : ArgsFresh s h.op)
    (n : Node) (hn : n ∈ nodes s.root) (hid : n.id = h.target) :
    ∀ d ∈ (nodeStep n h.op s.next).detached, ∀ a ∈ ids d, a ∈ ids s.root →
      a ∉ ids (hstep s h).root ∧ ∀ x, Reach (hstep s h).root x → x.id ≠ a := by
  obtain ⟨left, H⟩ := nodeStep_leaves n (kok_of_mem_nodes s.root n hi.keys hn) h.op ((kokL_iff _).mpr ha.2.2) s.next
  intro d hd a had hold
  exact gone_of_left s h hi ha n hn hid H a hold
    (Nat.lt_of_lt_of_le (Nat.lt_of_lt_of_le ((mem_ids_iff a d).mp had) (cnt_le_cntL hd)) (H.det a))

end Flatland.C08.Proofs
