/-
C19 — WHEN is the attribute written: the decision as a TABLE transcribed row by row from
the property text / documentation (`attrWritten`), the tags table transcribed from the
documentation (`docTags`, checked against the table regenerated from the source: `autoTags_doc`),
and each transform of the model (which follows the code's statement order: pop, early returns,
`forced or current is None and tagname in …`) proved equal to it.  The tabindex transform is stated
in full, non-positive counters included (KF-C19-b: "stop numbers").
-/
import Proofs.C19Filters
namespace Flatland.C19.Proofs
open Flatland.Markup Flatland.C19 Flatland.C19.Spec

/-- the decision table of the property text: `on` = the option as resolved, `forced` = a tag-level on,
    `own` = the tag is one of the transform's own tags, `given` = the author gave the attribute.
    Row 1: resolved off → left alone.  Row 2: "a tag-level 'on' forces the transform even for tags
    and existing attributes it would otherwise leave alone".  Row 3: on by block / generator /
    default → only the transform's own tags, and only when the attribute is not there yet. -/
def attrWritten : (on forced own given : Bool) → Bool
  | false, _, _, _ => false
  | true, true, _, _ => true
  | true, false, true, false => true
  | true, false, _, _ => false

/-- the code's guard (`proceed`, then `forced or current is None and tagname in _auto_tags[..]`)
    is the table — for all 16 rows; `or`/`and` precedence matters: `(forced or current is None)
    and own` differs in rows (on, forced, not own, _) -/
theorem applies_table (T : Tables) (attr tag : Str) (p f given : Bool) :
    (p && applies T attr tag f given) = attrWritten p f (T.autoTag attr tag) given := by
  unfold applies
  cases p <;> cases f <;> cases given <;> cases T.autoTag attr tag <;> rfl

example : attrWritten true true false true = true ∧ ((true || !true) && false) = false := by decide +kernel

/-- the documentation's tags per transform (markup.rst `:Tags:` lines; for auto-value the prose
    describes `<option>` — the `:Tags:` line says "select", whose options are meant) -/
def docTags : List (Str × List Str) :=
  [(sName, ["button".toList, "form".toList, "input".toList, "select".toList, "textarea".toList]),
   (sValue, ["button".toList, "input".toList, "option".toList, "textarea".toList]),
   (sId, ["button".toList, "input".toList, "select".toList, "textarea".toList]),
   (sFor, ["label".toList]),
   (sTabindex, ["button".toList, "input".toList, "select".toList, "textarea".toList])]

def sameSet (a b : List Str) : Bool := a.all b.contains && b.all a.contains

/-- `_auto_tags` as regenerated from the source = the documentation's table -/
theorem autoTags_doc :
    (docTags.all fun kt => match Dict.get? Tables.current.autoTags kt.1 with
      | some us => sameSet kt.2 us
      | none => false) = true ∧ Tables.current.autoTags.length = docTags.length := by
  decide +kernel

/-- `name` is written iff the table says so and the tag is bound to an element with a
    non-empty flattened name; otherwise only the option is consumed -/
theorem transformName_table (T : Tables) (tag : Str) (bnd : Option Bind) (st : TState) (a : Attrs) (p f : Bool)
    (hp : popToggle T "auto_name".toList st.attrs st.ctx = .ok (a, p, f)) :
    transformName T tag bnd st = .ok { st with attrs :=
      match bnd with
      | some b => if attrWritten p f (T.autoTag sName tag) (Dict.get? a sName).isSome && !b.flatName.isEmpty
                  then Dict.set a sName (.text b.flatName) else a
      | none => a } := by
  rw [transformName_decision T tag bnd st a p f hp, ← applies_table]
  cases bnd with
  | none => rfl
  | some b =>
    simp only
    cases p <;> cases b.flatName.isEmpty <;> cases applies T sName tag f (Dict.get? a sName).isSome <;> rfl

theorem transformDomid_table_skips (T : Tables) (tag : Str) (bnd : Option Bind) (st : TState) (a : Attrs) (p f : Bool)
    (hp : popToggle T "auto_domid".toList st.attrs st.ctx = .ok (a, p, f))
    (h : attrWritten p f (T.autoTag sId tag) (Dict.get? a sId).isSome = false) :
    transformDomid T tag bnd st = .ok { st with attrs := a } := by
  rw [transformDomid_eq hp, applies_table, h]; rfl

theorem transformDomid_table_writes (T : Tables) (tag : Str) (bnd : Option Bind) (st : TState) (a : Attrs) (p f : Bool)
    (raw idv : Str) (fmt : CVal)
    (hp : popToggle T "auto_domid".toList st.attrs st.ctx = .ok (a, p, f))
    (h : attrWritten p f (T.autoTag sId tag) (Dict.get? a sId).isSome = true)
    (hraw : generateRawDomid tag a bnd = .ok (some raw))
    (hfmt : st.ctx.getItem "domid_format".toList = .ok fmt) (hid : formatDomid fmt raw = .ok idv) :
    transformDomid T tag bnd st = .ok { st with attrs := Dict.set a sId (.text idv) } := by
  rw [transformDomid_eq hp, applies_table, h, genId_of hraw hfmt hid]; rfl

theorem transformFor_table_skips (T : Tables) (tag : Str) (bnd : Option Bind) (st : TState) (a : Attrs) (p f : Bool)
    (hp : popToggle T "auto_for".toList st.attrs st.ctx = .ok (a, p, f))
    (h : bnd = none ∨ attrWritten p f (T.autoTag sFor tag) (Dict.get? a sFor).isSome = false) :
    transformFor T tag bnd st = .ok { st with attrs := if tag = sLabel then Dict.erase a sValue else a } := by
  rw [transformFor_eq hp, Bool.and_right_comm, applies_table]
  rcases h with h | h <;>
    simp only [h, Option.isSome_none, Bool.and_false, Bool.false_and, Bool.false_eq_true, if_false] <;> rfl

theorem transformFor_table_writes (T : Tables) (tag : Str) (b : Bind) (st : TState) (a : Attrs) (p f : Bool)
    (raw idv : Str) (fmt : CVal)
    (hp : popToggle T "auto_for".toList st.attrs st.ctx = .ok (a, p, f))
    (h : attrWritten p f (T.autoTag sFor tag) (Dict.get? a sFor).isSome = true)
    (hraw : generateRawDomid tag a (some b) = .ok (some raw))
    (hfmt : st.ctx.getItem "domid_format".toList = .ok fmt) (hid : formatDomid fmt raw = .ok idv) :
    transformFor T tag (some b) st = .ok { st with attrs :=
      (if tag = sLabel then Dict.erase (Dict.set a sFor (.text idv)) sValue else Dict.set a sFor (.text idv)) } := by
  rw [transformFor_eq hp, Bool.and_right_comm, applies_table, h, genId_of hraw hfmt hid]; rfl

/-- the value transform's guard has no "attribute given" column (hence the `false`): what it does with an
    existing value is per tag (C12) -/
theorem transformValue_table_skips (T : Tables) (tag : Str) (bnd : Option Bind) (st : TState) (a : Attrs) (p f : Bool)
    (hp : popToggle T "auto_value".toList st.attrs st.ctx = .ok (a, p, f))
    (h : bnd = none ∨ attrWritten p f (T.autoTag sValue tag) false = false) :
    transformValue T tag bnd st = .ok { st with attrs := a } := by
  apply transformValue_skips T tag bnd st a p f hp
  rcases h with h | h
  · exact Or.inr (Or.inl h)
  · cases p
    · exact Or.inl rfl
    · cases f
      · cases hT : T.autoTag sValue tag
        · exact Or.inr (Or.inr ⟨rfl, rfl⟩)
        · rw [hT] at h; simp [attrWritten] at h
      · simp [attrWritten] at h

/-- KF-C19-b: 0 blocks; a positive counter is handed out and advanced; a negative counter ("stop number",
    pinned by `test_tabindex_stop_numbers`) is handed out and stays -/
theorem transformTabindex_exact (T : Tables) (tag : Str) (bnd : Option Bind) (st : TState) (a : Attrs) (p f : Bool)
    (n : Int) (hp : popToggle T "auto_tabindex".toList st.attrs st.ctx = .ok (a, p, f))
    (hn : st.ctx.getItem sTabindex = .ok (.int n)) :
    transformTabindex T tag bnd st = .ok (
      if attrWritten p f (T.autoTag sTabindex tag) (Dict.get? a sTabindex).isSome = true ∧ n ≠ 0 then
        { attrs := Dict.set a sTabindex (.text (intRepr (handOut n).1)), contents := st.contents,
          ctx := if n > 0 then { st.ctx with top := Dict.set st.ctx.top sTabindex (.int (handOut n).2) } else st.ctx }
      else { st with attrs := a }) := by
  rw [← applies_table, transformTabindex_eq hp hn]
  by_cases hpos : n > 0 <;> simp only [handOut, hpos, if_true, if_false]

def counterAfter (written : Bool) (n : Int) : Int := if written && n != 0 then (handOut n).2 else n

theorem handOut_cases (n : Int) :
    (n > 0 → handOut n = (n, n + 1)) ∧ (n ≤ 0 → handOut n = (n, n)) := by
  constructor
  · intro h; simp [handOut, h]
  · intro h; have : ¬ n > 0 := by omega
    simp [handOut, this]

/-- successive hand-outs from one counter: strictly increasing iff the counter is positive,
    constant when it is negative -/
theorem handOut_twice (n : Int) (h0 : n ≠ 0) :
    ((handOut (handOut n).2).1 > (handOut n).1 ↔ n > 0) ∧
    (n < 0 → (handOut (handOut n).2).1 = (handOut n).1) := by
  by_cases hpos : n > 0
  · have h1 := (handOut_cases n).1 hpos
    have h2 := (handOut_cases (n + 1)).1 (by omega)
    rw [h1]; simp only; rw [h2]; simp only
    exact ⟨⟨fun _ => hpos, fun _ => by omega⟩, fun h => by omega⟩
  · have h1 := (handOut_cases n).2 (by omega)
    rw [h1]; simp only; rw [h1]; simp only
    exact ⟨⟨fun h => by omega, fun h => absurd h hpos⟩, fun _ => trivial⟩

def tabState (n : Int) : TState :=
  ⟨[("auto_tabindex".toList, .text "on".toList)], none,
   ⟨Dict.set Tables.current.defaultContext sTabindex (.int n), []⟩⟩

deriving instance DecidableEq for Except in
example : (transformTabindex Tables.current "div".toList none (tabState (-2))).map (fun s => (s.attrs, s.ctx.getItem sTabindex)) =
    .ok ([(sTabindex, .text "-2".toList)], .ok (.int (-2))) := by decide +kernel
example : (transformTabindex Tables.current "div".toList none (tabState 7)).map (fun s => (s.attrs, s.ctx.getItem sTabindex)) =
    .ok ([(sTabindex, .text "7".toList)], .ok (.int 8)) := by decide +kernel
example : (transformTabindex Tables.current "div".toList none (tabState 0)).map (fun s => (s.attrs, s.ctx.getItem sTabindex)) =
    .ok ([], .ok (.int 0)) := by decide +kernel

/-! `scopeHanded` (Proofs/Lemmas/C19Scope.lean) recognises a hand-out by the CONTEXT CHANGE it causes,
so it sees nothing when the counter is negative (handed out, not advanced).  `scopeGiven` below
lists the values the tabindex transform WRITES INTO THE ATTRIBUTES of the tag calls of the scope
(decision table `attrWritten`, counter ≠ 0) — whether or not the counter moves. -/

/-- the state a tag call's transforms start from -/
def tagStart (g : Gen) (kwargs : List (Str × Val)) : TState :=
  ⟨Flatland.C11.transformKeys (Dict.erase kwargs "contents".toList), Dict.get? kwargs "contents".toList, g.ctx⟩

/-- the tabindex a tag call receives from the transform (`none`: the transform writes nothing —
    option off, not one of its tags / attribute given and not forced, counter 0, or the call raised
    before reaching the transform).  The decision is the table `attrWritten`, the value the counter. -/
def tagGiven (T : Tables) (g : Gen) (tag : Str) (bnd : Option Bind) (kwargs : List (Str × Val)) : Option Int :=
  match transformUpToFor T tag bnd (tagStart g kwargs) with
  | .error _ => none
  | .ok s4 =>
    match popToggle T "auto_tabindex".toList s4.attrs s4.ctx, counter g with
    | .ok (a, p, f), some n =>
      if attrWritten p f (T.autoTag sTabindex tag) (Dict.get? a sTabindex).isSome = true ∧ n ≠ 0 then some n else none
    | _, _ => none

/-- the values written by the tabindex transform into the tag calls made at depth `d`, in order -/
def scopeGiven (T : Tables) (R : RenderCfg) (d : Nat) : Gen → List Op → List Int
  | _, [] => []
  | g, op :: rest =>
    (match op with
     | .tag name bnd kwargs => if g.ctx.depth == d then (tagGiven T g name bnd kwargs).toList else []
     | _ => []) ++ scopeGiven T R d (step T R g op).1 rest

/-- what the code does with a counter `n`: `n, n+1, n+2, …` for a positive one, `n, n, n, …` for a
    non-positive one (`handOut`) -/
def tabSeq (n : Int) : Nat → List Int
  | 0 => []
  | k + 1 => (handOut n).1 :: tabSeq (handOut n).2 k

theorem tabSeq_pos (n : Int) (hn : n > 0) (k : Nat) : tabSeq n k = (List.range k).map (fun i : Nat => n + (i : Int)) := by
  induction k generalizing n with
  | zero => rfl
  | succ k ih =>
    rw [tabSeq, (handOut_cases n).1 hn, ih (n + 1) (by omega), List.range_succ_eq_map]
    simp only [List.map_cons, List.map_map, Int.ofNat_zero, Int.add_zero, List.cons.injEq, true_and]
    apply List.map_congr_left
    intro i _
    simp only [Function.comp, Nat.succ_eq_add_one, Int.natCast_add, Int.natCast_one]
    omega

theorem tabSeq_nonpos (n : Int) (hn : n ≤ 0) (k : Nat) : tabSeq n k = List.replicate k n := by
  induction k with
  | zero => rfl
  | succ k ih => rw [tabSeq, (handOut_cases n).2 hn, ih]; rfl

theorem counter_getItem {g : Gen} {m : Int} (h : counter g = some m) : g.ctx.getItem sTabindex = .ok (.int m) :=
  getItem_eq_ok.mpr ((counter_eq g m).mp h)

theorem step_tag_below (T : Tables) (R : RenderCfg) (g : Gen) (name : Str) (bnd : Option Bind)
    (kwargs : List (Str × Val)) : (step T R g (.tag name bnd kwargs)).1.ctx.below = g.ctx.below := by
  obtain ⟨m, hmv, hg, _, _⟩ := step_moves T R g (.tag name bnd kwargs)
  rw [hg]
  cases hmv <;> rfl

/-- one tag call: it receives a tabindex iff `tagGiven` says so; the value is the counter
    `m ≠ 0`; the counter afterwards is `(handOut m).2` (`m + 1` for a positive `m`, `m` otherwise);
    the context changes iff a POSITIVE counter was handed out -/
theorem tag_given_step (T : Tables) (R : RenderCfg) (g : Gen) (name : Str) (bnd : Option Bind)
    (kwargs : List (Str × Val)) (m : Int) (hc : counter g = some m) :
    match tagGiven T g name bnd kwargs with
    | some x => x = m ∧ m ≠ 0 ∧ counter (step T R g (.tag name bnd kwargs)).1 = some (handOut m).2 ∧
        (m > 0 → (step T R g (.tag name bnd kwargs)).1.ctx ≠ g.ctx) ∧
        (m ≤ 0 → (step T R g (.tag name bnd kwargs)).1.ctx = g.ctx)
    | none => (step T R g (.tag name bnd kwargs)).1.ctx = g.ctx := by
  rw [step_tag_gen]
  unfold Gen.afterFailedTag tagGiven tagStart
  rw [transformPrefix_eq]
  cases h4 : transformUpToFor T name bnd ⟨Flatland.C11.transformKeys (Dict.erase kwargs "contents".toList),
      Dict.get? kwargs "contents".toList, g.ctx⟩ with
  | error e => simp only [Except.bind]
  | ok s4 =>
    have e04 : s4.ctx = g.ctx := transformUpToFor_ctx h4
    have hn : s4.ctx.getItem sTabindex = .ok (.int m) := by rw [e04]; exact counter_getItem hc
    simp only [Except.bind]
    cases hp : popToggle T "auto_tabindex".toList s4.attrs s4.ctx with
    | error e =>
      have : transformTabindex T name bnd s4 = .error e := by
        unfold transformTabindex; simp only [bind, Except.bind, hp]
      simp only [this]
    | ok r =>
      obtain ⟨a, p, f⟩ := r
      have hx := transformTabindex_exact T name bnd s4 a p f m hp hn
      simp only [hx, hc]
      by_cases hw : attrWritten p f (T.autoTag sTabindex name) (Dict.get? a sTabindex).isSome = true ∧ m ≠ 0
      · simp only [if_pos hw]
        refine ⟨by first | trivial | rfl, hw.2, ?_, ?_, ?_⟩
        · by_cases hpos : m > 0
          · simp only [if_pos hpos, counter, Ctx.getItem, Dict.get?_set_self, pure, Except.pure]
          · simp only [if_neg hpos, e04]
            rw [(handOut_cases m).2 (by omega)]
            have : counter ({ xml := g.xml, ctx := g.ctx } : Gen) = counter g := rfl
            rw [this, hc]
        · intro hpos heq
          simp only [if_pos hpos, e04, (handOut_cases m).1 hpos] at heq
          exact advance_ne ((counter_eq g m).mp hc) heq
        · intro hle
          have hpos : ¬ m > 0 := by omega
          simp only [if_neg hpos, e04]
      · simp only [if_neg hw, e04]

theorem scopeGiven_cons_nil (T : Tables) (R : RenderCfg) (d : Nat) (g : Gen) (op : Op) (rest : List Op)
    (h : isTag op = false ∨ (g.ctx.depth == d) = false) :
    scopeGiven T R d g (op :: rest) = scopeGiven T R d (step T R g op).1 rest := by
  cases op <;> first
    | (simp only [scopeGiven, List.nil_append]; done)
    | (rcases h with h | h
       · simp [isTag] at h
       · simp only [scopeGiven, h, Bool.false_eq_true, if_false, List.nil_append])

theorem scopeHanded_cons_nil (T : Tables) (R : RenderCfg) (d : Nat) (g : Gen) (op : Op) (rest : List Op)
    (h : isTag op = false ∨ (g.ctx.depth == d) = false ∨ (step T R g op).1.ctx = g.ctx) :
    scopeHanded T R d g (op :: rest) = scopeHanded T R d (step T R g op).1 rest := by
  rcases h with h | h | h <;> simp [scopeHanded, h]

theorem scope_exact_aux (T : Tables) (R : RenderCfg) (B : List Frame) (ops : List Op) (g : Gen) (m : Int)
    (hinv : ScopeInv B m g) (hstay : staysAbove T R (B.length + 1) g ops = true)
    (hnw : noTabWriteAt T R (B.length + 1) g ops = true) :
    scopeGiven T R (B.length + 1) g ops = tabSeq m (scopeGiven T R (B.length + 1) g ops).length ∧
    (m = 0 → scopeGiven T R (B.length + 1) g ops = []) ∧
    (m > 0 → scopeGiven T R (B.length + 1) g ops = scopeHanded T R (B.length + 1) g ops) := by
  induction ops generalizing g m with
  | nil => simp [scopeGiven, scopeHanded, tabSeq]
  | cons op rest ih =>
    simp only [staysAbove, Bool.and_eq_true, decide_eq_true_eq] at hstay
    simp only [noTabWriteAt, Bool.and_eq_true, Bool.not_eq_true', Bool.and_eq_false_iff] at hnw
    obtain ⟨pre, F, hfr, hF⟩ := hinv
    cases pre with
    | nil =>
      -- at the scope's own depth: the current frame holds the scope's counter
      obtain ⟨rfl, hB⟩ := List.cons.inj hfr
      have hc : counter g = some m := (counter_eq g m).mpr hF
      have hd : g.ctx.depth = B.length + 1 := by simp [Ctx.depth, hB]
      cases hop : isTag op with
      | true =>
        cases op with
        | tag name bnd kwargs =>
          have hbelow : (step T R g (.tag name bnd kwargs)).1.ctx.below = B := by
            rw [step_tag_below]; exact hB
          have hs := tag_given_step T R g name bnd kwargs m hc
          cases hg : tagGiven T g name bnd kwargs with
          | none =>
            rw [hg] at hs; simp only at hs
            have hc' : counter (step T R g (.tag name bnd kwargs)).1 = some m := by
              simp only [counter, hs] at hc ⊢; exact hc
            have ih := ih _ m (.of_top hbelow hc') hstay.2 hnw.2
            have e1 : scopeGiven T R (B.length + 1) g (.tag name bnd kwargs :: rest) =
                scopeGiven T R (B.length + 1) (step T R g (.tag name bnd kwargs)).1 rest := by
              simp only [scopeGiven, hd, beq_self_eq_true, if_true, hg, Option.toList, List.nil_append]
            rw [e1, scopeHanded_cons_nil T R _ g _ rest (Or.inr (Or.inr hs))]
            exact ih
          | some x =>
            rw [hg] at hs; simp only at hs
            obtain ⟨rfl, h0, hc', hne, _⟩ := hs
            have ih := ih _ (handOut x).2 (.of_top hbelow hc') hstay.2 hnw.2
            have e1 : scopeGiven T R (B.length + 1) g (.tag name bnd kwargs :: rest) =
                x :: scopeGiven T R (B.length + 1) (step T R g (.tag name bnd kwargs)).1 rest := by
              simp only [scopeGiven, hd, beq_self_eq_true, if_true, hg, Option.toList, List.singleton_append]
            rw [e1]
            refine ⟨?_, fun h => absurd h h0, ?_⟩
            · simp only [List.length_cons, tabSeq]
              rw [← ih.1]; rfl
            · intro hpos
              have e2 : scopeHanded T R (B.length + 1) g (.tag name bnd kwargs :: rest) =
                  x :: scopeHanded T R (B.length + 1) (step T R g (.tag name bnd kwargs)).1 rest := by
                simp only [scopeHanded, isTag, hd, beq_self_eq_true, Bool.true_and, hne hpos, ne_eq, not_false_eq_true,
                  decide_true, if_true, hc, List.singleton_append]
              rw [e2, ih.2.2 (by rw [(handOut_cases x).1 hpos]; simp only; omega)]
        | _ => exact absurd hop Bool.false_ne_true
      | false =>
        have hw : writesTab op = false := by
          rcases hnw.1 with h | h
          · simp [hd] at h
          · exact h
        rw [scopeGiven_cons_nil T R _ g op rest (Or.inl hop), scopeHanded_cons_nil T R _ g op rest (Or.inl hop)]
        rcases step_notab T R g op hop hw with ⟨hb, hg⟩ | hpush | ⟨f, rs, hbl, hc'⟩
        · apply ih _ m _ hstay.2 hnw.2
          exact .of_top (by rw [hb]; exact hB) (by rw [counter_eq] at hc ⊢; rw [hg]; exact hc)
        · apply ih _ m _ hstay.2 hnw.2
          exact ⟨[_], g.ctx.top, by rw [frames, hpush, hB]; rfl, hF⟩
        · exfalso   -- an `end()` here would close the scope
          have h1 := hstay.1
          rw [hc'] at h1
          rw [hB] at hbl
          simp [Ctx.depth, hbl] at h1
          omega
    | cons p ps =>
      -- inside a nested block: nothing is counted and the scope's frame `F` is out of reach (`step_below`)
      obtain ⟨rfl, hB⟩ := List.cons.inj hfr
      have hd : (g.ctx.depth == B.length + 1) = false := by
        simp [Ctx.depth, hB]; omega
      rw [scopeGiven_cons_nil T R _ g op rest (Or.inr hd), scopeHanded_cons_nil T R _ g op rest (Or.inr (Or.inl hd))]
      obtain ⟨pre', hp, _⟩ := step_below T R g op
      exact ih _ m ⟨pre' ++ ps, F, by rw [hp, hB]; exact (List.append_assoc pre' ps (F :: B)).symm, hF⟩ hstay.2 hnw.2

/-- Tabindex within a scope, for every int counter (KF-C19-b stated as what the code
    does; pinned by tests/markup/test_transforms.py::test_tabindex_stop_numbers).  From a generator
    at depth `d` whose counter is the int `n`, for ANY calls that never close the scope and do not
    themselves write `tabindex` at depth `d` (accepted / rejected `set/update/[]=`, nested blocks
    with their own counters, tag calls that raise, tag calls that get no tabindex): the values the
    tabindex transform writes into the successive tag calls of the scope that receive one are
    `n, n+1, n+2, …` when `n > 0`, the constant `n, n, n, …` when `n < 0`, and nothing is written
    when `n = 0`. -/
theorem scope_tabindex_exact (T : Tables) (R : RenderCfg) (ops : List Op) (g : Gen) (n : Int)
    (hc : counter g = some n)
    (hstay : staysAbove T R g.ctx.depth g ops = true) (hnw : noTabWriteAt T R g.ctx.depth g ops = true) :
    (n > 0 → scopeGiven T R g.ctx.depth g ops =
        (List.range (scopeGiven T R g.ctx.depth g ops).length).map (fun i : Nat => n + (i : Int))) ∧
    (n < 0 → scopeGiven T R g.ctx.depth g ops = List.replicate (scopeGiven T R g.ctx.depth g ops).length n) ∧
    (n = 0 → scopeGiven T R g.ctx.depth g ops = []) := by
  have hd : g.ctx.depth = g.ctx.below.length + 1 := rfl
  rw [hd] at hstay hnw ⊢
  obtain ⟨h1, h2, _⟩ := scope_exact_aux T R g.ctx.below ops g n (.of_top rfl hc) hstay hnw
  refine ⟨fun hn => ?_, fun hn => ?_, h2⟩
  · rw [← tabSeq_pos n hn]; exact h1
  · rw [← tabSeq_nonpos n (by omega)]; exact h1

/-- for a positive counter the written values are exactly what `scopeHanded` lists (a positive
    hand-out is the one thing that changes the context) -/
theorem scopeGiven_eq_scopeHanded (T : Tables) (R : RenderCfg) (ops : List Op) (g : Gen) (n : Int)
    (hc : counter g = some n) (hn : n > 0)
    (hstay : staysAbove T R g.ctx.depth g ops = true) (hnw : noTabWriteAt T R g.ctx.depth g ops = true) :
    scopeGiven T R g.ctx.depth g ops = scopeHanded T R g.ctx.depth g ops := by
  have hd : g.ctx.depth = g.ctx.below.length + 1 := rfl
  rw [hd] at hstay hnw ⊢
  exact (scope_exact_aux T R g.ctx.below ops g n (.of_top rfl hc) hstay hnw).2.2 hn

theorem range_map_add_pairwise (n : Int) (k : Nat) :
    ((List.range k).map (fun i : Nat => n + (i : Int))).Pairwise (· < ·) := by
  rw [List.pairwise_map]
  exact List.Pairwise.imp (fun h => by omega) (List.pairwise_lt_range)

/-- From a generator at depth `d` whose counter is a positive
    `n`: for ANY calls that never close the scope (`staysAbove`) and do not themselves write
    `tabindex` at depth `d` — accepted or rejected `set/update/[]=`, nested blocks (which may set
    and advance their own counters), tag calls that raise — the values handed out by the tag
    calls made at depth `d` are strictly increasing and all ≥ `n`.
    (`n > 0`: the theorem covers the positive counters.  `0` disables the numbering.  A NEGATIVE
    counter is handed out unchanged by every call and never advances — the "stop numbers" pinned by
    tests/markup/test_transforms.py::test_tabindex_stop_numbers — so two calls of one scope get the
    same value: under the plain reading of "handed out in increasing order" that is a violation,
    recorded as KF-C19-b (oracle clause `tabindex-increasing`), not something this theorem excuses.) -/
theorem scope_tabindex_increasing (T : Tables) (R : RenderCfg) (ops : List Op) (g : Gen) (n : Int)
    (hc : counter g = some n) (hn : n > 0)
    (hstay : staysAbove T R g.ctx.depth g ops = true) (hnw : noTabWriteAt T R g.ctx.depth g ops = true) :
    (scopeHanded T R g.ctx.depth g ops).Pairwise (· < ·) ∧ ∀ x ∈ scopeHanded T R g.ctx.depth g ops, n ≤ x := by
  rw [← scopeGiven_eq_scopeHanded T R ops g n hc hn hstay hnw,
    (scope_tabindex_exact T R ops g n hc hstay hnw).1 hn]
  refine ⟨range_map_add_pairwise n _, ?_⟩
  intro x hx
  obtain ⟨i, _, rfl⟩ := List.mem_map.mp hx
  omega

theorem scope_tabindex_increasing_of_exact (T : Tables) (R : RenderCfg) (ops : List Op) (g : Gen) (n : Int)
    (hc : counter g = some n) (hn : n > 0)
    (hstay : staysAbove T R g.ctx.depth g ops = true) (hnw : noTabWriteAt T R g.ctx.depth g ops = true) :
    (scopeHanded T R g.ctx.depth g ops).Pairwise (· < ·) ∧ ∀ x ∈ scopeHanded T R g.ctx.depth g ops, n ≤ x :=
  scope_tabindex_increasing T R ops g n hc hn hstay hnw

/-- a history of tag calls only is a scope -/
theorem tags_scope (T : Tables) (R : RenderCfg) (ops : List Op) (g : Gen) (hall : ops.all isTag = true) :
    staysAbove T R g.ctx.depth g ops = true ∧ noTabWriteAt T R g.ctx.depth g ops = true ∧
      scopeHanded T R g.ctx.depth g ops = handed T R g ops := by
  induction ops generalizing g with
  | nil => exact ⟨rfl, rfl, rfl⟩
  | cons op rest ih =>
    simp only [List.all_cons, Bool.and_eq_true] at hall
    cases op with
    | tag name bnd kwargs =>
      have hd : (step T R g (.tag name bnd kwargs)).1.ctx.depth = g.ctx.depth := by
        simp only [Ctx.depth, step_tag_below]
      obtain ⟨ih1, ih2, ih3⟩ := ih (step T R g (.tag name bnd kwargs)).1 hall.2
      rw [hd] at ih1 ih2 ih3
      refine ⟨?_, ?_, ?_⟩
      · simp only [staysAbove, hd, Nat.le_refl, decide_true, Bool.true_and, ih1]
      · simp only [noTabWriteAt, writesTab, Bool.and_false, Bool.not_false, Bool.true_and, ih2]
      · simp only [scopeHanded, handed, isTag, beq_self_eq_true, Bool.true_and, ih3, decide_eq_true_eq, ne_eq,
          ite_not]
        rfl
    | _ => exact absurd hall.1 Bool.false_ne_true

/-- along any sequence of tag calls made in one scope (no other call in
    between), starting from a positive counter `n`, the values handed out are strictly increasing
    and all ≥ `n` -/
theorem tabindex_increasing (T : Tables) (R : RenderCfg) : ∀ (ops : List Op) (g : Gen) (n : Int),
    ops.all isTag = true → counter g = some n → n > 0 →
    (handed T R g ops).Pairwise (· < ·) ∧ ∀ x ∈ handed T R g ops, n ≤ x := by
  intro ops g n hall hc hn
  obtain ⟨hstay, hnw, hh⟩ := tags_scope T R ops g hall
  rw [← hh]
  exact scope_tabindex_increasing T R ops g n hc hn hstay hnw

/-- a negative counter: two tag calls of one scope that both receive a tabindex receive THE SAME one -/
theorem scope_tabindex_stop_number (T : Tables) (R : RenderCfg) (ops : List Op) (g : Gen) (n : Int)
    (hc : counter g = some n) (hn : n < 0)
    (hstay : staysAbove T R g.ctx.depth g ops = true) (hnw : noTabWriteAt T R g.ctx.depth g ops = true) :
    ∀ x ∈ scopeGiven T R g.ctx.depth g ops, x = n := by
  intro x hx
  rw [(scope_tabindex_exact T R ops g n hc hstay hnw).2.1 hn] at hx
  exact (List.mem_replicate.mp hx).2

/-! ### non-vacuity: the mixed scope `scopeOps` (set, nested block with its own counter 50, rejected
update, a tag that gets nothing) from counters 3, -1 and 0 -/

def tabGenN (n : Int) : Gen :=
  match Gen.init Tables.current "xhtml".toList [("auto_tabindex".toList, .bool true), ("tabindex".toList, .int n)] with
  | .ok g => g
  | .error _ => ⟨false, ⟨[], []⟩⟩

example : counter (tabGenN 3) = some 3 ∧ counter (tabGenN (-1)) = some (-1) ∧ counter (tabGenN 0) = some 0 := by decide +kernel
theorem scopeOps_from_3 :
    staysAbove Tables.current RenderCfg.current (tabGenN 3).ctx.depth (tabGenN 3) scopeOps = true ∧
    noTabWriteAt Tables.current RenderCfg.current (tabGenN 3).ctx.depth (tabGenN 3) scopeOps = true ∧
    scopeGiven Tables.current RenderCfg.current (tabGenN 3).ctx.depth (tabGenN 3) scopeOps = [3, 4, 5] := by decide +kernel
theorem scopeOps_from_neg :
    staysAbove Tables.current RenderCfg.current (tabGenN (-1)).ctx.depth (tabGenN (-1)) scopeOps = true ∧
    noTabWriteAt Tables.current RenderCfg.current (tabGenN (-1)).ctx.depth (tabGenN (-1)) scopeOps = true ∧
    scopeGiven Tables.current RenderCfg.current (tabGenN (-1)).ctx.depth (tabGenN (-1)) scopeOps = [-1, -1, -1] ∧
    scopeHanded Tables.current RenderCfg.current (tabGenN (-1)).ctx.depth (tabGenN (-1)) scopeOps = [] := by decide +kernel
theorem scopeOps_from_0 :
    staysAbove Tables.current RenderCfg.current (tabGenN 0).ctx.depth (tabGenN 0) scopeOps = true ∧
    noTabWriteAt Tables.current RenderCfg.current (tabGenN 0).ctx.depth (tabGenN 0) scopeOps = true ∧
    scopeGiven Tables.current RenderCfg.current (tabGenN 0).ctx.depth (tabGenN 0) scopeOps = [] := by decide +kernel

example : staysAbove Tables.current RenderCfg.current (tabGenN 3).ctx.depth (tabGenN 3) scopeOps = true ∧
    noTabWriteAt Tables.current RenderCfg.current (tabGenN 3).ctx.depth (tabGenN 3) scopeOps = true :=
  ⟨scopeOps_from_3.1, scopeOps_from_3.2.1⟩
example : staysAbove Tables.current RenderCfg.current (tabGenN (-1)).ctx.depth (tabGenN (-1)) scopeOps = true ∧
    noTabWriteAt Tables.current RenderCfg.current (tabGenN (-1)).ctx.depth (tabGenN (-1)) scopeOps = true :=
  ⟨scopeOps_from_neg.1, scopeOps_from_neg.2.1⟩
example : staysAbove Tables.current RenderCfg.current (tabGenN 0).ctx.depth (tabGenN 0) scopeOps = true ∧
    noTabWriteAt Tables.current RenderCfg.current (tabGenN 0).ctx.depth (tabGenN 0) scopeOps = true :=
  ⟨scopeOps_from_0.1, scopeOps_from_0.2.1⟩
example : scopeGiven Tables.current RenderCfg.current (tabGenN 3).ctx.depth (tabGenN 3) scopeOps = [3, 4, 5] :=
  scopeOps_from_3.2.2
/-- stop number: every tag of the scope gets -1 — invisible to `scopeHanded` (the context never changes) -/
example : scopeGiven Tables.current RenderCfg.current (tabGenN (-1)).ctx.depth (tabGenN (-1)) scopeOps = [-1, -1, -1] ∧
    scopeHanded Tables.current RenderCfg.current (tabGenN (-1)).ctx.depth (tabGenN (-1)) scopeOps = [] :=
  scopeOps_from_neg.2.2
example : scopeGiven Tables.current RenderCfg.current (tabGenN 0).ctx.depth (tabGenN 0) scopeOps = [] :=
  scopeOps_from_0.2.2
/-- … and -1 is what is rendered, twice -/
example : ((run Tables.current RenderCfg.current (tabGenN (-1)) [tagInput [], tagInput []]).2.map (·.1.out)) =
    [some "<input name=\"fld\" value=\"val\" tabindex=\"-1\" />".toList,
     some "<input name=\"fld\" value=\"val\" tabindex=\"-1\" />".toList] := by decide +kernel

end Flatland.C19.Proofs
