/-
C08 — `all_children`: in a tree with unique identities the queue loop with its `seen` set (`acLoop`) lists exactly the
proper descendants of the element, level by level, each once (`allChildren_spec`).  The plain queue walk `reach` is a `Fifo`
loop, hence level order; it meets every identity at most as often as the tree holds it (`count_reach_le`), so the `seen`
test never fires (`acLoop_eq_reach`).
-/
import Proofs.Lemmas.C08Ids
import Proofs.Lemmas.Fifo
namespace Flatland.C08.Proofs
open Flatland.Tree Flatland.PyList Flatland.C08 Flatland.C08.Spec

theorem reach_nil : reach [] = [] := by rw [reach]

theorem reach_cons (e : Node) (q : List Node) : reach (e :: q) = e :: reach (q ++ children e) := by
  rw [reach]

theorem reach_isLoop : Fifo.IsLoop (fun e => [e]) children reach := ⟨reach_nil, reach_cons⟩

theorem sizeL_steps : Fifo.Steps children sizeL := fun e q => by
  have := sizeL_children_lt e
  simp only [sizeL, sizeL_append]; omega

theorem reach_eq_levelOrder (q : List Node) : reach q = levelOrder q :=
  reach_isLoop.eq_of_level sizeL_steps.levels (by rw [levelOrder]) (fun e q => by rw [levelOrder]; simp) q

theorem acLoop_nil (seen : List Nat) : acLoop seen [] = [] := by rw [acLoop]

theorem acLoop_cons (seen : List Nat) (e : Node) (q : List Node) :
    acLoop seen (e :: q) =
      if seen.contains e.id then acLoop seen q else e :: acLoop (e.id :: seen) (q ++ children e) := by
  rw [acLoop]

theorem acLoop_eq_reach (q : List Node) (seen : List Nat) (hs : ∀ x ∈ reach q, x.id ∉ seen)
    (hn : ((reach q).map Node.id).Nodup) : acLoop seen q = reach q :=
  Fifo.IsSeenLoop.eq_loop ⟨acLoop_nil, acLoop_cons⟩ reach_isLoop reach_isLoop sizeL_steps q seen hs hn

theorem nodesL_flatMap_kids_sublist (ks : List Node) : (nodesL (ks.flatMap Node.kids)).Sublist (nodesL ks) := by
  induction ks with
  | nil => simp [nodesL]
  | cons k ks ih =>
    rw [List.flatMap_cons, nodesL_append, nodesL, nodes_eq]
    exact List.Sublist.append (List.sublist_cons_self _ _) ih

theorem nodesL_children_sublist (n : Node) : (nodesL (children n)).Sublist (nodesL n.kids) := by
  unfold children
  split
  · exact nodesL_flatMap_kids_sublist _
  · exact List.Sublist.refl _
  · exact List.Sublist.refl _
  · exact List.Sublist.refl _
  · exact List.Sublist.refl _
  · simp [nodesL]

/-- the members of a List sit two levels down -/
theorem IsDeep.children {X : Node → Bool} {XL : List Node → Bool} {loc : Node → Bool} (hd : IsDeep X XL loc) {n : Node}
    (h : X n = true) : ∀ c ∈ children n, X c = true := fun c hc =>
  (hd.2 c).mpr fun x hx => (hd.2 n).mp h x (by
    rw [nodes_eq]
    exact List.mem_cons_of_mem _ ((nodesL_children_sublist n).subset (mem_nodesL_iff.mpr ⟨c, hc, hx⟩)))

theorem count_reach_le (a : Nat) (q : List Node) :
    ((reach q).map Node.id).count a ≤ ((nodesL q).map Node.id).count a := by
  induction q using Fifo.step_ind sizeL_steps with
  | nil => simp [reach_nil]
  | step e q h1 =>
    have h2 := ((nodesL_children_sublist e).map Node.id).count_le a
    rw [reach_cons, nodesL, nodes_eq]
    rw [nodesL_append] at h1
    simp only [List.map_cons, List.map_append, List.count_cons, List.count_append,
      List.cons_append] at h1 ⊢
    omega

theorem reach_root_nodup {root : Node} (hu : UniqueIds root) : ((reach [root]).map Node.id).Nodup :=
  List.nodup_iff_count.mpr fun a => Nat.le_trans (count_reach_le a [root])
    (by simpa [nodesL, ids] using List.nodup_iff_count.mp hu a)

theorem reach_trans {a b c : Node} (hab : Reach a b) (hbc : Reach b c) : Reach a c := by
  induction hbc with
  | root => exact hab
  | child _ hc ih => exact .child ih hc

theorem reach_first {y x : Node} (h : Reach y x) : x = y ∨ ∃ c ∈ children y, Reach c x := by
  induction h with
  | root => exact .inl rfl
  | @child p c hp hc ih =>
    rcases ih with rfl | ⟨c', hc', hr'⟩
    · exact .inr ⟨c, hc, .root⟩
    · exact .inr ⟨c', hc', .child hr' hc⟩

theorem mem_reach_iff (q : List Node) (x : Node) : x ∈ reach q ↔ ∃ y ∈ q, Reach y x := by
  induction q using Fifo.step_ind sizeL_steps with
  | nil => simp [reach_nil]
  | step e q h1 =>
    rw [reach_cons, List.mem_cons, h1]
    constructor
    · rintro (rfl | ⟨y, hy, hr⟩)
      · exact ⟨x, by simp, .root⟩
      · rcases List.mem_append.mp hy with hy | hy
        · exact ⟨y, by simp [hy], hr⟩
        · exact ⟨e, by simp, reach_trans (.child .root hy) hr⟩
    · rintro ⟨y, hy, hr⟩
      rcases List.mem_cons.mp hy with rfl | hy
      · rcases reach_first hr with rfl | ⟨c, hc, hr'⟩
        · exact .inl rfl
        · exact .inr ⟨c, List.mem_append.mpr (.inr hc), hr'⟩
      · exact .inr ⟨y, List.mem_append.mpr (.inl hy), hr⟩

theorem below_iff (root x : Node) : Below root x ↔ ∃ c ∈ children root, Reach c x := by
  constructor
  · rintro ⟨p, hp, hx⟩
    rcases reach_first hp with rfl | ⟨c, hc, hr⟩
    · exact ⟨x, hx, .root⟩
    · exact ⟨c, hc, .child hr hx⟩
  · rintro ⟨c, hc, hr⟩
    induction hr with
    | root => exact ⟨root, .root, hc⟩
    | @child p c' hp hc' ih =>
      obtain ⟨p0, hp0, hx0⟩ := ih
      exact ⟨p, .child hp0 hx0, hc'⟩

/-- In a tree with unique identities `all_children` is the breadth-first
    (level-order) list of the proper descendants: each identity once, never the element itself,
    and an element is listed iff it is reachable through `children` and is not the element. -/
theorem allChildren_spec {root : Node} (hu : UniqueIds root) : AllChildrenSpec root := by
  -- the walk from the root is the root, then the walk from its children: distinct identities, none the root's
  have hn := reach_root_nodup hu
  rw [reach_cons, List.map_cons, List.nodup_cons, List.nil_append] at hn
  have hnd := hn.2
  have hroot : ∀ x ∈ reach (children root), x.id ≠ root.id := fun x hx hid =>
    hn.1 (List.mem_map.mpr ⟨x, hx, hid⟩)
  have heq : allChildren root = reach (children root) :=
    acLoop_eq_reach _ _ (fun x hx hm => hroot x hx (by simpa using hm)) hnd
  have hmem : ∀ x, x ∈ allChildren root ↔ Below root x := by
    intro x; rw [heq, mem_reach_iff, below_iff]
  refine ⟨by rw [heq, reach_eq_levelOrder], by rw [heq]; exact hnd, by rw [heq]; exact hroot, hmem, ?_⟩
  intro x
  rw [hmem]
  constructor
  · rintro ⟨p, hp, hx⟩
    refine ⟨.child hp hx, ?_⟩
    rintro rfl
    exact hroot x (by rw [← heq, hmem]; exact ⟨p, hp, hx⟩) rfl
  · rintro ⟨hr, hne⟩
    cases hr with
    | root => exact absurd rfl hne
    | child hp hc => exact ⟨_, hp, hc⟩

end Flatland.C08.Proofs
