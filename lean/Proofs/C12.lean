/-
C12 — a rendered form, submitted unchanged, posts the element's own flat pairs: the single controls
(the whole form is `Proofs/C12Form.lean`).

Theorems about the model of the transforms (`Flatland/Markup/Transform.lean`) and the browser
rule `submitted` (`Flatland/C12.lean`), for every bind, every context in which name/value
generation is enabled, and every literal.
-/
import Flatland.C12
import Flatland.Spec.C12
import Proofs.Lemmas.C12Transforms
import Proofs.C19
namespace Flatland.C12.Proofs
open Flatland.Markup Flatland.C12 Flatland.C19.Proofs

theorem foldl_join (n : Str) (rest : List Str) :
    rest.foldl (fun acc x => acc ++ '_' :: x) n = n ++ (rest.map (fun x => '_' :: x)).flatten := by
  induction rest generalizing n with
  | nil => simp
  | cons r rs ih => simp [List.foldl_cons, ih, List.append_assoc]

/-- the model's name function is the documented one -/
theorem flatName_spec (path : List (Option Str)) : flatName path = Spec.flattenedName path := by
  unfold flatName Spec.flattenedName
  cases path.filterMap id with
  | nil => rfl
  | cons n rest => exact foldl_join n rest

/-- anonymous path elements (list members, Array members, an unnamed root) do not show -/
theorem flatName_skip_none (pre post : List (Option Str)) :
    flatName (pre ++ none :: post) = flatName (pre ++ post) := by
  simp [flatName, List.filterMap_append]

/-- a named child of a named parent is `parent_child` — also when the names contain the separator -/
theorem flatName_child (pre : List (Option Str)) (n : Str) (h : pre.filterMap id ≠ []) :
    flatName (pre ++ [some n]) = flatName pre ++ '_' :: n := by
  rw [flatName_spec, flatName_spec]
  unfold Spec.flattenedName
  rw [List.filterMap_append]
  cases hp : pre.filterMap id with
  | nil => exact absurd hp h
  | cons a as => simp [List.append_assoc]

/-- the attribute-dict form of the browser rule (no ordering involved) -/
def submittedD (tag : Str) (attrs : Attrs) (text : Str) : Option (Str × Str) :=
  submitted tag (strAttrs attrs) text

/-- hypotheses shared by the control theorems: the tag carries no option, no `name`, no `value`;
    name/value generation is enabled in the context (true of a fresh generator: `fresh_enabled`) -/
structure Plain (T : Tables) (st : TState) : Prop where
  nameOn : Enabled T st.ctx "auto_name".toList
  valueOn : Enabled T st.ctx "auto_value".toList
  noNameOpt : Dict.get? st.attrs "auto_name".toList = none
  noValueOpt : Dict.get? st.attrs "auto_value".toList = none
  noName : Dict.get? st.attrs sName = none

/-- what every control theorem starts from: on a tag of the name table (not a label) that carries no name or option of
    its own, `name` comes out as the flattened name and `type` as the author wrote it; the value transform runs on the
    named attributes, and the four later transforms keep what it leaves for a browser to read -/
theorem control_reads {T : Tables} {tag : Str} {b : Bind} {st st6 : TState} (hp : Plain T st)
    (hname : b.flatName ≠ []) (hT1 : T.autoTag sName tag = true) (hl : tag ≠ sLabel)
    (h : transform T tag (some b) st = .ok st6) :
    Dict.get? st6.attrs sName = some (.text b.flatName) ∧ Dict.get? st6.attrs sType = Dict.get? st.attrs sType ∧
    ∃ s2, transformValue T tag (some b) { st with attrs := Dict.set st.attrs sName (.text b.flatName) } = .ok s2 ∧
      (∀ k ∈ controlKeys, Dict.get? st6.attrs k = Dict.get? s2.attrs k) ∧ st6.contents = s2.contents := by
  obtain ⟨s1, s2, h1, h2, h6⟩ := transform_later h
  rw [transformName_on T tag b st hp.nameOn hp.noNameOpt hname hp.noName hT1] at h1
  cases h1
  refine ⟨?_, transform_frame sType sType_not_touched h, s2, h2, fun k hk => (later_frame k hk hl h6).1, later_contents h6⟩
  rw [(later_frame sName (by decide +kernel) hl h6).1,
    transformValue_frame sName h2 (by decide +kernel) (by decide +kernel) (by decide +kernel) (by decide +kernel)]
  exact Dict.get?_set_self ..

theorem attr?_strAttrs (attrs : Attrs) (hnd : (Dict.keys attrs).Nodup) (k : Str) :
    attr? (strAttrs attrs) k = (Dict.get? attrs k).bind Val.str? := by
  induction attrs with
  | nil => rfl
  | cons p rest ih =>
    obtain ⟨k0, v0⟩ := p
    simp only [Dict.keys, List.map_cons, List.nodup_cons] at hnd
    have ih' := ih hnd.2
    by_cases h0 : k0 = k
    · subst h0
      simp only [Dict.get?_cons, if_true, Option.bind_some]
      cases hs : v0.str? with
      | some s => simp [strAttrs, hs, attr?]
      | none =>
        simp only [strAttrs, List.filterMap_cons, hs, Option.map_none]
        have : Dict.get? rest k0 = none := (Dict.get?_eq_none_iff rest k0).mpr hnd.1
        rw [show attr? (List.filterMap (fun kv => Option.map (fun s => (kv.1, s)) kv.2.str?) rest) k0 =
          attr? (strAttrs rest) k0 from rfl, ih', this]
        rfl
    · simp only [Dict.get?_cons, h0, if_false]
      cases hs : v0.str? with
      | some s => simp [strAttrs, hs, attr?, h0]; exact ih'
      | none => simp only [strAttrs, List.filterMap_cons, hs, Option.map_none]; exact ih'

theorem transform_nodup {T : Tables} {tag : Str} {bnd : Option Bind} {st st6 : TState}
    (hnd : (Dict.keys st.attrs).Nodup) (h : transform T tag bnd st = .ok st6) :
    (Dict.keys st6.attrs).Nodup :=
  (transform_consumes T tag bnd).nodup h hnd

/-- the `type` a browser sees is neither checkbox nor radio, nor one of the types whose `value` is
    never posted (reset, button, file, image); types are ASCII case-insensitive there.  `submit`
    is allowed: the theorem then says what that input posts as THE activated submitter. -/
def browserTextLike (attrs : Attrs) : Prop :=
  let ty := asciiLower (((Dict.get? attrs sType).bind Val.str?).getD "text".toList)
  ty ≠ "checkbox".toList ∧ ty ≠ "radio".toList ∧ inputNeverPosts ty = false

/-- POSTS FLAT PAIR — text-like `<input>`: after the transforms, the browser rule posts exactly
    `(flattened name, u)`. -/
theorem posts_flat_pair_input (T : Tables) (b : Bind) (st st6 : TState) (text : Str) (hp : Plain T st)
    (hnd : (Dict.keys st.attrs).Nodup)
    (hnoval : Dict.get? st.attrs sValue = none)
    (hty : textLike ((Dict.get? st.attrs sType).getD (.text [])).lowerKw = true)
    (hbr : browserTextLike st.attrs)
    (hname : b.flatName ≠ [])
    (hT1 : T.autoTag sName sInput = true) (hT2 : T.autoTag sValue sInput = true)
    (h : transform T sInput (some b) st = .ok st6) :
    Spec.PostsFlatPair (submittedD sInput st6.attrs text) b := by
  obtain ⟨a1, a3, s2, h2, hk, _⟩ := control_reads hp hname hT1 (by decide +kernel) h
  rw [transformValue_textlike T b ⟨Dict.set st.attrs sName (.text b.flatName), st.contents, st.ctx⟩ hp.valueOn
    ((named_autoValue ..).trans hp.noValueOpt) (by rw [named_type]; exact hty) ((named_value ..).trans hnoval) hT2] at h2
  cases h2
  have a2 : Dict.get? st6.attrs sValue = some (.text b.u) := by rw [hk _ (by decide +kernel), Dict.get?_set_self]
  have hne : b.flatName.isEmpty = false := by simpa using hname
  unfold Spec.PostsFlatPair submittedD submitted
  simp only [attr?_strAttrs _ (transform_nodup hnd h), a1, a2, a3, Option.bind_some, Val.str?, hne, Bool.false_eq_true,
    if_false, if_true]
  obtain ⟨b1, b2, b3⟩ := hbr
  rw [decide_eq_false b1, decide_eq_false b2, b3]
  simp only [Bool.or_self, Bool.false_eq_true, if_false, Option.getD_some]

/-- POSTS FLAT PAIR — `<button>` without a `type` attribute (a submit button): when it is THE
    activated submitter it posts `(flattened name, u)` from its value attribute -/
theorem posts_flat_pair_button (T : Tables) (b : Bind) (st st6 : TState) (text : Str) (hp : Plain T st)
    (hnd : (Dict.keys st.attrs).Nodup) (hnoval : Dict.get? st.attrs sValue = none)
    (hnoty : Dict.get? st.attrs sType = none)
    (hname : b.flatName ≠ [])
    (hT1 : T.autoTag sName "button".toList = true) (hT2 : T.autoTag sValue "button".toList = true)
    (h : transform T "button".toList (some b) st = .ok st6) :
    Spec.PostsFlatPair (submittedD "button".toList st6.attrs text) b := by
  obtain ⟨f1, f3, s2, h2, hk, _⟩ := control_reads hp hname hT1 (by decide +kernel) h
  rw [transformValue_plain T "button".toList b ⟨Dict.set st.attrs sName (.text b.flatName), st.contents, st.ctx⟩
    hp.valueOn ((named_autoValue ..).trans hp.noValueOpt) (by decide +kernel) (by decide +kernel) (by decide +kernel)
    ((named_value ..).trans hnoval) hT2] at h2
  cases h2
  have f2 : Dict.get? st6.attrs sValue = some (.text b.u) := by rw [hk _ (by decide +kernel), Dict.get?_set_self]
  have hne : b.flatName.isEmpty = false := by simpa using hname
  have e1 : "button".toList ≠ sInput := by decide +kernel
  have e2 : "button".toList ≠ sTextarea := by decide +kernel
  have e3 : buttonNeverPosts (asciiLower "submit".toList) = false := by decide +kernel
  unfold Spec.PostsFlatPair submittedD submitted
  simp only [attr?_strAttrs _ (transform_nodup hnd h), f1, f2, f3, hnoty, Option.bind_some, Option.bind_none, Val.str?, hne,
    Bool.false_eq_true, if_false, e1, e2, if_true, Option.getD_some, Option.getD_none, e3]

/-- POSTS FLAT PAIR — `<textarea>`: the contents are the escaped text, which a browser reads back
    as `u` (C11 `decodeRefs_escape`); stated on the contents string -/
theorem posts_flat_pair_textarea (T : Tables) (b : Bind) (st st6 : TState) (hp : Plain T st)
    (hnd : (Dict.keys st.attrs).Nodup) (hc : st.contents = none)
    (hname : b.flatName ≠ [])
    (hT1 : T.autoTag sName sTextarea = true) (hT2 : T.autoTag sValue sTextarea = true)
    (h : transform T sTextarea (some b) st = .ok st6) :
    st6.contents = some (.markup (Flatland.C11.markupEscape T.textChain b.u)) ∧
    ∀ text, submittedD sTextarea st6.attrs text = some (b.flatName, dropLeadingLF text) := by
  obtain ⟨f1, _, s2, h2, _, c1⟩ := control_reads hp hname hT1 (by decide +kernel) h
  rw [transformValue_textarea T b ⟨Dict.set st.attrs sName (.text b.flatName), st.contents, st.ctx⟩ hp.valueOn
    ((named_autoValue ..).trans hp.noValueOpt) hc hT2] at h2
  cases h2
  refine ⟨c1, ?_⟩
  intro text
  have hn6 := transform_nodup hnd h
  have hne : b.flatName.isEmpty = false := by simpa using hname
  have e1 : sTextarea ≠ sInput := by decide +kernel
  unfold submittedD submitted
  simp only [attr?_strAttrs _ hn6, f1, Option.bind_some, Val.str?, hne, Bool.false_eq_true, if_false, e1, if_true]

theorem str?_text (s : Str) : (Val.text s).str? = some s := rfl

theorem checkable_str (ty : Val) (h : (ty.lowerKw.eqStr "radio".toList || ty.lowerKw.eqStr "checkbox".toList) = true)
    (hnk : ∀ s, ty.str? = some s → asciiLower s = kwLower s) :
    ∃ s, ty.str? = some s ∧ (asciiLower s = "radio".toList ∨ asciiLower s = "checkbox".toList) := by
  cases ty with
  | text s =>
    simp only [Val.lowerKw, Val.eqStr, Val.str?, Bool.or_eq_true, beq_iff_eq] at h
    exact ⟨s, rfl, by rw [hnk s rfl]; exact h⟩
  | markup s =>
    simp only [Val.lowerKw, Val.eqStr, Val.str?, Bool.or_eq_true, beq_iff_eq] at h
    exact ⟨s, rfl, by rw [hnk s rfl]; exact h⟩
  | bool bb => simp [Val.lowerKw, Val.eqStr, Val.str?] at h
  | maybe => simp [Val.lowerKw, Val.eqStr, Val.str?] at h

/-- a checkbox / radio whose `checked` the value transform has set according to `m`, on attributes `a` carrying the literal;
    `a6` is what reaches the browser, with the name and the type it is known to carry: what else it carries, and what is posted -/
theorem checkable_posts {b : Bind} {a a6 : Attrs} {ty : Val} {lit : Str} (text : Str) (m : Bool)
    (hk : ∀ k ∈ controlKeys, Dict.get? a6 k = Dict.get? (toggleAttr a sChecked m) k)
    (hn : (Dict.keys a).Nodup) (hn6 : (Dict.keys a6).Nodup)
    (e1 : Dict.get? a6 sName = some (.text b.flatName)) (a2 : Dict.get? a sValue = some (.text lit))
    (e4 : Dict.get? a6 sType = some ty)
    (hck : (ty.lowerKw.eqStr "radio".toList || ty.lowerKw.eqStr "checkbox".toList) = true)
    (hnk : ∀ s, ty.str? = some s → asciiLower s = kwLower s) (hname : b.flatName ≠ []) :
    Dict.get? a6 sValue = some (.text lit) ∧
    Dict.get? a6 sChecked = (if m then some (.text sChecked) else none) ∧
    Spec.PostsIffMatches (submittedD sInput a6 text) b lit m := by
  have e2 : Dict.get? a6 sValue = some (.text lit) := by rw [hk _ (by decide +kernel), get?_toggle_other _ _ (by decide +kernel), a2]
  have e3 : Dict.get? a6 sChecked = (if m then some (.text sChecked) else none) := by rw [hk _ (by decide +kernel), get?_toggle_self _ _ hn]
  refine ⟨e2, e3, ?_⟩
  have hne : b.flatName.isEmpty = false := by simpa using hname
  obtain ⟨s, hs, hs2⟩ := checkable_str ty hck hnk
  have hdec : (decide (asciiLower s = "checkbox".toList) || decide (asciiLower s = "radio".toList)) = true := by
    rcases hs2 with h | h <;> simp [h]
  unfold Spec.PostsIffMatches submittedD submitted
  simp only [attr?_strAttrs _ hn6, e1, e2, e3, e4, Option.bind_some, str?_text, hne, Bool.false_eq_true, if_false,
    hs, Option.getD_some, hdec, if_true]
  cases m <;> rfl

/-- CHECKED IFF `current in bind` / `current == bind.u` — a checkbox / radio with literal `lit`
    bound to an element of any kind, `m` being what `Bind.matches` answers for the literal -/
theorem checked_iff_matches (T : Tables) (b : Bind) (st st6 : TState) (ty : Val) (lit text : Str) (m : Bool)
    (hp : Plain T st) (hnd : (Dict.keys st.attrs).Nodup)
    (hty : Dict.get? st.attrs sType = some ty)
    (hck : (ty.lowerKw.eqStr "radio".toList || ty.lowerKw.eqStr "checkbox".toList) = true)
    (hnk : ∀ s, ty.str? = some s → asciiLower s = kwLower s)
    (hlit : Dict.get? st.attrs sValue = some (.text lit)) (hm : b.matches T (some (.text lit)) = .ok m)
    (hname : b.flatName ≠ [])
    (hT1 : T.autoTag sName sInput = true) (hT2 : T.autoTag sValue sInput = true)
    (h : transform T sInput (some b) st = .ok st6) :
    Dict.get? st6.attrs sName = some (.text b.flatName) ∧
    Dict.get? st6.attrs sValue = some (.text lit) ∧
    Dict.get? st6.attrs sChecked = (if m then some (.text sChecked) else none) ∧
    Spec.PostsIffMatches (submittedD sInput st6.attrs text) b lit m := by
  obtain ⟨e1, e4, s2, h2, hk, _⟩ := control_reads hp hname hT1 (by decide +kernel) h
  have a2 := (named_value st.attrs (.text b.flatName)).trans hlit
  rw [transformValue_check_gen T b ⟨Dict.set st.attrs sName (.text b.flatName), st.contents, st.ctx⟩ ty (.text lit)
    hp.valueOn ((named_autoValue ..).trans hp.noValueOpt) ((named_type ..).trans hty) hck a2 m hm hT2] at h2
  cases h2
  exact ⟨e1, checkable_posts text m hk (Dict.nodup_set _ _ _ hnd) (transform_nodup hnd h) e1 a2 (e4.trans hty) hck hnk hname⟩

/-- CHECKED IFF MATCHES — a checkbox / radio with literal `lit`, bound to a scalar or Boolean
    element: after the transforms it carries `name` = flattened name, its `value` is still the
    literal, and `checked` is present exactly when the literal equals the element's text; so the
    browser posts `(name, lit)` exactly in that case. -/
theorem checked_iff (T : Tables) (b : Bind) (st st6 : TState) (ty : Val) (lit text : Str) (hp : Plain T st)
    (hnd : (Dict.keys st.attrs).Nodup)
    (hty : Dict.get? st.attrs sType = some ty)
    (hck : (ty.lowerKw.eqStr "radio".toList || ty.lowerKw.eqStr "checkbox".toList) = true)
    (hnk : ∀ s, ty.str? = some s → asciiLower s = kwLower s)
    (hlit : Dict.get? st.attrs sValue = some (.text lit))
    (hkind : ∀ s ms, b.kind ≠ .array s ms)
    (hname : b.flatName ≠ [])
    (hT1 : T.autoTag sName sInput = true) (hT2 : T.autoTag sValue sInput = true)
    (h : transform T sInput (some b) st = .ok st6) :
    Dict.get? st6.attrs sName = some (.text b.flatName) ∧
    Dict.get? st6.attrs sValue = some (.text lit) ∧
    Dict.get? st6.attrs sChecked = (if lit = b.u then some (.text sChecked) else none) ∧
    Spec.PostsIffMatches (submittedD sInput st6.attrs text) b lit (lit == b.u) := by
  have := checked_iff_matches T b st st6 ty lit text _ hp hnd hty hck hnk hlit (matches_scalar T b hkind lit) hname hT1 hT2 h
  simpa only [beq_iff_eq] using this

/-- CHECKED IFF MEMBER — the same control bound to an ARRAY of strings: `checked` is present
    exactly when the literal, wrapped as a member element (stripped when the member schema strips),
    equals one of the members; the browser then posts `(array's flattened name, lit)`. -/
theorem checked_iff_array (T : Tables) (b : Bind) (st st6 : TState) (ty : Val) (lit text : Str) (hp : Plain T st)
    (hnd : (Dict.keys st.attrs).Nodup)
    (hty : Dict.get? st.attrs sType = some ty)
    (hck : (ty.lowerKw.eqStr "radio".toList || ty.lowerKw.eqStr "checkbox".toList) = true)
    (hnk : ∀ s, ty.str? = some s → asciiLower s = kwLower s)
    (hlit : Dict.get? st.attrs sValue = some (.text lit))
    (strip : Bool) (ms : List (Option Str)) (hkind : b.kind = .array strip ms)
    (hname : b.flatName ≠ [])
    (hT1 : T.autoTag sName sInput = true) (hT2 : T.autoTag sValue sInput = true)
    (h : transform T sInput (some b) st = .ok st6) :
    Dict.get? st6.attrs sName = some (.text b.flatName) ∧
    Dict.get? st6.attrs sValue = some (.text lit) ∧
    Dict.get? st6.attrs sChecked =
      (if ms.contains (some (if strip then T.strip lit else lit)) then some (.text sChecked) else none) ∧
    Spec.PostsIffMatches (submittedD sInput st6.attrs text) b lit
      (ms.contains (some (if strip then T.strip lit else lit))) :=
  checked_iff_matches T b st st6 ty lit text _ hp hnd hty hck hnk hlit (matches_array T b strip ms hkind lit) hname
    hT1 hT2 h

/-- `tagname == "input" and attributes.get("type") in ("checkbox", "radio")` -/
def checkable (attrs : Attrs) : Bool :=
  match Dict.get? attrs sType with
  | some t => t.lowerKw.eqStr "checkbox".toList || t.lowerKw.eqStr "radio".toList
  | none => false

/-- the raw id both sides compute: flattened name, plus `_` + the sanitised literal when that
    leaves anything -/
def rawOf (b : Bind) (v : Val) : Except PyErr (Option Str) :=
  if b.flatName.isEmpty then pure none else do
    let sfx ← sanitizeSuffix v
    if sfx.isEmpty then pure (some b.flatName) else pure (some (b.flatName ++ '_' :: sfx))

theorem raw_label (b : Bind) (al : Attrs) :
    generateRawDomid sLabel al (some b) = rawOf b ((Dict.get? al sValue).getD (.text [])) := by
  unfold generateRawDomid rawOf
  have e1 : (sLabel == "input".toList) = false := by decide +kernel
  have e2 : (sLabel == "label".toList) = true := by decide +kernel
  simp only [bind, Except.bind, pure, Except.pure, e1, e2, Bool.false_and, Bool.false_eq_true, if_false, if_true]
  rfl

theorem raw_input (b : Bind) (ac : Attrs) :
    generateRawDomid sInput ac (some b) = rawOf b (if checkable ac then (Dict.get? ac sValue).getD (.text []) else .text []) := by
  unfold generateRawDomid rawOf checkable
  have e1 : (sInput == "input".toList) = true := by decide +kernel
  have e2 : (sInput == "label".toList) = false := by decide +kernel
  have hs : sanitizeSuffix (Val.text []) = .ok [] := rfl
  cases hty : Dict.get? ac sType with
  | none =>
    have hty' : Dict.get? ac "type".toList = none := hty
    simp only [bind, Except.bind, pure, Except.pure, e1, e2, Bool.true_and, Bool.false_eq_true, if_false, hty', hs,
      List.isEmpty_nil, if_true]
  | some t =>
    have hty' : Dict.get? ac "type".toList = some t := hty
    simp only [bind, Except.bind, pure, Except.pure, e1, e2, Bool.true_and, Bool.false_eq_true, if_false, hty']
    by_cases hck : (t.lowerKw.eqStr "checkbox".toList || t.lowerKw.eqStr "radio".toList) = true
    · simp only [hck, if_true]; rfl
    · simp only [hck, Bool.false_eq_true, if_false, hs, List.isEmpty_nil, if_true]

/-- the raw id of a label given the value the control renders equals the control's raw id —
    for every literal, also when sanitising leaves nothing or maps different literals together -/
theorem label_raw_eq_control_raw (b : Bind) (ac al : Attrs)
    (hv : (Dict.get? al sValue).getD (.text []) =
      if checkable ac then (Dict.get? ac sValue).getD (.text []) else .text []) :
    generateRawDomid sLabel al (some b) = generateRawDomid sInput ac (some b) := by
  rw [raw_label, raw_input, hv]

theorem get?_setId {a : Attrs} {k : Str} (ov : Option Str) (hk : Dict.get? a k = none) :
    Dict.get? (setId a k ov) k = ov.map .text := by
  cases ov with
  | none => exact hk
  | some v => exact Dict.get?_set_self ..

/-- LABEL TARGETS CONTROL: with id and for generation enabled in the same context, the `for` the
    label gets is exactly the `id` the control gets (both absent when there is no raw id) -/
theorem label_targets (T : Tables) (b : Bind) (sc sl sc' sl' : TState)
    (hctx : sl.ctx = sc.ctx)
    (hD : Enabled T sc.ctx "auto_domid".toList) (hF : Enabled T sl.ctx "auto_for".toList)
    (hc1 : Dict.get? sc.attrs "auto_domid".toList = none) (hc2 : Dict.get? sc.attrs sId = none)
    (hl1 : Dict.get? sl.attrs "auto_for".toList = none) (hl2 : Dict.get? sl.attrs sFor = none)
    (hT1 : T.autoTag sId sInput = true) (hT2 : T.autoTag sFor sLabel = true)
    (hv : (Dict.get? sl.attrs sValue).getD (.text []) =
      if checkable sc.attrs then (Dict.get? sc.attrs sValue).getD (.text []) else .text [])
    (hcx : transformDomid T sInput (some b) sc = .ok sc') (hlx : transformFor T sLabel (some b) sl = .ok sl') :
    Dict.get? sl'.attrs sFor = Dict.get? sc'.attrs sId := by
  rw [transformDomid_eq (hD.pop hc1)] at hcx
  rw [transformFor_eq (hF.pop hl1), hctx] at hlx
  simp only [Flatland.C19.Spec.applies, hc2, hl2, hT1, hT2, Option.isSome_none, Option.isSome_some, Bool.not_false, Bool.and_self,
    Bool.or_true, if_true] at hcx hlx
  unfold genId at hcx hlx
  rw [label_raw_eq_control_raw b sc.attrs sl.attrs hv] at hlx
  cases hd : domidOf sc.ctx (generateRawDomid sInput sc.attrs (some b)) with
  | error e => rw [hd] at hcx; cases hcx
  | ok ov =>
    rw [hd] at hcx hlx
    cases hcx; cases hlx
    rw [Dict.get?_erase_other _ _ _ (by decide +kernel), get?_setId ov hl2, get?_setId ov hc2]

theorem get?_orderPairs (order : List Str) (o : Bool) (attrs : Attrs) (hnd : (Dict.keys attrs).Nodup) (k : Str) :
    Dict.get? (Flatland.C11.orderPairs order o attrs) k = Dict.get? attrs k ∧
    (Dict.keys (Flatland.C11.orderPairs order o attrs)).Nodup := by
  have hn : (Dict.keys (Flatland.C11.orderPairs order o attrs)).Nodup :=
    ((orderPairs_perm order o attrs).map _).nodup_iff.mpr hnd
  refine ⟨?_, hn⟩
  -- with distinct keys on both sides, look-up is membership, which a permutation keeps
  cases hg : Dict.get? attrs k with
  | some v => exact (Dict.mem_iff_get? hn).mp ((mem_orderPairs ..).mpr ((Dict.mem_iff_get? hnd).mpr hg))
  | none =>
    cases hs : Dict.get? (Flatland.C11.orderPairs order o attrs) k with
    | none => rfl
    | some v =>
      have := (Dict.mem_iff_get? hnd).mp ((mem_orderPairs ..).mp ((Dict.mem_iff_get? hn).mpr hs))
      rw [hg] at this; cases this

theorem attr?_orderPairs (order : List Str) (o : Bool) (attrs : Attrs) (hnd : (Dict.keys attrs).Nodup) (k : Str) :
    attr? (strAttrs (Flatland.C11.orderPairs order o attrs)) k = attr? (strAttrs attrs) k := by
  obtain ⟨h1, h2⟩ := get?_orderPairs order o attrs hnd k
  rw [attr?_strAttrs _ h2, attr?_strAttrs _ hnd, h1]

/-- the browser rule reads the attributes by name only -/
theorem submitted_congr (tag : Str) (a a' : List (Str × Str)) (text : Str) (h : ∀ k, attr? a k = attr? a' k) :
    submitted tag a text = submitted tag a' text := by
  unfold submitted
  simp only [h]

theorem submitted_orderPairs (order : List Str) (o : Bool) (tag : Str) (attrs : Attrs)
    (hnd : (Dict.keys attrs).Nodup) (text : Str) :
    submitted tag (strAttrs (Flatland.C11.orderPairs order o attrs)) text = submittedD tag attrs text :=
  submitted_congr tag _ _ text (attr?_orderPairs order o attrs hnd)

theorem popToggle_of_top_none (T : Tables) (ctx : Ctx) (key : Str) (b : Bool) (v : CVal) (t : Trool)
    (hdef : Dict.get? T.defaultContext key = some (.bool b))
    (hv : Dict.get? ctx.top key = some v) (ht : T.parseTroolC v = .ok t) (r : Bool)
    (hres : (match t with | .yes => true | .no => false | .maybe => b) = r) (attrs : Attrs)
    (hno : Dict.get? attrs key = none) : popToggle T key attrs ctx = .ok (Dict.erase attrs key, r, false) := by
  subst hres
  rw [popToggle_eq T key attrs ctx b v t hdef hv ht, hno]
  have : T.parseTrool .maybe = .maybe := rfl
  simp only [Option.getD_none, this]
  cases t <;> rfl

theorem enabled_of_top (T : Tables) (ctx : Ctx) (key : Str) (b : Bool) (v : CVal) (t : Trool)
    (hdef : Dict.get? T.defaultContext key = some (.bool b))
    (hv : Dict.get? ctx.top key = some v) (ht : T.parseTroolC v = .ok t)
    (hres : (match t with | .yes => true | .no => false | .maybe => b) = true) :
    Enabled T ctx key :=
  popToggle_of_top_none T ctx key b v t hdef hv ht true hres

def freshGen : Gen :=
  match Gen.init Tables.current "xhtml".toList [] with
  | .ok g => g
  | .error _ => ⟨false, ⟨[], []⟩⟩

theorem freshGen_init : Gen.init Tables.current "xhtml".toList [] = .ok freshGen := by decide +kernel

/-- `Generator()` has name and value generation enabled (non-vacuity of `Plain`) -/
theorem fresh_enabled :
    Enabled Tables.current freshGen.ctx "auto_name".toList ∧ Enabled Tables.current freshGen.ctx "auto_value".toList :=
  ⟨enabled_of_top _ _ _ true (.bool true) .yes (by decide +kernel) (by decide +kernel) (by decide +kernel) (by decide +kernel),
   enabled_of_top _ _ _ true (.bool true) .yes (by decide +kernel) (by decide +kernel) (by decide +kernel) (by decide +kernel)⟩

/-- END TO END: on `Generator()`, `input(bind, type=ty)` for a text-like type serialises attributes
    from which the browser rule posts exactly `(flattened name, u)` — for every bind with a
    non-empty flat name and every attribute order setting -/
theorem fresh_input_posts (b : Bind) (ty text : Str)
    (hty : textLike (.text (kwLower ty)) = true)
    (hbr : asciiLower ty ≠ "checkbox".toList ∧ asciiLower ty ≠ "radio".toList ∧ inputNeverPosts (asciiLower ty) = false)
    (hname : b.flatName ≠ []) (r : TagResult)
    (h : prepareTag Tables.current Flatland.Generated.C11.staticAttributeOrder freshGen sInput (some b)
      [(sType, .text ty)] = .ok r) :
    submitted sInput (strAttrs r.pairs) text = some (b.flatName, b.u) := by
  obtain ⟨st6, o, ht, hpairs, _⟩ := prepareTag_steps h
  have e1 : ¬ (sType = "contents".toList) := by decide +kernel
  have e2 : rstripUnderscore sType = sType := by decide +kernel
  have e3 : ¬ (sType = "auto_name".toList) := by decide +kernel
  have e4 : ¬ (sType = "auto_value".toList) := by decide +kernel
  have e5 : ¬ (sType = sName) := by decide +kernel
  have e6 : ¬ (sType = sValue) := by decide +kernel
  have hk : Flatland.C11.transformKeys (Dict.erase [(sType, Val.text ty)] "contents".toList) = [(sType, .text ty)] := by
    simp only [Dict.erase, e1, if_false, Flatland.C11.transformKeys, List.foldl, e2, Dict.set]
  rw [hk] at ht
  have hc : Dict.get? ([(sType, Val.text ty)] : List (Str × Val)) "contents".toList = none := by
    simp only [Dict.get?, e1, if_false]
  rw [hc] at ht
  have hnd : (Dict.keys ([(sType, Val.text ty)] : Attrs)).Nodup := by simp [Dict.keys]
  have hplain : Plain Tables.current ⟨[(sType, .text ty)], none, freshGen.ctx⟩ :=
    ⟨fresh_enabled.1, fresh_enabled.2, by simp only [Dict.get?, e3, if_false], by simp only [Dict.get?, e4, if_false],
     by simp only [Dict.get?, e5, if_false]⟩
  have hpost := posts_flat_pair_input Tables.current b ⟨[(sType, .text ty)], none, freshGen.ctx⟩ st6 text hplain hnd
    (by simp only [Dict.get?, e6, if_false])
    (by simp only [Dict.get?, if_true, Option.getD_some]; exact hty)
    (by simp only [browserTextLike, Dict.get?, if_true, Option.bind_some, str?_text, Option.getD_some]; exact hbr)
    hname (by decide +kernel) (by decide +kernel) ht
  rw [hpairs, submitted_orderPairs _ _ _ _ (transform_nodup hnd ht)]
  exact hpost

/-- the statement as written, with `password` among the text-like input types of its quantifier -/
def C12_Full : Prop :=
  ∀ (b : Bind) (ty : Str), ty ∈ ["text".toList, "hidden".toList, "submit".toList, "password".toList] →
    b.flatName ≠ [] → ∀ r, prepareTag Tables.current Flatland.Generated.C11.staticAttributeOrder freshGen sInput
      (some b) [(sType, .text ty)] = .ok r →
    submitted sInput (strAttrs r.pairs) [] = some (b.flatName, b.u)

def kfBind : Bind := ⟨"a".toList, "hello".toList, .scalar⟩
def kfResult : TagResult :=
  match prepareTag Tables.current Flatland.Generated.C11.staticAttributeOrder freshGen sInput (some kfBind)
      [(sType, .text "password".toList)] with
  | .ok r => r
  | .error _ => ⟨[], [], freshGen.ctx⟩

/-- KF-C12-a: a password input does not echo the element's text (it posts `("a", "")`) -/
theorem C12_full_fails : ¬ C12_Full := by
  intro hfull
  have h := hfull kfBind "password".toList (by decide +kernel) (by decide +kernel) kfResult (by decide +kernel)
  revert h
  decide +kernel

/-- the partial theorem covers the three other types of the quantifier -/
example : textLike (.text (kwLower "text".toList)) = true ∧ textLike (.text (kwLower "Hidden".toList)) = true ∧
    textLike (.text (kwLower "submit".toList)) = true ∧ textLike (.text (kwLower "Password".toList)) = false := by decide +kernel

/-- non-vacuity of `checked_iff` / `label_targets` hypotheses on concrete dictionaries -/
example : checkable [(sType, .text "checkbox".toList), (sValue, .text "q r".toList)] = true := by decide +kernel
example : generateRawDomid sLabel [(sValue, .text "q r".toList)] (some kfBind) = .ok (some "a_qr".toList) := by decide +kernel
example : generateRawDomid sInput [(sType, .text "checkbox".toList), (sValue, .text "q r".toList)] (some kfBind) =
    .ok (some "a_qr".toList) := by decide +kernel
/-- a literal that sanitises to nothing: both sides fall back to the bare name -/
example : generateRawDomid sLabel [(sValue, .text " %".toList)] (some kfBind) = .ok (some "a".toList) := by decide +kernel

/-- SELECTED IFF MATCHES — an `<option value=lit>` bound to an element (any kind; `m` is what
    `current in bind` / `current == bind.u` answers: `lit = u` for scalars, membership for Arrays):
    after the transforms `selected` is present exactly when the literal matches, the `value` is
    untouched, and inside a `<select>` named `n` the browser posts `(n, lit)` exactly then.
    (Options WITHOUT `value=` are KF-C12-b/e and outside this theorem.) -/
theorem selected_iff (T : Tables) (b : Bind) (st st6 : TState) (lit selectName text : Str) (m : Bool) (hp : Plain T st)
    (hnd : (Dict.keys st.attrs).Nodup)
    (hlit : Dict.get? st.attrs sValue = some (.text lit))
    (hm : b.matches T (some (.text lit)) = .ok m)
    (hsel : selectName ≠ [])
    (hT1 : T.autoTag sName sOption = false) (hT2 : T.autoTag sValue sOption = true)
    (h : transform T sOption (some b) st = .ok st6) :
    Dict.get? st6.attrs sValue = some (.text lit) ∧
    Dict.get? st6.attrs sSelected = (if m then some (.text sSelected) else none) ∧
    submittedOption selectName (strAttrs st6.attrs) text = (if m then some (selectName, lit) else none) := by
  obtain ⟨s1, s2, h1, h2, h6⟩ := transform_later h
  rw [transformName_skip T sOption (some b) st hp.nameOn hp.noNameOpt hT1] at h1
  simp only [Except.ok.injEq] at h1
  subst h1
  rw [transformValue_option T b st (.text lit) m hp.valueOn hp.noValueOpt hlit hm hT2] at h2
  simp only [Except.ok.injEq] at h2
  subst h2
  have hl : sOption ≠ sLabel := by decide +kernel
  have f2 := (later_frame sValue (by decide +kernel) hl h6).1
  have f3 := (later_frame sSelected (by decide +kernel) hl h6).1
  simp only at f2 f3
  have e2 : Dict.get? st6.attrs sValue = some (.text lit) := by
    rw [f2, get?_toggle_other _ _ (by decide +kernel), hlit]
  have e3 : Dict.get? st6.attrs sSelected = (if m = true then some (.text sSelected) else none) := by
    rw [f3, get?_toggle_self _ _ hnd]
  refine ⟨e2, e3, ?_⟩
  have hn6 := transform_nodup hnd h
  have hne : selectName.isEmpty = false := by simpa using hsel
  unfold submittedOption
  simp only [attr?_strAttrs _ hn6, e2, e3, hne, Bool.false_eq_true, if_false, Option.bind_some, str?_text, Option.getD_some]
  cases m with
  | true => simp only [if_true, Option.bind_some, str?_text, Option.isSome_some]
  | false => simp only [Bool.false_eq_true, if_false, Option.bind_none, Option.isSome_none]

/-- CHECKBOX WITHOUT A LITERAL, BOUND TO A BOOLEAN (the ordinary use): the missing `value=` is
    filled with `Boolean.true`, `checked` is present exactly when the element's text is that
    value, and the browser posts `(flattened name, Boolean.true)` exactly then -/
theorem checked_iff_boolean (T : Tables) (b : Bind) (st st6 : TState) (ty : Val) (tru text : Str) (hp : Plain T st)
    (hnd : (Dict.keys st.attrs).Nodup)
    (hty : Dict.get? st.attrs sType = some ty) (hck : ty.lowerKw.eqStr "checkbox".toList = true)
    (hnk : ∀ s, ty.str? = some s → asciiLower s = kwLower s)
    (hno : Dict.get? st.attrs sValue = none) (hkind : b.kind = .boolean tru)
    (hname : b.flatName ≠ [])
    (hT1 : T.autoTag sName sInput = true) (hT2 : T.autoTag sValue sInput = true)
    (h : transform T sInput (some b) st = .ok st6) :
    Dict.get? st6.attrs sValue = some (.text tru) ∧
    Dict.get? st6.attrs sChecked = (if tru = b.u then some (.text sChecked) else none) ∧
    Spec.PostsIffMatches (submittedD sInput st6.attrs text) b tru (tru == b.u) := by
  obtain ⟨e1, e4, s2, h2, hk, _⟩ := control_reads hp hname hT1 (by decide +kernel) h
  rw [transformValue_boolcheck T b ⟨Dict.set st.attrs sName (.text b.flatName), st.contents, st.ctx⟩ ty tru
    hp.valueOn ((named_autoValue ..).trans hp.noValueOpt) ((named_type ..).trans hty) hck ((named_value ..).trans hno) hkind
    hT2] at h2
  cases h2
  have := checkable_posts text (tru == b.u) hk (Dict.nodup_set _ _ _ (Dict.nodup_set _ _ _ hnd)) (transform_nodup hnd h)
    e1 (Dict.get?_set_self ..) (e4.trans hty) (by rw [hck]; exact Bool.or_true _) hnk hname
  simpa only [beq_iff_eq] using this

end Flatland.C12.Proofs
