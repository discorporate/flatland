/-
C18 — JoinedString: "value is always the separator-join of its members' texts", for any member
type.  Model: Flatland/C18Joined.lean; spec: `Flatland.C18.Spec.sepJoin` (core `List.intercalate`).
-/
import Flatland.C18Joined
import Flatland.Spec.C18
import Proofs.C04
namespace Flatland.C18.Joined.Proofs
open Flatland.Scalar Flatland.C18 Flatland.C18.Spec Flatland.C18.Joined
open Flatland.C04.Proofs (plainEnv)

theorem foldl_join (sep : Str) (acc : Str) (xs : List Str) :
    xs.foldl (fun acc y => acc ++ sep ++ y) acc = acc ++ (xs.map (sep ++ ·)).flatten := by
  induction xs generalizing acc with
  | nil => simp
  | cons x xs ih => simp [List.append_assoc]

theorem sepJoin_cons (sep : Str) (x : Str) (xs : List Str) :
    sepJoin sep (x :: xs) = x ++ (xs.map (sep ++ ·)).flatten := by
  unfold sepJoin List.intercalate
  induction xs generalizing x with
  | nil => simp
  | cons y ys ih =>
    have := ih y
    simp only [List.intersperse_cons_cons, List.flatten_cons, List.map_cons] at this ⊢
    rw [this]
    simp [List.append_assoc]

theorem pyJoin_eq_sepJoin (sep : Str) (xs : List Str) : pyJoin sep xs = sepJoin sep xs := by
  cases xs with
  | nil => rfl
  | cons x xs => rw [pyJoin, foldl_join, sepJoin_cons]

theorem joinStr_eq_sepJoin (sep : Str) (xs : List Str) : joinStr sep xs = sepJoin sep xs := by
  induction xs with
  | nil => rfl
  | cons x xs ih =>
    cases xs with
    | nil => simp [joinStr, sepJoin_cons]
    | cons y ys =>
      rw [joinStr, ih, sepJoin_cons, sepJoin_cons]
      · simp [List.append_assoc]
      · simp

variable {M : Type}

/-- C18, "a JoinedString's value is the separator-join of its members' texts", for any member type -/
theorem joined_value_generic (T : MemberType M) (sep : Str) (ms : List M) :
    value T sep ms = sepJoin sep (ms.map T.text) ∧ u T sep ms = sepJoin sep (ms.map T.text) :=
  ⟨pyJoin_eq_sepJoin _ _, pyJoin_eq_sepJoin _ _⟩

/-- after every completed step of the history, the machine's `.value` is the separator-join of the
    texts of the members it has at that moment -/
def ValueIsJoin {σ : Type} [DecidableEq Str] (Mc : Machine M σ) (T : MemberType M) (sep : Str) : σ → List (Op M) → Bool
  | _, [] => true
  | s, op :: rest =>
    match Mc.step s op with
    | .error _ => true
    | .ok (s', _) => decide (Mc.value s' = sepJoin sep ((Mc.members s').map T.text)) && ValueIsJoin Mc T sep s' rest

/-- This holds by construction of `value`: the machine `code` has no state but the members and recomputes the join
    on every read, so it holds for any step function.  What it contributes is that the model says so and the
    correspondence compares it with the code.  `storedValue_fails`: false for a JoinedString that keeps the value
    of its last `set()`; `joined_value_history_cached`: a statement in which the operations matter. -/
theorem joined_value_history (T : MemberType M) (sep : Str) (prune : Bool) (ms : List M) (ops : List (Op M)) :
    ValueIsJoin (code T sep prune) T sep ms ops = true := by
  induction ops generalizing ms with
  | nil => rfl
  | cons op rest ih =>
    simp only [ValueIsJoin]
    cases h : (code T sep prune).step ms op with
    | error e => rfl
    | ok res =>
      obtain ⟨ms', r⟩ := res
      simp only [Bool.and_eq_true, decide_eq_true_eq]
      exact ⟨(joined_value_generic T sep ms').1, ih ms'⟩

/-- a JoinedString that stores the value at `set()` time does not satisfy it:
    `el.set('a,b'); el[0].set('z')` then still reads `'a,b'` -/
theorem storedValue_fails :
    ¬ ∀ (s : List SState × Str) (ops : List (Op SState)),
        ValueIsJoin (stored (scalarMember plainEnv (.string true)) [','] true) (scalarMember plainEnv (.string true)) [','] s ops = true := by
  intro h
  have := h ([], []) [.setPieces [.str ['a'], .str ['b']], .member 0 (.str ['z'])]
  revert this
  decide +kernel

/-- the cache, when present, is the join of the current members -/
def Coh (T : MemberType M) (sep : Str) (s : List M × Option Str) : Prop :=
  s.2 = none ∨ s.2 = some (value T sep s.1)

/-- a JoinedString that stores the value of its last `set()` and invalidates
    on member `set()` / `append` / `del` reads the separator-join of its members' current texts after every step
    of every history WITHOUT changes behind its back (`NoPoke`), from every coherent start. -/
theorem joined_value_history_cached (T : MemberType M) (sep : Str) (prune : Bool) (s : List M × Option Str)
    (hs : Coh T sep s) (ops : List (Op M)) (hops : NoPoke ops = true) :
    ValueIsJoin (cached T sep prune) T sep s ops = true := by
  induction ops generalizing s with
  | nil => rfl
  | cons op rest ih =>
    simp only [ValueIsJoin]
    cases h : (cached T sep prune).step s op with
    | error e => rfl
    | ok res =>
      obtain ⟨s', r⟩ := res
      have hrest : NoPoke rest = true := by cases op <;> first | exact hops | cases hops
      -- a whole-element set fills the cache with the join; member set / append / del empty it
      have hcoh : Coh T sep s' := by
        simp only [cached] at h
        cases hst : step T prune s.1 op with
        | error e => rw [hst] at h; cases h
        | ok q =>
          rw [hst] at h
          cases op
          case poke => cases hops
          all_goals
            cases h
            first | exact Or.inr rfl | exact Or.inl rfl
      simp only [Bool.and_eq_true, decide_eq_true_eq]
      refine ⟨?_, ih s' hcoh hrest⟩
      have hj := (joined_value_generic T sep s'.1).1
      rcases hcoh with hc | hc <;> simp [cached, hc, hj]

/-- … and not after one change behind its back: `el.set('a,b')`, then the first member's text changed without
    going through the element, still reads `'a,b'`.  (`storedValue_fails` is the same failure for the machine
    that never invalidates, already on a member `set()`.) -/
theorem cached_poke_fails :
    ¬ ∀ (s : List SState × Option Str) (ops : List (Op SState)),
        ValueIsJoin (cached (scalarMember plainEnv (.string true)) [','] true) (scalarMember plainEnv (.string true)) [','] s ops = true := by
  intro h
  have := h ([], none) [.setPieces [.str ['a'], .str ['b']], .poke 0 ⟨.str ['z'], .str ['z'], ['z']⟩]
  revert this
  decide +kernel

/-- non-vacuity: a history with whole sets, a member set, an append and a del, no poke: the cached machine
    agrees with the join throughout (and its cache is actually used after the `set`) -/
example : ValueIsJoin (cached (scalarMember plainEnv (.string true)) [','] true) (scalarMember plainEnv (.string true)) [',']
    ([], none) [.setPieces [.str ['a'], .str ['b']], .member 0 (.str ['z']), .append (.str ['c']), .delete 1,
                .setPieces [.str ['q']]] = true := by decide +kernel

theorem setLoop_noEmpty (T : MemberType M) (vs : List Native) (acc : List M) (succ : List Bool)
    (ms : List M) (fl : List Bool) (hacc : ∀ m ∈ acc, T.text m ≠ [])
    (h : setLoop T true vs acc succ = .ok (ms, fl)) : ∀ m ∈ ms, T.text m ≠ [] := by
  induction vs generalizing acc succ with
  | nil => simp only [setLoop, Except.ok.injEq, Prod.mk.injEq] at h; obtain ⟨rfl, _⟩ := h; exact hacc
  | cons v vs ih =>
    simp only [setLoop] at h
    split at h
    · cases h
    · rename_i child adapted hset
      split at h
      · exact ih acc succ hacc h
      · rename_i hne
        apply ih (acc ++ [child]) (succ ++ [adapted]) _ h
        intro m hm
        rcases List.mem_append.mp hm with hm | hm
        · exact hacc m hm
        · simp only [List.mem_singleton] at hm
          subst hm
          intro hempty
          apply hne
          simp [hempty]

/-- after a completed whole-element `set()` of a pruning JoinedString no member has the text `''` (outside which
    lies KF-C18-a), for any member type -/
theorem set_establishes_noEmpty_generic (T : MemberType M) (ms : List M) (vs : List Native) (ms' : List M)
    (r : Option Bool) (h : step T true ms (.setPieces vs) = .ok (ms', r)) : ∀ m ∈ ms', T.text m ≠ [] := by
  simp only [step] at h
  split at h
  · rename_i ms'' succ hloop
    simp only [Except.ok.injEq, Prod.mk.injEq] at h
    obtain ⟨rfl, _⟩ := h
    exact setLoop_noEmpty T vs [] [] _ _ (by simp) hloop
  · cases h

example : step (scalarMember plainEnv (.string true)) true [] (.setPieces [.str ['a'], .str [' '], .str ['b']]) =
    .ok ([⟨.str ['a'], .str ['a'], ['a']⟩, ⟨.str ['b'], .str ['b'], ['b']⟩], some true) := by rfl

end Flatland.C18.Joined.Proofs
