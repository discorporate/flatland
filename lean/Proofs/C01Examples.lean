/-
C01: `SepSafe` for one-character separators, and non-vacuity / negation witnesses.
-/
import Proofs.C01
import Proofs.Lemmas.FlatEval
import Proofs.Lemmas.FlattenE
namespace Flatland.Flat.Proofs
open Flatland.Flat Flatland.Flat.Spec

/-- If the separator is a single character that is not a decimal digit and occurs in no declared name
    (and no name is empty), flat keys parse uniquely. -/
theorem sepSafe_single_char (env : Env) (henv : EnvOK env) (s : Schema) (c : Char)
    (hnd : isNd env c = false) (hnames : ∀ t ∈ names s, t ≠ [] ∧ c ∉ t) :
    SepSafe env [c] (Tok s) :=
  sepSafe_single c hnd (by
    rintro t (ht | ⟨i, rfl⟩)
    · exact hnames t ht
    · exact natStr_token henv hnd i)

def exEnv01 : Env :=
  { norm := fun _ s => s, compose := fun _ _ => [], joinedMembers := fun _ _ => [],
    ndZeros := [48], maxDigits := 4300 }

/-- Dict{ a : String, ab : List[ String 's' ] }: a field name that is a prefix of its sibling's -/
def exSchema : Schema :=
  .dict none false .dense
    [ .leaf (some "a".toList) false 0,
      .list (some "ab".toList) false false 1024 (.leaf (some "s".toList) false 0) ]

def exElem : Elem :=
  .dict [ ("a".toList, .leaf "x".toList),
          ("ab".toList, .list [.leaf "y".toList, .leaf "".toList]) ]

theorem exEnvOK : EnvOK exEnv01 := ⟨[], rfl⟩

theorem ex_digits (i : Nat) (h : i < 10) : (natStr i).length ≤ exEnv01.maxDigits := by
  rw [natStr_lt i h]; simp [exEnv01]

theorem ex_sepSafe : SepSafe exEnv01 "_".toList (Tok exSchema) :=
  sepSafe_single_char exEnv01 exEnvOK exSchema '_' (by decide +kernel) (by decide +kernel)

theorem emitsAny_leaf (env : Env) (nm : Option Str) (o : Bool) (k : Nat) (u : Str) :
    emitsAny env (.leaf nm o k) (.leaf u) := by
  unfold emitsAny
  rw [flatten_eq_relFlat]
  rw [resolve_leaf, relFlat_leaf _ _ _ _ (Or.inr rfl)]
  simp

theorem ex_ok : Ok exEnv01 exSchema exElem := by
  simp only [exSchema, exElem, Ok, OkFields, exEnv01, true_and, and_true, Schema.name]
  refine ⟨(by intro h; cases h), (by decide +kernel), ?_, ?_⟩
  · exact fun i hi => ex_digits i (by simp at hi; omega)
  · intro e he
    simp only [List.mem_cons, List.not_mem_nil, or_false] at he
    rcases he with rfl | rfl
    · exact ⟨by simp [Ok], emitsAny_leaf _ _ _ _ _⟩
    · exact ⟨by simp [Ok], emitsAny_leaf _ _ _ _ _⟩

/-- the hypotheses of `roundtrip` are satisfiable by a non-trivial tree (prefix-sharing sibling
    names, a list with an empty-valued member) -/
example : fromFlat exEnv01 "_".toList exSchema (flatten exEnv01 "_".toList exSchema exElem) = exElem :=
  roundtrip exEnv01 "_".toList exSchema exElem ex_sepSafe exEnvOK (by decide +kernel) (by decide +kernel) (by decide +kernel) ex_ok

def sparseSchema : Schema :=
  .dict none false .sparse [.leaf (some "a".toList) false 0, .leaf (some "b".toList) false 0]

/-- set({'b': '1', 'a': '2'}): members in insertion order b, a -/
def sparseElem : Elem := .dict [("b".toList, .leaf "1".toList), ("a".toList, .leaf "2".toList)]

/-- KF-C01-d, why SparseDicts are excluded: the full statement is false of the code, the rebuilt tree
    lists its members — and therefore its flat pairs — in schema order, not in the original order -/
theorem roundtrip_sparse_fails :
    flatten exEnv01 "_".toList sparseSchema
        (fromFlat exEnv01 "_".toList sparseSchema (flatten exEnv01 "_".toList sparseSchema sparseElem))
      ≠ flatten exEnv01 "_".toList sparseSchema sparseElem := by
  simp only [flatten_eq_flattenE]; decide +kernel

theorem valuesNonempty_leaf_of (env : Env) (nm : Option Str) (o : Bool) (k : Nat) (u : Str) (h : u ≠ []) :
    valuesNonempty env (.leaf nm o k) (.leaf u) := by
  unfold valuesNonempty
  rw [flatten_eq_relFlat]
  rw [resolve_leaf, relFlat_leaf _ _ _ _ (Or.inr rfl)]
  intro p hp
  simp only [List.map_cons, List.map_nil, List.mem_singleton] at hp
  subst hp
  exact h

/-- `List.named('l').of(String)`: a pruning List (the default `prune_empty = True`) of anonymous scalars -/
def exSchema2 : Schema := .list (some "l".toList) false true 1024 (.leaf none false 0)
def exElem2 : Elem := .list [.leaf "y".toList, .leaf "z".toList]

theorem ex2_ok : Ok exEnv01 exSchema2 exElem2 := by
  simp only [exSchema2, exElem2, Ok]
  refine ⟨?_, (by decide +kernel), ?_, ?_⟩
  · intro _ e he
    simp only [List.mem_cons, List.not_mem_nil, or_false] at he
    rcases he with rfl | rfl
    · exact valuesNonempty_leaf_of _ _ _ _ _ (by decide +kernel)
    · exact valuesNonempty_leaf_of _ _ _ _ _ (by decide +kernel)
  · exact fun i hi => ex_digits i (by simp at hi; omega)
  · intro e he
    simp only [List.mem_cons, List.not_mem_nil, or_false] at he
    rcases he with rfl | rfl
    · exact ⟨by simp [Ok, exEnv01], emitsAny_leaf _ _ _ _ _⟩
    · exact ⟨by simp [Ok, exEnv01], emitsAny_leaf _ _ _ _ _⟩

theorem ex2_sepSafe : SepSafe exEnv01 "_".toList (Tok exSchema2) :=
  sepSafe_single_char exEnv01 exEnvOK exSchema2 '_' (by decide +kernel) (by decide +kernel)

example : fromFlat exEnv01 "_".toList exSchema2 (flatten exEnv01 "_".toList exSchema2 exElem2) = exElem2 :=
  roundtrip exEnv01 "_".toList exSchema2 exElem2 ex2_sepSafe exEnvOK (by decide +kernel) (by decide +kernel) (by decide +kernel) ex2_ok

/-- `List.named('l').of(String)` (pruning) holding `['', 'z', '']` -/
def exElem3 : Elem := .list [.leaf "".toList, .leaf "z".toList, .leaf "".toList]

theorem ex3_okP : OkP exEnv01 exSchema2 exElem3 := by
  simp only [exSchema2, exElem3, OkP]
  refine ⟨by decide, ?_, ?_⟩
  · exact fun i hi => ex_digits i (by simp at hi; omega)
  · intro e he
    simp only [List.mem_cons, List.not_mem_nil, or_false] at he
    rcases he with rfl | rfl | rfl <;> simp [OkP, exEnv01]

theorem ex3_pr : pr exEnv01 false exSchema2 exElem3 = .list [.leaf "z".toList] := by
  simp only [exSchema2, exElem3, pr, if_true, List.filter_cons, List.filter_nil, emitsB_leaf]
  simp

/-- the documented pruning, derived: the two empty members are dropped, the survivor renumbered -/
example : fromFlat exEnv01 "_".toList exSchema2 (flatten exEnv01 "_".toList exSchema2 exElem3)
    = .list [.leaf "z".toList] := by
  rw [roundtrip_pruned exEnv01 "_".toList exSchema2 exElem3 ex2_sepSafe exEnvOK (by decide +kernel) (by decide +kernel)
    (by decide +kernel) ex3_okP, ex3_pr]

end Flatland.Flat.Proofs
