/-
"An element removed from a container is no longer reachable", stated as the Python oracle checks it, without
naming the call: a child of the target container before the call that is not a child of it afterwards occurs
nowhere in the tree afterwards, for every call of the model, raising or not (`nodeStep_removed` at one element;
`removed_unreachable`, Proofs/C08Frame.lean, in a tree).  `pop`, `del`, `remove`, slice deletion, `clear`,
replacement by item / slice assignment, `set` rebuilding the members, `*= 0` are instances.

Every call makes some old subtrees of the container leave (`Leaves … left`): what the call reports as detached is
among them, but also members it rebuilds without a word (`set_default`, `Mapping.set`).  They are accounted for on
the left of the identity inequality, so with unique identities nothing of them is in the result; and an old child
that is not among them is still a child, which is read off the edited list of items (for the list edits: off the
permutation).
-/
import Proofs.C08IdsStep
import Proofs.C08Bfs
namespace Flatland.C08.Proofs
open Flatland.Tree Flatland.PyList Flatland.C08 Flatland.C08.Spec
open Flatland.C10.Proofs (findKid_some)

/- The origin form of "what is new in the container" (`Orig1`, `Orig2`, `KO`).  The statements about removal below
do not go through it: they use `Leaves`. -/

/-- where a new item comes from; `B a` bounds the occurrences of `a` that are not inherited
    (argument identities and freshly allocated ones) -/
def Orig1 (B : Nat → Nat) (old : List Node) (k' : Node) : Prop :=
  (∃ k ∈ old, k'.id = k.id ∧ ∀ a, cntL a k'.kids ≤ cntL a k.kids + B a) ∨ (∀ a, cnt a k' ≤ B a)

def Orig2 (B : Nat → Nat) (old : List Node) (k' : Node) : Prop :=
  (∃ k ∈ old, k'.id = k.id ∧ ∀ e' ∈ k'.kids, Orig1 B k.kids e') ∨ (∀ a, cnt a k' ≤ B a)

def KO (B : Nat → Nat) (old ks : List Node) : Prop := ∀ k' ∈ ks, Orig1 B old k' ∧ Orig2 B old k'

theorem Orig1.mono {B B' : Nat → Nat} (hB : ∀ a, B a ≤ B' a) {old : List Node} {k' : Node} (h : Orig1 B old k') :
    Orig1 B' old k' := by
  rcases h with ⟨k, hk, hid, hc⟩ | h
  · exact .inl ⟨k, hk, hid, fun a => Nat.le_trans (hc a) (Nat.add_le_add_left (hB a) _)⟩
  · exact .inr (fun a => Nat.le_trans (h a) (hB a))

theorem Orig2.mono {B B' : Nat → Nat} (hB : ∀ a, B a ≤ B' a) {old : List Node} {k' : Node} (h : Orig2 B old k') :
    Orig2 B' old k' := by
  rcases h with ⟨k, hk, hid, hc⟩ | h
  · exact .inl ⟨k, hk, hid, fun e he => (hc e he).mono hB⟩
  · exact .inr (fun a => Nat.le_trans (h a) (hB a))

theorem KO.mono {B B' : Nat → Nat} (hB : ∀ a, B a ≤ B' a) {old ks : List Node} (h : KO B old ks) : KO B' old ks :=
  fun x hx => ⟨(h x hx).1.mono hB, (h x hx).2.mono hB⟩

theorem KO.append {B : Nat → Nat} {old ks ks' : List Node} (h : KO B old ks) (h' : KO B old ks') : KO B old (ks ++ ks') := by
  intro x hx
  rcases List.mem_append.mp hx with h1 | h1
  · exact h x h1
  · exact h' x h1

theorem id_withKey (x : Node) (k : Str) : (x.withKey k).id = x.id := by cases x; rfl
theorem kids_withKey (x : Node) (k : Str) : (x.withKey k).kids = x.kids := by cases x; rfl
theorem id_withParent (x : Node) (p : Option Nat) : (x.withParent p).id = x.id := by cases x; rfl
theorem kids_withParent (x : Node) (p : Option Nat) : (x.withParent p).kids = x.kids := by cases x; rfl

theorem cnt_self_pos (c : Node) : 0 < cnt c.id c := by rw [cnt_eq, own_self]; omega

theorem kids_fresh_of_ls {i : NInfo} {s : Schema} {r : Node} {lo hi : Nat} (hid : r.id = i.id)
    (h : LS lo [.mk i s []] hi [r]) : ∀ a, cntL a r.kids ≤ ind lo hi a := fun a => by
  have := LS.ofNode hid h a; simpa using this

/-- unless `set` leaves the children alone, it builds them from nothing -/
theorem SetShape.forgets {i : NInfo} {s : Schema} {kids : List Node} {raw : Raw} {next : Nat} {r : SetR}
    (h : SetShape i s kids raw next r) : (r.node.kids = kids ∧ r.next = next) ∨ SetShape i s [] raw next r := by
  cases h with
  | same => exact .inl ⟨rfl, rfl⟩
  | emptied hk hn => exact .inr (.emptied hk hn)
  | rebuilt hk hm hraw => exact .inr (.rebuilt hk hm hraw)
  | pairs hk hkvs => exact .inr (.pairs hk hkvs)

theorem setNode_kids_fresh (n : Node) (hk : kok n = true) (raw : Raw) (pol : Option Policy) (next : Nat) :
    ((setNode n raw pol next).node.kids = n.kids ∧ (setNode n raw pol next).next = next) ∨
      ∀ a, cntL a (setNode n raw pol next).node.kids ≤ ind next (setNode n raw pol next).next a := by
  cases n with
  | mk i s kids =>
    refine (setNode_shape i s kids raw pol next).forgets.imp id (fun h => ?_)
    exact kids_fresh_of_ls (i := i) (s := s) (id_of_hdr (setNode_hdr _ raw pol next))
      (h.ls (kok_mk_nil (kok_swf hk)) (fun _ _ x _ => setNode_ls x) (fun _ _ p _ => setNode_ls p.2))

theorem setDefault_kids_fresh (n : Node) (hk : kok n = true) (next : Nat) :
    ((setDefault n next).node.kids = n.kids ∧ (setDefault n next).next = next) ∨
    (∀ a, cntL a (setDefault n next).node.kids ≤ ind next (setDefault n next).next a) ∨
    (n.kind = .dict ∧ (setDefault n next).node.kids = (setDefaultKids n.kids next).1 ∧
      (setDefault n next).next = (setDefaultKids n.kids next).2.1) := by
  cases n with
  | mk i s kids =>
    have hid : (setDefault (.mk i s kids) next).node.id = i.id := id_of_hdr (setDefault_hdr (.mk i s kids) next)
    -- a shape that does not look at the children found is the shape of the element without them
    have fresh : ∀ {r : SetR}, r.node.id = i.id → DefaultShape False (.mk i s []) next r →
        ∀ a, cntL a r.node.kids ≤ ind next r.next a :=
      fun hid h => kids_fresh_of_ls hid (h.ls (kok_mk_nil (kok_swf hk))
        (fun f hf q k nx => fromDefaults_ls f q k nx (swf_subs (kok_swf hk) f hf)) False.elim)
    have hsh := setDefault_shape i s kids next
    generalize setDefault (.mk i s kids) next = r at hid hsh ⊢
    cases hsh with
    | same => exact .inl ⟨rfl, rfl⟩
    | set => exact (setNode_kids_fresh _ hk _ none next).imp id .inl
    | slots hkd hm => exact .inr (.inl (fresh hid (.slots hkd hm)))
    | items hkd hm => exact .inr (.inl (fresh hid (.items hkd hm)))
    | emptied hkd hm => exact .inr (.inl (fresh hid (.emptied hkd hm)))
    | kids _ hkd => exact .inr (.inr ⟨hkd, rfl, rfl⟩)
    | fields hkd => exact .inr (.inl (fresh hid (.fields hkd)))
    | cleared hkd hm => exact .inr (.inl (fresh hid (.cleared hkd hm)))

theorem appendEl_prefix (n w : Node) (next : Nat) : ∃ extra, (appendEl n w next).1.kids = n.kids ++ extra := by
  unfold appendEl; split
  · exact ⟨_, kids_withKids _ _⟩
  · exact ⟨_, kids_withKids _ _⟩

theorem Appends.kids_prefix {m : Schema} {n n' : Node} {k k' : Nat} {used : List Arg} (h : Appends m n k used n' k') :
    n'.id = n.id ∧ ∃ extra, n'.kids = n.kids ++ extra := by
  induction h with
  | done => exact ⟨rfl, [], (List.append_nil _).symm⟩
  | bump a _ ih => exact ih
  | @step n k a w k1 used n' k' hw _ ih =>
    obtain ⟨e1, h1⟩ := appendEl_prefix n w k1
    obtain ⟨hid, e2, h2⟩ := ih
    exact ⟨hid.trans (id_of_hdr (appendEl_hdr n w k1)), e1 ++ e2, by rw [h2, h1, List.append_assoc]⟩

theorem mem_children_nodesL {n c : Node} (h : c ∈ children n) : c ∈ nodesL n.kids :=
  (nodesL_children_sublist n).subset (mem_nodesL_of_mem h)

theorem cntL_pos_of_child {n c : Node} (h : c ∈ children n) : 0 < cntL c.id n.kids := by
  unfold cntL
  exact List.count_pos_iff.mpr (List.mem_map.mpr ⟨c, mem_children_nodesL h, rfl⟩)

theorem cntL_pos_of_mem {l : List Node} {c : Node} (h : c ∈ l) : 0 < cntL c.id l :=
  Nat.lt_of_lt_of_le (cnt_self_pos c) (cnt_le_cntL h)

theorem cntL_pos_of_mem_kids {l : List Node} {σ c : Node} (hσ : σ ∈ l) (h : c ∈ σ.kids) : 0 < cntL c.id l := by
  have h1 := cntL_pos_of_mem h
  have h2 := cnt_le_cntL (a := c.id) hσ
  rw [cnt_eq] at h2; omega

/-- `left` leaves the container `n` in the call that yields `r`: it is accounted for beside the result
    (`acc`: the inequality of `Det`, with `left` where `Det` has what the call reports), what the call reports is
    among it (`det`), and an old child that is not in it is still a child (`kept`) -/
structure Leaves (n : Node) (args : List Node) (next : Nat) (r : StepR) (left : List Node) : Prop where
  acc : ∀ a, cnt a r.node + cntL a left ≤ cnt a n + cntL a args + ind next r.next a
  det : ∀ a, cntL a r.detached ≤ cntL a left
  kept : ∀ c ∈ children n, 0 < cntL c.id left ∨ c.id ∈ (children r.node).map Node.id

/-- removed ⇒ gone at the container: an old child either kept its place, or left, and what left is not in the result -/
theorem Leaves.removed {n : Node} {args : List Node} {next : Nat} {r : StepR} {left : List Node}
    (h : Leaves n args next r left) (hnd : (ids n).Nodup) (hlt : ∀ a ∈ ids n, a < next)
    (hA : ∀ a ∈ ids n, cntL a args = 0) :
    ∀ c ∈ children n, c.id ∈ ids r.node → c.id ∈ (children r.node).map Node.id := by
  intro c hc hin
  refine (h.kept c hc).resolve_left (fun hl => ?_)
  have hcn : c.id ∈ ids n := (mem_ids_iff _ _).mpr (by rw [cnt_eq]; have := cntL_pos_of_child hc; omega)
  have h1 := h.acc c.id
  have h2 := cnt_le_of_nodup hnd c.id
  have h3 := (mem_ids_iff _ _).mp hin
  rw [hA _ hcn, ind_eq_zero_of_lt (hlt _ hcn)] at h1
  omega

theorem Leaves.trans {n : Node} {A A' : List Node} {k : Nat} {r q : StepR} {l1 l2 : List Node}
    (h1 : Leaves n A k r l1) (h2 : Leaves r.node A' r.next q l2) (hle1 : k ≤ r.next) (hle2 : r.next ≤ q.next) :
    Leaves n (A ++ A') k ⟨q.node, q.next, q.out, r.detached ++ q.detached⟩ (l1 ++ l2) where
  acc a := by
    have := h1.acc a; have := h2.acc a; have := ind_add a hle1 hle2
    show cnt a q.node + cntL a (l1 ++ l2) ≤ cnt a n + cntL a (A ++ A') + ind k q.next a
    rw [cntL_append, cntL_append]; omega
  det a := by
    have := h1.det a; have := h2.det a
    show cntL a (r.detached ++ q.detached) ≤ cntL a (l1 ++ l2)
    rw [cntL_append, cntL_append]; omega
  kept c hc := by
    rw [cntL_append]
    rcases h1.kept c hc with h | h
    · exact .inl (by omega)
    · obtain ⟨c', hc', hid⟩ := List.mem_map.mp h
      rcases h2.kept c' hc' with h' | h'
      · exact .inl (by rw [hid] at h'; omega)
      · exact .inr (hid ▸ h')

theorem self_kept (n : Node) (left : List Node) :
    ∀ c ∈ children n, 0 < cntL c.id left ∨ c.id ∈ (children n).map Node.id :=
  fun c hc => .inr (List.mem_map.mpr ⟨c, hc, rfl⟩)

theorem kept_items {n n' : Node} {left : List Node} (hkind : n'.kind = n.kind)
    (h : ∀ σ ∈ n.kids, σ ∈ n'.kids ∨ σ ∈ left) :
    ∀ c ∈ children n, 0 < cntL c.id left ∨ c.id ∈ (children n').map Node.id := by
  intro c hc
  by_cases hl : n.kind = .list
  · rw [children_list hl] at hc
    rw [children_list (hkind.trans hl)]
    obtain ⟨σ, hσ, hcσ⟩ := List.mem_flatMap.mp hc
    rcases h σ hσ with h1 | h1
    · exact .inr (List.mem_map.mpr ⟨c, List.mem_flatMap.mpr ⟨σ, h1, hcσ⟩, rfl⟩)
    · exact .inl (cntL_pos_of_mem_kids h1 hcσ)
  · by_cases h4 : n.kind = .array ∨ n.kind = .multi ∨ n.kind = .dict ∨ n.kind = .sparse
    · rw [children_kids h4] at hc
      rw [children_kids (hkind ▸ h4)]
      rcases h c hc with h1 | h1
      · exact .inr (List.mem_map.mpr ⟨c, h1, rfl⟩)
      · exact .inl (cntL_pos_of_mem h1)
    · rw [children_nil hl h4] at hc; cases hc

theorem kept_set_slot {n : Node} (hlist : n.kind = .list) {k : Nat} {slot slot' : Node} {left : List Node}
    (hl : n.kids[k]? = some slot) (h : ∀ c ∈ slot.kids, 0 < cntL c.id left ∨ c.id ∈ slot'.kids.map Node.id) :
    ∀ c ∈ children n, 0 < cntL c.id left ∨ c.id ∈ (children (n.withKids (n.kids.set k slot'))).map Node.id := by
  intro c hc
  have hlt : k < n.kids.length := (List.getElem?_eq_some_iff.mp hl).1
  rw [children_list hlist] at hc
  rw [children_list ((kind_withKids _ _).trans hlist), kids_withKids]
  obtain ⟨σ, hσ, hcσ⟩ := List.mem_flatMap.mp hc
  obtain ⟨j, hj, rfl⟩ := List.getElem_of_mem hσ
  by_cases hjk : j = k
  · subst hjk
    rw [List.getElem?_eq_getElem hj] at hl
    cases hl
    refine (h c hcσ).imp id (fun h' => ?_)
    obtain ⟨c', hc', hid⟩ := List.mem_map.mp h'
    exact List.mem_map.mpr ⟨c', List.mem_flatMap.mpr ⟨slot', List.mem_set hlt _, hc'⟩, hid⟩
  · refine .inr (List.mem_map.mpr ⟨c, List.mem_flatMap.mpr ⟨n.kids[j], ?_, hcσ⟩, rfl⟩)
    have : (n.kids.set k slot')[j]? = some n.kids[j] := by
      rw [List.getElem?_set_ne (fun h => hjk h.symm), List.getElem?_eq_getElem hj]
    exact List.mem_of_getElem? this

theorem map_kinds {n : Node} (hm : isMap n.kind = true) :
    n.kind = .array ∨ n.kind = .multi ∨ n.kind = .dict ∨ n.kind = .sparse := by
  rcases (isMap_cases _).mp hm with h | h <;> simp [h]

theorem kept_map {n n' : Node} {left : List Node} (hm : isMap n.kind = true) (hkind : n'.kind = n.kind)
    (h : ∀ c ∈ n.kids, 0 < cntL c.id left ∨ c.id ∈ n'.kids.map Node.id) :
    ∀ c ∈ children n, 0 < cntL c.id left ∨ c.id ∈ (children n').map Node.id := by
  intro c hc
  rw [children_kids (map_kinds hm)] at hc
  rw [children_kids (hkind ▸ map_kinds hm)]
  exact h c hc

/-- a result whose children are the old ones or all freshly allocated: in the second case all old children leave -/
theorem leaves_of_kids_fresh {n : Node} {args : List Node} {next : Nat} {r : StepR} (hh : r.node.hdr = n.hdr)
    (hd : r.detached = []) (D : Det n args next r)
    (h : r.node.kids = n.kids ∨ ∀ a, cntL a r.node.kids ≤ ind next r.next a) : ∃ left, Leaves n args next r left := by
  have hdet : ∀ left : List Node, ∀ a, cntL a r.detached ≤ cntL a left := fun _ a => by rw [hd, cntL_nil]; exact Nat.zero_le _
  rcases h with h | h
  · exact ⟨[], by rw [← hd]; exact D, hdet _, kept_items (kind_of_hdr hh) (fun σ hσ => .inl (by rw [h]; exact hσ))⟩
  · refine ⟨n.kids, fun a => ?_, hdet _, fun c hc => .inl (cntL_pos_of_child hc)⟩
    have := h a
    rw [cnt_eq a r.node, id_of_hdr hh, cnt_eq a n]; omega

theorem SeqShape.leaves {n : Node} {next : Nat} {op : SeqOp} {r : StepR}
    (h : SeqShape n next op r) (hk : kok n = true) (hseq : IsSeq n.kind) (hop : kokL (placedSeq op) = true) :
    ∃ left, Leaves n (placedSeq op) next r left := by
  -- for every shape but two, what leaves is what the call reports: the inequality is `Det`
  have D := (h.ls hk (not_isMap_of_seq hseq) hop).2 hseq
  cases h with
  | keep hn _ => exact ⟨[], D, fun _ => Nat.le_refl _, self_kept n _⟩
  | @place m args ws k news n2 ks ks' rem hm hwr hpl hit hin hperm hks =>
    refine ⟨rem, D, fun _ => Nat.le_refl _, ?_⟩
    show ∀ c ∈ children n, _ ∨ c.id ∈ (children (n.withKids ks')).map Node.id
    rw [hks, children_seqFin]
    exact kept_items (kind_withKids _ _) (fun σ hσ => by
      rw [kids_withKids]; exact List.mem_append.mp (hperm.symm.subset (List.mem_append.mpr (.inl hσ))))
  | @drop n1 out ks ks' rem det hn hout hpl hperm hdet hks =>
    refine ⟨det, D, fun _ => Nat.le_refl _, ?_⟩
    have hd : ∀ a, cntL a det = cntL a rem := fun a => by
      rcases hdet with rfl | rfl
      · rfl
      · exact cntL_map_withParent a rem none
    show ∀ c ∈ children n, _ ∨ c.id ∈ (children (n.withKids ks')).map Node.id
    rw [hks, children_seqFin]
    intro c hc
    rw [hd]
    exact kept_items (kind_withKids _ _) (fun σ hσ => by
      rw [kids_withKids]; exact List.mem_append.mp (hperm.symm.subset hσ)) c hc
  | @grow m used n' k out hm hch hpl hfull hexc =>
    obtain ⟨_, extra, hpre⟩ := hch.kids_prefix
    exact ⟨[], D, fun _ => Nat.le_refl _,
      kept_items (kind_of_hdr hch.hdr) (fun σ hσ => .inl (by rw [hpre]; exact List.mem_append.mpr (.inl hσ)))⟩
  | @slotElem i e slot k hopq hlist hl =>
    exact ⟨slot.kids, D, fun _ => Nat.le_refl _, kept_set_slot hlist hl (fun c hc => .inl (cntL_pos_of_mem hc))⟩
  | @slotSet i r slot el k out hopq hlist hg hl hel =>
    -- the element of the slot is set in place (same identity); anything else the slot held leaves unreported
    have hslot : slot ∈ n.kids := List.mem_of_getElem? hl
    obtain ⟨tl, htl⟩ : ∃ tl, slot.kids = el :: tl := by
      unfold slotElement at hel
      cases hks : slot.kids with
      | nil => rw [hks] at hel; cases hel
      | cons x xs => rw [hks] at hel; cases hel; exact ⟨xs, rfl⟩
    have hkel : kok el = true :=
      (kokL_iff _).mp (kokL_of_kok ((kokL_iff _).mp (kokL_of_kok hk) slot hslot)) el (by rw [htl]; simp)
    have hS := setNode_ls r el none next hkel
    have hid := id_of_hdr (setNode_hdr el r none next)
    refine ⟨tl, fun a => ?_, fun a => by show cntL a [] ≤ _; rw [cntL_nil]; exact Nat.zero_le _, ?_⟩
    · have h1 := cntL_set a hl (slot.withKids [(setNode el r none next).node])
      have h2 := hS.hcnt a
      rw [cnt_withKids, cntL_singleton, cnt_eq a slot, htl, cntL_cons] at h1
      simp only [cntL_singleton] at h2
      show cnt a (n.withKids _) + cntL a tl ≤ cnt a n + cntL a (placedSeq op) + ind next (setNode el r none next).next a
      rw [cnt_withKids, cnt_eq a n]; omega
    · refine kept_set_slot hlist hl (fun c hc => ?_)
      rw [htl] at hc
      rcases List.mem_cons.mp hc with rfl | hc
      · exact .inr (by rw [kids_withKids]; simp [hid])
      · exact .inl (cntL_pos_of_mem hc)
  | @set r out hopq => exact ⟨n.kids, D, fun _ => Nat.le_refl _, fun c hc => .inl (cntL_pos_of_child hc)⟩
  | @setDefault out hopq =>
    have hh := setDefault_hdr n next
    rcases setDefault_kids_fresh n hk next with h1 | h1 | h1
    · exact leaves_of_kids_fresh hh rfl D (.inl h1.1)
    · exact leaves_of_kids_fresh hh rfl D (.inr h1)
    · rcases hseq with h | h | h <;> rw [h] at h1 <;> cases h1.1

theorem mem_replaceKid_new {kids : List Node} {key : Str} {child new : Node} (h : findKid kids key = some child) :
    new ∈ replaceKid kids key new := by
  have hc := findKid_some h
  unfold replaceKid
  exact List.mem_map.mpr ⟨child, hc.1, by simp [hc.2]⟩

theorem ItemShape.leaves {n : Node} {next : Nat} {key : Str} {a : Arg} {r : StepR}
    (h : ItemShape n next key a r) (hk : kok n = true) (hm : isMap n.kind = true) (ha : kokL (argElems a) = true) :
    ∃ left, Leaves n (argElems a) next r left := by
  have D := (h.ls hk hm ha).2
  have hnd : (n.kids.map Node.key).Nodup := ((kok_iff n).mp hk).2.1 hm
  cases h with
  | keep hn => exact ⟨[], D, fun _ => Nat.le_refl _, self_kept n _⟩
  | add hsp hnone hx =>
    exact ⟨[], D, fun _ => Nat.le_refl _, kept_items (kind_withKids _ _)
      (fun σ hσ => .inl (by rw [kids_withKids]; exact List.mem_append.mpr (.inl hσ)))⟩
  | @put e child f hae hsp hc hf hi =>
    refine ⟨[child], D, fun _ => Nat.le_refl _, kept_items (kind_withKids _ _) (fun σ hσ => ?_)⟩
    rw [kids_withKids]
    exact List.mem_append.mp ((perm_replaceKid n.kids key _ child hnd hc).symm.subset (List.mem_append.mpr (.inl hσ)))
  | @update child out hc =>
    -- the child under the key is set in place: it keeps its identity
    refine ⟨[], D, fun _ => Nat.le_refl _, kept_map hm (kind_withKids _ _) (fun c hcn => .inr ?_)⟩
    rw [kids_withKids]
    rcases List.mem_append.mp ((perm_replaceKid n.kids key (setChild child a next).node child hnd hc).symm.subset
      (List.mem_append.mpr (.inl hcn))) with h | h
    · exact List.mem_map.mpr ⟨c, h, rfl⟩
    · rw [List.mem_singleton.mp h]
      exact List.mem_map.mpr ⟨_, mem_replaceKid_new hc, id_of_hdr (Flatland.C10.Proofs.setChild_hdr child a next)⟩

theorem ItemSteps.leaves {n : Node} {k : Nat} {used : List (Str × Arg)} {r : StepR}
    (h : ItemSteps n k used r) : kok n = true → isMap n.kind = true →
    kokL (used.flatMap (fun p => argElems p.2)) = true →
    ∃ left, Leaves n (used.flatMap (fun p => argElems p.2)) k r left := by
  induction h with
  | done n k =>
    intro _ _ _
    exact ⟨[], fun a => by simp [cntL_nil], fun _ => Nat.le_refl _, self_kept n _⟩
  | @stop n k key a r h he =>
    intro hk hm ha
    rw [List.flatMap_cons, List.flatMap_nil, List.append_nil] at ha ⊢
    exact h.leaves hk hm ha
  | @step n k key a r rest q h hok hrest ih =>
    intro hk hm ha
    rw [List.flatMap_cons, kokL_append] at ha
    obtain ⟨L1, hh1⟩ := (h.ls hk hm ha.1).1
    have hk2 := kok_single.mp L1.hkok
    have hm2 := isMap_of_hdr hh1 hm
    obtain ⟨l1, H1⟩ := h.leaves hk hm ha.1
    obtain ⟨l2, H2⟩ := ih hk2 hm2 ha.2
    rw [List.flatMap_cons]
    exact ⟨l1 ++ l2, H1.trans H2 L1.hle (hrest.ls hk2 hm2 ha.2).1.1.hle⟩

theorem MapShape.leaves {n : Node} {next : Nat} {op : MapOp} {r : StepR}
    (h : MapShape n next op r) (hk : kok n = true) (hm : isMap n.kind = true) (hop : kokL (placedMap op) = true) :
    ∃ left, Leaves n (placedMap op) next r left := by
  have D := (h.ls hk hm hop).2
  have hh := (h.ls hk hm hop).1.2
  cases h with
  | keep => exact ⟨[], D, fun _ => Nat.le_refl _, self_kept n _⟩
  | item hopq h => subst hopq; exact h.leaves hk hm hop
  | default hopq hs h => subst hopq; exact h.leaves hk hm rfl
  | @erase k out _ _ hout hpl =>
    -- every child stored under the key leaves (with unique keys: the one the call reports)
    refine ⟨n.kids.filter (fun x => !(!(x.key == k))), fun a => ?_, fun a => ?_, kept_items (kind_withKids _ _) (fun σ hσ => ?_)⟩
    · have := cntL_perm a (List.filter_append_perm (fun c => !(c.key == k)) n.kids)
      rw [cntL_append] at this
      show cnt a (n.withKids (eraseKey n.kids k)) + _ ≤ cnt a n + cntL a (placedMap op) + ind next next a
      rw [cnt_withKids, cnt_eq a n]; unfold eraseKey; omega
    · show cntL a (findKid n.kids k).toList ≤ _
      cases hf : findKid n.kids k with
      | none => simp [Option.toList]
      | some c =>
        have hc := findKid_some hf
        rw [Option.toList, cntL_singleton]
        exact cnt_le_cntL (List.mem_filter.mpr ⟨hc.1, by simp [hc.2]⟩)
    · rw [kids_withKids]; unfold eraseKey
      cases hσk : (σ.key == k)
      · exact .inl (List.mem_filter.mpr ⟨hσ, by simp [hσk]⟩)
      · exact .inr (List.mem_filter.mpr ⟨hσ, by simp [hσk]⟩)
  | reset hopq => exact ⟨n.kids, D, fun _ => Nat.le_refl _, fun c hc => .inl (cntL_pos_of_child hc)⟩
  | @items used r h hpl hopq =>
    obtain ⟨left, H⟩ := h.leaves hk hm (kokL_sub hop (fun x hx => hpl.subset hx))
    exact ⟨left, fun a => by have := H.acc a; have := cntL_sublist hpl a; omega, H.det, H.kept⟩
  | @set raw p pol out hopq =>
    exact leaves_of_kids_fresh hh rfl D ((setNode_kids_fresh n hk raw pol next).imp (·.1) id)
  | @setDefault out hopq =>
    rcases setDefault_kids_fresh n hk next with h1 | h1 | h1
    · exact leaves_of_kids_fresh hh rfl D (.inl h1.1)
    · exact leaves_of_kids_fresh hh rfl D (.inr h1)
    · -- a Dict sets each child to its default in place: the children keep their identities
      refine ⟨[], D, fun _ => Nat.le_refl _, kept_map hm (kind_of_hdr hh) (fun c hc => .inr ?_)⟩
      have hid := congrArg (List.map (fun t : Nat × Option Nat × Schema × Str × Option Bool × Option Str => t.1))
        (Flatland.C10.Proofs.setDefaultKids_hdr n.kids next)
      simp only [List.map_map, Function.comp_def, Node.hdr] at hid
      rw [h1.2.1, hid]
      exact List.mem_map.mpr ⟨c, hc, rfl⟩

theorem nodeStep_leaves (n : Node) (hk : kok n = true) (op : Op) (hop : kokL (placedArgs op) = true) (next : Nat) :
    ∃ left, Leaves n (placedArgs op) next (nodeStep n op next) left := by
  rcases nodeStep_cases n op next with ⟨o, rfl, hs, h⟩ | ⟨o, rfl, hm, h⟩ | h <;> rw [h]
  · exact (seqStep_shape n o next).leaves hk hs hop
  · exact (mapStep_shape n o next).leaves hk hm hop
  · exact ⟨[], fun a => by simp only [excOut, cntL_nil]; omega, fun _ => Nat.le_refl _, self_kept n _⟩

/-- removed ⇒ gone, at the container: a child of the container before the call whose
    identity still occurs anywhere below the container afterwards is still a child of it. -/
theorem nodeStep_removed (n : Node) (hk : kok n = true) (hnd : (ids n).Nodup) (op : Op) (next : Nat)
    (hlt : ∀ a ∈ ids n, a < next) (hop : kokL (placedArgs op) = true)
    (hA : ∀ a ∈ ids n, cntL a (placedArgs op) = 0) :
    ∀ c ∈ children n, c.id ∈ ids (nodeStep n op next).node →
      c.id ∈ (children (nodeStep n op next).node).map Node.id := by
  obtain ⟨left, H⟩ := nodeStep_leaves n hk op hop next
  exact H.removed hnd hlt hA

end Flatland.C08.Proofs
