/-
C01 — the round trip with SparseDicts, `roundtrip_sparse`: `from_flat(flatten(e)) = prS e` (`prS`:
Flatland/Spec/C01Sparse.lean) for every well-formed schema and `OkS` state, by induction over the schemas below
the root.  `roundtrip_pruned` (Proofs/C01Prune.lean) is the case without SparseDicts.
-/
import Proofs.Lemmas.C01PList
import Proofs.Lemmas.C01SparseMap
import Proofs.Lemmas.SchemaBelow
namespace Flatland.Flat.Proofs
open Flatland.Flat Flatland.Flat.Spec

variable {env : Env} {sep : Str}

theorem rts_list {T : Str → Prop} (hs : SepSafe env sep T) (henv : EnvOK env) (nm : Option Str)
    (hnm : ∀ x, nm = some x → T x) (o prune : Bool) (mx : Nat) (member : Schema)
    (hmn : ∀ t ∈ names member, t ≠ []) (hrt : RTS env sep member) :
    RTS env sep (.list nm o prune mx member) := by
  intro u e hok
  obtain ⟨ms, rfl, hlen, hdig, hmem⟩ := okS_list_inv hok
  rw [list_roundtrip hs henv nm hnm o prune mx member hmn (prS env sep · member) u ms hlen hdig
    (fun u' m hm => hrt u' m (hmem m hm)), prS]

section main
variable (root : Schema) (hs : SepSafe env sep (Tok root)) (henv : EnvOK env)
include hs henv

theorem rts_all : ∀ s : Schema, (∀ t ∈ names s, t ∈ names root) → wf s = true → RTS env sep s := by
  refine schema_ind_below root (Q := RTS env sep) ?_ ?_ ?_ ?_ ?_ ?_
  · intro nm o k u e hok
    simp only [OkS] at hok
    simp only [prS]
    exact rtp_leaf nm o k u e hok
  · intro nm o k m u e hok
    simp only [OkS] at hok
    simp only [prS]
    exact rtp_joined nm o k m u e hok
  · intro nm o p member hnm hmem u e hok
    simp only [OkS] at hok
    simp only [prS]
    exact rtp_array hs nm (fun x hx => hs.tok_ne x (hnm x hx)) o p member
      (fun c hc => hs.tok_ne c (hmem c (name_mem_names member c hc))) u e hok
  · intro nm o p mx member hnm hmem ih
    exact rts_list hs henv nm hnm o p mx member (fun t ht => hs.tok_ne t (hmem t ht)) ih
  · intro nm o mode fields hnm hnd htok hrt u e hok
    obtain ⟨ms, rfl, hkeys, hmem⟩ := okS_dict_inv hok
    rw [resolve_dictS, relFlat_mk, kidsFrom_noslots, blank_dict_members, setFlat]
    simp only [membersOf, prS, Bool.false_eq_true, if_false, if_true, List.nil_append]
    exact rts_mapping hs nm hnm fields hnd htok hrt (isReq mode) ms hkeys hmem u [] (Or.inl rfl) _ rfl _ rfl
  · intro nm o k fields hnm hnd htok hrt u e hok
    obtain ⟨ms, rfl, hkeys, hmem⟩ := okS_dict_inv ((okS_compound nm o k fields e).mp hok)
    rw [resolve_compoundS, relFlat_mk, kidsFrom_noslots, setFlat]
    simp only [blank, membersOf, prS, blankFields_sel, if_true]
    exact rts_mapping hs nm hnm fields hnd htok hrt (fun _ => true) ms hkeys hmem u [(nm.toList, _)]
      (Or.inr ⟨_, rfl⟩) _ rfl _ rfl

theorem rts_fields : ∀ fs : List Schema, (∀ t ∈ namesL fs, t ∈ names root) → wfL fs = true →
    ∀ f ∈ fs, RTS env sep f :=
  fun _ hsub hw f hf =>
    rts_all root hs henv f (fun t ht => hsub t (names_sub_namesL hf t ht)) (wf_of_mem hw f hf)

end main

/-- **C01, round trip with SparseDicts.**  `from_flat(flatten(e))` rebuilds exactly `prS e` — for every
    well-formed schema, SparseDicts included, and every conforming settled state. -/
theorem roundtrip_sparse (env : Env) (sep : Str) (s : Schema) (e : Elem)
    (hs : SepSafe env sep (Tok s)) (henv : EnvOK env) (hw : wf s = true)
    (hroot : rootOK s = true) (hok : OkS env s e) :
    fromFlat env sep s (flatten env sep s e) = prS env sep false s e := by
  rw [fromFlat, own_root env sep s e hroot]
  exact rts_all s hs henv s (fun t ht => ht) hw false e hok

end Flatland.Flat.Proofs
