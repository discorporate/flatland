/-
C07 — uniqueness of the emitted keys after every step of every history, for the structural walk and for
the literal rendering `flattenCode`.

`distinctNames` is NOT an invariant of histories in the model (nor in the library): a SparseDict
accepts an instance of the field class constructed with a different `name=` under the field's key
(the KF-C10-a / KF-C13-c state) — `distinctNames_not_invariant` is the witness: two such
assignments make `flatten()` emit one key twice.  The history theorems therefore carry it as a
decidable hypothesis on the state REACHED and are named `…_partial`; the statement without it is
kept visible (`Tree_Keys_Nodup_Histories_Full`) and refuted.
-/
import Proofs.C07TreeNodup
import Proofs.C01Examples
namespace Flatland.C07Tree.Proofs
open Flatland.Tree Flatland.PyList Flatland.C08 Flatland.C08.Spec Flatland.C08.Proofs Flatland.C07Tree
open Flatland.Flat (SepSafe natStr EnvOK isNd)

/-- **uniqueness after every step (structural walk), partial**: hypotheses on the state reached are
    decidable checks of that state -/
theorem tree_keys_nodup_histories_partial {env : Flatland.Flat.Env} (sc : Schema) (s : HState) (hc : Constructed sc s)
    (sep : Str) (hs : List HOp) (hops : ∀ h ∈ hs, Inv.OpArgsDP h.op) (k : Nat)
    (hd : distinctNames (hrun s (hs.take k)).root = true) (ha : arrLe1T (hrun s (hs.take k)).root = true)
    (hsafe : SepSafe env sep (TokT (hrun s (hs.take k)).root)) :
    ((flattenTree sep (hrun s (hs.take k)).root).map Prod.fst).Nodup :=
  tree_keys_nodup_arrLe1 sep _ hsafe (Inv.hrun_dp_prefix hs s hops (constructed_dps hc) k) hd ha

theorem tree_nodup_noArray_hist_partial {env : Flatland.Flat.Env} (sc : Schema) (s : HState)
    (hc : Constructed sc s) (sep : Str) (hs : List HOp) (hops : ∀ h ∈ hs, Inv.OpArgsDP h.op) (k : Nat)
    (hd : distinctNames (hrun s (hs.take k)).root = true) (hna : noArrayT (hrun s (hs.take k)).root = true)
    (hsafe : SepSafe env sep (TokT (hrun s (hs.take k)).root)) :
    ((flattenTree sep (hrun s (hs.take k)).root).map Prod.fst).Nodup :=
  tree_keys_nodup_histories_partial sc s hc sep hs hops k hd (arrLe1T_of_noArrayT _ hna) hsafe

/-- **uniqueness after every step, for the code as written** (`flattenCode`: `seen` set + stored
    parent pointers); inherits `swf sc` and `HistOK s hs` from C08's invariant -/
theorem code_keys_nodup_histories_partial {env : Flatland.Flat.Env} (sc : Schema) (hsc : swf sc = true) (s : HState)
    (hc : Constructed sc s) (sep : Str) (hs : List HOp) (hops : ∀ h ∈ hs, Inv.OpArgsDP h.op) (hh : HistOK s hs)
    (k : Nat) (pool : List Node) (fuel : Nat) (hf : height (hrun s (hs.take k)).root ≤ fuel)
    (hd : distinctNames (hrun s (hs.take k)).root = true) (ha : arrLe1T (hrun s (hs.take k)).root = true)
    (hsafe : SepSafe env sep (TokT (hrun s (hs.take k)).root)) :
    ((flattenCode ((hrun s (hs.take k)).root :: pool) fuel sep (hrun s (hs.take k)).root).map Prod.fst).Nodup := by
  rw [flattenCode_eq_flattenTree_history s (constructed_treeok hsc hc) (constructed_dps hc) hs hops hh k pool fuel hf sep]
  exact tree_keys_nodup_histories_partial sc s hc sep hs hops k hd ha hsafe

theorem sepSafe_single_char_tree (env : Flatland.Flat.Env) (henv : EnvOK env) (n : Node) (c : Char)
    (hnd : isNd env c = false) (hnames : ∀ t ∈ (nodes n).filterMap Node.name, t ≠ [] ∧ c ∉ t ∨ ∃ i, t = natStr i) :
    SepSafe env [c] (TokT n) :=
  Flatland.Flat.sepSafe_single c hnd (by
    rintro t (⟨x, hx, hxn⟩ | ⟨i, rfl⟩)
    · rcases hnames t (List.mem_filterMap.mpr ⟨x, hx, hxn⟩) with h | ⟨i, rfl⟩
      · exact h
      · exact Flatland.Flat.natStr_token henv hnd i
    · exact Flatland.Flat.natStr_token henv hnd i)

/-! ### non-vacuity: the history of `Proofs/C07TreeCodeHist.lean` (List of Dicts `d` with Integer `x`
and List `y`; append, insert of a detached Dict, reverse, pop) -/

theorem exC_sepSafe (k : Nat) (hk : k ≤ 4) :
    SepSafe Flatland.Flat.Proofs.exEnv01 ['_'] (TokT (hrun exC0 (exCHist.take k)).root) := by
  apply sepSafe_single_char_tree _ Flatland.Flat.Proofs.exEnvOK _ '_' (by decide +kernel)
  intro t ht
  left
  revert t k
  decide +kernel

/-- after the third call (two Dicts in the List): structural walk and code rendering emit pairwise
    distinct keys -/
example : ((flattenTree ['_'] (hrun exC0 (exCHist.take 3)).root).map Prod.fst).Nodup :=
  tree_nodup_noArray_hist_partial _ exC0 exC0_constructed ['_'] exCHist exCHist_dp 3
    (by decide +kernel) (by decide +kernel) (exC_sepSafe 3 (by omega))

example (pool : List Node) :
    ((flattenCode ((hrun exC0 (exCHist.take 3)).root :: pool) 64 ['_'] (hrun exC0 (exCHist.take 3)).root).map Prod.fst).Nodup :=
  code_keys_nodup_histories_partial _ (by decide +kernel) exC0 exC0_constructed ['_'] exCHist exCHist_dp exCHist_ok 3 pool 64
    (by decide +kernel) (by decide +kernel) (arrLe1T_of_noArrayT _ (by decide +kernel)) (exC_sepSafe 3 (by omega))

/-! ### `distinctNames` is needed and is not an invariant -/

def rFa : Schema := .mk { cid := 21, kind := .string, name := some ['a'] } .none []
def rFb : Schema := .mk { cid := 22, kind := .string, name := some ['b'] } .none []
/-- `SparseDict.of(String.named('a'), String.named('b'))` -/
def rS : Schema := .mk { cid := 20, kind := .sparse } .none [rFa, rFb]
def exR0 : HState := ⟨(blank rS none [] 100).1, (blank rS none [] 100).2⟩
/-- instances of the two field classes constructed with `name='z'` -/
def rE1 : Node := .mk { id := 50, parent := none, val := .str ['p'], u := ['p'], nameOv := some ['z'] } rFa []
def rE2 : Node := .mk { id := 51, parent := none, val := .str ['q'], u := ['q'], nameOv := some ['z'] } rFb []
/-- `d['a'] = A('p', name='z'); d['b'] = B('q', name='z')` -/
def exRHist : List HOp := [⟨100, .map (.setitem ['a'] (.elem rE1))⟩, ⟨100, .map (.setitem ['b'] (.elem rE2))⟩]

theorem exR_hops : ∀ h ∈ exRHist, Inv.OpArgsDP h.op := by
  intro h hh
  simp only [exRHist, List.mem_cons, List.not_mem_nil, or_false] at hh
  rcases hh with rfl | rfl <;> (show Inv.dps _ = true; decide +kernel)

theorem exR_ok : HistOK exR0 exRHist := by
  refine ⟨?_, ⟨by decide +kernel, by decide +kernel, by decide +kernel⟩,
    ⟨by decide +kernel, by decide +kernel, by decide +kernel⟩, trivial⟩
  intro h hh
  simp only [exRHist, List.mem_cons, List.not_mem_nil, or_false] at hh
  rcases hh with rfl | rfl <;> (show wp _ = true; decide +kernel)

/-- **`distinctNames` is not an invariant of histories**: from a fresh SparseDict, two legal item
    assignments (fresh, well-parented arguments; every hypothesis of C08's invariant and of `Inv.hrun_dps`
    holds, there is no Array, the separator is safe) reach a state whose two members carry the
    same name — and `flatten()` emits the key `z` twice. -/
theorem distinctNames_not_invariant :
    Constructed rS exR0 ∧ swf rS = true ∧ HistOK exR0 exRHist ∧ (∀ h ∈ exRHist, Inv.OpArgsDP h.op) ∧
    distinctNames exR0.root = true ∧ noArrayT (hrun exR0 exRHist).root = true ∧
    distinctNames (hrun exR0 exRHist).root = false ∧
    (flattenTree ['_'] (hrun exR0 exRHist).root).map Prod.fst = [['z'], ['z']] := by
  refine ⟨Constructed.ctor 100, by decide +kernel, exR_ok, exR_hops, by decide +kernel, by decide +kernel,
    by decide +kernel, by decide +kernel⟩

/-- the history statement without `distinctNames`, kept visible … -/
def Tree_Keys_Nodup_Histories_Full : Prop :=
  ∀ (env : Flatland.Flat.Env) (sc : Schema) (s : HState), Constructed sc s → swf sc = true →
    ∀ (sep : Str) (hs : List HOp), (∀ h ∈ hs, Inv.OpArgsDP h.op) → HistOK s hs →
      noArrayT (hrun s hs).root = true → SepSafe env sep (TokT (hrun s hs).root) →
      ((flattenTree sep (hrun s hs).root).map Prod.fst).Nodup

/-- … and refuted -/
theorem tree_keys_nodup_full_fails : ¬ Tree_Keys_Nodup_Histories_Full := by
  intro h
  have hsafe : SepSafe Flatland.Flat.Proofs.exEnv01 ['_'] (TokT (hrun exR0 exRHist).root) := by
    apply sepSafe_single_char_tree _ Flatland.Flat.Proofs.exEnvOK _ '_' (by decide +kernel)
    intro t ht; left; revert t; decide +kernel
  have := h _ rS exR0 (Constructed.ctor 100) (by decide +kernel) ['_'] exRHist exR_hops exR_ok (by decide +kernel) hsafe
  rw [distinctNames_not_invariant.2.2.2.2.2.2.2] at this
  revert this; decide +kernel

end Flatland.C07Tree.Proofs
