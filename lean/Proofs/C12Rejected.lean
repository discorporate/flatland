/-
C12 after a rejected generator call.  A settings call that raises (`Rejected`: unknown option in `begin` / `set` /
`update` / `[]=`, unbalanced `end()`; or any settings call that errs) leaves the generator as it was, so every later
rendering — one tag, or the whole form of `Proofs/C12Form.lean` — is the rendering without the call.  Mirrors the
pre-history the runner (`Flatland/Run/C12.lean`) makes through `Flatland.C19.step`.
-/
import Proofs.Lemmas.C19Discipline
import Proofs.C12FormExamples
namespace Flatland.C12.Proofs
open Flatland.Markup Flatland.C19 Flatland.C19.Proofs

def isSettingsCall : Op → Bool
  | .tag .. => false
  | _ => true

/-- ANY settings call that raises — whatever the reason: unknown option, an option value `set()` cannot read,
    unbalanced `end()` — leaves the generator exactly as it was -/
theorem failed_settings_call_keeps_generator (T : Tables) (R : RenderCfg) (g : Gen) (op : Op)
    (hs : isSettingsCall op = true) (he : (step T R g op).2.err ≠ none) : (step T R g op).1 = g := by
  have hnt : isTag op = false := by cases op <;> first | rfl | exact absurd hs Bool.false_ne_true
  obtain ⟨m, _, hg, _, hk⟩ := step_moves T R g op
  rw [hg, (hk hnt).mp he]; rfl

/-- the calls C19 shows are rejected: an unknown option in ANY position among the settings, an unbalanced `end()` -/
inductive Rejected (g : Gen) : Op → Prop
  | begin (s : List (Str × CVal)) : hasUnknown g s → Rejected g (.begin s)
  | update (s : List (Str × CVal)) : hasUnknown g s → Rejected g (.update s)
  | set (s : List (Str × CVal)) : hasUnknown g s → Rejected g (.set s)
  | setItem (k : Str) (v : CVal) : g.ctx.has k = false → Rejected g (.setItem k v)
  | end_ : g.ctx.depth = 2 → Rejected g .end_

theorem rejected_call_raises (T : Tables) (R : RenderCfg) (g : Gen) (op : Op) (h : Rejected g op) :
    (step T R g op).1 = g ∧ (step T R g op).2.err ≠ none := by
  cases h with
  | begin s hu => simp [step, begin_unknown_rejected g s hu]
  | update s hu => simp [step, update_unknown_rejected g s hu]
  | set s hu => obtain ⟨e, he⟩ := set_unknown_rejected T g s hu; simp [step, he]
  | setItem k v hk => simp [step, setItem_unknown_rejected g k v hk]
  | end_ hd => simp [step, unbalanced_end_raises g hd]

/-- after a rejected call, whatever Tag method is used (call / open / close / open+close), whatever tag, bind and
    keyword arguments — markup, `tag.contents` and the generator afterwards are the same as without the call -/
theorem rejected_call_preserves_rendering (T : Tables) (R : RenderCfg) (g : Gen) (op : Op) (h : Rejected g op)
    (attrChain : Flatland.C11.Chain) (voids order : List Str) (how : How) (tag : Str) (bind : Option Bind)
    (kwargs : List (Str × Val)) :
    (step T R g op).1.renderHow T attrChain voids order how tag bind kwargs
      = g.renderHow T attrChain voids order how tag bind kwargs := by
  rw [(rejected_call_raises T R g op h).1]

/-- the same for any settings call that raised (e.g. `set(auto_name=7)`: AttributeError from `parse_trool`) -/
theorem failed_call_preserves_rendering (T : Tables) (R : RenderCfg) (g : Gen) (op : Op)
    (hs : isSettingsCall op = true) (he : (step T R g op).2.err ≠ none)
    (attrChain : Flatland.C11.Chain) (voids order : List Str) (how : How) (tag : Str) (bind : Option Bind)
    (kwargs : List (Str × Val)) :
    (step T R g op).1.renderHow T attrChain voids order how tag bind kwargs
      = g.renderHow T attrChain voids order how tag bind kwargs := by
  rw [failed_settings_call_keeps_generator T R g op hs he]

/-- a whole pre-history of rejected calls, each rejected where it is made -/
theorem rejected_prehistory_keeps_generator (T : Tables) (R : RenderCfg) (g : Gen) :
    ∀ (ops : List Op), (∀ op ∈ ops, Rejected g op) → runGen T R g ops = g
  | [], _ => rfl
  | op :: rest, h => by
    have h1 := (rejected_call_raises T R g op (h op (List.mem_cons_self ..))).1
    have ih := rejected_prehistory_keeps_generator T R g rest (fun o ho => h o (List.mem_cons_of_mem _ ho))
    simp only [runGen, run] at ih ⊢
    rw [h1]
    exact ih

/-- the form of `form_roundtrip_generator_total`, rendered on the generator that has
    been through any pre-history of rejected calls, still posts exactly the element's pairs -/
theorem rejected_prehistory_form_roundtrip (T : Tables) (R : RenderCfg) (order : List Str) (g : Gen) (hT : TablesOK T)
    (hL : Live T g.ctx) (hQ : Quiet T g.ctx) (ho : OrderedSet g.ctx) (ops : List Op) (hr : ∀ op ∈ ops, Rejected g op)
    (t : FormTree) (hok : formOk T [] t = true) (hsub : oneSubmitter t = true) :
    browserSubmit (seenVia T order (runGen T R g ops)) (some 0) (renderForm [] t) = .ok (formPairs [] t) := by
  rw [rejected_prehistory_keeps_generator T R g ops hr]
  exact form_roundtrip_generator_total T order g hT hL hQ ho t hok hsub

/-- `gen.update(auto_name=False, no_such=1)`, `gen.begin(no_such=1, auto_value=False)`, `gen.set(auto_value="off",
    auto_nmae=True)`, `gen["no_such"] = False`, `gen.end()` on a fresh generator -/
def exRejected : List Op :=
  [.update [("auto_name".toList, .bool false), ("no_such".toList, .int 1)],
   .begin [("no_such".toList, .int 1), ("auto_value".toList, .bool false)],
   .set [("auto_value".toList, .text "off".toList), ("auto_nmae".toList, .bool true)],
   .setItem "no_such".toList (.bool false),
   .end_]

theorem exRejected_rejected : ∀ op ∈ exRejected, Rejected freshGen op := by
  intro op hop
  simp only [exRejected, List.mem_cons, List.mem_nil_iff, or_false] at hop
  rcases hop with rfl | rfl | rfl | rfl | rfl
  · exact .update _ ⟨("no_such".toList, .int 1), by simp, by decide +kernel⟩
  · exact .begin _ ⟨("no_such".toList, .int 1), by simp, by decide +kernel⟩
  · exact .set _ ⟨("auto_nmae".toList, .bool true), by simp, by decide +kernel⟩
  · exact .setItem _ _ (by decide +kernel)
  · exact .end_ (by decide +kernel)

/-- the example form of `Proofs/C12FormExamples.lean` after those five rejected calls -/
theorem exForm_posts_after_rejected :
    browserSubmit (seenVia Tables.current Flatland.Generated.C11.staticAttributeOrder
      (runGen Tables.current RenderCfg.current freshGen exRejected)) (some 0) (renderForm [] exForm)
      = .ok (formPairs [] exForm) :=
  rejected_prehistory_form_roundtrip _ _ _ freshGen tablesOK_current fresh_live fresh_quiet fresh_ordered exRejected
    exRejected_rejected exForm exForm_ok exForm_one

/-- and a call that is rejected for another reason (`set(auto_name=7)`) -/
example : isSettingsCall (.set [("auto_value".toList, .bool false), ("auto_name".toList, .int 7)]) = true ∧
    (step Tables.current RenderCfg.current freshGen
      (.set [("auto_value".toList, .bool false), ("auto_name".toList, .int 7)])).2.err = some .attributeError := by
  decide +kernel

end Flatland.C12.Proofs
