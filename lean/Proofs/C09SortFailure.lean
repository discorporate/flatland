/-
C07 / C08 / C09 — the failure path of `List.sort` that the model's `seqStep` cannot take.

`seq.sort(key=f)` in CPython computes every key, then merges.  If a COMPARISON of two keys raises
(`TypeError: '<' not supported between 'NoneType' and 'int'`), or the list is found modified afterwards
(`ValueError: list modified during sort`), the exception escapes and — documented behaviour of `list.sort` —
the list is left in SOME rearrangement of its items.  Which one depends on the merge strategy and on where the
comparison failed; nothing in the library's own code decides it.  The repaired `List.sort`
(9873cdc: `try: list.sort(self, …) finally: self._renumber()`) therefore has, on that path, the effect

    sortFailed n kids'  =  n.withKids (renumber kids')          for SOME permutation kids' of n.kids

(`sortFailedOld n kids' = n.withKids kids'` before the repair: rearranged, slot names stale).  The model's keyed
sort cannot produce this outcome: it sorts or answers `.unsupported` (`C08.Proofs.keyed_sort_only_refuses`).
The outcome is nondeterministic, so the theorems quantify over EVERY permutation `kids'` of the items.

Tie to the code: the Lean runners have no executor for this path (a nondeterministic outcome has no single
observation to compare); the Python oracle `g1common.check_sort_failure` checks exactly these clauses on the real
library for whatever rearrangement CPython produced (clauses sort-keeps-members, sort-slots-named-by-position,
sort-member-parents-agree; C07: keys-are-positions; C09: the reference list that received the same call is
compared as a multiset).
-/
import Proofs.C07TreeInv
import Proofs.C07TreeExamples
import Proofs.C09All
import Proofs.C08Rejected
namespace Flatland.C09.Proofs
open Flatland.Tree Flatland.PyList Flatland.C08 Flatland.C07Tree Flatland.C07Tree.Proofs
open Flatland.C07Tree.Proofs.Inv
open Flatland.C08.Proofs (SeqShape)

/-- the repaired `List.sort` / inherited `list.sort` when the sort failed half-way: the underlying list is left as
    `kids'` (some rearrangement of the items), then — on a List — `finally: self._renumber()` -/
def sortFailed (n : Node) (kids' : List Node) : Node :=
  n.withKids (if n.kind = .list then renumber kids' else kids')

/-- before 9873cdc: rearranged, `_renumber()` skipped -/
def sortFailedOld (n : Node) (kids' : List Node) : Node := n.withKids kids'

theorem children_sortFailed (n : Node) (kids' : List Node) :
    children (sortFailed n kids') = children (n.withKids kids') :=
  Flatland.C08.Proofs.children_seqFin n kids'

theorem children_withKids_perm (n : Node) (a b : List Node) (h : a.Perm b) :
    (children (n.withKids a)).Perm (children (n.withKids b)) := by
  unfold children
  simp only [kind_withKids, kids_withKids]
  split
  · exact h.flatMap_right _
  all_goals first | exact h | exact List.Perm.refl _

theorem withKids_kids (n : Node) : n.withKids n.kids = n := by cases n; rfl

/-- Whatever rearrangement the failed sort left: the members afterwards are a
    permutation of the members before — the same nodes (identity, stored parent, subtree). -/
theorem sort_failure_keeps_members (n : Node) (kids' : List Node) (hp : kids'.Perm n.kids) :
    (members (sortFailed n kids')).Perm (members n) := by
  unfold members
  rw [children_sortFailed]
  have := children_withKids_perm n kids' n.kids hp
  rwa [withKids_kids] at this

/-- On a List the slots are named by their CURRENT positions — for every
    rearrangement. -/
theorem sort_failure_positional (n : Node) (kids' : List Node) (hl : n.kind = .list) :
    WellNumbered (sortFailed n kids').kids := by
  unfold sortFailed
  simp only [hl, if_true, kids_withKids]
  exact wn_renumber kids'

/-- "some rearrangement of the items, then `_renumber()`" is what `pop`, `remove`, `del`, `reverse` and the successful
    sort do as well, with nothing leaving: the failed sort has the shape `drop`, so what holds of every shape holds
    of it.  (`drop` asks of the call only that it places no Element; `.reverse` and the outcome `.ok` stand for that.) -/
theorem sortFailed_shape (n : Node) {kids' : List Node} (hp : kids'.Perm n.kids) (next : Nat) :
    SeqShape n next .reverse ⟨sortFailed n kids', next, .ok, []⟩ :=
  .drop (ks := kids') (rem := []) (.inl rfl) trivial rfl (by rw [List.append_nil]; exact hp) (.inl rfl) rfl

/-- The real content of the repair: for EVERY permutation `kids'` of the
    items of a sequence whose tree satisfies the deep positional invariant, the outcome "rearranged, then
    renumbered" satisfies it again (on an Array / MultiValue there is nothing to renumber). -/
theorem sort_failure_any_permutation_dps (n : Node) (kids' : List Node)
    (hn : dps n = true) (hp : kids'.Perm n.kids) : dps (sortFailed n kids') = true :=
  dps_of_hdr rfl (sort_failure_positional n kids')
    (seqShape_kids (sortFailed_shape n hp 0) hn (fun _ h => nomatch h))

/-- hence `flatten()` of the outcome names every leaf by its current position -/
theorem sort_failure_flatten_positional (sep : Str) (n : Node) (kids' : List Node)
    (hn : dps n = true) (hp : kids'.Perm n.kids) :
    flattenTree sep (sortFailed n kids') = specFlatten sep (sortFailed n kids') :=
  flattenTree_positional sep _ (dp_of_dps _ (sort_failure_any_permutation_dps n kids' hn hp))

theorem sortBy_perm {α : Type} (le : α → α → Bool) (l : List α) : (sortBy le l).Perm l :=
  PyList.sortBy_perm le l

/-- the model's keyed sort, when it does not decline, is `sortFailed` at the stable-sort permutation: the success
    path and the failure path differ only in WHICH permutation CPython leaves -/
theorem sort_success_is_instance (n : Node) (m : Schema) (k : SortKey) (rev : Bool) (next : Nat)
    (hm : n.sch.member = some m) (hg : sortGate k n = true) :
    (seqStep n (.sort (some k) rev) next).node = sortFailed n (sortBy (sortLe k rev) n.kids) ∧
      (sortBy (sortLe k rev) n.kids).Perm n.kids := by
  rw [C08.Proofs.keyed_sort_sorts n m k rev next hm hg]
  exact ⟨rfl, sortBy_perm _ _⟩

/-- `List.named('l').of(String.named('s'))(['c', 'a', 'b'])` -/
def exSF : Node :=
  .mk { id := 1, parent := none } exLs
    [slot 2 ['0'] (leaf 3 2 ['c']), slot 4 ['1'] (leaf 5 4 ['a']), slot 6 ['2'] (leaf 7 6 ['b'])]

/-- the rearrangement CPython leaves when `['c', 'a', 'b', <uncomparable>, …].sort(key=…)` fails at the fourth
    item (the corpus witness `[3, 1, 2, None, 0]`): the first three are already merged — old positions 1, 2, 0 -/
def exPerm (l : List Node) : List Node := (l.drop 1) ++ (l.take 1)

example : dps exSF = true := by decide +kernel
example : (exPerm exSF.kids).Perm exSF.kids := by
  unfold exPerm; exact (List.perm_append_comm).trans (by rw [List.take_append_drop])
example : dps (sortFailed exSF (exPerm exSF.kids)) = true := by decide +kernel
example : (sortFailed exSF (exPerm exSF.kids)).kids.map Node.key = [['0'], ['1'], ['2']] := by decide +kernel
example : (members (sortFailed exSF (exPerm exSF.kids))).map Node.id = [5, 7, 3] := by decide +kernel

/-- Without the renumbering the same outcome violates the invariant: the slots keep
    the names of their OLD positions (`1, 2, 0`), and flatten() emits keys that are not the positions
    (`l_1_s, l_2_s, l_0_s` for the members at positions 0, 1, 2) -/
theorem sort_failure_old_stale :
    dps (sortFailedOld exSF (exPerm exSF.kids)) = false ∧
      (sortFailedOld exSF (exPerm exSF.kids)).kids.map Node.key = [['1'], ['2'], ['0']] ∧
      flattenTree ['_'] (sortFailedOld exSF (exPerm exSF.kids)) ≠
        specFlatten ['_'] (sortFailedOld exSF (exPerm exSF.kids)) := by
  decide +kernel

end Flatland.C09.Proofs
