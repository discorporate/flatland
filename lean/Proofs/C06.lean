/-
C06 — deriving or instantiating a schema never alters the schema it came from.

A step touches one class: the clone it derives or the class it lazily prepares (`step_cases`, `step_touches`); an
observer of `c` reads only the records along `c`'s MRO and the list objects that exist (`frame_of_agree`).  The frame
theorems put the two together; `ChainWF` is for the case left over, the preparation of an ancestor.
-/
import Flatland.C06
import Flatland.Spec.C06
import Proofs.Lemmas.Assoc
import Proofs.Lemmas.ListBasic
namespace Flatland.C06.Proofs
open Flatland.C06 Flatland.C06.Spec

/-! `(name, tag)` lists are association lists: the specification reads them with `Assoc.get`, from the front or from the
back, and `add_and_overwrite` deletes with `Assoc.erase` -/

theorem firstWith_eq (n : Option Str) (l : List Field) : firstWith n l = Assoc.get l n :=
  Assoc.get_unique (fun l n => firstWith n l) (fun _ => rfl) (fun _ _ _ _ => rfl) l n

theorem lastWith_eq (n : Option Str) (l : List Field) : lastWith n l = Assoc.get l.reverse n :=
  Assoc.last_unique (fun l n => lastWith n l) (fun _ => rfl)
    (fun k' v r k => by simp only [lastWith]; cases lastWith k r <;> rfl) l n

theorem removeFirst_eq (n : Option Str) (l : List Field) : removeFirst n l = Assoc.erase l n := by
  induction l with
  | nil => rfl
  | cons f r ih => simp only [removeFirst, Assoc.erase, ih]

theorem firstWith_contains (n : Option Str) (a : List Field) (h : (a.map (·.1)).contains n) :
    ∃ t, firstWith n a = some t := by
  rw [firstWith_eq]
  exact Option.isSome_iff_exists.1 (Assoc.isSome_get_iff.2 (List.contains_iff_mem.1 h))

theorem addUnseen_spec (els fs : List Field) (hn : (els.map (·.1)).Nodup) :
    ((addUnseen els fs).map (·.1)).Nodup ∧
    ∀ n, firstWith n (addUnseen els fs) = (firstWith n els).or (firstWith n fs) := by
  -- the result reads as `els ++ fs`: a skipped field stands behind one of the same name
  simp only [firstWith_eq, ← Assoc.get_append]
  induction fs generalizing els with
  | nil => exact ⟨hn, fun n => by rw [List.append_nil]; rfl⟩
  | cons f rest ih =>
    simp only [addUnseen]
    split
    · rename_i hc
      exact ⟨(ih els hn).1, fun n => by
        rw [(ih els hn).2, Assoc.get_append_cons_of_mem (List.contains_iff_mem.1 hc)]⟩
    · rename_i hc
      have h := ih (els ++ [f]) (Assoc.nodup_concat hn (mt List.contains_iff_mem.2 hc) f.2)
      exact ⟨h.1, fun n => by rw [h.2, List.append_assoc]; rfl⟩

theorem addAndOverwrite_cons (els : List Field) (f : Field) (rest : List Field) :
    addAndOverwrite els (f :: rest) = addAndOverwrite (Assoc.erase els f.1 ++ [f]) rest := by
  simp only [addAndOverwrite]
  split
  · rw [removeFirst_eq]
  · rename_i hc; rw [Assoc.erase_of_not_mem (mt List.contains_iff_mem.2 hc)]

theorem addAndOverwrite_spec (els fs : List Field) (hn : (els.map (·.1)).Nodup) :
    ((addAndOverwrite els fs).map (·.1)).Nodup ∧
    ∀ n, firstWith n (addAndOverwrite els fs) = (lastWith n fs).or (firstWith n els) := by
  induction fs generalizing els with
  | nil => exact ⟨hn, fun n => rfl⟩
  | cons f rest ih =>
    rw [addAndOverwrite_cons]
    obtain ⟨h1, h2⟩ := ih _ (Assoc.nodup_concat (Assoc.nodup_erase hn f.1) (Assoc.not_mem_keys_erase hn f.1) f.2)
    refine ⟨h1, fun n => ?_⟩
    rw [h2 n, firstWith_eq, Assoc.get_erase_concat hn, lastWith_eq, lastWith_eq, Assoc.get_reverse_cons,
      Option.or_assoc, firstWith_eq]
    split <;> rfl

theorem foldl_addUnseen_spec (bases : List (List Field)) (els : List Field) (hn : (els.map (·.1)).Nodup) :
    ((bases.foldl addUnseen els).map (·.1)).Nodup ∧
    ∀ n, firstWith n (bases.foldl addUnseen els) = (firstWith n els).or (firstWith n bases.flatten) := by
  induction bases generalizing els with
  | nil => exact ⟨hn, fun n => (Option.or_none).symm⟩
  | cons b rest ih =>
    have h := ih (addUnseen els b) (addUnseen_spec els b hn).1
    refine ⟨h.1, fun n => ?_⟩
    rw [List.foldl_cons, h.2, (addUnseen_spec els b hn).2, Option.or_assoc]
    simp only [firstWith_eq, List.flatten_cons, Assoc.get_append]

/-- Schema fields: for every declarative Schema — any number of bases with any overlapping
    field names, any explicit `field_schema` member, any attribute declarations — each field name
    appears exactly once in the generated `field_schema`, and the element under a name is the
    class's own attribute declaration, else its own `field_schema` entry, else that of the first
    base (left to right) that has one -/
theorem schema_fields (bases : List (List Field)) (explicit declared : List Field) :
    ((metaSchemaNew bases explicit declared).map (·.1)).Nodup ∧
    ∀ n, firstWith n (metaSchemaNew bases explicit declared) = specField bases explicit declared n := by
  obtain ⟨a1, a2⟩ := foldl_addUnseen_spec bases [] List.nodup_nil
  obtain ⟨b1, b2⟩ := addAndOverwrite_spec _ explicit a1
  obtain ⟨c1, c2⟩ := addAndOverwrite_spec _ declared b1
  refine ⟨c1, fun n => ?_⟩
  simp only [metaSchemaNew, c2 n, b2 n, a2 n, specField, firstWith, Option.none_or]
  cases lastWith n declared <;> cases lastWith n explicit <;> rfl

/-- non-vacuity: two bases overlapping in `b`, an explicit `field_schema` overriding `a`, a
    declaration overriding `c` -/
example :
    metaSchemaNew [[(some ['b'], ['B']), (some ['c'], ['S'])], [(some ['a'], ['S']), (some ['b'], ['I'])]]
        [(some ['a'], ['I'])] [(some ['c'], ['B'])]
      = [(some ['b'], ['B']), (some ['a'], ['I']), (some ['c'], ['B'])] := by decide +kernel

structure WF (σ : State) : Prop where
  mro_lt : ∀ c x, x ∈ σ.mroOf c → x < σ.classes.length
  ref_lt : ∀ c a r, (assoc (σ.ownOf c) a = some (.list r) ∨ assoc (σ.ownOf c) a = some (.tuple r) ∨
      assoc (σ.ownOf c) a = some (.anonDict r)) → r < σ.heap.length

def RefOK (σ : State) : Val → Prop
  | .list r | .tuple r | .anonDict r => r < σ.heap.length
  | _ => True

theorem WF_iff_refOK (σ : State) :
    WF σ ↔ (∀ c x, x ∈ σ.mroOf c → x < σ.classes.length) ∧
      ∀ c a v, assoc (σ.ownOf c) a = some v → RefOK σ v := by
  constructor
  · intro h
    refine ⟨h.mro_lt, fun c a v hv => ?_⟩
    cases v <;> simp only [RefOK]
    case list r => exact h.ref_lt c a r (Or.inl hv)
    case tuple r => exact h.ref_lt c a r (Or.inr (Or.inl hv))
    case anonDict r => exact h.ref_lt c a r (Or.inr (Or.inr hv))
  · intro ⟨h1, h2⟩
    refine ⟨h1, fun c a r hr => ?_⟩
    rcases hr with hr | hr | hr <;> exact h2 c a _ hr

theorem classes_updCls (σ : State) (c x : ClassId) (f : Cls → Cls) :
    (updCls σ c f).classes[x]? = if x = c then (σ.classes[x]?).map f else σ.classes[x]? := by
  unfold updCls
  by_cases e : x = c
  · subst e
    cases h : σ.classes[x]? with
    | none => simp only [h, if_true, Option.map_none]
    | some cl =>
      have hlt : x < σ.classes.length := (List.getElem?_eq_some_iff.1 h).1
      simp only [if_true, Option.map_some, List.getElem?_set_self hlt]
  · rw [if_neg e]
    cases h : σ.classes[c]? with
    | none => rfl
    | some cl => exact List.getElem?_set_ne (Ne.symm e)

theorem assoc_eq {α β : Type} [DecidableEq α] (l : List (α × β)) (a : α) : assoc l a = Assoc.get l a :=
  Assoc.get_unique assoc (fun _ => rfl) (fun _ _ _ _ => rfl) l a

theorem assoc_assocSet {α β : Type} [DecidableEq α] (l : List (α × β)) (a a' : α) (b : β) :
    assoc (assocSet l a b) a' = if a = a' then some b else assoc l a' := by
  have hs : assocSet l a b = Assoc.set l a b := by
    induction l with
    | nil => rfl
    | cons p r ih => simp only [assocSet, Assoc.set, ih]; split <;> simp_all
  rw [assoc_eq, hs, assoc_eq]; exact Assoc.get_set l a b a'

theorem mroOf_updCls (σ : State) (c x : ClassId) (f : Cls → Cls) (hf : ∀ cl, (f cl).mro = cl.mro) :
    (updCls σ c f).mroOf x = σ.mroOf x := by
  simp only [State.mroOf, classes_updCls]
  by_cases e : x = c
  · simp only [e, if_true]; cases σ.classes[c]? <;> simp [hf]
  · simp [e]

theorem ownOf_updCls_ne (σ : State) (c x : ClassId) (f : Cls → Cls) (h : x ≠ c) :
    (updCls σ c f).ownOf x = σ.ownOf x := by
  simp [State.ownOf, classes_updCls, h]

theorem ownOf_updCls_self (σ : State) (c : ClassId) (f : Cls → Cls) (cl : Cls) (h : σ.classes[c]? = some cl) :
    (updCls σ c f).ownOf c = (f cl).own := by
  simp [State.ownOf, classes_updCls, h]

theorem mroOf_setOwn (σ : State) (c x : ClassId) (a : Attr) (v : Val) :
    (setOwn σ c a v).mroOf x = σ.mroOf x :=
  mroOf_updCls σ c x (fun cl => { cl with own := assocSet cl.own a v }) (fun _ => rfl)

theorem ownOf_setOwn_ne (σ : State) (c x : ClassId) (a : Attr) (v : Val) (h : x ≠ c) :
    (setOwn σ c a v).ownOf x = σ.ownOf x := ownOf_updCls_ne σ c x _ h

theorem builtOf_updCls_ne (σ : State) (c x : ClassId) (f : Cls → Cls) (h : x ≠ c) :
    builtOf (updCls σ c f) x = builtOf σ x := by
  simp [builtOf, classes_updCls, h]

theorem builtOf_updCls_self (σ : State) (c : ClassId) (f : Cls → Cls) (cl : Cls) (h : σ.classes[c]? = some cl) :
    builtOf (updCls σ c f) c = (f cl).built := by
  simp [builtOf, classes_updCls, h]

theorem heap_updCls (σ : State) (c : ClassId) (f : Cls → Cls) : (updCls σ c f).heap = σ.heap := by
  unfold updCls; split <;> rfl

theorem length_updCls (σ : State) (c : ClassId) (f : Cls → Cls) :
    (updCls σ c f).classes.length = σ.classes.length := by
  unfold updCls; split <;> simp

theorem ownOf_updCls (σ : State) (c x : ClassId) (f : Cls → Cls) (hf : ∀ cl, (f cl).own = cl.own) :
    (updCls σ c f).ownOf x = σ.ownOf x := by
  simp only [State.ownOf, classes_updCls]
  by_cases e : x = c
  · simp only [e, if_true]; cases σ.classes[c]? <;> simp [hf]
  · simp [e]

theorem kindOf_updCls (σ : State) (c x : ClassId) (f : Cls → Cls) (hf : ∀ cl, (f cl).kind = cl.kind) :
    (updCls σ c f).kindOf x = σ.kindOf x := by
  simp only [State.kindOf, classes_updCls]
  by_cases e : x = c
  · simp only [e, if_true]; cases σ.classes[c]? <;> simp [hf]
  · simp [e]

theorem RefOK_mono {σ τ : State} (h : σ.heap.length ≤ τ.heap.length) (v : Val) (hv : RefOK σ v) : RefOK τ v := by
  cases v <;> first | exact Nat.lt_of_lt_of_le hv h | trivial

theorem WF_updCls (σ : State) (hwf : WF σ) (c : ClassId) (f : Cls → Cls)
    (hm : ∀ cl, (f cl).mro = cl.mro) (ho : ∀ cl, (f cl).own = cl.own) : WF (updCls σ c f) := by
  rw [WF_iff_refOK] at hwf ⊢
  refine ⟨fun c' x hx => ?_, fun c' a v hv => ?_⟩
  · rw [mroOf_updCls σ c c' f hm] at hx
    rw [length_updCls]; exact hwf.1 c' x hx
  · rw [ownOf_updCls σ c c' f ho] at hv
    exact RefOK_mono (by rw [heap_updCls]; exact Nat.le_refl _) v (hwf.2 c' a v hv)

theorem assoc_ownOf_setOwn (σ : State) (c x : ClassId) (a a' : Attr) (v : Val) :
    assoc ((setOwn σ c a v).ownOf x) a' = assoc (σ.ownOf x) a' ∨
      assoc ((setOwn σ c a v).ownOf x) a' = some v := by
  by_cases e : x = c
  · subst e
    cases hcl : σ.classes[x]? with
    | none => left; simp [setOwn, updCls, hcl]
    | some cl =>
      unfold setOwn
      rw [ownOf_updCls_self σ x _ cl hcl]
      simp only [assoc_assocSet]
      by_cases ea : a = a'
      · right; simp [ea]
      · left; simp [ea, State.ownOf, hcl]
  · left; rw [ownOf_setOwn_ne σ c x a v e]

theorem heap_setOwn (σ : State) (c : ClassId) (a : Attr) (v : Val) : (setOwn σ c a v).heap = σ.heap :=
  heap_updCls σ c _

theorem length_setOwn (σ : State) (c : ClassId) (a : Attr) (v : Val) :
    (setOwn σ c a v).classes.length = σ.classes.length := length_updCls σ c _

theorem WF_setOwn (σ : State) (hwf : WF σ) (c : ClassId) (a : Attr) (v : Val) (hv : RefOK σ v) :
    WF (setOwn σ c a v) := by
  rw [WF_iff_refOK] at hwf ⊢
  refine ⟨fun c' x hx => ?_, fun c' a' v' hv' => ?_⟩
  · rw [mroOf_setOwn] at hx
    rw [length_setOwn]; exact hwf.1 c' x hx
  · have hh : σ.heap.length ≤ (setOwn σ c a v).heap.length := by rw [heap_setOwn]; exact Nat.le_refl _
    rcases assoc_ownOf_setOwn σ c c' a a' v with h | h
    · rw [h] at hv'; exact RefOK_mono hh v' (hwf.2 c' a' v' hv')
    · rw [h] at hv'; simp only [Option.some.injEq] at hv'; subst hv'; exact RefOK_mono hh _ hv

theorem WF_alloc (σ : State) (hwf : WF σ) (xs : List Item) : WF (alloc σ xs).1 := by
  rw [WF_iff_refOK] at hwf ⊢
  exact ⟨hwf.1, fun c a v hv => RefOK_mono (by simp [alloc]) v (hwf.2 c a v hv)⟩

theorem mroOf_clone (σ : State) (p x : ClassId) :
    (clone σ p).1.mroOf x = if x = σ.classes.length then σ.classes.length :: σ.mroOf p else σ.mroOf x := by
  simp only [State.mroOf, clone, Lists.getElem?_append_singleton]
  by_cases e : x = σ.classes.length <;> simp [e]

theorem ownOf_clone (σ : State) (p x : ClassId) :
    (clone σ p).1.ownOf x = if x = σ.classes.length then [] else σ.ownOf x := by
  simp only [State.ownOf, clone, Lists.getElem?_append_singleton]
  by_cases e : x = σ.classes.length <;> simp [e]

theorem kindOf_clone (σ : State) (p x : ClassId) :
    (clone σ p).1.kindOf x = if x = σ.classes.length then σ.kindOf p else σ.kindOf x := by
  simp only [State.kindOf, clone, Lists.getElem?_append_singleton]
  by_cases e : x = σ.classes.length <;> simp [e]

theorem length_clone (σ : State) (p : ClassId) : (clone σ p).1.classes.length = σ.classes.length + 1 := by
  simp [clone]

theorem WF_clone (σ : State) (hwf : WF σ) (p : ClassId) : WF (clone σ p).1 := by
  rw [WF_iff_refOK] at hwf ⊢
  refine ⟨fun c x hx => ?_, fun c a v hv => ?_⟩
  · rw [mroOf_clone] at hx
    rw [length_clone]
    split at hx
    · rcases List.mem_cons.1 hx with rfl | h
      · exact Nat.lt_succ_self _
      · exact Nat.lt_succ_of_lt (hwf.1 p x h)
    · exact Nat.lt_succ_of_lt (hwf.1 c x hx)
  · rw [ownOf_clone] at hv
    split at hv
    · simp [assoc] at hv
    · exact RefOK_mono (Nat.le_refl _) v (hwf.2 c a v hv)

theorem alloc_lt (σ : State) (xs : List Item) : (alloc σ xs).2 < (alloc σ xs).1.heap.length := by
  simp [alloc]

theorem RefOK_atomOf (σ : State) (v : KwVal) : RefOK σ (atomOf v) := by
  cases v <;> simp [atomOf, RefOK]

structure SameShape (σ τ : State) : Prop where
  len : τ.classes.length = σ.classes.length
  mro : ∀ x, τ.mroOf x = σ.mroOf x
  kind : ∀ x, τ.kindOf x = σ.kindOf x

/-- `τ` has the shape `class_cloner` on `p` leaves -/
structure Derived (σ τ : State) (p : ClassId) : Prop where
  len : τ.classes.length = σ.classes.length + 1
  mro : ∀ x, τ.mroOf x = if x = σ.classes.length then σ.classes.length :: σ.mroOf p else σ.mroOf x
  kind : ∀ x, τ.kindOf x = if x = σ.classes.length then σ.kindOf p else σ.kindOf x

theorem SameShape.refl (σ : State) : SameShape σ σ := ⟨rfl, fun _ => rfl, fun _ => rfl⟩

theorem SameShape.trans {a b c : State} (h1 : SameShape a b) (h2 : SameShape b c) : SameShape a c :=
  ⟨h2.len.trans h1.len, fun x => (h2.mro x).trans (h1.mro x), fun x => (h2.kind x).trans (h1.kind x)⟩

theorem Derived_of_sameShape {σ τ : State} {p : ClassId} (h : SameShape (clone σ p).1 τ) : Derived σ τ p :=
  ⟨h.len.trans (length_clone σ p), fun x => (h.mro x).trans (mroOf_clone σ p x),
   fun x => (h.kind x).trans (kindOf_clone σ p x)⟩

theorem SameShape_updCls (σ : State) (c : ClassId) (f : Cls → Cls)
    (hm : ∀ cl, (f cl).mro = cl.mro) (hk : ∀ cl, (f cl).kind = cl.kind) : SameShape σ (updCls σ c f) :=
  ⟨length_updCls σ c f, fun x => mroOf_updCls σ c x f hm, fun x => kindOf_updCls σ c x f hk⟩

theorem SameShape_setOwn (σ : State) (c : ClassId) (a : Attr) (v : Val) : SameShape σ (setOwn σ c a v) :=
  SameShape_updCls σ c _ (fun _ => rfl) (fun _ => rfl)

theorem SameShape_alloc (σ : State) (xs : List Item) : SameShape σ (alloc σ xs).1 :=
  ⟨rfl, fun _ => rfl, fun _ => rfl⟩

/-! Apart from `class_cloner`, all a constructor body or a preparation does to the store is to allocate list objects and
to rewrite the one class it works on (`Touches`), never its MRO or kind; what it stores are atoms or references to
objects that exist (`Writes`).  Everything a step preserves follows from that. -/

structure Touches (n : ClassId) (σ τ : State) : Prop where
  cls : ∀ x, x ≠ n → τ.classes[x]? = σ.classes[x]?
  heap : ∀ r, r < σ.heap.length → τ.heap[r]? = σ.heap[r]?
  heapLen : σ.heap.length ≤ τ.heap.length

theorem Touches.refl (n : ClassId) (σ : State) : Touches n σ σ := ⟨fun _ _ => rfl, fun _ _ => rfl, Nat.le_refl _⟩

theorem Touches.trans {n : ClassId} {a b c : State} (h1 : Touches n a b) (h2 : Touches n b c) : Touches n a c :=
  ⟨fun x hx => (h2.cls x hx).trans (h1.cls x hx),
   fun r hr => (h2.heap r (Nat.lt_of_lt_of_le hr h1.heapLen)).trans (h1.heap r hr),
   Nat.le_trans h1.heapLen h2.heapLen⟩

theorem Touches.items {n : ClassId} {σ τ : State} (h : Touches n σ τ) (r : Ref) (hr : r < σ.heap.length) :
    τ.items r = σ.items r := by
  unfold State.items; rw [h.heap r hr]

theorem Touches.ownOf {n : ClassId} {σ τ : State} (h : Touches n σ τ) (x : ClassId) (hx : x ≠ n) :
    τ.ownOf x = σ.ownOf x := by
  unfold State.ownOf; rw [h.cls x hx]

theorem Touches.builtOf {n : ClassId} {σ τ : State} (h : Touches n σ τ) (x : ClassId) (hx : x ≠ n) :
    builtOf τ x = builtOf σ x := by
  unfold C06.builtOf; rw [h.cls x hx]

structure Writes (n : ClassId) (σ τ : State) : Prop extends SameShape σ τ, Touches n σ τ where
  wf : WF σ → WF τ

theorem Writes.refl (n : ClassId) (σ : State) : Writes n σ σ := ⟨SameShape.refl σ, Touches.refl n σ, id⟩

theorem Writes.trans {n : ClassId} {a b c : State} (h1 : Writes n a b) (h2 : Writes n b c) : Writes n a c :=
  ⟨h1.toSameShape.trans h2.toSameShape, h1.toTouches.trans h2.toTouches, h2.wf ∘ h1.wf⟩

theorem Writes_alloc (n : ClassId) (σ : State) (xs : List Item) : Writes n σ (alloc σ xs).1 :=
  ⟨SameShape_alloc σ xs, ⟨fun _ _ => rfl, fun _ hr => List.getElem?_append_left hr, by simp [alloc]⟩,
   fun h => WF_alloc σ h xs⟩

theorem Writes_updCls (n : ClassId) (σ : State) (f : Cls → Cls) (hm : ∀ cl, (f cl).mro = cl.mro)
    (hk : ∀ cl, (f cl).kind = cl.kind) (ho : ∀ cl, (f cl).own = cl.own) : Writes n σ (updCls σ n f) :=
  ⟨SameShape_updCls σ n f hm hk, ⟨fun x hx => by rw [classes_updCls, if_neg hx],
   fun _ _ => by rw [heap_updCls], by rw [heap_updCls]; exact Nat.le_refl _⟩, fun h => WF_updCls σ h n f hm ho⟩

theorem Writes_setOwn (n : ClassId) (σ : State) (a : Attr) (v : Val) (hv : RefOK σ v) :
    Writes n σ (setOwn σ n a v) :=
  ⟨SameShape_setOwn σ n a v, ⟨fun x hx => by unfold setOwn; rw [classes_updCls, if_neg hx],
   fun _ _ => by rw [heap_setOwn], by rw [heap_setOwn]; exact Nat.le_refl _⟩, fun h => WF_setOwn σ h n a v hv⟩

theorem Writes_bind (n : ClassId) (σ : State) (xs : List Item) (a : Attr) (v : Val)
    (hv : RefOK (alloc σ xs).1 v) : Writes n σ (setOwn (alloc σ xs).1 n a v) :=
  (Writes_alloc n σ xs).trans (Writes_setOwn n _ a v hv)

theorem Writes_usingBody (n : ClassId) (kw : List (KwName × KwVal)) (σ τ : State)
    (h : usingBody σ n kw = some τ) : Writes n σ τ := by
  induction kw generalizing σ with
  | nil => simp only [usingBody, Option.some.injEq] at h; exact h ▸ Writes.refl n σ
  | cons p rest ih =>
    obtain ⟨k, v⟩ := p
    cases k with
    | bogus => simp [usingBody] at h
    | properties =>
      cases v <;> simp only [usingBody, reduceCtorEq] at h
      refine Writes.trans ?_ (ih _ h)
      exact Writes_updCls n σ _ (fun _ => rfl) (fun _ => rfl) (fun _ => rfl)
    | attr a =>
      simp only [usingBody] at h
      split at h
      · cases v <;> simp only [] at h
        case labels ls => exact (Writes_bind n σ _ a (.list _) (alloc_lt ..)).trans (ih _ h)
        case members ms => exact (Writes_bind n σ _ a (.list _) (alloc_lt ..)).trans (ih _ h)
        case memberRefs ms => exact (Writes_bind n σ _ a (.list _) (alloc_lt ..)).trans (ih _ h)
        all_goals exact (Writes_setOwn n σ a _ (RefOK_atomOf σ _)).trans (ih _ h)
      · simp at h

theorem Writes_compoundInit (σ : State) (n : ClassId) : Writes n σ (compoundInit σ n).1 := by
  unfold compoundInit
  simp only []
  split
  · exact Writes.refl n σ
  · split
    · exact Writes_updCls n σ _ (fun _ => rfl) (fun _ => rfl) (fun _ => rfl)
    · exact (Writes_bind n σ _ _ (.list _) (alloc_lt ..)).trans (Writes_updCls n _ _ (fun _ => rfl) (fun _ => rfl) (fun _ => rfl))

def stepTarget : Step → ClassId
  | .named c _ | .using c _ | .validatedBy _ c _ | .includingValidators _ c _ _ | .withProperties c _
  | .of c _ | .valued c _ | .to c _ | .inst c _ => c

def isCtor : Step → Bool
  | .inst .. => false
  | _ => true

theorem ctor_cases (σ : State) (s : Step) (hs : isCtor s = true) :
    ((step σ s).1 = σ ∧ (step σ s).2 ≠ .ok) ∨
    (stepTarget s < σ.classes.length ∧
      Writes σ.classes.length (clone σ (stepTarget s)).1 (step σ s).1 ∧ (step σ s).2 = .ok) := by
  cases s with
  | named c name =>
    simp only [step, stepTarget]; split
    · rename_i hc
      exact .inr ⟨hc, Writes_setOwn _ _ _ _ (by cases name <;> trivial), rfl⟩
    · exact .inl ⟨rfl, nofun⟩
  | «using» c kw =>
    simp only [step, stepTarget]; split
    · rename_i hc
      split
      · rename_i σ2 h
        exact .inr ⟨hc, Writes_usingBody _ kw _ σ2 h, rfl⟩
      · exact .inl ⟨rfl, nofun⟩
    · exact .inl ⟨rfl, nofun⟩
  | validatedBy descent c vs =>
    simp only [step, stepTarget]; split
    · rename_i hc
      split
      · exact .inl ⟨rfl, nofun⟩
      · exact .inr ⟨hc, Writes_bind _ _ _ _ _ (alloc_lt ..), rfl⟩
    · exact .inl ⟨rfl, nofun⟩
  | includingValidators descent c vs position =>
    simp only [step, stepTarget]; split
    · rename_i hc
      split
      · exact .inl ⟨rfl, nofun⟩
      · exact .inr ⟨hc, Writes_bind _ _ _ _ _ (alloc_lt ..), rfl⟩
    · exact .inl ⟨rfl, nofun⟩
  | withProperties c pairs =>
    simp only [step, stepTarget]; split
    · rename_i hc
      exact .inr ⟨hc, Writes_updCls _ _ _ (fun _ => rfl) (fun _ => rfl) (fun _ => rfl), rfl⟩
    · exact .inl ⟨rfl, nofun⟩
  | «of» c members =>
    simp only [step, stepTarget]; split
    · rename_i hc
      have hc' : c < σ.classes.length := by
        simp only [Bool.and_eq_true, decide_eq_true_eq] at hc; exact hc.1
      split
      · split
        · exact .inl ⟨rfl, nofun⟩
        · exact .inr ⟨hc', Writes_setOwn _ _ _ _ trivial, rfl⟩
        · split
          · exact .inl ⟨rfl, nofun⟩
          · exact .inr ⟨hc', Writes_bind _ _ _ _ _ (alloc_lt ..), rfl⟩
      · split
        · exact .inl ⟨rfl, nofun⟩
        · exact .inr ⟨hc', Writes_bind _ _ _ _ _ (alloc_lt ..), rfl⟩
      all_goals exact .inl ⟨rfl, nofun⟩
    · exact .inl ⟨rfl, nofun⟩
  | valued c values =>
    simp only [step, stepTarget]; split
    · rename_i hc
      split
      · exact .inl ⟨rfl, nofun⟩
      · exact .inr ⟨hc, Writes_bind _ _ _ _ _ (alloc_lt ..), rfl⟩
    · exact .inl ⟨rfl, nofun⟩
  | «to» c path =>
    simp only [step, stepTarget]; split
    · rename_i hc
      split
      · exact .inl ⟨rfl, nofun⟩
      · exact .inr ⟨hc, Writes_setOwn _ _ _ _ trivial, rfl⟩
    · exact .inl ⟨rfl, nofun⟩
  | inst c kw => cases hs

/-- The returned class is new: a schema constructor either raises and leaves the class
    store exactly as it was, or returns: then the store has exactly one class more — its id is
    the old number of classes, so it is none of the old classes —, a direct subclass of the class
    the constructor was called on (MRO = itself followed by the original's MRO) of the same
    kind, and no old class changed its MRO -/
theorem ctor_new_or_unchanged (σ : State) (s : Step) (hs : isCtor s = true) :
    ((step σ s).1 = σ ∧ (step σ s).2 ≠ .ok) ∨
    (stepTarget s < σ.classes.length ∧ Derived σ (step σ s).1 (stepTarget s) ∧ (step σ s).2 = .ok) := by
  rcases ctor_cases σ s hs with h | ⟨hc, hw, hr⟩
  · exact .inl h
  · exact .inr ⟨hc, Derived_of_sameShape hw.toSameShape, hr⟩

/-- Instance-local: instantiating a non-compound schema — with any keyword overrides —
    leaves the class store exactly as it was: the overrides live in the instance only -/
theorem instance_local (σ : State) (c : ClassId) (kw : List (KwName × KwVal))
    (hk : σ.kindOf c ≠ .compound) : (step σ (.inst c kw)).1 = σ := by
  have hk' : (σ.kindOf c == Kind.compound) = false := beq_eq_false_iff_ne.2 hk
  by_cases hc : c < σ.classes.length
  case neg => simp only [step, hc, if_false]
  simp only [step, hc, hk', if_true, Bool.false_eq_true, if_false]
  cases instAttrs kw <;> simp only [apply_ite Prod.fst, ite_self]

theorem inst_cases (σ : State) (c : ClassId) (kw : List (KwName × KwVal)) :
    (step σ (.inst c kw)).1 = σ ∨
    (lazyPrep σ (.inst c kw) = none ∧ c < σ.classes.length ∧
      Writes σ.classes.length (clone σ c).1 (step σ (.inst c kw)).1) ∨
    (lazyPrep σ (.inst c kw) = some c ∧ c < σ.classes.length ∧
      (step σ (.inst c kw)).1 = (compoundInit σ c).1) := by
  by_cases hk : σ.kindOf c = .compound
  case neg => exact .inl (instance_local σ c kw hk)
  by_cases hc : c < σ.classes.length
  case neg => exact .inl (by simp only [step, hc, if_false])
  simp only [step, lazyPrep, Spec.isPrepared, hc, hk, beq_self_eq_true, if_true, Bool.true_and, true_and]
  cases hov : (kw.filter (fun p => p.1 != .bogus)).isEmpty
  · -- _MetaCompound.__call__ with overrides: a clone is derived, configured and prepared
    simp only [Bool.not_false, if_true, Bool.false_and, Bool.false_eq_true, if_false, reduceCtorEq, false_and,
      or_false, true_and]
    cases hu : usingBody (clone σ c).1 (clone σ c).2 (kw.filter (fun p => p.1 != .bogus)) with
    | none => exact .inl rfl
    | some σ2 =>
      simp only []
      cases hr : (compoundInit σ2 (clone σ c).2).2 != .ok
      · cases hrest : (kw.filter (fun p => p.1 == .bogus)).isEmpty
        · exact .inl (by simp only [Bool.false_eq_true, if_false])
        · simp only [Bool.false_eq_true, if_false, if_true]
          exact .inr ((Writes_usingBody _ _ _ σ2 hu).trans (Writes_compoundInit σ2 _))
      · exact .inl (by simp only [if_true])
  · simp only [Bool.not_true, Bool.false_eq_true, if_false, Bool.true_and]
    cases hp : σ.isPrepared c
    · simp only [Bool.not_false, if_true, if_false, reduceCtorEq, false_and, false_or, true_and]
      cases hr : (compoundInit σ c).2 != .ok
      · right
        simp only [Bool.false_eq_true, if_false]
        split <;> rfl
      · exact .inl (by simp only [if_true])
    · left
      simp only [if_true, bne_self_eq_false, Bool.false_eq_true, if_false]
      split <;> rfl

theorem step_cases (σ : State) (s : Step) :
    (step σ s).1 = σ ∨
    (lazyPrep σ s = none ∧ stepTarget s < σ.classes.length ∧
      Writes σ.classes.length (clone σ (stepTarget s)).1 (step σ s).1) ∨
    (lazyPrep σ s = some (stepTarget s) ∧ stepTarget s < σ.classes.length ∧
      (step σ s).1 = (compoundInit σ (stepTarget s)).1) := by
  by_cases hs : isCtor s = true
  · have hl : lazyPrep σ s = none := by cases s <;> first | rfl | cases hs
    rcases ctor_cases σ s hs with ⟨h, _⟩ | ⟨hc, hw, _⟩
    · exact .inl h
    · exact .inr (.inl ⟨hl, hc, hw⟩)
  · cases s <;> first | exact absurd rfl hs | exact inst_cases σ _ _

theorem WF_step (σ : State) (hwf : WF σ) (s : Step) : WF (step σ s).1 := by
  rcases step_cases σ s with e | ⟨_, _, hw⟩ | ⟨_, _, e⟩
  · rw [e]; exact hwf
  · exact hw.wf (WF_clone σ hwf _)
  · rw [e]; exact (Writes_compoundInit σ _).wf hwf

theorem WF_run (ss : List Step) (σ : State) (hwf : WF σ) : WF (run σ ss).1 := by
  induction ss generalizing σ with
  | nil => exact hwf
  | cons s ss ih => simp only [run]; exact ih _ (WF_step σ hwf s)

theorem WF_initState (kind : Kind) (defaults : List (Attr × Val))
    (hd : ∀ a v, assoc defaults a = some v → RefOK (initState kind defaults) v) :
    WF (initState kind defaults) := by
  rw [WF_iff_refOK]
  refine ⟨fun c x hx => ?_, fun c a v hv => ?_⟩
  · cases c with
    | zero => simp [initState, State.mroOf] at hx; simp [initState, hx]
    | succ n => simp [initState, State.mroOf] at hx
  · cases c with
    | zero => exact hd a v (by simpa [initState, State.ownOf] using hv)
    | succ n => simp [initState, State.ownOf, assoc] at hv

theorem step_shape (σ : State) (s : Step) :
    SameShape σ (step σ s).1 ∨ (stepTarget s < σ.classes.length ∧ Derived σ (step σ s).1 (stepTarget s)) := by
  rcases step_cases σ s with e | ⟨_, hc, hw⟩ | ⟨_, _, e⟩
  · rw [e]; exact .inl (SameShape.refl σ)
  · exact .inr ⟨hc, Derived_of_sameShape hw.toSameShape⟩
  · rw [e]; exact .inl (Writes_compoundInit σ _).toSameShape

/-- an instantiation leaves the class table as it is, or (compound types) fills in the class it is
    called on, or (compound types, with keyword overrides) derives one new subclass on the fly -/
theorem inst_shape (σ : State) (c : ClassId) (kw : List (KwName × KwVal)) :
    SameShape σ (step σ (.inst c kw)).1 ∨
    (c < σ.classes.length ∧ Derived σ (step σ (.inst c kw)).1 c) :=
  step_shape σ (.inst c kw)

theorem step_lazy_state (σ : State) (s : Step) (p : ClassId) (hl : lazyPrep σ s = some p) :
    (step σ s).1 = σ ∨ (p < σ.classes.length ∧ (step σ s).1 = (compoundInit σ p).1) := by
  rcases step_cases σ s with e | ⟨e, _⟩ | ⟨e, hc, h⟩
  · exact .inl e
  · rw [hl] at e; cases e
  · rw [hl, Option.some.injEq] at e
    subst e
    exact .inr ⟨hc, h⟩

/-- `σ'` extends `σ`: every class and every list object of `σ` is still there, untouched -/
structure Pre (σ σ' : State) : Prop where
  cls : ∀ c, c < σ.classes.length → σ'.classes[c]? = σ.classes[c]?
  heap : ∀ r, r < σ.heap.length → σ'.heap[r]? = σ.heap[r]?
  clsLen : σ.classes.length ≤ σ'.classes.length
  heapLen : σ.heap.length ≤ σ'.heap.length

theorem clone_snd (σ : State) (p : ClassId) : (clone σ p).2 = σ.classes.length := rfl

theorem Touches_clone (σ : State) (p : ClassId) : Touches σ.classes.length σ (clone σ p).1 :=
  ⟨fun x hx => by simp only [clone, Lists.getElem?_append_singleton, if_neg hx], fun _ _ => rfl, Nat.le_refl _⟩

theorem length_step_le (σ : State) (s : Step) : σ.classes.length ≤ (step σ s).1.classes.length := by
  rcases step_shape σ s with h | ⟨_, h⟩
  · rw [h.len]; exact Nat.le_refl _
  · rw [h.len]; exact Nat.le_succ _

theorem mroOf_step (σ : State) (s : Step) (c : ClassId) (hc : c < σ.classes.length) :
    (step σ s).1.mroOf c = σ.mroOf c := by
  rcases step_shape σ s with h | ⟨_, h⟩
  · exact h.mro c
  · rw [h.mro c, if_neg (Nat.ne_of_lt hc)]

/-- the one class a step touches: the class it lazily prepares, else the class it is about to derive -/
def touched (σ : State) (s : Step) : ClassId := (lazyPrep σ s).getD σ.classes.length

theorem step_touches (σ : State) (s : Step) : Touches (touched σ s) σ (step σ s).1 := by
  unfold touched
  rcases step_cases σ s with e | ⟨hl, _, hw⟩ | ⟨hl, _, e⟩
  · rw [e]; exact Touches.refl _ σ
  · rw [hl]; exact (Touches_clone σ _).trans hw.toTouches
  · rw [hl, e]; exact (Writes_compoundInit σ _).toTouches

theorem step_pre (σ : State) (s : Step) (hl : lazyPrep σ s = none) : Pre σ (step σ s).1 :=
  have h := step_touches σ s
  ⟨fun x hx => h.cls x (by unfold touched; rw [hl]; exact Nat.ne_of_lt hx), h.heap, length_step_le σ s, h.heapLen⟩

/-- what `cls.properties` reads of a class record -/
def propsView (cl : Cls) : List (Str × Int) × Bool := (cl.props, cl.propsReset)

theorem propsWalk_congr (σ τ : State) (l : List ClassId)
    (h : ∀ x ∈ l, (τ.classes[x]?).map propsView = (σ.classes[x]?).map propsView)
    (acc : List (Str × Int)) : propsWalk τ l acc = propsWalk σ l acc := by
  induction l generalizing acc with
  | nil => rfl
  | cons x r ih =>
    have hx := h x (List.mem_cons_self ..)
    simp only [propsWalk]
    cases hs : σ.classes[x]? with
    | none =>
      cases ht : τ.classes[x]? with
      | none => rfl
      | some cl' => simp [hs, ht] at hx
    | some cl =>
      cases ht : τ.classes[x]? with
      | none => simp [hs, ht] at hx
      | some cl' =>
        simp only [hs, ht, Option.map_some, Option.some.injEq, propsView, Prod.mk.injEq] at hx
        simp only [hx.1, hx.2]
        rw [ih (fun y hy => h y (List.mem_cons_of_mem _ hy))]

theorem propsView_updCls (σ : State) (c : ClassId) (f : Cls → Cls) (hf : ∀ cl, propsView (f cl) = propsView cl)
    (x : ClassId) : ((updCls σ c f).classes[x]?).map propsView = (σ.classes[x]?).map propsView := by
  rw [classes_updCls]
  split
  · cases σ.classes[x]? <;> simp [hf]
  · rfl

theorem deref_congr {σ τ : State} (hheap : ∀ r, r < σ.heap.length → τ.items r = σ.items r) (v : Val)
    (hv : RefOK σ v) : deref τ (some v) = deref σ (some v) := by
  cases v <;> first | rfl | exact congrArg _ (hheap _ hv)

theorem deepLookup_congr {σ τ : State} (hwf : WF σ) (hheap : ∀ r, r < σ.heap.length → τ.items r = σ.items r)
    (c : ClassId) (a : Attr) (hl : τ.lookup c a = σ.lookup c a) : deepLookup τ c a = deepLookup σ c a := by
  unfold deepLookup
  rw [hl]
  cases hv : σ.lookup c a with
  | none => rfl
  | some v =>
    obtain ⟨x, _, hx⟩ := List.exists_of_findSome?_eq_some hv
    exact deref_congr hheap v (((WF_iff_refOK σ).1 hwf).2 x a v hx)

/-- the sequence an observed value denotes -/
def dseq : DVal → List Item
  | .list xs | .tuple xs => xs
  | _ => []

theorem seqOf_eq_dseq (σ : State) (c : ClassId) (a : Attr) : seqOf σ c a = dseq (deepLookup σ c a) := by
  unfold seqOf deepLookup
  cases h : σ.lookup c a with
  | none => rfl
  | some v => cases v <;> rfl

theorem seqOf_of_lookup_eq {σ τ : State} (hwf : WF σ) (hheap : ∀ r, r < σ.heap.length → τ.items r = σ.items r)
    (c : ClassId) (a : Attr) (hl : τ.lookup c a = σ.lookup c a) : seqOf τ c a = seqOf σ c a := by
  rw [seqOf_eq_dseq, seqOf_eq_dseq, deepLookup_congr hwf hheap c a hl]

theorem itemsOfVal_eq_dseq (σ : State) (v : Val) : itemsOfVal σ v = dseq (deref σ (some v)) := by
  cases v <;> rfl

theorem lookup_congr {σ τ : State} {c : ClassId} {a : Attr} (hm : τ.mroOf c = σ.mroOf c)
    (ho : ∀ x ∈ σ.mroOf c, assoc (τ.ownOf x) a = assoc (σ.ownOf x) a) : τ.lookup c a = σ.lookup c a := by
  unfold State.lookup
  rw [hm]
  exact Lists.findSome?_ext _ _ _ ho

/-- `suppliedOf` when class `x` itself owns `field_schema` (`suppliedOf_eq_first`) -/
def ownSupplied (σ : State) (x : ClassId) : Option (List Item) :=
  (assoc (σ.ownOf x) .fieldSchema).map fun v =>
    match builtOf σ x with
    | some (r, supplied) => if v = .list r then supplied else itemsOfVal σ v
    | none => itemsOfVal σ v

theorem suppliedOf_eq_first (σ : State) (c : ClassId) :
    suppliedOf σ c = ((σ.mroOf c).findSome? (ownSupplied σ)).getD [] := by
  unfold suppliedOf ownerOf
  induction σ.mroOf c with
  | nil => rfl
  | cons x l ih =>
    simp only [List.findSome?_cons, ownSupplied]
    cases assoc (σ.ownOf x) .fieldSchema with
    | none => exact ih
    | some v => rfl

theorem ownSupplied_congr {σ τ : State} (hwf : WF σ) (hheap : ∀ r, r < σ.heap.length → τ.items r = σ.items r)
    (x : ClassId) (ho : τ.ownOf x = σ.ownOf x) (hb : builtOf τ x = builtOf σ x) :
    ownSupplied τ x = ownSupplied σ x := by
  unfold ownSupplied
  rw [ho, hb]
  cases hx : assoc (σ.ownOf x) .fieldSchema with
  | none => rfl
  | some v =>
    simp only [Option.map_some, itemsOfVal_eq_dseq, deref_congr hheap v (((WF_iff_refOK σ).1 hwf).2 x _ v hx)]

theorem suppliedOf_congr {σ τ : State} (hwf : WF σ) (hheap : ∀ r, r < σ.heap.length → τ.items r = σ.items r)
    (c : ClassId) (hm : τ.mroOf c = σ.mroOf c)
    (ho : ∀ x ∈ σ.mroOf c, τ.ownOf x = σ.ownOf x ∧ builtOf τ x = builtOf σ x) :
    suppliedOf τ c = suppliedOf σ c := by
  rw [suppliedOf_eq_first, suppliedOf_eq_first, hm,
    Lists.findSome?_ext _ _ _ (fun x hx => ownSupplied_congr hwf hheap x (ho x hx).1 (ho x hx).2)]

/-- the footprint of an observation: what an observer reads of class `c` — every attribute (lists followed to
    their contents), the properties, the members a preparation of it would start from — depends only on the records of
    the classes in `c`'s MRO and on the list objects that exist -/
theorem frame_of_agree {σ τ : State} (hwf : WF σ) (c : ClassId) (hm : τ.mroOf c = σ.mroOf c)
    (hcls : ∀ x ∈ σ.mroOf c, τ.classes[x]? = σ.classes[x]?)
    (hheap : ∀ r, r < σ.heap.length → τ.heap[r]? = σ.heap[r]?) :
    (∀ a, deepLookup τ c a = deepLookup σ c a) ∧ propsOf τ c = propsOf σ c ∧ suppliedOf τ c = suppliedOf σ c := by
  have hitems : ∀ r, r < σ.heap.length → τ.items r = σ.items r := fun r hr => by unfold State.items; rw [hheap r hr]
  have hown : ∀ x ∈ σ.mroOf c, τ.ownOf x = σ.ownOf x := fun x hx => by unfold State.ownOf; rw [hcls x hx]
  refine ⟨fun a => deepLookup_congr hwf hitems c a (lookup_congr hm (fun x hx => by rw [hown x hx])), ?_,
    suppliedOf_congr hwf hitems c hm (fun x hx => ⟨hown x hx, by unfold C06.builtOf; rw [hcls x hx]⟩)⟩
  unfold propsOf
  rw [hm]
  exact propsWalk_congr σ τ _ (fun x hx => by rw [hcls x hx]) []

theorem frame_off {σ τ : State} {n : ClassId} (hwf : WF σ) (h : Touches n σ τ) (c : ClassId)
    (hm : τ.mroOf c = σ.mroOf c) (hn : n ∉ σ.mroOf c) :
    (∀ a, deepLookup τ c a = deepLookup σ c a) ∧ propsOf τ c = propsOf σ c ∧ suppliedOf τ c = suppliedOf σ c :=
  frame_of_agree hwf c hm (fun x hx => h.cls x (fun e => hn (e ▸ hx))) h.heap

theorem frame_of_pre (σ σ' : State) (hwf : WF σ) (hp : Pre σ σ') (c : ClassId)
    (hc : c < σ.classes.length) :
    (∀ a, deepLookup σ' c a = deepLookup σ c a) ∧ propsOf σ' c = propsOf σ c :=
  have h := frame_of_agree hwf c (by unfold State.mroOf; rw [hp.cls c hc])
    (fun x hx => hp.cls x (hwf.mro_lt c x hx)) hp.heap
  ⟨h.1, h.2.1⟩

theorem length_not_mem {σ : State} (hwf : WF σ) (c : ClassId) : σ.classes.length ∉ σ.mroOf c :=
  fun h => Nat.lt_irrefl _ (hwf.mro_lt c _ h)

/-- Frame: no constructor call (named, using, validated_by, including_validators,
    descent_validated_by, including_descent_validators, with_properties, of, valued, to) and no
    instantiation — plain or overriding; successful or raising — other than the lazy preparation
    of a compound type changes any observable attribute (lists followed to their contents) or
    any property of any class that existed before the call -/
theorem frame (σ : State) (hwf : WF σ) (s : Step) (hl : lazyPrep σ s = none) (c : ClassId)
    (hc : c < σ.classes.length) :
    (∀ a, deepLookup (step σ s).1 c a = deepLookup σ c a) ∧ propsOf (step σ s).1 c = propsOf σ c :=
  have h := frame_off hwf (step_touches σ s) c (mroOf_step σ s c hc)
    (by unfold touched; rw [hl]; exact length_not_mem hwf c)
  ⟨h.1, h.2.1⟩

/-- a true restriction of `C06_Full` (below): the explicit, decidable guard is
    "the step is not the first plain instantiation of an unprepared compound class" -/
theorem frame_partial (σ : State) (hwf : WF σ) (s : Step) (hl : lazyPrep σ s = none) (c : ClassId)
    (a : Attr) (hc : c < σ.classes.length) : deepLookup (step σ s).1 c a = deepLookup σ c a :=
  (frame σ hwf s hl c hc).1 a

/-- `observe` and `observeNoFields` are this with their attribute lists -/
theorem obs_congr {σ τ : State} {c : ClassId} (as : List Attr) (h : ∀ a ∈ as, deepLookup τ c a = deepLookup σ c a)
    (hp : propsOf τ c = propsOf σ c) :
    (as.map (deepLookup τ c), propsOf τ c) = (as.map (deepLookup σ c), propsOf σ c) := by
  rw [hp, List.map_congr_left h]

theorem observe_congr {σ τ : State} {c : ClassId}
    (h : (∀ a, deepLookup τ c a = deepLookup σ c a) ∧ propsOf τ c = propsOf σ c) : observe τ c = observe σ c :=
  obs_congr allAttrs (fun a _ => h.1 a) h.2

/-- `frame` in the terms of the runner's check `Spec.frameHolds` -/
theorem frame_observe (σ : State) (hwf : WF σ) (s : Step) (hl : lazyPrep σ s = none) (c : ClassId)
    (hc : c < σ.classes.length) : observe (step σ s).1 c = observe σ c :=
  observe_congr (frame σ hwf s hl c hc)

/-! ## the regeneration rule of `DateYYYYMMDD.__compound_init__`: history independence

As of /repo 33c5842 the rule is by list *identity*: a `field_schema` list that was built by the
preparation of the class owning it (`_compound_built[0] is field_schema`) is rebuilt from the
members that preparation started from (`_compound_built[1]`); any other list — in particular one
supplied by the user, whatever members it reuses — is taken as it is. -/

/-- the member list class `c` gets when it is prepared: a function of the members it is
    supplied with (`suppliedOf`) and its own `optional` only -/
def preparedOf (σ : State) (c : ClassId) : List Item :=
  preparedFields (suppliedOf σ c) (optionalOf σ c)

/-- what preparing class `p` does to the store: nothing, or only the flag, or — when members
    have to be generated — a fresh list bound to `p.field_schema` and remembered in `_compound_built` -/
structure PreparedFrom (σ τ : State) (p : ClassId) : Prop extends Writes p σ τ where
  props : (τ.classes[p]?).map propsView = (σ.classes[p]?).map propsView
  own_p : (((seqOf σ p .fieldSchema).length ≥ 4 ∨ (suppliedOf σ p).length = 3) ∧
      τ.ownOf p = σ.ownOf p ∧ builtOf τ p = builtOf σ p) ∨
    (∃ r, (∀ a, assoc (τ.ownOf p) a = if Attr.fieldSchema = a then some (.list r) else assoc (σ.ownOf p) a) ∧
      τ.items r = preparedOf σ p ∧ builtOf τ p = some (r, suppliedOf σ p))

def setPrepared (cl : Cls) : Cls := { cl with prepared := true }
def setBuilt (r : Ref) (supplied : List Item) (cl : Cls) : Cls :=
  { cl with prepared := true, built := some (r, supplied) }

theorem compoundInit_fst (σ : State) (p : ClassId) :
    (compoundInit σ p).1 =
      if (seqOf σ p .fieldSchema).length ≥ 4 then σ
      else if (suppliedOf σ p).length = 3 then updCls σ p setPrepared
      else updCls (setOwn { σ with heap := σ.heap ++ [preparedOf σ p] } p .fieldSchema (.list σ.heap.length))
        p (setBuilt σ.heap.length (suppliedOf σ p)) := by
  unfold compoundInit
  simp only [apply_ite Prod.fst]
  rfl

theorem compoundInit_preparedFrom (σ : State) (p : ClassId) (hp : p < σ.classes.length) :
    PreparedFrom σ (compoundInit σ p).1 p := by
  obtain ⟨cl, hcl⟩ : ∃ cl, σ.classes[p]? = some cl := ⟨σ.classes[p], by simp [hp]⟩
  have hw := Writes_compoundInit σ p
  revert hw
  rw [compoundInit_fst]
  split
  · rename_i h4
    exact fun hw => ⟨hw, rfl, Or.inl ⟨Or.inl h4, rfl, rfl⟩⟩
  · split
    · rename_i h3
      refine fun hw => ⟨hw, propsView_updCls σ p setPrepared (fun _ => rfl) p, Or.inl ⟨Or.inr h3, ?_, ?_⟩⟩
      · rw [ownOf_updCls_self σ p _ cl hcl]; simp [State.ownOf, hcl, setPrepared]
      · rw [builtOf_updCls_self σ p _ cl hcl]; simp [builtOf, hcl, setPrepared]
    · -- members are generated: a fresh list, bound to p.field_schema, remembered, and the flag
      obtain ⟨σ1, hσ1⟩ : ∃ σ1 : State, σ1 = { σ with heap := σ.heap ++ [preparedOf σ p] } := ⟨_, rfl⟩
      rw [← hσ1]
      have hcl1 : σ1.classes[p]? = some cl := by rw [hσ1]; exact hcl
      have h2 : (setOwn σ1 p .fieldSchema (.list σ.heap.length)).classes[p]?
          = some { cl with own := assocSet cl.own .fieldSchema (.list σ.heap.length) } := by
        unfold setOwn; rw [classes_updCls]; simp [hcl1]
      have hheap : (updCls (setOwn σ1 p .fieldSchema (.list σ.heap.length)) p
          (setBuilt σ.heap.length (suppliedOf σ p))).heap = σ.heap ++ [preparedOf σ p] := by
        rw [heap_updCls]; unfold setOwn; rw [heap_updCls, hσ1]
      refine fun hw => ⟨hw, ?_, Or.inr ⟨σ.heap.length, fun a => ?_, ?_, ?_⟩⟩
      · rw [propsView_updCls _ p (setBuilt _ _) (fun _ => rfl) p]
        unfold setOwn
        rw [propsView_updCls _ p (fun cl => { cl with own := assocSet cl.own .fieldSchema (.list σ.heap.length) })
          (fun _ => rfl) p, hσ1]
      · rw [ownOf_updCls_self _ p _ _ h2]
        simp only [setBuilt, assoc_assocSet]
        simp [State.ownOf, hcl]
      · simp [State.items, hheap]
      · rw [builtOf_updCls_self _ p _ _ h2]; rfl

theorem lookup_ne_preparedFrom {σ τ : State} {p : ClassId} (h : PreparedFrom σ τ p) (c : ClassId) (a : Attr)
    (ha : a ≠ .fieldSchema) : τ.lookup c a = σ.lookup c a := by
  refine lookup_congr (h.mro c) (fun x _ => ?_)
  by_cases e : x = p
  · subst e
    rcases h.own_p with ⟨_, h1, _⟩ | ⟨r, h1, _, _⟩
    · rw [h1]
    · rw [h1 a, if_neg (fun e => ha e.symm)]
  · rw [h.ownOf x e]

/-- a first-match search along `pre ++ p :: tl` is not changed by making `p` answer what the search from `p` on
    answers anyway -/
theorem findSome?_patch {α β : Type} (f g : α → Option β) (pre tl : List α) (p : α) (d : β)
    (hpre : ∀ x ∈ pre, g x = f x) (hp : g p = some (((p :: tl).findSome? f).getD d)) :
    ((pre ++ p :: tl).findSome? g).getD d = ((pre ++ p :: tl).findSome? f).getD d := by
  rw [List.findSome?_append, List.findSome?_append, Lists.findSome?_ext g f pre hpre]
  cases pre.findSome? f with
  | some b => rfl
  | none => simp only [Option.none_or, List.findSome?_cons (a := p) (f := g), hp, Option.getD_some]

/-- the members a class is supplied with are the same before and after an ancestor (or the class
    itself) was prepared -/
theorem suppliedOf_preparedFrom {σ τ : State} {p : ClassId} (h : PreparedFrom σ τ p) (hwf : WF σ)
    (c : ClassId) (pre tl : List ClassId) (hm : σ.mroOf c = pre ++ σ.mroOf p) (hp : σ.mroOf p = p :: tl)
    (hpre : p ∉ pre) : suppliedOf τ c = suppliedOf σ c := by
  rcases h.own_p with ⟨_, h1, hb1⟩ | ⟨r, h1, _, hbuilt⟩
  · -- nothing was bound: owners, `_compound_built` and list contents are all unchanged
    refine suppliedOf_congr hwf h.items c (h.mro c) (fun x _ => ?_)
    by_cases e : x = p
    · rw [e]; exact ⟨h1, hb1⟩
    · exact ⟨h.ownOf x e, h.builtOf x e⟩
  · -- `p` owns the list its preparation built, and answers with what that preparation started from
    rw [suppliedOf_eq_first, suppliedOf_eq_first, h.mro c, hm, hp]
    refine findSome?_patch _ _ pre tl p [] (fun x hx => ?_) ?_
    · have e : x ≠ p := fun e => hpre (e ▸ hx)
      exact ownSupplied_congr hwf h.items x (h.ownOf x e) (h.builtOf x e)
    · rw [← hp, ← suppliedOf_eq_first]
      simp [ownSupplied, h1, hbuilt]

/-- Regeneration rule / history independence of compound members: let class `c` inherit
    from compound class `p` (or be `p` itself).  The member list `c` gets when it is prepared —
    the members it is supplied with (its own or inherited user list taken as it is; a list built
    by an ancestor's preparation replaced by what that preparation started from) followed by
    year/month/day generated from `c`'s own `optional` for the positions left open — is the same
    whether or not `p` was prepared (instantiated) before -/
theorem compound_fields_history_independent (σ : State) (hwf : WF σ) (p c : ClassId)
    (hp : p < σ.classes.length) (pre tl : List ClassId) (hm : σ.mroOf c = pre ++ σ.mroOf p)
    (hmp : σ.mroOf p = p :: tl) (hpre : p ∉ pre) :
    preparedOf (compoundInit σ p).1 c = preparedOf σ c := by
  have h := compoundInit_preparedFrom σ p hp
  unfold preparedOf optionalOf
  rw [suppliedOf_preparedFrom h hwf c pre tl hm hmp hpre,
    lookup_ne_preparedFrom h c .optional (by decide)]

/-- what `compoundInit` binds to `field_schema` is `preparedOf` (so the theorem above is about
    the list the class really gets), whenever members have to be generated -/
theorem compoundInit_stores (σ : State) (c : ClassId) (hc : c < σ.classes.length) (tl : List ClassId)
    (hm : σ.mroOf c = c :: tl)
    (h4 : (seqOf σ c .fieldSchema).length < 4) (h3 : (suppliedOf σ c).length ≠ 3) :
    seqOf (compoundInit σ c).1 c .fieldSchema = preparedOf σ c := by
  have h := compoundInit_preparedFrom σ c hc
  rcases h.own_p with ⟨h', _⟩ | ⟨r, h1, hitems, _⟩
  · rcases h' with h' | h'
    · exact absurd h4 (Nat.not_lt.2 h')
    · exact absurd h' h3
  · unfold seqOf State.lookup
    rw [h.mro c, hm]
    simp [h1, hitems]

theorem preparedOf_three (σ : State) (c : ClassId) (h3 : (suppliedOf σ c).length = 3) :
    preparedOf σ c = suppliedOf σ c := by
  unfold preparedOf preparedFields
  rw [h3]
  simp [generatedDefaults]

/-- Frame under lazy preparation (KF-C06-a): the first plain instantiation of an unprepared compound
    class `p` changes nothing but `field_schema`, and that only for the classes that have `p` in
    their MRO: every other attribute of every class, and every attribute of every class not below
    `p`, reads as before -/
theorem frame_lazy (σ : State) (hwf : WF σ) (s : Step) (p : ClassId) (hl : lazyPrep σ s = some p)
    (c : ClassId) :
    (∀ a, a ≠ .fieldSchema → deepLookup (step σ s).1 c a = deepLookup σ c a) ∧
    (p ∉ σ.mroOf c → ∀ a, deepLookup (step σ s).1 c a = deepLookup σ c a) := by
  rcases step_lazy_state σ s p hl with e | ⟨hp, e⟩
  · rw [e]; exact ⟨fun _ _ => rfl, fun _ _ => rfl⟩
  · rw [e]
    have h := compoundInit_preparedFrom σ p hp
    exact ⟨fun a ha => deepLookup_congr hwf h.items c a (lookup_ne_preparedFrom h c a ha),
      fun hnot => (frame_off hwf h.toTouches c (h.mro c) hnot).1⟩

theorem mem_of_assoc {α β : Type} [DecidableEq α] (l : List (α × β)) (a : α) (b : β)
    (h : assoc l a = some b) : (a, b) ∈ l :=
  Assoc.mem_of_get ((assoc_eq l a).symm.trans h)

theorem WF_of_wfB (σ : State) (h : wfB σ = true) : WF σ := by
  simp only [wfB, List.all_eq_true, List.mem_range, Bool.and_eq_true, decide_eq_true_eq] at h
  constructor
  · intro c x hx
    rcases Nat.lt_or_ge c σ.classes.length with hc | hc
    · exact (h c hc).1 x hx
    · simp [State.mroOf, List.getElem?_eq_none hc] at hx
  · intro c a r hr
    rcases Nat.lt_or_ge c σ.classes.length with hc | hc
    · have hall := (h c hc).2
      rcases hr with hr | hr | hr
      · have := hall _ (mem_of_assoc _ _ _ hr); simpa using this
      · have := hall _ (mem_of_assoc _ _ _ hr); simpa using this
      · have := hall _ (mem_of_assoc _ _ _ hr); simpa using this
    · have : σ.ownOf c = [] := by simp [State.ownOf, List.getElem?_eq_none hc]
      simp [this, assoc] at hr

/-- the full statement: no step at all changes any observable attribute of a pre-existing class -/
def C06_Full : Prop :=
  ∀ (σ : State) (s : Step) (c : ClassId) (a : Attr), WF σ → c < σ.classes.length →
    deepLookup (step σ s).1 c a = deepLookup σ c a

/-- the first plain instantiation of a lazily prepared compound type (DateYYYYMMDD) writes the
    generated members into `field_schema` of the class being instantiated -/
theorem C06_full_fails : ¬ C06_Full := by
  intro h
  have := h (initState .compound []) (.inst 0 []) 0 .fieldSchema (WF_of_wfB _ (by decide +kernel)) (by decide +kernel)
  revert this
  decide +kernel

/-- non-vacuity of `frame`: a reachable, well-formed store with a derivation chain, shared
    inherited lists and a prepared compound; every kind of step satisfies the hypothesis except
    the first plain instantiation of an unprepared compound -/
def exSteps : List Step :=
  [.validatedBy false 0 [1, 2], .includingValidators false 1 [3] (some (-4)), .named 2 (some ['x']),
   .using 3 [(.attr .optional, .bool true), (.properties, .pairs [(['a'], 1)])],
   .withProperties 4 [(['b'], 2)], .inst 0 [], .using 0 [(.attr .optional, .bool true)], .inst 6 []]

def exState : State := (run (initState .compound []) exSteps).1

theorem exState_wf : WF exState := WF_of_wfB _ (by decide +kernel)

example : lazyPrep exState (.includingValidators false 2 [9] none) = none := by decide +kernel
example : lazyPrep exState (.inst 0 []) = none := by decide +kernel          -- already prepared
example : lazyPrep exState (.inst 5 []) = some 5 := by decide +kernel        -- would be prepared now
example : observe (step exState (.includingValidators false 2 [9] (some 0))).1 2 = observe exState 2 :=
  frame_observe exState exState_wf _ (by decide +kernel) 2 (by decide +kernel)
/-- the step is not a no-op: the new class differs from its parent -/
example : deepLookup (step exState (.includingValidators false 2 [9] (some 0))).1 7 .validators
    = .list [.label 9, .label 1, .label 3, .label 2] := by decide +kernel
/-- history independence on this store: class 6 = class 0.using(optional=True), derived *after*
    class 0 was prepared, regenerates optional members (fix 71fc8fd) -/
example : deepLookup exState 6 .fieldSchema
    = .list [.gen "year".toList "%04i".toList true, .gen "month".toList "%02i".toList true,
             .gen "day".toList "%02i".toList true] := by decide +kernel

/-- non-vacuity of `compound_fields_history_independent`: class 1 is a date with one
    user-supplied (optional) member `y`, class 2 = class 1.using(optional=True) derived from it;
    the store is well formed and class 1 is not yet prepared -/
def partialSteps : List Step :=
  [.using 0 [(.attr .fieldSchema, .members [(['y'], true)])], .using 1 [(.attr .optional, .bool true)]]

def partialState : State := (run (initState .compound []) partialSteps).1

example : preparedOf (compoundInit partialState 1).1 2 = preparedOf partialState 2 :=
  compound_fields_history_independent partialState (WF_of_wfB _ (by decide +kernel)) 1 2 (by decide +kernel) [2] [0]
    (by decide +kernel) (by decide +kernel) (by decide +kernel)
/-- and the list in question is the regenerated one: `y` kept, month/day optional like class 2 -/
example : preparedOf (compoundInit partialState 1).1 2
    = [.user ['y'] true, .gen "month".toList "%02i".toList true, .gen "day".toList "%02i".toList true] := by
  decide +kernel
/-- while the prepared parent holds non-optional month/day — the members the derived class must not keep -/
example : seqOf (compoundInit partialState 1).1 1 .fieldSchema
    = [.user ['y'] true, .gen "month".toList "%02i".toList false, .gen "day".toList "%02i".toList false] := by
  decide +kernel

theorem PreparedFrom.propsOf {σ τ : State} {p : ClassId} (h : PreparedFrom σ τ p) (c : ClassId) :
    propsOf τ c = propsOf σ c := by
  unfold C06.propsOf
  rw [h.mro c]
  refine propsWalk_congr _ _ _ (fun x _ => ?_) []
  by_cases e : x = p
  · rw [e]; exact h.props
  · rw [h.cls x e]

/-- the guard of one step for observed class `c`: the step is not the lazy preparation of a
    class in `c`'s MRO (of `c` itself or of an ancestor) — KF-C06-a -/
def stepGuard (σ : State) (c : ClassId) (s : Step) : Bool :=
  match lazyPrep σ s with
  | none => true
  | some p => !(σ.mroOf c).contains p

def histGuard (c : ClassId) : State → List Step → Bool
  | _, [] => true
  | σ, s :: ss => stepGuard σ c s && histGuard c (step σ s).1 ss

/-- the guard says that the touched class is not in the MRO of the observed one: for a deriving step that is
    well-formedness, for a lazy preparation it is the condition itself -/
theorem touched_not_mem (σ : State) (hwf : WF σ) (s : Step) (c : ClassId) (hg : stepGuard σ c s = true) :
    touched σ s ∉ σ.mroOf c := by
  unfold stepGuard at hg
  unfold touched
  cases hl : lazyPrep σ s with
  | none => exact length_not_mem hwf c
  | some p => simpa [hl] using hg

/-- one step, lazy preparation of an unrelated class included -/
theorem frame_step (σ : State) (hwf : WF σ) (s : Step) (c : ClassId) (hc : c < σ.classes.length)
    (hg : stepGuard σ c s = true) :
    (∀ a, deepLookup (step σ s).1 c a = deepLookup σ c a) ∧ propsOf (step σ s).1 c = propsOf σ c :=
  have h := frame_off hwf (step_touches σ s) c (mroOf_step σ s c hc) (touched_not_mem σ hwf s c hg)
  ⟨h.1, h.2.1⟩

/-- Frame, all histories: along every chain of constructor calls and instantiations from a
    well-formed store, a class that existed at the start has at the end exactly the observable
    attributes (lists followed to their contents) and properties it had — provided no step of the
    chain lazily prepares that class or one of its ancestors (KF-C06-a) -/
theorem frame_history : ∀ (ss : List Step) (σ : State), WF σ → ∀ c, c < σ.classes.length →
    histGuard c σ ss = true →
    (∀ a, deepLookup (run σ ss).1 c a = deepLookup σ c a) ∧ propsOf (run σ ss).1 c = propsOf σ c := by
  intro ss
  induction ss with
  | nil => exact fun _ _ _ _ _ => ⟨fun _ => rfl, rfl⟩
  | cons s ss ih =>
    intro σ hwf c hc hg
    simp only [histGuard, Bool.and_eq_true] at hg
    obtain ⟨h1, h2⟩ := frame_step σ hwf s c hc hg.1
    obtain ⟨i1, i2⟩ := ih (step σ s).1 (WF_step σ hwf s) c (Nat.lt_of_lt_of_le hc (length_step_le σ s)) hg.2
    simp only [run]
    exact ⟨fun a => (i1 a).trans (h1 a), i2.trans h2⟩

theorem frame_history_observe (ss : List Step) (σ : State) (hwf : WF σ) (c : ClassId)
    (hc : c < σ.classes.length) (hg : histGuard c σ ss = true) :
    observe (run σ ss).1 c = observe σ c :=
  observe_congr (frame_history ss σ hwf c hc hg)

/-- so `histGuard` speaks about the same ancestors throughout -/
theorem mroOf_run : ∀ (ss : List Step) (σ : State) (c : ClassId), c < σ.classes.length →
    (run σ ss).1.mroOf c = σ.mroOf c ∧ σ.classes.length ≤ (run σ ss).1.classes.length := by
  intro ss
  induction ss with
  | nil => exact fun _ _ _ => ⟨rfl, Nat.le_refl _⟩
  | cons s ss ih =>
    intro σ c hc
    obtain ⟨h1, h2⟩ := ih (step σ s).1 c (Nat.lt_of_lt_of_le hc (length_step_le σ s))
    simp only [run]
    exact ⟨h1.trans (mroOf_step σ s c hc), Nat.le_trans (length_step_le σ s) h2⟩

theorem histGuard_of_no_lazy (c : ClassId) : ∀ (ss : List Step) (σ : State),
    (∀ (pre : List Step) (s : Step) (post : List Step), ss = pre ++ s :: post →
      lazyPrep (run σ pre).1 s = none) → histGuard c σ ss = true := by
  intro ss
  induction ss with
  | nil => exact fun _ _ => rfl
  | cons s ss ih =>
    intro σ h
    simp only [histGuard, Bool.and_eq_true]
    refine ⟨?_, ih _ (fun pre s' post e => ?_)⟩
    · have := h [] s ss rfl
      simp only [run] at this
      simp [stepGuard, this]
    · have := h (s :: pre) s' post (by rw [e]; rfl)
      simpa only [run] using this

/-- single inheritance: every MRO starts with the class itself, and the MRO of every class in
    it is a suffix of it -/
structure ChainWF (σ : State) : Prop where
  head : ∀ c, c < σ.classes.length → ∃ tl, σ.mroOf c = c :: tl
  suffix : ∀ c x, x ∈ σ.mroOf c → ∃ pre, σ.mroOf c = pre ++ σ.mroOf x ∧ x ∉ pre

theorem ChainWF_sameShape {σ τ : State} (h : ChainWF σ) (hs : SameShape σ τ) : ChainWF τ := by
  refine ⟨fun c hc => ?_, fun c x hx => ?_⟩
  · rw [hs.mro c]; exact h.head c (hs.len ▸ hc)
  · rw [hs.mro c] at hx ⊢; rw [hs.mro x]; exact h.suffix c x hx

theorem ChainWF_derived {σ τ : State} {p : ClassId} (h : ChainWF σ) (hwf : WF σ) (hd : Derived σ τ p) :
    ChainWF τ := by
  have hold : ∀ x, x < σ.classes.length → τ.mroOf x = σ.mroOf x := fun x hx => by
    rw [hd.mro x, if_neg (Nat.ne_of_lt hx)]
  refine ⟨fun c hc => ?_, fun c x hx => ?_⟩
  · rw [hd.mro c]
    split
    · rename_i e; exact ⟨σ.mroOf p, by rw [e]⟩
    · rename_i e
      rw [hd.len] at hc
      exact h.head c (Nat.lt_of_le_of_ne (Nat.le_of_lt_succ hc) e)
  · rw [hd.mro c] at hx ⊢
    split at hx
    · rename_i e
      rw [if_pos e]
      rcases List.mem_cons.1 hx with rfl | hx'
      · exact ⟨[], by rw [hd.mro, if_pos rfl]; rfl, by simp⟩
      · have hlt := hwf.mro_lt p x hx'
        obtain ⟨pre, h1, h2⟩ := h.suffix p x hx'
        refine ⟨σ.classes.length :: pre, by rw [hold x hlt, h1]; rfl, ?_⟩
        simp only [List.mem_cons, not_or]
        exact ⟨Nat.ne_of_lt hlt, h2⟩
    · rename_i e
      rw [if_neg e, hold x (hwf.mro_lt c x hx)]
      exact h.suffix c x hx

theorem ChainWF_step (σ : State) (hwf : WF σ) (h : ChainWF σ) (s : Step) : ChainWF (step σ s).1 := by
  rcases step_shape σ s with hs | ⟨_, hd⟩
  · exact ChainWF_sameShape h hs
  · exact ChainWF_derived h hwf hd

theorem ChainWF_initState (kind : Kind) (defaults : List (Attr × Val)) : ChainWF (initState kind defaults) := by
  refine ⟨fun c hc => ?_, fun c x hx => ?_⟩
  · have : c = 0 := by simp [initState] at hc; exact hc
    subst this; exact ⟨[], rfl⟩
  · cases c with
    | zero =>
      have : x = 0 := by simpa [initState, State.mroOf] using hx
      subst this; exact ⟨[], rfl, by simp⟩
    | succ n => simp [initState, State.mroOf] at hx

theorem optionalOf_eq (σ : State) (c : ClassId) :
    optionalOf σ c = match deepLookup σ c .optional with | .atom (.bool b) => b | _ => false := by
  unfold optionalOf deepLookup
  cases h : σ.lookup c .optional with
  | none => rfl
  | some v => cases v <;> rfl

theorem frame_step_any (σ : State) (hwf : WF σ) (hch : ChainWF σ) (s : Step) (c : ClassId)
    (hc : c < σ.classes.length) :
    (∀ a, a ≠ .fieldSchema → deepLookup (step σ s).1 c a = deepLookup σ c a) ∧
    propsOf (step σ s).1 c = propsOf σ c ∧
    suppliedOf (step σ s).1 c = suppliedOf σ c := by
  by_cases hin : touched σ s ∈ σ.mroOf c
  case neg =>
    obtain ⟨h1, h2⟩ := frame_off hwf (step_touches σ s) c (mroOf_step σ s c hc) hin
    exact ⟨fun a _ => h1 a, h2⟩
  -- the touched class is an ancestor of `c` (or `c`): it exists, so the step is its lazy preparation
  cases hl : lazyPrep σ s with
  | none => exact absurd (by unfold touched at hin; rwa [hl] at hin) (length_not_mem hwf c)
  | some p =>
    have hin' : p ∈ σ.mroOf c := by unfold touched at hin; rwa [hl] at hin
    refine ⟨(frame_lazy σ hwf s p hl c).1, ?_⟩
    rcases step_lazy_state σ s p hl with e | ⟨hp, e⟩ <;> rw [e]
    · exact ⟨rfl, rfl⟩
    have h := compoundInit_preparedFrom σ p hp
    obtain ⟨pre, hm, hpre⟩ := hch.suffix c p hin'
    obtain ⟨tl, htl⟩ := hch.head p hp
    exact ⟨h.propsOf c, suppliedOf_preparedFrom h hwf c pre tl hm htl hpre⟩

/-- What every history preserves (KF-C06-a): along every chain of constructor calls and
    instantiations whatsoever — lazily preparing instantiations of the class or of its ancestors
    included — a class that existed at the start keeps every attribute other than `field_schema`,
    its properties, and the user-supplied members of its `field_schema`; so all a lazy
    preparation can change is which *generated* year/month/day members the list holds -/
theorem frame_history_any : ∀ (ss : List Step) (σ : State), WF σ → ChainWF σ → ∀ c, c < σ.classes.length →
    (∀ a, a ≠ .fieldSchema → deepLookup (run σ ss).1 c a = deepLookup σ c a) ∧
    propsOf (run σ ss).1 c = propsOf σ c ∧
    suppliedOf (run σ ss).1 c = suppliedOf σ c := by
  intro ss
  induction ss with
  | nil => exact fun _ _ _ _ _ => ⟨fun _ _ => rfl, rfl, rfl⟩
  | cons s ss ih =>
    intro σ hwf hch c hc
    obtain ⟨h1, h2, h3⟩ := frame_step_any σ hwf hch s c hc
    obtain ⟨i1, i2, i3⟩ := ih (step σ s).1 (WF_step σ hwf s) (ChainWF_step σ hwf hch s) c
      (Nat.lt_of_lt_of_le hc (length_step_le σ s))
    simp only [run]
    exact ⟨fun a ha => (i1 a ha).trans (h1 a ha), i2.trans h2, i3.trans h3⟩

/-- `frame_history_any` in the terms of the runner's check (`observeNoFields` in `Spec.frameHolds`) -/
theorem frame_history_noFields (ss : List Step) (σ : State) (hwf : WF σ) (hch : ChainWF σ) (c : ClassId)
    (hc : c < σ.classes.length) : observeNoFields (run σ ss).1 c = observeNoFields σ c := by
  obtain ⟨h1, h2, _⟩ := frame_history_any ss σ hwf hch c hc
  exact obs_congr _ (fun a ha => h1 a (by simpa using (List.mem_filter.1 ha).2)) h2

/-- the member list the class gets when (re)prepared is the same at every point of every
    history: the class a constructor returns behaves the same whether or not the original — or
    anything else — was instantiated before -/
theorem preparedOf_history (ss : List Step) (σ : State) (hwf : WF σ) (hch : ChainWF σ) (c : ClassId)
    (hc : c < σ.classes.length) : preparedOf (run σ ss).1 c = preparedOf σ c := by
  obtain ⟨h1, _, h3⟩ := frame_history_any ss σ hwf hch c hc
  unfold preparedOf
  rw [h3, optionalOf_eq, h1 .optional (by decide), ← optionalOf_eq]

/-- the full statement over histories: no chain of steps changes any observable attribute of a
    class that existed before it.  False as it stands (KF-C06-a). -/
def C06_Full_history : Prop :=
  ∀ (σ : State) (ss : List Step) (c : ClassId) (a : Attr), WF σ → c < σ.classes.length →
    deepLookup (run σ ss).1 c a = deepLookup σ c a

theorem C06_full_history_fails : ¬ C06_Full_history := by
  intro h
  exact C06_full_fails (fun σ s c a hwf hc => by simpa only [run] using h σ [s] c a hwf hc)

/-- `C06_Full_history` under the decidable guard `histGuard`: no step lazily prepares the
    observed class or one of its ancestors -/
theorem c06_histories_partial (σ : State) (ss : List Step) (c : ClassId) (a : Attr) (hwf : WF σ)
    (hc : c < σ.classes.length) (hg : histGuard c σ ss = true) :
    deepLookup (run σ ss).1 c a = deepLookup σ c a :=
  (frame_history ss σ hwf c hc hg).1 a

/-- a Sequence type: `named → using → of → instantiate with overrides → using` -/
def chain0 : State := initState .seq [(.name, .none), (.optional, .bool false), (.memberSchema, .none)]

def chainSteps : List Step :=
  [.named 0 (some ['a']),
   .using 1 [(.attr .optional, .bool true), (.attr .validators, .labels [1, 2]), (.properties, .pairs [(['p'], 1)])],
   .of 2 [1],
   .inst 3 [(.attr .optional, .bool false), (.attr .name, .str ['z'])],
   .using 3 [(.attr .validators, .labels [7])]]

theorem chain0_wf : WF chain0 := WF_of_wfB _ (by decide +kernel)

example : (run chain0 chainSteps).2 = [.ok, .ok, .ok, .ok, .ok] ∧
    (run chain0 chainSteps).1.classes.length = 5 := by decide +kernel

/-- the first class (the built-in type's subclass the chain starts from) reads at the end as it
    read at the start … -/
example : observe (run chain0 chainSteps).1 0 = observe chain0 0 :=
  frame_history_observe chainSteps chain0 chain0_wf 0 (by decide +kernel) (by decide +kernel)

/-- … and the second class (returned by `named`) reads at the end as it read when it was returned -/
example : observe (run chain0 chainSteps).1 1 = observe (step chain0 (.named 0 (some ['a']))).1 1 :=
  frame_history_observe chainSteps.tail (step chain0 (.named 0 (some ['a']))).1
    (WF_step chain0 chain0_wf _) 1 (by decide +kernel) (by decide +kernel)

/-- the chain is not a no-op: the derived classes differ from the classes they came from -/
example :
    let τ := (run chain0 chainSteps).1
    deepLookup τ 0 .name = .atom .none ∧ deepLookup τ 1 .name = .atom (.str ['a']) ∧
    deepLookup τ 1 .optional = .atom (.bool false) ∧ deepLookup τ 2 .optional = .atom (.bool true) ∧
    deepLookup τ 2 .validators = .list [.label 1, .label 2] ∧ deepLookup τ 1 .validators = .absent ∧
    deepLookup τ 3 .memberSchema = .atom (.cls 1) ∧ deepLookup τ 2 .memberSchema = .atom .none ∧
    deepLookup τ 4 .validators = .list [.label 7] ∧ deepLookup τ 3 .validators = .list [.label 1, .label 2] ∧
    propsOf τ 2 = [(['p'], 1)] ∧ propsOf τ 1 = [] := by decide +kernel

/-- "the returned class is new": `of` on class 2 returns class 3, a direct subclass of class 2 -/
example : (step (run chain0 (chainSteps.take 2)).1 (.of 2 [1])).1.mroOf 3 = [3, 2, 1, 0] := by decide +kernel
example : isCtor (.of 2 [1]) = true ∧ (step (run chain0 (chainSteps.take 2)).1 (.of 2 [1])).2 = .ok := by decide +kernel

/-- the guard with a lazy preparation *in* the history: a DateYYYYMMDD-like root, two classes
    derived from it, then the first plain instantiation of class 1 — a sibling of class 2 and a
    child of class 0, so neither is affected -/
def dateSteps : List Step :=
  [.using 0 [(.attr .optional, .bool true)], .named 0 (some ['d']), .inst 1 []]

example : lazyPrep (run (initState .compound []) (dateSteps.take 2)).1 (.inst 1 []) = some 1 := by decide +kernel
example : histGuard 0 (initState .compound []) dateSteps = true := by decide +kernel
example : observe (run (initState .compound []) dateSteps).1 0 = observe (initState .compound []) 0 :=
  frame_history_observe dateSteps _ (WF_of_wfB _ (by decide +kernel)) 0 (by decide +kernel) (by decide +kernel)
/-- … while class 1 itself did change (the preparation is not a no-op) -/
example : deepLookup (run (initState .compound []) dateSteps).1 1 .fieldSchema
    ≠ deepLookup (run (initState .compound []) (dateSteps.take 2)).1 1 .fieldSchema := by decide +kernel

/-- KF-C06-a along a history: the witness chain is rejected by the guard for class 0, its
    `field_schema` does change, and `frame_history_noFields` / `preparedOf_history` say what does not -/
def kfSteps : List Step := [.inst 0 [], .using 0 [(.attr .optional, .bool true)], .inst 1 []]

example : histGuard 0 (initState .compound []) kfSteps = false := by decide +kernel
example : deepLookup (run (initState .compound []) kfSteps).1 0 .fieldSchema
    ≠ deepLookup (initState .compound []) 0 .fieldSchema := by decide +kernel
example : observeNoFields (run (initState .compound []) kfSteps).1 0 = observeNoFields (initState .compound []) 0 :=
  frame_history_noFields kfSteps _ (WF_of_wfB _ (by decide +kernel)) (ChainWF_initState _ _) 0 (by decide +kernel)
example : preparedOf (run (initState .compound []) kfSteps).1 0 = preparedOf (initState .compound []) 0 :=
  preparedOf_history kfSteps _ (WF_of_wfB _ (by decide +kernel)) (ChainWF_initState _ _) 0 (by decide +kernel)

/-- /repo 33c5842 (a user-supplied member list is taken as it is, whatever members it reuses):
    `Base = DateYYYYMMDD.using(); Base(); y, m, d = Base.field_schema;
    Custom = Base.using(field_schema=[y, m, d.using(optional=True)]); Custom()` -/
def reuseSteps : List Step :=
  [.inst 0 [], .using 0 [(.attr .fieldSchema, .memberRefs [.inr (0, 0, none), .inr (0, 1, none), .inr (0, 2, some true)])],
   .inst 1 []]

/-- the custom class keeps [year, month, day'] — the members the prepared base generated are not
    dropped (under 71fc8fd's marker rule the list became [day', month, day]) -/
example : seqOf (run (initState .compound []) reuseSteps).1 1 .fieldSchema
    = [.gen "year".toList "%04i".toList false, .gen "month".toList "%02i".toList false,
       .gen "day".toList "%02i".toList true] := by decide +kernel

/-- while a class that merely inherits the list the base's preparation built is regenerated from what
    that preparation started from (nothing) with its own `optional` -/
example : preparedOf (run (initState .compound []) [.inst 0 [], .using 0 [(.attr .optional, .bool true)]]).1 1
    = [.gen "year".toList "%04i".toList true, .gen "month".toList "%02i".toList true,
       .gen "day".toList "%02i".toList true] := by decide +kernel

end Flatland.C06.Proofs

