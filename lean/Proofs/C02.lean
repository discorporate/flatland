/-
C02 — hostile flat input is absorbed: total, confined, bounded, order-free.

Model: `Flatland.Flat.setFlat` / `fromFlat`.

Total: `fromFlat` is a total function.  After the repairs recorded in known_findings.json the only call of
`_set_flat` that can still raise is `int()` on an index of more than `maxDigits` digits, and it is caught
(`listAddr` returns `none`).  Totality of the model is by construction; that the *code* raises nowhere is what
the correspondence observes.  This file: the schema inductions, closed forms of `setFlat` on Arrays, Lists and
the field loop, and the ceiling (`bounded_fromFlat`).
-/
import Flatland.Flat
import Flatland.Spec.C01Sparse
import Proofs.Lemmas.Assoc
import Proofs.Lemmas.ListBasic
namespace Flatland.Flat.Proofs
open Flatland.Flat

def namesOf : List Schema → List (Option Str)
  | [] => []
  | f :: fs => f.name :: namesOf fs

mutual
/-- Dict fields are named and pairwise distinct (`Dict.of` raises otherwise) -/
def wf : Schema → Bool
  | .leaf .. => true
  | .dict _ _ _ fields => wfL fields && (namesOf fields).all Option.isSome && decide (namesOf fields).Nodup
  | .compound _ _ _ fields => wfL fields && (namesOf fields).all Option.isSome && decide (namesOf fields).Nodup
  | .list _ _ _ _ member => wf member
  | .array _ _ _ member => wf member
  | .joined _ _ _ member => wf member
def wfL : List Schema → Bool
  | [] => true
  | f :: fs => wf f && wfL fs
end

section rec
variable {P : Schema → Prop}
  (hleaf : ∀ nm o k, P (.leaf nm o k))
  (hjoined : ∀ nm o k m, P m → P (.joined nm o k m))
  (hdict : ∀ nm o mode fields, (∀ f ∈ fields, P f) → P (.dict nm o mode fields))
  (hcompound : ∀ nm o k fields, (∀ f ∈ fields, P f) → P (.compound nm o k fields))
  (hlist : ∀ nm o p mx member, P member → P (.list nm o p mx member))
  (harray : ∀ nm o p member, P member → P (.array nm o p member))
include hleaf hjoined hdict hcompound hlist harray

mutual
theorem schema_rec : ∀ s : Schema, P s
  | .leaf nm o k => hleaf nm o k
  | .joined nm o k m => hjoined nm o k m (schema_rec m)
  | .dict nm o mode fields => hdict nm o mode fields (schema_rec_list fields)
  | .compound nm o k fields => hcompound nm o k fields (schema_rec_list fields)
  | .list nm o p mx member => hlist nm o p mx member (schema_rec member)
  | .array nm o p member => harray nm o p member (schema_rec member)
theorem schema_rec_list : ∀ fs : List Schema, ∀ f ∈ fs, P f
  | [] => fun f hf => by simp at hf
  | g :: gs => by
    have h1 := schema_rec g
    have h2 := schema_rec_list gs
    intro f hf
    rcases List.mem_cons.mp hf with rfl | h
    · exact h1
    · exact h2 f h
end

end rec

-- the members of a JoinedString are never flattened: most inductions stop there
section ind
variable {P : Schema → Prop}
  (hleaf : ∀ nm o k, P (.leaf nm o k))
  (hjoined : ∀ nm o k m, P (.joined nm o k m))
  (hdict : ∀ nm o mode fields, (∀ f ∈ fields, P f) → P (.dict nm o mode fields))
  (hcompound : ∀ nm o k fields, (∀ f ∈ fields, P f) → P (.compound nm o k fields))
  (hlist : ∀ nm o p mx member, P member → P (.list nm o p mx member))
  (harray : ∀ nm o p member, P member → P (.array nm o p member))
include hleaf hjoined hdict hcompound hlist harray

theorem schema_ind : ∀ s : Schema, P s :=
  schema_rec hleaf (fun nm o k m _ => hjoined nm o k m) hdict hcompound hlist harray

theorem schema_ind_list : ∀ fs : List Schema, ∀ f ∈ fs, P f :=
  fun _ f _ => schema_ind hleaf hjoined hdict hcompound hlist harray f

end ind

/-- `Compound._set_flat` is `Mapping._set_flat`: for whatever treats the two alike the Compound case
    follows from the dense Dict of the same fields, through the `…_compound` equations -/
theorem schema_ind_mapping {P : Schema → Prop}
    (hleaf : ∀ nm o k, P (.leaf nm o k)) (hjoined : ∀ nm o k m, P (.joined nm o k m))
    (hdict : ∀ nm o mode fields, (∀ f ∈ fields, P f) → P (.dict nm o mode fields))
    (hcompound : ∀ nm o k fields, P (.dict nm o .dense fields) → P (.compound nm o k fields))
    (hlist : ∀ nm o p mx member, P member → P (.list nm o p mx member))
    (harray : ∀ nm o p member, P member → P (.array nm o p member)) : ∀ s, P s :=
  schema_ind hleaf hjoined hdict
    (fun nm o k fields ih => hcompound nm o k fields (hdict nm o .dense fields ih)) hlist harray

theorem setFlat_compound (env : Env) (sep : Str) (nm : Option Str) (o : Bool) (k : Nat)
    (fs : List Schema) (e : Elem) (ps : Pairs) :
    setFlat env sep (.compound nm o k fs) e ps = setFlat env sep (.dict nm o .dense fs) e ps := by
  rw [setFlat, setFlat]

theorem blank_compound (nm : Option Str) (o : Bool) (k : Nat) (fs : List Schema) :
    blank (.compound nm o k fs) = blank (.dict nm o .dense fs) := by rw [blank, blank]

theorem wf_compound_eq (nm : Option Str) (o : Bool) (k : Nat) (fs : List Schema) :
    wf (.compound nm o k fs) = wf (.dict nm o .dense fs) := by rw [wf, wf]

theorem andL_iff {X : Schema → Bool} {XL : List Schema → Bool} (hnil : XL [] = true)
    (hcons : ∀ f fs, XL (f :: fs) = (X f && XL fs)) (fs : List Schema) :
    XL fs = true ↔ ∀ f ∈ fs, X f = true := by
  induction fs with
  | nil => simp [hnil]
  | cons g gs ih => rw [hcons, Bool.and_eq_true, ih, List.forall_mem_cons]

theorem wfL_iff (fs : List Schema) : wfL fs = true ↔ ∀ f ∈ fs, wf f = true := andL_iff rfl (fun _ _ => rfl) fs

theorem wf_of_mem {fs : List Schema} (h : wfL fs = true) : ∀ f ∈ fs, wf f = true := (wfL_iff fs).mp h

theorem namesOf_map_name (fields : List Schema) : namesOf fields = fields.map (·.name) := by
  induction fields with
  | nil => rfl
  | cons g gs ih => rw [namesOf, ih]; rfl

theorem mem_namesOf {g : Schema} {fs : List Schema} (h : g ∈ fs) : g.name ∈ namesOf fs :=
  namesOf_map_name fs ▸ List.mem_map_of_mem h

theorem namesOf_append (a b : List Schema) : namesOf (a ++ b) = namesOf a ++ namesOf b := by
  simp only [namesOf_map_name, List.map_append]

theorem exists_of_mem_namesOf {n : Option Str} {fs : List Schema} (h : n ∈ namesOf fs) :
    ∃ g ∈ fs, g.name = n :=
  List.mem_map.mp (namesOf_map_name fs ▸ h)

theorem allSome_of (fs : List Schema) (h : (namesOf fs).all Option.isSome = true) :
    ∀ g ∈ fs, g.name.isSome := by
  intro g hg
  exact List.all_eq_true.mp h _ (mem_namesOf hg)

theorem wf_dict {nm : Option Str} {o : Bool} {mode : DictMode} {fields : List Schema}
    (hw : wf (.dict nm o mode fields) = true) :
    (namesOf fields).Nodup ∧ (∀ g ∈ fields, g.name.isSome) ∧ ∀ f ∈ fields, wf f = true := by
  simp only [wf, Bool.and_eq_true, decide_eq_true_eq] at hw
  exact ⟨hw.2, allSome_of fields hw.1.2, wf_of_mem hw.1.1⟩

theorem wf_compound {nm : Option Str} {o : Bool} {k : Nat} {fields : List Schema}
    (hw : wf (.compound nm o k fields) = true) :
    (namesOf fields).Nodup ∧ (∀ g ∈ fields, g.name.isSome) ∧ ∀ f ∈ fields, wf f = true :=
  wf_dict (nm := nm) (o := o) (mode := .dense) hw

theorem findField_eq (k : Str) (fields : List Schema) :
    findField k fields = fields.find? (fun f => f.name = some k) := by
  induction fields with
  | nil => rfl
  | cons g gs ih => simp only [findField, List.find?_cons, ih]; split <;> simp_all

theorem findField_unique {fields : List Schema} (hnd : (namesOf fields).Nodup) {f : Schema}
    (hf : f ∈ fields) {k : Str} (hk : f.name = some k) : findField k fields = some f := by
  rw [findField_eq]; exact Lists.find?_key_of_mem _ (namesOf_map_name fields ▸ hnd) hf hk

/-- the key a declared field is held under -/
def nmOf (f : Schema) : Str := f.name.getD []

theorem name_eq_nmOf {fs : List Schema} (hsome : ∀ g ∈ fs, g.name.isSome) {f : Schema} (hf : f ∈ fs) :
    f.name = some (nmOf f) := by
  have := hsome f hf
  unfold nmOf
  cases hn : f.name with
  | none => simp [hn] at this
  | some x => simp

theorem findField_of_mem (f : Schema) (all : List Schema) (hn : (namesOf all).Nodup)
    (hs : ∀ g ∈ all, g.name.isSome) (hm : f ∈ all) :
    findField (f.name.getD []) all = some f :=
  findField_unique hn hm (name_eq_nmOf hs hm)

theorem getD_inj {a b : Option Str} (ha : a.isSome) (hb : b.isSome) (h : a.getD [] = b.getD []) :
    a = b := by
  cases a <;> cases b <;> simp_all

theorem nodup_of_map_some {α} (l : List α) (h : (l.map some).Nodup) : l.Nodup :=
  (List.pairwise_map.1 h).imp (fun h e => h (congrArg some e))

theorem namesOf_eq_map (fs : List Schema) (hsome : ∀ g ∈ fs, g.name.isSome) :
    namesOf fs = (fs.map nmOf).map some := by
  induction fs with
  | nil => rfl
  | cons f fs ih =>
    simp only [namesOf, List.map_cons]
    rw [ih (fun g hg => hsome g (List.mem_cons_of_mem _ hg)),
      name_eq_nmOf hsome (List.mem_cons_self ..)]

theorem nmOf_nodup (fs : List Schema) (hnd : (namesOf fs).Nodup) (hsome : ∀ g ∈ fs, g.name.isSome) :
    (fs.map nmOf).Nodup := by
  apply nodup_of_map_some
  rw [← namesOf_eq_map fs hsome]; exact hnd

theorem field_eq_of_nmOf {fs : List Schema} (hnd : (namesOf fs).Nodup) (hsome : ∀ g ∈ fs, g.name.isSome)
    {f g : Schema} (hf : f ∈ fs) (hg : g ∈ fs) (h : nmOf f = nmOf g) : f = g := by
  have h1 := findField_unique hnd hf (name_eq_nmOf hsome hf)
  have h2 := findField_unique hnd hg (name_eq_nmOf hsome hg)
  rw [h, h2] at h1
  injection h1 with h1
  exact h1.symm

def blankSel (req : Schema → Bool) : List Schema → List (Str × Elem)
  | [] => []
  | f :: fs => if req f then (f.name.getD [], blank f) :: blankSel req fs else blankSel req fs

theorem blankSel_eq (req : Schema → Bool) (fs : List Schema) :
    blankSel req fs = (fs.filter req).map (fun f => (nmOf f, blank f)) := by
  induction fs with
  | nil => rfl
  | cons f fs ih => cases hr : req f <;> simp [blankSel, nmOf, hr, ih]

theorem mem_blankSel {req : Schema → Bool} {fs : List Schema} {p : Str × Elem} :
    p ∈ blankSel req fs ↔ ∃ f ∈ fs, req f = true ∧ p = (nmOf f, blank f) := by
  simp only [blankSel_eq, List.mem_map, List.mem_filter]
  exact ⟨fun ⟨f, ⟨hf, hr⟩, h⟩ => ⟨f, hf, hr, h.symm⟩, fun ⟨f, hf, hr, h⟩ => ⟨f, ⟨hf, hr⟩, h.symm⟩⟩

theorem blankFields_sel (fs : List Schema) : blankFields fs = blankSel (fun _ => true) fs := by
  induction fs with
  | nil => rfl
  | cons f fs ih => simp [blankFields, blankSel, ih]

theorem blankRequired_sel (fs : List Schema) : blankRequired fs = blankSel (fun f => !f.opt) fs := by
  induction fs with
  | nil => rfl
  | cons f fs ih =>
    simp only [blankRequired, blankSel, ih]
    by_cases h : f.opt = true
    · simp [h]
    · simp [h]

theorem blankNone_sel (fs : List Schema) : ([] : List (Str × Elem)) = blankSel (fun _ => false) fs := by
  induction fs with
  | nil => rfl
  | cons f fs ih => simp [blankSel, ← ih]

/-- `cls()` of a Dict / SparseDict holds a blank member for each of its minimum fields -/
theorem blank_dict_members (nm : Option Str) (o : Bool) (mode : DictMode) (fields : List Schema) :
    blank (.dict nm o mode fields) = .dict (blankSel (Spec.isReq mode) fields) := by
  cases mode with
  | dense =>
    simp only [blank, blankFields_sel]; congr
  | sparse =>
    simp only [blank]; rw [blankNone_sel fields]; congr
  | sparseReq =>
    simp only [blank, blankRequired_sel]; congr

def fieldsOf : Schema → List Schema
  | .dict _ _ _ fs => fs
  | .compound _ _ _ fs => fs
  | _ => []

def memberOf : Schema → Option Schema
  | .list _ _ _ _ m => some m
  | .array _ _ _ m => some m
  | .joined _ _ _ m => some m
  | _ => none

def maxOf : Schema → Option Nat
  | .list _ _ _ mx _ => some mx
  | _ => none

mutual
/-- every List node of the element holds at most its schema's `maximum_set_flat_members` members -/
def bounded : Schema → Elem → Bool
  | _, .leaf _ => true
  | s, .dict ms => boundedMembers (fieldsOf s) ms
  | s, .list ms =>
    (match maxOf s with | some mx => decide (ms.length ≤ mx) | none => true) &&
    (match memberOf s with | some m => boundedList m ms | none => true)
  | s, .array ms => (match memberOf s with | some m => boundedList m ms | none => true)
  | s, .joined _ ms => (match memberOf s with | some m => boundedList m ms | none => true)
def boundedMembers (fields : List Schema) : List (Str × Elem) → Bool
  | [] => true
  | (k, e) :: rest =>
    (match findField k fields with | some f => bounded f e | none => true) && boundedMembers fields rest
def boundedList (m : Schema) : List Elem → Bool
  | [] => true
  | e :: es => bounded m e && boundedList m es
end

theorem bounded_compound (nm : Option Str) (o : Bool) (k : Nat) (fs : List Schema) (e : Elem) :
    bounded (.compound nm o k fs) e = bounded (.dict nm o .dense fs) e := by
  cases e <;> rfl

theorem boundedMembers_iff (fields : List Schema) (ms : List (Str × Elem)) :
    boundedMembers fields ms = true ↔ ∀ p ∈ ms, ∀ f, findField p.1 fields = some f → bounded f p.2 = true := by
  induction ms with
  | nil => simp [boundedMembers]
  | cons x xs ih =>
    obtain ⟨k, e⟩ := x
    simp only [boundedMembers, Bool.and_eq_true, ih, List.forall_mem_cons]
    refine and_congr_left fun _ => ?_
    cases findField k fields <;> simp

theorem boundedList_map {α} (m : Schema) (f : α → Elem) (h : ∀ i, bounded m (f i) = true)
    (l : List α) : boundedList m (l.map f) = true := by
  induction l with
  | nil => simp [boundedList]
  | cons i is ih => simp [boundedList, h i, ih]

theorem boundedMembers_blankSel (req : Schema → Bool) (fs all : List Schema) (hn : (namesOf all).Nodup)
    (hs : ∀ g ∈ all, g.name.isSome) (hsub : ∀ f ∈ fs, f ∈ all) (hb : ∀ f ∈ fs, bounded f (blank f) = true) :
    boundedMembers all (blankSel req fs) = true := by
  rw [boundedMembers_iff]
  intro p hp g hg
  obtain ⟨f, hf, _, rfl⟩ := mem_blankSel.mp hp
  obtain rfl : f = g := Option.some.inj ((findField_of_mem f all hn hs (hsub f hf)).symm.trans hg)
  exact hb f hf

theorem bounded_blank : ∀ s : Schema, wf s = true → bounded s (blank s) = true := by
  intro s
  induction s using schema_ind_mapping with
  | hdict nm o mode fields ih =>
    intro hw
    obtain ⟨hn, hs, hwf⟩ := wf_dict hw
    rw [blank_dict_members, bounded, fieldsOf]
    exact boundedMembers_blankSel _ fields fields hn hs (fun _ h => h) (fun f hf => ih f hf (hwf f hf))
  | hcompound nm o k fields h => simpa only [wf_compound_eq, blank_compound, bounded_compound] using h
  | hleaf => intro _; rfl
  | hjoined => intro _; rfl
  | hlist => intro _; rfl
  | harray => intro _; rfl

theorem boundedMembers_blankFields : ∀ (fs all : List Schema), wfL fs = true →
    (namesOf all).Nodup → (∀ g ∈ all, g.name.isSome) → (∀ f ∈ fs, f ∈ all) →
    boundedMembers all (blankFields fs) = true :=
  fun fs all hw hn hs hsub => blankFields_sel fs ▸
    boundedMembers_blankSel _ fs all hn hs hsub (fun f hf => bounded_blank f (wf_of_mem hw f hf))

theorem boundedMembers_blankRequired : ∀ (fs all : List Schema), wfL fs = true →
    (namesOf all).Nodup → (∀ g ∈ all, g.name.isSome) → (∀ f ∈ fs, f ∈ all) →
    boundedMembers all (blankRequired fs) = true :=
  fun fs all hw hn hs hsub => blankRequired_sel fs ▸
    boundedMembers_blankSel _ fs all hn hs hsub (fun f hf => bounded_blank f (wf_of_mem hw f hf))

theorem boundedMembers_membersOf (s : Schema) (e : Elem) (h : bounded s e = true) :
    boundedMembers (fieldsOf s) (membersOf e) = true := by
  cases e <;> simp_all [membersOf, bounded, boundedMembers]

/-- does this pair yield a member of an unnamed Array, and with which key -/
def anonPass (prune : Bool) (cn : Option Str) (p : Key × Str) : Option (Key × Str) :=
  if prune && p.2.isEmpty && p.1 == some (if truthy cn then cn.getD [] else []) then none
  else
    let key' : Key := if p.1 == some [] then none else p.1
    if truthy cn && key' != cn then none
    else if !truthy cn && key'.isSome then none
    else some (key', p.2)

theorem arrayAnon_eq (setM : Pairs → Elem) (prune : Bool) (cn : Option Str) (ps : Pairs) :
    arrayAnon setM prune cn ps = (ps.filterMap (anonPass prune cn)).map (fun q => setM [q]) := by
  induction ps with
  | nil => rfl
  | cons p ps ih =>
    obtain ⟨key, v⟩ := p
    simp only [arrayAnon, List.filterMap_cons, anonPass, ih]
    generalize (prune && v.isEmpty && key == some (if truthy cn = true then cn.getD [] else [])) = c1
    generalize (truthy cn && (if (key == some []) = true then none else key) != cn) = c2
    generalize (!truthy cn && (if (key == some []) = true then none else key).isSome) = c3
    cases c1 <;> cases c2 <;> cases c3 <;> rfl

def namedPass (sep : Str) (prune : Bool) (name : Str) (cn : Option Str) (p : Key × Str) :
    Option (Key × Str) :=
  match p.1 with
  | none => none
  | some k =>
    match arrayRemainder sep name k with
    | none => none
    | some remainder =>
      if truthy cn && remainder.isNone then none
      else if remainder != cn then none
      else if prune && p.2.isEmpty then none
      else some (remainder, p.2)

theorem arrayNamed_eq (setM : Pairs → Elem) (sep : Str) (prune : Bool) (name : Str) (cn : Option Str)
    (ps : Pairs) :
    arrayNamed setM sep prune name cn ps
      = (ps.filterMap (namedPass sep prune name cn)).map (fun q => setM [q]) := by
  induction ps with
  | nil => rfl
  | cons p ps ih =>
    obtain ⟨key, v⟩ := p
    cases key with
    | none => simp only [arrayNamed, List.filterMap_cons, namedPass, ih]
    | some k =>
      simp only [arrayNamed, List.filterMap_cons, namedPass, ih]
      cases arrayRemainder sep name k with
      | none => rfl
      | some rem =>
        simp only
        generalize (truthy cn && rem.isNone) = c1
        generalize (rem != cn) = c2
        generalize (prune && v.isEmpty) = c3
        cases c1 <;> cases c2 <;> cases c3 <;> rfl

/-- which pairs yield a member of an Array, and with which key: both branches of `Array._set_flat` -/
def arrayPass (sep : Str) (name : Option Str) (prune : Bool) (cn : Option Str) :
    Key × Str → Option (Key × Str) :=
  if !truthy name then anonPass prune cn else namedPass sep prune (name.getD []) cn

theorem setFlat_array (env : Env) (sep : Str) (name : Option Str) (o prune : Bool) (member : Schema)
    (e : Elem) (ps : Pairs) :
    setFlat env sep (.array name o prune member) e ps
      = .array ((ps.filterMap (arrayPass sep name prune member.name)).map
          (fun q => setFlat env sep member (blank member) [q])) := by
  simp only [setFlat, arrayPass]
  split <;> simp only [arrayAnon_eq, arrayNamed_eq]

theorem setFlat_blank_nil (env : Env) (sep : Str) (s : Schema) :
    setFlat env sep s (blank s) [] = blank s := by
  cases s with
  | leaf name o k => simp [setFlat]
  | dict name o mode fields => simp [setFlat, possibles]; cases name <;> simp
  | compound name o k fields => simp [setFlat, possibles]; cases name <;> simp
  | list name o prune mx member => simp [setFlat, blank]
  | array name o prune member => simp [setFlat, blank, arrayAnon, arrayNamed]
  | joined name o k member => simp [setFlat]

/-- the slots `List._set_flat` builds: the distinct indexes in order when pruning, else `0 … max`;
    never more than `maximum_set_flat_members` -/
def slotIdxs (prune : Bool) (mx : Nat) (idxs : List Nat) : List Nat :=
  if idxs.isEmpty then [] else if prune then (sortedDistinct idxs).take mx
  else List.range (min (idxs.foldl max 0 + 1) mx)

/-- the emptiness tests of `List._set_flat` change nothing: no pairs means no indexes, and a slot
    whose group is empty is `set_flat` of nothing on a blank member -/
theorem setFlat_list (env : Env) (sep : Str) (name : Option Str) (o prune : Bool) (mx : Nat)
    (member : Schema) (e : Elem) (ps : Pairs) :
    setFlat env sep (.list name o prune mx member) e ps
      = .list ((slotIdxs prune mx (indexesOf env sep name prune ps)).map
          (fun i => setFlat env sep member (blank member) (groupOf env sep name prune i ps))) := by
  have hslot : ∀ l : List Nat, buildSlots (blank member) (fun g => setFlat env sep member (blank member) g) l
        (fun i => groupOf env sep name prune i ps)
      = l.map (fun i => setFlat env sep member (blank member) (groupOf env sep name prune i ps)) := by
    intro l
    apply List.map_congr_left
    intro i _
    split
    · rename_i h
      have h' : groupOf env sep name prune i ps = [] := List.isEmpty_iff.mp h
      rw [h', setFlat_blank_nil]
    · rfl
  simp only [setFlat, slotIdxs, hslot]
  cases ps with
  | nil => simp [indexesOf]
  | cons p ps =>
    simp only [List.isEmpty_cons, Bool.false_eq_true, if_false]
    split
    · rfl
    · cases prune <;> simp

theorem slotIdxs_length_le (prune : Bool) (mx : Nat) (idxs : List Nat) :
    (slotIdxs prune mx idxs).length ≤ mx := by
  unfold slotIdxs
  split
  · simp
  · split
    · simp [List.length_take]; omega
    · simp [Nat.min_le_right]

/-- one iteration of the `for schema in self.field_schema` loop -/
def stepM (env : Env) (sep : Str) (f : Schema) (members : List (Str × Elem)) (accum : List (Str × Str)) :
    List (Str × Elem) :=
  if accum.isEmpty then members
  else match lookup (f.name.getD []) members with
    | some child => replace (f.name.getD []) (setFlat env sep f child (wrap accum)) members
    | none => members ++ [(f.name.getD [], setFlat env sep f (blank f) (wrap accum))]

theorem setFields_cons (env : Env) (sep : Str) (f : Schema) (fs : List Schema)
    (members : List (Str × Elem)) (poss : List (Str × Str)) :
    setFields env sep (f :: fs) members poss
      = setFields env sep fs
          (stepM env sep f members (poss.filter (fun p => isPrefix (f.name.getD []) p.1))) poss := by
  rw [setFields]
  unfold stepM
  rfl

theorem setFields_ind {I : List (Str × Elem) → Prop} (env : Env) (sep : Str) (poss : List (Str × Str)) :
    ∀ (fs : List Schema) (ms : List (Str × Elem)),
    (∀ f ∈ fs, ∀ m acc, I m → I (stepM env sep f m acc)) → I ms → I (setFields env sep fs ms poss) := by
  intro fs
  induction fs with
  | nil => intro ms _ h; simpa [setFields] using h
  | cons f fs ih =>
    intro ms hstep h
    rw [setFields_cons]
    exact ih _ (fun g hg => hstep g (List.mem_cons_of_mem _ hg)) (hstep f (by simp) ms _ h)

theorem lookup_eq (key : Str) (ms : List (Str × Elem)) : lookup key ms = Assoc.get ms key :=
  Assoc.get_unique (fun ms k => lookup k ms) (fun _ => rfl) (fun _ _ _ _ => rfl) ms key

theorem replace_eq (key : Str) (e : Elem) (ms : List (Str × Elem)) : replace key e ms = Assoc.replace ms key e := by
  induction ms with
  | nil => rfl
  | cons p r ih => simp only [replace, Assoc.replace, ih]; split <;> simp_all

theorem stepM_eq (env : Env) (sep : Str) (f : Schema) (ms : List (Str × Elem)) (acc : List (Str × Str)) :
    stepM env sep f ms acc = if acc.isEmpty then ms else
      Assoc.set ms (f.name.getD []) (setFlat env sep f ((lookup (f.name.getD []) ms).getD (blank f)) (wrap acc)) := by
  unfold stepM
  split
  · rfl
  · cases h : lookup (f.name.getD []) ms with
    | some child =>
      simp only [Option.getD_some]
      rw [replace_eq, Assoc.replace_eq, if_pos (Assoc.isSome_get_iff.mp (by rw [← lookup_eq, h]; rfl))]
    | none =>
      simp only [Option.getD_none]
      rw [Assoc.set_of_not_mem (Assoc.get_eq_none_iff.mp ((lookup_eq _ _).symm.trans h))]

theorem lookup_stepM_ne {env : Env} {sep : Str} {f : Schema} {k : Str} (h : f.name.getD [] ≠ k)
    (ms : List (Str × Elem)) (acc : List (Str × Str)) : lookup k (stepM env sep f ms acc) = lookup k ms := by
  rw [stepM_eq]
  split
  · rfl
  · rw [lookup_eq, Assoc.get_set_ne _ _ h, lookup_eq]

theorem mem_stepM {env : Env} {sep : Str} {f : Schema} {ms : List (Str × Elem)} {acc : List (Str × Str)}
    {p : Str × Elem} (h : p ∈ stepM env sep f ms acc) :
    p ∈ ms ∨ ∃ child, ((f.name.getD [], child) ∈ ms ∨ child = blank f) ∧
      p = (f.name.getD [], setFlat env sep f child (wrap acc)) := by
  rw [stepM_eq] at h
  split at h
  · exact .inl h
  · refine (Assoc.mem_set h).symm.imp_right fun hp => ⟨_, ?_, hp⟩
    cases hl : lookup (f.name.getD []) ms with
    | some c => exact .inl (Assoc.mem_of_get ((lookup_eq _ _).symm.trans hl))
    | none => exact .inr rfl

theorem bounded_setFields_of (env : Env) (sep : Str) (all : List Schema) (hn : (namesOf all).Nodup)
    (hs : ∀ g ∈ all, g.name.isSome) (poss : List (Str × Str)) : ∀ (fs : List Schema), wfL fs = true →
    (∀ f ∈ fs, wf f = true → ∀ (e : Elem) (ps : Pairs), bounded f e = true →
      bounded f (setFlat env sep f e ps) = true) →
    (∀ f ∈ fs, f ∈ all) → ∀ members : List (Str × Elem), boundedMembers all members = true →
    boundedMembers all (setFields env sep fs members poss) = true := by
  intro fs hw hih hsub members
  refine setFields_ind (I := fun m => boundedMembers all m = true) env sep poss fs members ?_
  intro f hf m acc hm
  rw [boundedMembers_iff] at hm ⊢
  intro p hp g hg
  rcases mem_stepM hp with h | ⟨child, hc, rfl⟩
  · exact hm p h g hg
  · have hfind := findField_of_mem f all hn hs (hsub f hf)
    obtain rfl : f = g := Option.some.inj (hfind.symm.trans hg)
    have hwf := wf_of_mem hw f hf
    apply hih f hf hwf
    rcases hc with hc | rfl
    · exact hm _ hc f hfind
    · exact bounded_blank f hwf

theorem bounded_setFlat (env : Env) (sep : Str) : ∀ (s : Schema) (e : Elem) (ps : Pairs),
    wf s = true → bounded s e = true → bounded s (setFlat env sep s e ps) = true := by
  intro s
  induction s using schema_ind with
  | hleaf name o k =>
    intro e ps _ he
    simp only [setFlat]
    split
    · simp [bounded]
    · exact he
  | hjoined name o k member =>
    intro e ps hw he
    simp only [setFlat]
    split
    · simp only [bounded, memberOf]
      generalize env.joinedMembers k _ = l
      induction l with
      | nil => simp [boundedList]
      | cons x xs ih => simp [boundedList, bounded, ih]
    · exact he
  | hdict name o _ fields ih | hcompound name o _ fields ih =>
    intro e ps hw he
    simp only [setFlat]
    split
    · exact he
    · simp only [wf, Bool.and_eq_true] at hw
      simp only [bounded, fieldsOf]
      exact bounded_setFields_of env sep fields (by simpa using hw.2) (allSome_of fields hw.1.2) _ fields hw.1.1
        (fun f hf hwf e ps => ih f hf e ps hwf) (fun f hf => hf) _ (boundedMembers_membersOf _ e he)
  | hlist name o prune mx member ih =>
    intro e ps hw _
    simp only [wf] at hw
    rw [setFlat_list]
    simp only [bounded, maxOf, memberOf, List.length_map, Bool.and_eq_true, decide_eq_true_eq]
    exact ⟨slotIdxs_length_le _ _ _,
      boundedList_map member _ (fun i => ih (blank member) _ hw (bounded_blank member hw)) _⟩
  | harray name o prune member ih =>
    intro e ps hw _
    simp only [wf] at hw
    rw [setFlat_array]
    simp only [bounded, memberOf]
    exact boundedList_map member _ (fun q => ih (blank member) [q] hw (bounded_blank member hw)) _

theorem bounded_setFields (env : Env) (sep : Str) : ∀ (fs all : List Schema)
    (members : List (Str × Elem)) (poss : List (Str × Str)), wfL fs = true →
    (namesOf all).Nodup → (∀ g ∈ all, g.name.isSome) → (∀ f ∈ fs, f ∈ all) →
    boundedMembers all members = true →
    boundedMembers all (setFields env sep fs members poss) = true :=
  fun fs all members poss hw hn hs hsub hm =>
    bounded_setFields_of env sep all hn hs poss fs hw
      (fun f _ hwf e ps => bounded_setFlat env sep f e ps hwf) hsub members hm

/-- C02, bounded: whatever pairs `from_flat` is given — any keys, any index values, both rebuild
    modes, every nesting level, every `prune_empty` — no List of the resulting tree holds more than
    its `maximum_set_flat_members` members. -/
theorem bounded_fromFlat (env : Env) (sep : Str) (s : Schema) (hw : wf s = true)
    (ps : List (Str × Str)) : bounded s (fromFlat env sep s ps) = true :=
  bounded_setFlat env sep s (blank s) (wrap ps) hw (bounded_blank s hw)

/-- the invariant is not vacuous: it rejects a list above its ceiling -/
example : bounded (.list none false false 1 (.leaf none false 0)) (.list [.leaf [], .leaf []]) = false := by
  decide +kernel

/-- a well-formed schema with a ceiling of 2 that the theorem applies to -/
example : wf (.dict none false .dense
    [.list (some "l".toList) false false 2 (.leaf (some "s".toList) false 0)]) = true := by decide +kernel

end Flatland.Flat.Proofs
