/-
C07 on the tree model — "list members contribute their CURRENT index".  `flattenTree` builds the key of a List member from
the name STORED in its ListSlot; `specFlatten` is the same walk with POSITIONS.  On trees all of whose Lists name their slots
by position (`dp`) the two coincide pair for pair (`flattenTree_positional`) and are the flat model's `flatten` of the
abstraction `toFNode` (`flattenTree_eq_flat`), so that the theorems of Proofs/C07*.lean, stated on `FNode`, speak of them.
-/
import Flatland.C07Tree
import Proofs.C07
import Proofs.C09Positional
import Proofs.C08Bfs
import Proofs.Lemmas.SepSafe
namespace Flatland.C07Tree.Proofs
open Flatland.Tree Flatland.PyList Flatland.C08 Flatland.C07Tree
open Flatland.C09.Proofs (WellNumbered)
open Flatland.C08.Proofs (IsDeep deep_iff)

theorem bfs_nil (sep : Str) : bfs sep [] = [] := by rw [bfs]
theorem bfs_cons (sep : Str) (it : QItem) (q : List QItem) :
    bfs sep (it :: q) = ownPair sep it ++ bfs sep (q ++ pushed it) := by rw [bfs]
theorem specBfs_nil (sep : Str) : specBfs sep [] = [] := by rw [specBfs]
theorem specBfs_cons (sep : Str) (it : QItem) (q : List QItem) :
    specBfs sep (it :: q) = ownPair sep it ++ specBfs sep (q ++ specItems it.1 it.2) := by rw [specBfs]

/-- what `dp` asks of one node -/
def dpLoc (n : Node) : Bool := !(n.kind == .list) || (wnFrom 0 n.kids && single n.kids)

theorem dp_deep : IsDeep dp dpL dpLoc :=
  deep_iff (fun _ _ _ => by rw [dp]; rfl) (by rw [dpL]) (fun _ _ => by rw [dpL])

theorem dpL_iff (ks : List Node) : dpL ks = true ↔ ∀ k ∈ ks, dp k = true := dp_deep.1 ks

theorem wnFrom_iff (i : Nat) (ks : List Node) :
    wnFrom i ks = true ↔ ks.map Node.key = (List.range' i ks.length).map (fun k => (toString k).toList) := by
  induction ks generalizing i with
  | nil => simp [wnFrom]
  | cons k ks ih =>
    simp only [wnFrom, Bool.and_eq_true, decide_eq_true_eq, ih, List.map_cons, List.length_cons,
      List.range'_succ, List.cons.injEq]

theorem wn_iff (ks : List Node) : wnFrom 0 ks = true ↔ WellNumbered ks := by
  rw [wnFrom_iff, WellNumbered, List.range_eq_range']

theorem single_iff (ks : List Node) : single ks = true ↔ ∀ s ∈ ks, s.kids.length = 1 := by
  simp [single]

theorem dp_iff (n : Node) :
    dp n = true ↔
      (n.kind = .list → WellNumbered n.kids ∧ ∀ s ∈ n.kids, s.kids.length = 1) ∧ ∀ k ∈ n.kids, dp k = true := by
  cases n with
  | mk i s kids =>
    rw [dp]
    simp only [Bool.and_eq_true, Bool.or_eq_true, Bool.not_eq_true', beq_eq_false_iff_ne, ne_eq,
      dpL_iff, wn_iff, single_iff, Node.kind, Node.sch, Node.kids, ← Decidable.imp_iff_not_or]

theorem slotItems_eq_spec (here : List Str) (i : Nat) (ks : List Node) (h : wnFrom i ks = true) :
    slotItems here ks = specSlots here i ks := by
  induction ks generalizing i with
  | nil => rfl
  | cons k ks ih =>
    simp only [wnFrom, Bool.and_eq_true, decide_eq_true_eq] at h
    simp only [slotItems, specSlots, h.1, ih (i + 1) h.2]

theorem childItems_eq_spec (p : List Str) (n : Node) (h : dp n = true) : childItems p n = specItems p n := by
  unfold childItems specItems
  cases hk : n.kind <;> simp only []
  exact slotItems_eq_spec _ 0 _ ((wn_iff _).mpr (((dp_iff n).mp h).1 hk).1)

theorem dp_children (n : Node) (h : dp n = true) : ∀ c ∈ children n, dp c = true := dp_deep.children h

theorem dp_pushed (it : QItem) (h : dp it.2 = true) : ∀ c ∈ pushed it, dp c.2 = true := fun c hc =>
  dp_children it.2 h c.2 (by
    rw [← childItems_snd it.1 it.2]; exact List.mem_map_of_mem (by simpa [pushed, cfl] using hc))

theorem bfs_isLoop (sep : Str) : Fifo.IsLoop (ownPair sep) pushed (bfs sep) := ⟨bfs_nil sep, bfs_cons sep⟩

theorem specBfs_isLoop (sep : Str) : Fifo.IsLoop (ownPair sep) (fun it => specItems it.1 it.2) (specBfs sep) :=
  ⟨specBfs_nil sep, specBfs_cons sep⟩

theorem qsize_steps : Fifo.Steps pushed qsize := fun it q => by
  obtain ⟨p, n⟩ := it
  have := qsize_childItems_lt p n
  simp only [pushed, cfl, if_true, qsize_append, qsize_cons]; omega

theorem bfs_eq_spec (sep : Str) (q : List QItem) (h : ∀ it ∈ q, dp it.2 = true) : bfs sep q = specBfs sep q := by
  have := (bfs_isLoop sep).sim (specBfs_isLoop sep) qsize_steps.levels id id (fun it => dp it.2 = true)
    (fun a _ => by simp)
    (fun a ha => by simp [pushed, cfl, childItems_eq_spec a.1 a.2 ha]) dp_pushed q h
  simpa using this.symm

theorem flattenTree_eq_bfs (sep : Str) (n : Node) : flattenTree sep n = bfs sep [([], n)] := by
  rw [bfs_cons]; rfl

theorem specFlatten_eq_specBfs (sep : Str) (n : Node) : specFlatten sep n = specBfs sep [([], n)] := by
  rw [specBfs_cons]; rfl

/-- On every tree all of whose Lists name their slots by position,
    what `flatten()` emits — keys joined from the STORED slot names — is exactly what the
    positional specification emits: every list member on the path of every key is named by its
    CURRENT position.  (Equality of the pair lists: same keys, same texts, same order.) -/
theorem flattenTree_positional (sep : Str) (n : Node) (h : dp n = true) :
    flattenTree sep n = specFlatten sep n := by
  rw [flattenTree_eq_bfs, specFlatten_eq_specBfs]
  exact bfs_eq_spec sep _ (by simpa using h)

theorem flattenTree_keys_positional (sep : Str) (n : Node) (h : dp n = true) :
    (flattenTree sep n).map (·.1) = (specFlatten sep n).map (·.1) := by
  rw [flattenTree_positional sep n h]

section Bridge
open Flatland.Flat (FNode)

theorem toFNode_name (n : Node) : (toFNode n).name = n.name := by
  cases n with
  | mk i s kids => rw [toFNode]; split <;> rfl

theorem toFNode_fl (n : Node) : (toFNode n).fl = fl n := by
  cases n with
  | mk i s kids =>
    rw [toFNode]; simp only [fl, Node.kind, Node.sch]
    split <;> simp_all [FNode.fl]

theorem toFNode_cfl (n : Node) : (toFNode n).cfl = true := by
  cases n with
  | mk i s kids => rw [toFNode]; split <;> rfl

theorem toFNode_u (n : Node) (h : fl n = true) : (toFNode n).u = n.ni.u := by
  cases n with
  | mk i s kids =>
    rw [toFNode]; simp only [fl, Node.kind, Node.sch] at h
    split <;> simp_all [FNode.u, Node.ni]

def absItem (it : QItem) : Flatland.Flat.QItem := (it.1, toFNode it.2)

theorem namePath_abs (p : List Str) (n : Node) : Flatland.Flat.namePath p (toFNode n) = namePath p n := by
  simp [Flatland.Flat.namePath, namePath, toFNode_name]

theorem ownPair_abs (sep : Str) (it : QItem) :
    Flatland.Flat.ownPair sep (absItem it) = ownPair sep it := by
  obtain ⟨p, n⟩ := it
  simp only [Flatland.Flat.ownPair, ownPair, absItem, toFNode_fl, namePath_abs, joinSep]
  by_cases h : fl n = true
  · simp [h, toFNode_u n h]
  · simp [h]

theorem toFNodeL_eq (ks : List Node) : toFNodeL ks = ks.map toFNode := by
  induction ks with
  | nil => rfl
  | cons k ks ih => simp [toFNodeL, ih]

theorem kidsFrom_slots (here : List Str) (i : Nat) (ks : List Node) (h : ∀ s ∈ ks, s.kids.length = 1) :
    Flatland.Flat.kidsFrom here true i (toFSlots ks) = (specSlots here i ks).map absItem := by
  induction ks generalizing i with
  | nil => rfl
  | cons k ks ih =>
    obtain ⟨ki, ksch, els⟩ := k
    have h1 : els.length = 1 := h (.mk ki ksch els) (by simp)
    match els, h1 with
    | [el], _ =>
      simp only [toFSlots, Flatland.Flat.kidsFrom, specSlots, Node.kids, List.map_cons, List.map_nil,
        List.singleton_append, if_true, absItem, Flatland.Flat.natStr_toString]
      rw [ih (i + 1) (fun s hs => h s (by simp [hs]))]

theorem childItems_abs (p : List Str) (n : Node) (hs : n.kind = .list → ∀ s ∈ n.kids, s.kids.length = 1) :
    Flatland.Flat.childItems p (toFNode n) = (specItems p n).map absItem := by
  unfold Flatland.Flat.childItems
  rw [namePath_abs]
  cases n with
  | mk i s kids =>
    unfold specItems
    rw [toFNode]
    simp only [Node.kind, Node.sch, Node.kids] at hs ⊢
    cases hk : s.kind <;>
      simp only [FNode.slots, FNode.kids, Flatland.Flat.kidsFrom_noslots, toFNodeL_eq, List.map_map,
        List.map_nil] <;> try rfl
    exact kidsFrom_slots _ 0 kids (hs hk)

theorem specBfs_abs (sep : Str) (q : List QItem) (h : ∀ it ∈ q, dp it.2 = true) :
    Flatland.Flat.bfsFlat sep (q.map absItem) = specBfs sep q := by
  have := (bfs_isLoop sep).sim ⟨Flatland.Flat.bfsFlat_nil sep, Flatland.Flat.bfsFlat_cons sep⟩
    qsize_steps.levels absItem id (fun it => dp it.2 = true)
    (fun a _ => by simp [ownPair_abs])
    (fun a ha => by
      simp only [Flatland.Flat.pushed, absItem, toFNode_cfl, if_true, pushed, cfl]
      rw [childItems_abs a.1 a.2 (fun hk => (((dp_iff a.2).mp ha).1 hk).2), childItems_eq_spec a.1 a.2 ha])
    dp_pushed q h
  rw [this, List.map_id, bfs_eq_spec sep q h]

/-- the positional specification on the tree model IS the flat model's `flatten` of the abstracted
    tree (whose `kidsFrom` numbers members by position) -/
theorem specFlatten_eq_flat (sep : Str) (n : Node) (h : dp n = true) :
    specFlatten sep n = Flatland.Flat.flattenNode sep (toFNode n) := by
  rw [specFlatten_eq_specBfs, Flatland.Flat.flattenNode_eq_bfsFlat]
  exact (specBfs_abs sep [([], n)] (by simpa using h)).symm

/-- On deep-positional trees `flatten()` of the tree model — keys from STORED slot
    names — is the flat model's `flatten` of the abstracted tree: `flatten_compositional`,
    `keys_are_paths`, `keys_unique_paths` (stated on `FNode`) transfer. -/
theorem flattenTree_eq_flat (sep : Str) (n : Node) (h : dp n = true) :
    flattenTree sep n = Flatland.Flat.flattenNode sep (toFNode n) := by
  rw [flattenTree_positional sep n h, specFlatten_eq_flat sep n h]

end Bridge

end Flatland.C07Tree.Proofs
