/-
C17 — the frame MECHANISM of `properties.py` (`Flatland/C17Frames.lean`) refines model A
(`Flatland/C17.lean`): lazy materialisation of class frames is unobservable.
-/
import Flatland.C17Frames
import Proofs.C17
namespace Flatland.C17.Frames.Proofs
open Flatland.C17 Flatland.C17.Spec Flatland.C17.Proofs Flatland.C17.Frames

def kS0 : Key := ['s']
def kB0 : Key := ['b']

/-- the part of the mechanism state that is model A's state verbatim (no frames): what `Proofs.Lemmas.C17State` and
    `Proofs.C17` say of a class table holds of the mechanism's, read at `core σ` -/
def core (σ : FState) : State := { classes := σ.classes, ndesc := σ.ndesc, frames := [], insts := σ.insts }

theorem mroOf_core (σ : FState) : (core σ).mroOf = σ.mroOf := rfl
theorem ownOf_core (σ : FState) : (core σ).ownOf = σ.ownOf := rfl
theorem descOf_core (σ : FState) : (core σ).descOf = σ.descOf := rfl

theorem ownOf_of_classes {σ : FState} {a : State} (h : a.classes = σ.classes) : a.ownOf = σ.ownOf :=
  funext (ownOf_congr (σ := core σ) h)
theorem mroOf_of_classes {σ : FState} {a : State} (h : a.classes = σ.classes) : a.mroOf = σ.mroOf :=
  funext (mroOf_congr (σ := core σ) h)
theorem descOf_of_classes {σ : FState} {a : State} (h : a.classes = σ.classes) : a.descOf = σ.descOf :=
  funext (descOf_congr (σ := core σ) h)

/-- the frames `_frames()` hands out when it is pulled to the end (no state change) -/
def pwalk (σ : FState) (P : ObjId) : List ClassId → List Frame
  | [] => []
  | c :: rest =>
    match σ.mapGet P c with
    | none => if σ.ownsObj c P then [σ.initialOf P] else pwalk σ P rest
    | some r => if σ.ownsObj c P then [σ.deref P r] else σ.deref P r :: pwalk σ P rest

/-- the prefix of the frames a consumer looks at -/
def cutF : (Frame → Pull) → List Frame → List Frame
  | _, [] => []
  | p, f :: rest =>
    match p f with
    | .stop => [f]
    | .more => f :: cutF p rest
    | .drain => f :: cutF (fun _ => .more) rest

theorem cutF_single (p : Frame → Pull) (f : Frame) : cutF p [f] = [f] := by
  simp only [cutF]; split <;> rfl

theorem cutF_all : ∀ (fs : List Frame), cutF (fun _ => .more) fs = fs
  | [] => rfl
  | f :: rest => by simp only [cutF, cutF_all rest]

theorem cutF_allP (fs : List Frame) : cutF allP fs = fs := cutF_all fs

theorem framesPull_spec (σ : FState) (P : ObjId) (l : List ClassId) : ∀ (p : Frame → Pull),
    (framesPull σ P p l).2 = cutF p (pwalk σ P l) ∧
    ((framesPull σ P p l).1 = σ ∨
      ∃ o, σ.mapGet P o = none ∧ σ.ownsObj o P = true ∧
        (framesPull σ P p l).1 = σ.mapSet P o (.obj (σ.initialOf P))) := by
  induction l with
  | nil => exact fun _ => ⟨rfl, .inl rfl⟩
  | cons c rest ih =>
    intro p
    cases hm : σ.mapGet P c with
    | none =>
      by_cases ho : σ.ownsObj c P = true
      · simp only [framesPull, pwalk, hm, ho, if_true, cutF_single]
        exact ⟨trivial, .inr ⟨c, hm, ho, rfl⟩⟩
      · simp only [framesPull, pwalk, hm, ho, if_false, Bool.false_eq_true]
        exact ih p
    | some r =>
      by_cases ho : σ.ownsObj c P = true
      · simp only [framesPull, pwalk, hm, ho, if_true, cutF_single]
        exact ⟨trivial, .inl trivial⟩
      · simp only [framesPull, pwalk, hm, ho, if_false, Bool.false_eq_true, cutF]
        cases p (σ.deref P r) with
        | stop => exact ⟨rfl, .inl rfl⟩
        | more => exact ⟨congrArg (σ.deref P r :: ·) (ih p).1, (ih p).2⟩
        | drain => exact ⟨congrArg (σ.deref P r :: ·) (ih _).1, (ih _).2⟩

theorem pull_frames (σ : FState) (P : ObjId) : ∀ (l : List ClassId) (p : Frame → Pull),
    (framesPull σ P p l).2 = cutF p (pwalk σ P l) :=
  fun l p => (framesPull_spec σ P l p).1

/-- the only thing a read does to the state: the owner's frame may get materialised, as a COPY of
    `initial_set` -/
theorem pull_state (σ : FState) (P : ObjId) : ∀ (l : List ClassId) (p : Frame → Pull),
    (framesPull σ P p l).1 = σ ∨
      ∃ o, σ.mapGet P o = none ∧ σ.ownsObj o P = true ∧
        (framesPull σ P p l).1 = σ.mapSet P o (.obj (σ.initialOf P)) :=
  fun l p => (framesPull_spec σ P l p).2

def firstSlot (fs : List Frame) (k : Key) : Option Slot := AList.get? fs.flatten k

theorem firstSlot_cons (f : Frame) (fs : List Frame) (k : Key) :
    firstSlot (f :: fs) k = (AList.get? f k).or (firstSlot fs k) := by
  simp [firstSlot, get?_append]

theorem firstSlot_cut (k : Key) (p : Frame → Pull) (hp : ∀ f, AList.get? f k = none → p f = .more)
    (fs : List Frame) : firstSlot (cutF p fs) k = firstSlot fs k := by
  induction fs with
  | nil => rfl
  | cons f rest ih =>
    cases h : AList.get? f k with
    | none => simp only [cutF, hp f h, firstSlot_cons, h, ih]
    | some s => simp only [cutF]; split <;> simp only [firstSlot_cons, h] <;> rfl

theorem lookup_cutF (k : Key) : ∀ (fs : List Frame),
    lookupFrames (cutF (getP k) fs) k = lookupFrames fs k := fun fs => by
  rw [lookupFrames_flat, lookupFrames_flat]
  exact congrArg (fun x => ofOpt (slotVal x)) (firstSlot_cut k (getP k)
    (fun f h => by simp only [getP, AList.hasKey, h, Option.isSome_none, Bool.false_eq_true, if_false]) fs)

theorem firstSlot_cutF (k : Key) : ∀ (fs : List Frame),
    slotVal (firstSlot (cutF (containsP k) fs) k) = slotVal (firstSlot fs k) := fun fs =>
  congrArg slotVal (firstSlot_cut k (containsP k) (fun f h => by simp only [containsP, h]) fs)

theorem mem_keys_itemsGo (fs : List Frame) (k : Key) :
    k ∈ (itemsGo fs.flatten []).map (·.1) ↔ slotVal (firstSlot fs k) ≠ none := by
  rw [mem_keys_iff, get?_itemsGo, if_neg List.not_mem_nil]
  exact Option.isSome_iff_ne_none

theorem mem_keys_cutF (k : Key) (fs : List Frame) :
    k ∈ (itemsGo (cutF (containsP k) fs).flatten []).map (·.1) ↔ k ∈ (itemsGo fs.flatten []).map (·.1) := by
  rw [mem_keys_itemsGo, mem_keys_itemsGo, firstSlot_cutF]

/-- every read-only method returns over the frames its consumer pulled what it returns over all frames -/
theorem read_cutF (fs : List Frame) (o : Op) (p : Frame → Pull) (hp : pullOf o = some p) :
    dictLikeRead (readerOf (cutF p fs)) o = dictLikeRead (readerOf fs) o := by
  cases o with
  | contains k =>
    cases hp
    exact congrArg (fun b => some (Res.bool b)) (decide_eq_decide.mpr (mem_keys_cutF k fs))
  | getitem | get =>
    cases hp
    simp only [dictLikeRead, readerOf, lookup_cutF]
  | items | keys | values | copy | bool | eq | ne =>
    cases hp
    rw [cutF_allP]
  | _ => cases hp

/-- the contents of `map[c]`, if materialised -/
def obsC (σ : FState) (P : ObjId) (c : ClassId) : Option Frame := (σ.mapGet P c).map (σ.deref P)

/-- mechanism state `σ` and model-A state `a` describe the same store: the same class table and
    instances; the frame model A keeps for an OWNER is the frame the class has or WOULD get
    (`initial_set`); a non-owner has a frame in model A exactly when it has one in `map` -/
structure Sim (σ : FState) (a : State) : Prop where
  classes : a.classes = σ.classes
  ndesc : a.ndesc = σ.ndesc
  insts : a.insts = σ.insts
  owner : ∀ c s, σ.ownOf c = some s → a.frameD (.init s) = would σ (σ.objOf s) c
  other : ∀ c s, σ.ownOf c = none → σ.descOf c = some s →
    AList.get? a.frames (.cls s c) = obsC σ (σ.objOf s) c

theorem Sim.mroOf {σ : FState} {a : State} (h : Sim σ a) : a.mroOf = σ.mroOf := mroOf_of_classes h.classes
theorem Sim.ownOf {σ : FState} {a : State} (h : Sim σ a) : a.ownOf = σ.ownOf := ownOf_of_classes h.classes
theorem Sim.descOf {σ : FState} {a : State} (h : Sim σ a) : a.descOf = σ.descOf := descOf_of_classes h.classes

theorem mapGet_mapSet (σ : FState) (P : ObjId) (c : ClassId) (r : FrameRef) (P' : ObjId) (c' : ClassId) :
    (σ.mapSet P c r).mapGet P' c' = if (P, c) = (P', c') then some r else σ.mapGet P' c' :=
  get?_set σ.map (P, c) (P', c') r

theorem deref_mapSet (σ : FState) (P : ObjId) (o : ClassId) (r : FrameRef) (P' : ObjId) (r' : FrameRef) :
    (σ.mapSet P o r).deref P' r' = σ.deref P' r' := by cases r' <;> rfl

theorem obsC_mapSet (σ : FState) (P : ObjId) (o : ClassId) (r : FrameRef) (P' : ObjId) (c' : ClassId) :
    obsC (σ.mapSet P o r) P' c' = if (P, o) = (P', c') then some (σ.deref P' r) else obsC σ P' c' := by
  by_cases hk : (P, o) = (P', c')
  · simp only [obsC, mapGet_mapSet, hk, if_true]
    exact congrArg some (deref_mapSet σ P o r P' r)
  · simp only [obsC, mapGet_mapSet, hk, if_false]
    cases σ.mapGet P' c' with
    | none => rfl
    | some r' => exact congrArg some (deref_mapSet σ P o r P' r')

theorem would_eq (σ : FState) (P : ObjId) (c : ClassId) : would σ P c = (obsC σ P c).getD (σ.initialOf P) := by
  unfold would obsC
  cases σ.mapGet P c <;> rfl

theorem would_mapSet (σ : FState) (P : ObjId) (o : ClassId) (r : FrameRef) (P' : ObjId) (c' : ClassId) :
    would (σ.mapSet P o r) P' c' = if (P, o) = (P', c') then σ.deref P' r else would σ P' c' := by
  rw [would_eq, would_eq, obsC_mapSet]
  by_cases hk : (P, o) = (P', c')
  · rw [if_pos hk, if_pos hk]; rfl
  · rw [if_neg hk, if_neg hk]; rfl

/-- along the chain of a class that resolves slot `s` coherently, the mechanism's full walk hands
    out exactly the frames model A's walk hands out -/
theorem pwalk_sim {σ : FState} {a : State} (h : Sim σ a) (s : DescId) : ∀ (l : List ClassId),
    l.findSome? σ.ownOf = some s →
    (∀ x ∈ cut (fun x => (σ.ownOf x).isSome) l, σ.descOf x = some s) →
    pwalk σ (σ.objOf s) l = a.walk s l
  | [], hd, _ => by simp at hd
  | x :: rest, hd, hco => by
    cases hx : σ.ownOf x with
    | some s' =>
      have hs : s' = s := by simpa [List.findSome?_cons, hx] using hd
      subst hs
      have ho : σ.ownsObj x (σ.objOf s') = true := by simp [FState.ownsObj, hx]
      have ha : a.owns x s' = true := by simp [State.owns, h.ownOf, hx]
      have hw := h.owner x s' hx
      simp only [State.walk, ha, if_true, hw, would, pwalk]
      cases σ.mapGet (σ.objOf s') x <;> simp [ho]
    | none =>
      have ho : σ.ownsObj x (σ.objOf s) = false := by simp [FState.ownsObj, hx]
      have ha : a.owns x s = false := by simp [State.owns, h.ownOf, hx]
      have hcut : cut (fun x => (σ.ownOf x).isSome) (x :: rest)
          = x :: cut (fun x => (σ.ownOf x).isSome) rest := by simp [cut, hx]
      have hdx : σ.descOf x = some s := hco x (by rw [hcut]; exact List.mem_cons_self)
      have hd' : rest.findSome? σ.ownOf = some s := by simpa [List.findSome?_cons, hx] using hd
      have ih := pwalk_sim h s rest hd' (fun y hy => hco y (by rw [hcut]; exact List.mem_cons_of_mem _ hy))
      have hoth := h.other x s hx hdx
      simp only [State.walk, ha, pwalk, ho, hoth, obsC, Bool.false_eq_true, if_false]
      cases σ.mapGet (σ.objOf s) x <;> simp [ih]

/-- materialising an owner's frame as a COPY of `initial_set` is invisible to model A -/
theorem Sim_mat {σ : FState} {a : State} (h : Sim σ a) (P : ObjId) (o : ClassId)
    (hm : σ.mapGet P o = none) (ho : σ.ownsObj o P = true) :
    Sim (σ.mapSet P o (.obj (σ.initialOf P))) a where
  classes := h.classes
  ndesc := h.ndesc
  insts := h.insts
  owner := by
    intro c s hc
    have hc' : σ.ownOf c = some s := hc
    show a.frameD (.init s) = would (σ.mapSet P o _) (σ.objOf s) c
    rw [h.owner c s hc', would_mapSet]
    split
    · rename_i hk
      obtain ⟨rfl, rfl⟩ := Prod.mk.inj hk
      simp only [would, hm]; rfl
    · rfl
  other := by
    intro c s hc hd
    have hc' : σ.ownOf c = none := hc
    have hd' : σ.descOf c = some s := hd
    show AList.get? a.frames (.cls s c) = obsC (σ.mapSet P o _) (σ.objOf s) c
    rw [h.other c s hc' hd', obsC_mapSet]
    split
    · rename_i hk
      obtain ⟨rfl, rfl⟩ := Prod.mk.inj hk
      simp [FState.ownsObj, hc'] at ho
    · rfl

theorem Sim_pull {σ : FState} {a : State} (h : Sim σ a) (P : ObjId) (l : List ClassId) (p : Frame → Pull) :
    Sim (framesPull σ P p l).1 a := by
  rcases pull_state σ P l p with e | ⟨o, hm, ho, e⟩
  · rw [e]; exact h
  · rw [e]; exact Sim_mat h P o hm ho

/-- coherence of a class (as in `Proofs.C17`), on the mechanism's class table -/
def CoherentF (σ : FState) (c : ClassId) : Prop :=
  ∃ d, σ.descOf c = some d ∧ ∀ x ∈ cut (fun x => (σ.ownOf x).isSome) (σ.mroOf c), σ.descOf x = some d

theorem CoherentF_of {σ : FState} {a : State} (h : Sim σ a) (c : ClassId) (hc : Coherent a c) :
    CoherentF σ c := Coherent_congr (σ := a) (σ' := core σ) h.classes.symm c hc

theorem pwalk_tFrames {σ : FState} {a : State} (h : Sim σ a) (c : ClassId) (s : DescId)
    (hd : σ.descOf c = some s) (hco : CoherentF σ c) :
    pwalk σ (σ.objOf s) (σ.mroOf c) = tFrames a c s := by
  obtain ⟨d, hd', hall⟩ := hco
  have : d = s := by rw [hd] at hd'; exact (Option.some.inj hd').symm
  subst this
  simp only [tFrames, h.mroOf]
  exact pwalk_sim h d (σ.mroOf c) hd hall

theorem dictLikeRead_isSome (r : Reader) (o : Op) : (dictLikeRead r o).isSome = isRead o := by
  cases o <;> rfl

theorem isRead_of_pullOf {o : Op} {p : Frame → Pull} (hp : pullOf o = some p) : isRead o = true := by
  cases o <;> first | rfl | cases hp

theorem dictLikeRead_isRead (r : Reader) (o : Op) (p : Frame → Pull) (hp : pullOf o = some p) :
    ∃ res, dictLikeRead r o = some res :=
  Option.isSome_iff_exists.mp ((dictLikeRead_isSome r o).trans (isRead_of_pullOf hp))

/-- every read-only method through a class view — including the ones that materialise the owner's frame on
    the way — returns what model A returns, and model A's state still describes the store afterwards -/
theorem classRead_refines {σ : FState} {a : State} (h : Sim σ a) (alias : Bool) (c : ClassId) (o : Op)
    (p : Frame → Pull) (hp : pullOf o = some p) (hco : c < σ.classes.length → CoherentF σ c) :
    (classOpF alias σ c o).2 = (classOp a c o).2 ∧
    Sim (classOpF alias σ c o).1 (classOp a c o).1 := by
  simp only [classOpF, classOp, h.classes, h.descOf]
  by_cases hc : c < σ.classes.length
  · simp only [hc, if_true]
    cases hd : σ.descOf c with
    | none => exact ⟨rfl, h⟩
    | some s =>
      simp only [hp, pull_frames, read_cutF _ o p hp, pwalk_tFrames h c s hd (hco hc)]
      have hr : tReader a c s = readerOf (tFrames a c s) := rfl
      obtain ⟨res, hres⟩ := dictLikeRead_isRead (readerOf (tFrames a c s)) o p hp
      simp only [hr, hres, Option.getD_some]
      exact ⟨trivial, Sim_pull h _ _ _⟩
  · simp only [hc, if_false]
    exact ⟨trivial, h⟩

theorem classOp_read_state (a : State) (c : ClassId) (o : Op) (p : Frame → Pull) (hp : pullOf o = some p) :
    (classOp a c o).1 = a := by
  simp only [classOp]
  split
  · split
    · rfl
    · rename_i s _
      obtain ⟨res, hres⟩ := dictLikeRead_isRead (tReader a c s) o p hp
      simp only [hres]
  · rfl

def readsRun (σ : FState) : List (ClassId × Op) → FState × List Res
  | [] => (σ, [])
  | co :: rs => ((readsRun (classOpF false σ co.1 co.2).1 rs).1,
      (classOpF false σ co.1 co.2).2 :: (readsRun (classOpF false σ co.1 co.2).1 rs).2)

/-- lazy materialisation is unobservable by reads through class views: whatever reads are made, in
    whatever order, through whatever class views — each possibly materialising a frame —, the
    mechanism state keeps describing the SAME model-A state, and every read returns what model A
    returns in that one state: no read can be told from its answer whether, or which, other reads
    happened before it -/
theorem lazy_is_unobservable_reads {a : State} (hco : AllCoherent a) :
    ∀ (rs : List (ClassId × Op)) (σ : FState), Sim σ a → (∀ co ∈ rs, (pullOf co.2).isSome = true) →
      Sim (readsRun σ rs).1 a ∧ (readsRun σ rs).2 = rs.map (fun co => (classOp a co.1 co.2).2)
  | [], _, h, _ => ⟨h, rfl⟩
  | co :: rs, σ, h, hall => by
    obtain ⟨p, hp⟩ := Option.isSome_iff_exists.mp (hall co List.mem_cons_self)
    have hstep := classRead_refines h false co.1 co.2 p hp
      (fun hc => CoherentF_of h co.1 (hco co.1 (by rw [h.classes]; exact hc)))
    rw [classOp_read_state a co.1 co.2 p hp] at hstep
    have ih := lazy_is_unobservable_reads hco rs _ hstep.2
      (fun x hx => hall x (List.mem_cons_of_mem _ hx))
    simp only [readsRun, List.map_cons]
    exact ⟨ih.1, by rw [hstep.1, ih.2]⟩

theorem Sim_init (init : List (Key × Val)) : Sim (finit init) (initState init) where
  classes := rfl
  ndesc := rfl
  insts := rfl
  owner := by
    intro c s hc
    cases c with
    | zero => cases hc; rfl
    | succ n => cases hc
  other := by
    intro c s hc hd
    cases c with
    | zero => cases hc
    | succ n => cases hd

/-- non-vacuity: from a fresh root (frame NOT materialised) the reads answer as model A does, and `['s']`
    materialises the frame -/
example : (readsRun (finit [(kS0, .int 1)]) [(0, .contains kS0), (0, .getitem kS0), (0, .items), (0, .copy)]).2
    = [.bool true, .val (.int 1), .items [(kS0, .int 1)], .items [(kS0, .int 1)]] := by decide +kernel
example : materialised (finit [(kS0, .int 1)]) = [] ∧
    materialised (readsRun (finit [(kS0, .int 1)]) [(0, .popitem), (0, .getitem kS0)]).1 = [0] := by decide +kernel

/-- the state after the read a writing method starts with: `self[k]`, or `keys()` for `clear`
    (`__setitem__` and `update` read nothing) -/
def afterRead (σ : FState) (getF : Key → FState × Except Err Val) (itemsF : FState × List (Key × Val)) : Op → FState
  | .delitem k | .pop k _ | .setdefault k _ => (getF k).1
  | .clear => itemsF.1
  | _ => σ

theorem afterRead_ind {σ : FState} {getF : Key → FState × Except Err Val} {itemsF : FState × List (Key × Val)}
    (P : FState → Prop) (h0 : P σ) (hget : ∀ k, P (getF k).1) (hitems : P itemsF.1) (o : Op) :
    P (afterRead σ getF itemsF o) := by
  cases o <;> first | exact h0 | exact hget _ | exact hitems

/-- `_TypeLookup` (all but `clear`, which evaluates `_base_frame` BEFORE `keys()`): the dict written to is `_base_frame` -/
theorem tWriteF_eq (alias : Bool) (σ : FState) (c : ClassId) (P : ObjId) (o : Op) (ho : o ≠ .clear) :
    tWriteF alias σ c P o =
      (match (writeOp (fun k => (tGetF σ c P k).2) ((tItemsF σ c P).2.map (·.1)) o).1 with
        | none => afterRead σ (tGetF σ c P) (tItemsF σ c P) o
        | some g => writeBase alias (afterRead σ (tGetF σ c P) (tItemsF σ c P) o) c P g,
       (writeOp (fun k => (tGetF σ c P k).2) ((tItemsF σ c P).2.map (·.1)) o).2) := by
  cases o with
  | delitem k | pop k _ | setdefault k _ =>
    simp only [tWriteF, writeOp, afterRead]; cases (tGetF σ c P k).2 <;> rfl
  | clear => exact absurd rfl ho
  | _ => rfl

/-- `_InstanceLookup`: the dict written to is `local` (emptied first by `clear`); the class store is only read -/
theorem iWriteF_eq (σ : FState) (f : Frame) (c : ClassId) (P : ObjId) (o : Op) :
    iWriteF σ f c P o =
      (afterRead σ (iGetF σ f c P) (tItemsF σ c P) o,
       ((writeOp (fun k => (iGetF σ f c P k).2) ((tItemsF σ c P).2.map (·.1)) o).1.getD id)
         (match o with | .clear => [] | _ => f),
       (writeOp (fun k => (iGetF σ f c P k).2) ((tItemsF σ c P).2.map (·.1)) o).2) := by
  cases o with
  | delitem k | pop k _ | setdefault k _ =>
    simp only [iWriteF, writeOp, afterRead]; cases (iGetF σ f c P k).2 <;> rfl
  | _ => rfl

/-- every materialised frame is a dict object of its own (for an owner: started as a COPY of
    `initial_set`), never the `initial_set` object -/
def NoAlias (σ : FState) : Prop := ∀ P c, σ.mapGet P c ≠ some .initCell

theorem NoAlias_mapSet {σ : FState} (h : NoAlias σ) (P : ObjId) (c : ClassId) (f : Frame) :
    NoAlias (σ.mapSet P c (.obj f)) := by
  intro P' c'
  rw [mapGet_mapSet]
  split
  · simp
  · exact h P' c'

theorem NoAlias_finit (init : List (Key × Val)) : NoAlias (finit init) := by
  intro P c; simp [FState.mapGet, finit]

/-- everything but `map` and the instances: all that `sharedInit`, hence `refGuard`, of `Proofs.C17FramesStep` reads -/
structure SameStore (σ σ' : FState) : Prop where
  classes : σ.classes = σ'.classes
  ndesc : σ.ndesc = σ'.ndesc
  objs : σ.objs = σ'.objs
  initial : σ.initial = σ'.initial

theorem SameStore.refl (σ : FState) : SameStore σ σ := ⟨rfl, rfl, rfl, rfl⟩
theorem SameStore.symm {σ σ' : FState} (h : SameStore σ σ') : SameStore σ' σ :=
  ⟨h.1.symm, h.2.symm, h.3.symm, h.4.symm⟩
theorem SameStore.trans {σ σ' σ'' : FState} (h : SameStore σ σ') (h' : SameStore σ' σ'') : SameStore σ σ'' :=
  ⟨h.1.trans h'.1, h.2.trans h'.2, h.3.trans h'.3, h.4.trans h'.4⟩

theorem store_pull (σ : FState) (P : ObjId) (l : List ClassId) (p : Frame → Pull) :
    SameStore (framesPull σ P p l).1 σ := by
  rcases pull_state σ P l p with e | ⟨o, _, _, e⟩ <;> rw [e] <;> exact ⟨rfl, rfl, rfl, rfl⟩

/-- from `σ` to `τ` every frame stays a dict of its own and the store stays as it is: all that a method call of the
    code as written does is store dict objects of their own in `map` and rebind instances.  `NoAlias σ` is a
    premise: through an alias a frame mutation would write an `initial_set` cell. -/
def Keeps (σ τ : FState) : Prop := NoAlias σ → NoAlias τ ∧ SameStore τ σ

theorem Keeps.refl (σ : FState) : Keeps σ σ := fun h => ⟨h, .refl σ⟩

theorem Keeps.trans {σ τ υ : FState} (h : Keeps σ τ) (h' : Keeps τ υ) : Keeps σ υ := fun hn =>
  ⟨(h' (h hn).1).1, (h' (h hn).1).2.trans (h hn).2⟩

theorem keeps_mapSet (σ : FState) (P : ObjId) (c : ClassId) (f : Frame) : Keeps σ (σ.mapSet P c (.obj f)) :=
  fun h => ⟨NoAlias_mapSet h P c f, ⟨rfl, rfl, rfl, rfl⟩⟩

theorem keeps_setInst (σ : FState) (i : InstId) (x : Inst) : Keeps σ (Frames.setInst σ i x) :=
  fun h => ⟨h, ⟨rfl, rfl, rfl, rfl⟩⟩

theorem keeps_pull (σ : FState) (P : ObjId) (l : List ClassId) (p : Frame → Pull) :
    Keeps σ (framesPull σ P p l).1 := by
  rcases pull_state σ P l p with e | ⟨o, _, _, e⟩ <;> rw [e]
  · exact .refl σ
  · exact keeps_mapSet σ P o _

theorem keeps_writeRef (σ : FState) (P : ObjId) (c : ClassId) (g : Frame → Frame) : Keeps σ (σ.writeRef P c g) := by
  intro h
  simp only [FState.writeRef]
  cases hm : σ.mapGet P c with
  | none => exact Keeps.refl σ h
  | some r =>
    cases r with
    | obj f => exact keeps_mapSet σ P c _ h
    | initCell => exact absurd hm (h P c)

theorem keeps_baseFrame (σ : FState) (c : ClassId) (P : ObjId) : Keeps σ (baseFrame false σ c P) := by
  simp only [baseFrame]
  cases σ.mapGet P c with
  | some r => exact .refl σ
  | none =>
    by_cases ho : σ.ownsObj c P = true
    · simp only [ho, if_true, Bool.false_eq_true, if_false]; exact keeps_mapSet σ P c _
    · simp only [ho]; exact keeps_mapSet σ P c _

theorem keeps_writeBase (σ : FState) (c : ClassId) (P : ObjId) (g : Frame → Frame) :
    Keeps σ (writeBase false σ c P g) := (keeps_baseFrame σ c P).trans (keeps_writeRef _ P c g)

theorem keeps_tWriteF (σ : FState) (c : ClassId) (P : ObjId) (o : Op) : Keeps σ (tWriteF false σ c P o).1 := by
  by_cases ho : o = .clear
  · subst ho
    show Keeps σ ((tItemsF (baseFrame false σ c P) c P).1.writeRef P c _)
    exact ((keeps_baseFrame σ c P).trans (keeps_pull _ P _ allP)).trans (keeps_writeRef _ P c _)
  have hr : Keeps σ (afterRead σ (tGetF σ c P) (tItemsF σ c P) o) :=
    afterRead_ind (Keeps σ) (.refl σ) (fun _ => keeps_pull σ P _ _) (keeps_pull σ P _ _) o
  rw [tWriteF_eq _ _ _ _ _ ho]
  cases (writeOp (fun k => (tGetF σ c P k).2) ((tItemsF σ c P).2.map (·.1)) o).1 with
  | none => exact hr
  | some g => exact hr.trans (keeps_writeBase _ c P g)

theorem keeps_classOpF (σ : FState) (c : ClassId) (o : Op) : Keeps σ (classOpF false σ c o).1 := by
  unfold classOpF
  split
  · split
    · exact .refl σ
    · split
      · exact keeps_pull _ _ _ _
      · split
        · exact .refl σ
        · exact keeps_tWriteF σ _ _ _
  · exact .refl σ

theorem keeps_iGetF (σ : FState) (f : Frame) (c : ClassId) (P : ObjId) (k : Key) : Keeps σ (iGetF σ f c P k).1 := by
  unfold iGetF
  split
  · exact .refl σ
  · exact .refl σ
  · exact keeps_pull σ P _ _

theorem keeps_iWriteF (σ : FState) (f : Frame) (c : ClassId) (P : ObjId) (o : Op) : Keeps σ (iWriteF σ f c P o).1 := by
  rw [iWriteF_eq]
  exact afterRead_ind (Keeps σ) (.refl σ) (fun _ => keeps_iGetF σ f c P _) (keeps_pull σ P _ _) o

theorem keeps_instOpF (σ : FState) (i : InstId) (o : Op) : Keeps σ (instOpF σ i o).1 := by
  unfold instOpF
  split
  · exact .refl σ
  · split
    · exact keeps_setInst _ _ _
    · split
      · exact .refl σ
      · split
        · split
          · exact keeps_pull _ _ _ _
          · exact .refl σ
        · exact (keeps_iWriteF _ _ _ _ _).trans (keeps_setInst _ _ _)

theorem keeps_op (σ : FState) (v : View) (o : Op) : Keeps σ (fstep false σ (.op v o)).1 := by
  cases v with
  | cls c => exact keeps_classOpF σ c o
  | inst i => exact keeps_instOpF σ i o

theorem pull_inv {σ : FState} (h : NoAlias σ) (P : ObjId) (l : List ClassId) (p : Frame → Pull) :
    NoAlias (framesPull σ P p l).1 ∧ (framesPull σ P p l).1.initial = σ.initial :=
  ⟨(keeps_pull σ P l p h).1, (keeps_pull σ P l p h).2.initial⟩

theorem baseFrame_inv {σ : FState} (h : NoAlias σ) (c : ClassId) (P : ObjId) :
    NoAlias (baseFrame false σ c P) ∧ (baseFrame false σ c P).initial = σ.initial :=
  ⟨(keeps_baseFrame σ c P h).1, (keeps_baseFrame σ c P h).2.initial⟩

theorem writeRef_inv {σ : FState} (h : NoAlias σ) (P : ObjId) (c : ClassId) (g : Frame → Frame) :
    NoAlias (σ.writeRef P c g) ∧ (σ.writeRef P c g).initial = σ.initial :=
  ⟨(keeps_writeRef σ P c g h).1, (keeps_writeRef σ P c g h).2.initial⟩

theorem writeBase_inv {σ : FState} (h : NoAlias σ) (c : ClassId) (P : ObjId) (g : Frame → Frame) :
    NoAlias (writeBase false σ c P g) ∧ (writeBase false σ c P g).initial = σ.initial :=
  ⟨(keeps_writeBase σ c P g h).1, (keeps_writeBase σ c P g h).2.initial⟩

/-- the counter-model's write path does NOT keep the invariant: the first write through an owner
    installs the `initial_set` object itself, and the write goes into it -/
theorem baseFrame_alias_breaks :
    ¬ NoAlias (baseFrame true (finit [(kS0, .int 1)]) 0 0) ∧
    (writeBase true (finit [(kS0, .int 1)]) 0 0 (fun f => AList.set f kB0 (.val (.int 9)))).initialOf 0
      ≠ (finit [(kS0, .int 1)]).initialOf 0 := by
  constructor
  · intro h; exact h 0 0 rfl
  · decide

def kS : Key := ['s']
def kB : Key := ['b']

/-- write through the owner FIRST (so that the write path creates its frame), then hand the same
    `Properties` object to a second class, then read through that class -/
def aliasHist : List Cmd :=
  [.op (.cls 0) (.setitem kB (.int 9)), .usingShared 0 0 [(kS, .int 1)], .op (.cls 1) (.getitem kB),
   .op (.cls 1) .items]

/-- the counter-model breaks the correspondence: with `_base_frame` storing `initial_set`
    itself (`alias = true`, seeded mutation `C17-base-frame-alias-initial`) the write through the
    owner goes INTO `initial_set`: the class that is handed the same `Properties` object later sees
    it (`['b']` returns 9 instead of raising `KeyError`), the results differ from model A's, and
    `initial_set` is no longer what the object was constructed with.  The mechanism as written
    (`alias = false`) gives model A's results on the same history. -/
theorem aliasInitial_fails :
    (frun true (finit [(kS, .int 1)]) aliasHist).2 ≠ (run (initState [(kS, .int 1)]) aliasHist).2 ∧
    (frun true (finit [(kS, .int 1)]) aliasHist).2[2]? = some (.val (.int 9)) ∧
    (run (initState [(kS, .int 1)]) aliasHist).2[2]? = some (.err .keyError) ∧
    (frun true (finit [(kS, .int 1)]) aliasHist).1.initialOf 0 ≠ (finit [(kS, .int 1)]).initialOf 0 ∧
    (frun false (finit [(kS, .int 1)]) aliasHist).2 = (run (initState [(kS, .int 1)]) aliasHist).2 ∧
    (frun false (finit [(kS, .int 1)]) aliasHist).1.initialOf 0 = (finit [(kS, .int 1)]).initialOf 0 := by
  decide +kernel

end Flatland.C17.Frames.Proofs
