/-
C14, which exception is raised: the trees and paths on which the three orders of errors differ — the
code's (`denOrd`, `denoteR`), the plain depth-first one (`denOps`), spec B's step-major one (`denote`) —
as instances of the theorems without `UniSteps` of `Proofs/C14.lean` (`eval_denotes_raw_gen`,
`find_print_denotes_gen`); and the `UniSteps` theorems of that file stated once more (`*_cor`).
-/
import Proofs.C14
import Proofs.C14SliceSpec   -- the slice theorems are audited through this module (harness/props/c14.py)
namespace Flatland.C14.Proofs
open Flatland.Path Flatland.C14.Spec Flatland.Path.Lemmas

theorem denOps_compile_cor (root : Node) (strict : Bool) (p : Spec.Path) (hwf : UniSteps strict p.steps)
    (el : Pos) : denOps root strict (compile p) el = denote p root el strict :=
  denOps_compile root strict p hwf el

theorem find_print_denotes_cor (root : Node) (start : Pos) (p : CPath) (single strict : Bool)
    (hwf : p.wf = true) (hfit : ∀ c ∈ p.steps, StepFits c.step) (hc : Canon p.abstract = true)
    (hu : UniSteps strict p.abstract.steps) :
    find root start (print p) single strict = findSpec p.abstract root start single strict :=
  find_print_denotes root start p single strict hwf hfit hc hu

theorem find_print_cancel_cor (root : Node) (start : Pos) (p : CPath) (single strict : Bool)
    (hwf : p.wf = true) (hfit : ∀ c ∈ p.steps, StepFits c.step) (hu : UniSteps strict p.abstract.steps) :
    find root start (print p) single strict = findSpec (cancel p.abstract) root start single strict :=
  find_print_cancel root start p single strict hwf hfit hu

theorem eval_denotes_cor (root : Node) (strict : Bool) (p : Spec.Path)
    (hwf : UniSteps strict p.steps) (hc : Canon p = true) (el : Pos) :
    evalOps root strict (canonicalize (compile p)) el = denote p root el strict :=
  eval_denotes root strict p hwf hc el

/-- `[:]/a[::0]`, strict, on `mixedTree` = Dict{x: Dict{a: List[…]}, y: Dict{}} (`Proofs/C14.lean`): the
    lookup `a` fails below `y` (LookupError), the zero step is reached below `x/a` (ValueError), both at
    depth 1, `x` first in sequence order: the code raises ValueError.  Spec B's step-major `denote` meets
    the failed lookup first (step 2 over the whole selection, before step 3). -/
def mixedPath : Spec.Path :=
  ⟨false, [.slice none none none, .name ['a'], .slice none none (some (some 0))]⟩

example : (denoteR mixedPath mixedTree [] true).forget = .error .value := by decide
example : denote mixedPath mixedTree [] true = .error .lookup := by decide
example : ¬ UniSteps true mixedPath.steps := by
  intro h; rcases h with h | h <;> exact absurd h (by decide)
example : evalOps mixedTree true (compile mixedPath) [] = .error .value := by
  rw [eval_denotes_raw_gen]; decide

/-- `[:]/a[:][::0]`, strict: the LookupError (depth 1) beats the ValueError (depth 2) although it is
    later in sequence order -/
def mixedPath2 : Spec.Path :=
  ⟨false, [.slice none none none, .name ['a'], .slice none none none, .slice none none (some (some 0))]⟩

example : denoteR mixedPath2 mixedTree [] true = .err 1 .lookup := by decide
example : evalOps mixedTree true (compile mixedPath2) [] = .error .lookup := by
  rw [eval_denotes_raw_gen]; decide

/-- the same end to end, through printer and tokenizer: `find('[:]/a[::0]', strict=True)` raises
    ValueError — an instance of `find_print_denotes_gen` that `find_print_denotes` does not cover -/
def mixedCPath : CPath :=
  ⟨false, false, [⟨.slice none none none, {}⟩, ⟨.name ['a'], {}⟩, ⟨.slice none none (some (some 0)), {}⟩]⟩

theorem mixedCPath_fits : ∀ c ∈ mixedCPath.steps, StepFits c.step := by
  intro c hc
  simp only [mixedCPath, List.mem_cons, List.mem_nil_iff, or_false] at hc
  rcases hc with hc | hc | hc <;> subst hc
  · exact ⟨trivial, trivial, trivial⟩
  · trivial
  · exact ⟨trivial, trivial, intFits_zero⟩

example : find mixedTree [] (print mixedCPath) false true = .err .value := by
  rw [find_print_denotes_gen _ _ _ _ _ (by decide) mixedCPath_fits (by decide)]
  have : (denoteR mixedCPath.abstract mixedTree [] true).forget = .error .value := by decide
  simp [findSpecR, this]

end Flatland.C14.Proofs

