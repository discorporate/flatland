/-
C20 — Dict.slice / update_object / set_by_object move exactly the selected fields.

Model A: Flatland/C20.lean.  Spec B: Flatland/Spec/C20.lean.  All theorems are for every value
type `V`, every field list and every include/omit/rename; those about `slice` and `update_object` alone
also for every key function `Str → Str`.
-/
import Flatland.C20
import Flatland.Spec.C20
import Proofs.Lemmas.C20Dict
namespace Flatland.C20.Proofs
open Flatland.C20 Flatland.C20.Spec

variable {V : Type}

theorem keysliceOne_eq_outKey (a : Args) (k : Str) : keysliceOne a k = outKey a k := by
  unfold keysliceOne outKey renameTo selected
  cases a.key <;> simp only <;> split <;> rename_i heq <;> rw [heq] <;>
    by_cases h1 : a.inc.isEmpty <;> by_cases h2 : a.om.isEmpty <;> simp [h1, h2]

theorem not_exclusive_iff (a : Args) : ¬ Exclusive a ↔ (!a.inc.isEmpty && !a.om.isEmpty) = true := by
  unfold Exclusive
  cases a.inc <;> cases a.om <;> simp

theorem not_both_of_exclusive {a : Args} (h : Exclusive a) : (!a.inc.isEmpty && !a.om.isEmpty) = false :=
  eq_false_of_ne_true fun hb => (not_exclusive_iff a).mpr hb h

theorem keyslicePairs_ok (a : Args) (h : Exclusive a) (ps : List (Str × V)) :
    keyslicePairs a ps = .ok (ps.filterMap fun p => (outKey a p.1).map (·, p.2)) := by
  unfold keyslicePairs
  simp only [not_both_of_exclusive h, Bool.false_eq_true, if_false]
  congr 2
  funext p
  rw [keysliceOne_eq_outKey]

theorem mem_fm (g : Str → Option Str) (s : List (Str × V)) (k' : Str) (v : V) :
    (k', v) ∈ s.filterMap (fun p => (g p.1).map (·, p.2)) ↔ ∃ n, (n, v) ∈ s ∧ g n = some k' := by
  simp only [List.mem_filterMap, Option.map_eq_some_iff, Prod.mk.injEq]
  constructor
  · rintro ⟨⟨n, w⟩, hm, k'', hg, hk, hv⟩
    subst hk; subst hv; exact ⟨n, hm, hg⟩
  · rintro ⟨n, hm, hg⟩
    exact ⟨(n, v), hm, k', hg, rfl, rfl⟩

theorem get_fm_cons (g : Str → Option Str) (xn : Str) (xv : V) (t : List (Str × V)) (k' : Str) :
    Assoc.get (((xn, xv) :: t).filterMap fun p => (g p.1).map (·, p.2)) k' =
      if g xn = some k' then some xv else Assoc.get (t.filterMap fun p => (g p.1).map (·, p.2)) k' := by
  rw [List.filterMap_cons]
  cases hg : g xn with
  | none => simp
  | some kx => by_cases h : kx = k' <;> simp [Assoc.get_cons, h]

/-- in DESCENDING key order the first field landing on `k'` is the greatest one -/
theorem get_fm_desc (g : Str → Option Str) (t : List (Str × V))
    (ht : t.Pairwise fun p q => strLt q.1 p.1 = true) (k' : Str) (v : V) :
    Assoc.get (t.filterMap fun p => (g p.1).map (·, p.2)) k' = some v ↔
      ∃ n, (n, v) ∈ t ∧ g n = some k' ∧
        ∀ n' v', (n', v') ∈ t → g n' = some k' → n' = n ∨ strLt n' n = true := by
  induction t with
  | nil => simp
  | cons x rest ih =>
    obtain ⟨xn, xv⟩ := x
    obtain ⟨hx, hrest⟩ := List.pairwise_cons.mp ht
    rw [get_fm_cons]
    by_cases hg : g xn = some k'
    · rw [if_pos hg]
      constructor
      · rintro ⟨⟩
        exact ⟨xn, List.mem_cons_self, hg, fun n' v' hm _ =>
          (List.mem_cons.mp hm).elim (fun e => Or.inl (Prod.mk.inj e).1) fun h => Or.inr (hx _ h)⟩
      · rintro ⟨n, hm, -, hmax⟩
        rcases List.mem_cons.mp hm with e | hm'
        · cases e; rfl
        · -- `n` is below the head, and the head lands on `k'` too
          have h1 : strLt n xn = true := hx _ hm'
          rcases hmax xn xv List.mem_cons_self hg with e | h2
          · rw [e, strLt_irrefl] at h1; cases h1
          · have := strLt_trans _ _ _ h1 h2
            rw [strLt_irrefl] at this; cases this
    · rw [if_neg hg, ih hrest]
      constructor
      · rintro ⟨n, hm, hgn, hmax⟩
        exact ⟨n, List.mem_cons_of_mem _ hm, hgn, fun n' v' hm' hg' =>
          (List.mem_cons.mp hm').elim (fun e => absurd ((Prod.mk.inj e).1 ▸ hg') hg) fun h => hmax n' v' h hg'⟩
      · rintro ⟨n, hm, hgn, hmax⟩
        exact ⟨n, (List.mem_cons.mp hm).resolve_left fun e => hg ((Prod.mk.inj e).1 ▸ hgn), hgn,
          fun n' v' hm' => hmax n' v' (List.mem_cons_of_mem _ hm')⟩

/-- in `dict()` the last pair wins, i.e. the first of the reversed list -/
theorem dictGet_fm_sorted (g : Str → Option Str) (s : List (Str × V)) (hs : SortedKeys s)
    (k' : Str) (v : V) :
    dictGet (s.filterMap (fun p => (g p.1).map (·, p.2))) k' = some v ↔
      ∃ n, (n, v) ∈ s ∧ g n = some k' ∧
        ∀ n' v', (n', v') ∈ s → g n' = some k' → n' = n ∨ strLt n' n = true := by
  rw [dictGet_eq, ← List.filterMap_reverse, get_fm_desc g _ (List.pairwise_reverse.mpr hs)]
  simp only [List.mem_reverse]

theorem slice_ok (e : Elem V) (a : Args) (hx : Exclusive a) :
    slice e a = .ok (dictOf ((sortByKey e).filterMap fun p => (outKey a p.1).map (·, p.2))) := by
  simp only [slice, keyslicePairs_ok a hx]

theorem slice_nodup {e : Elem V} {a : Args} {m : List (Str × V)} (h : slice e a = .ok m) : (keys m).Nodup := by
  unfold slice at h
  cases hk : keyslicePairs a (sortByKey e) with
  | error y => simp [hk] at h
  | ok sl => simp only [hk, Except.ok.injEq] at h; subst h; exact keys_dictOf_nodup _

/-- C20: `Dict.slice` returns exactly the reference selection: a `dict` (distinct
    keys) that holds under `k'` the native value of the field that the reference destination
    function sends to `k'` (the greatest such field when several collide); renamed fields are
    always present under their new key, the key function is applied before everything. -/
theorem slice_spec (e : Elem V) (a : Args) (hn : (keys e).Nodup) (hx : Exclusive a) :
    ∃ m, slice e a = .ok m ∧ (keys m).Nodup ∧
      ∀ k' v, lookup m k' = some v ↔ ∃ n, IsWinner e a k' n v := by
  refine ⟨_, slice_ok e a hx, keys_dictOf_nodup _, ?_⟩
  intro k' v
  have hs : SortedKeys (sortByKey e) := sorted_sortByKey e hn
  rw [lookup_dictOf, dictGet_fm_sorted (outKey a) _ hs]
  unfold IsWinner
  simp only [mem_sortByKey]

theorem slice_keys (e : Elem V) (a : Args) (hx : Exclusive a) (m : List (Str × V))
    (h : slice e a = .ok m) (k' : Str) :
    k' ∈ keys m ↔ ∃ p ∈ e, outKey a p.1 = some k' := by
  rw [slice_ok e a hx, Except.ok.injEq] at h
  subst h
  rw [mem_keys_iff_lookup, lookup_dictOf, dictGet_isSome]
  constructor
  · rintro ⟨v, hv⟩
    obtain ⟨n, hm, hg⟩ := (mem_fm _ _ _ _).mp hv
    exact ⟨(n, v), (mem_sortByKey _ _).mp hm, hg⟩
  · rintro ⟨⟨n, v⟩, hm, hg⟩
    exact ⟨v, (mem_fm _ _ _ _).mpr ⟨n, (mem_sortByKey _ _).mpr hm, hg⟩⟩

/-- without collisions (`hinj`) no ordering is involved -/
theorem slice_spec_injective (e : Elem V) (a : Args) (hn : (keys e).Nodup) (hx : Exclusive a)
    (hinj : ∀ p ∈ e, ∀ q ∈ e, (outKey a p.1).isSome → outKey a p.1 = outKey a q.1 → p.1 = q.1)
    (m : List (Str × V)) (h : slice e a = .ok m) (n : Str) (v : V) (k' : Str)
    (hm : (n, v) ∈ e) (hk : outKey a n = some k') : lookup m k' = some v := by
  obtain ⟨m', hm', _, hspec⟩ := slice_spec e a hn hx
  rw [h] at hm'; cases hm'
  apply (hspec k' v).mpr
  refine ⟨n, hm, hk, ?_⟩
  intro n' v' hm2 hk2
  exact Or.inl (hinj (n', v') hm2 (n, v) hm (by simp [hk2]) (by simp [hk, hk2]))

example :
    slice (V := Nat) [("b".toList, 2), ("a".toList, 1), ("c".toList, 3)]
      { om := ["a".toList, "c".toList], ren := [("a".toList, "z".toList)] } =
      .ok [("z".toList, 1), ("b".toList, 2)] := by rfl

/-- C20: with both `include` and `omit` non-empty all three methods fail
    with `TypeError`; the object is not written, nothing is read from it, the element keeps its
    state. -/
theorem include_omit_exclusive (S : Schema V) (e : Elem V) (o : Obj V) (a : Args)
    (h : ¬ Exclusive a) :
    slice e a = .error .typeError ∧ updateObject e o a = .error .typeError ∧
    (setByObject S e o a).exc = some .typeError ∧ (setByObject S e o a).reads = [] ∧
    (setByObject S e o a).elem = e := by
  have hb := (not_exclusive_iff a).mp h
  have h1 : slice e a = .error .typeError := by simp [slice, keyslicePairs, hb]
  refine ⟨h1, by simp [updateObject, h1], ?_, ?_, ?_⟩ <;> simp [setByObject, hb]

theorem slice_total (e : Elem V) (a : Args) (h : Exclusive a) : ∃ m, slice e a = .ok m :=
  ⟨_, slice_ok e a h⟩

example : ¬ Exclusive { inc := ["a".toList], om := ["b".toList] } := by decide +kernel

/-- C20: after `update_object` every attribute named by the slice holds the
    slice's value and every other attribute is what it was. -/
theorem update_object_frame (e : Elem V) (o o' : Obj V) (a : Args)
    (h : updateObject e o a = .ok o') :
    ∃ m, slice e a = .ok m ∧ ∀ x, o'.get x = (match lookup m x with
                                              | some v => some v
                                              | none => o.get x) := by
  unfold updateObject at h
  cases hs : slice e a with
  | error x => simp [hs] at h
  | ok m =>
    simp only [hs, Except.ok.injEq] at h
    refine ⟨m, rfl, ?_⟩
    intro x
    rw [← h, get_foldl_set, lookup_eq_dictGet_of_nodup m (slice_nodup hs)]
    cases dictGet m x <;> rfl

theorem update_object_untouched (e : Elem V) (o o' : Obj V) (a : Args) (m : List (Str × V))
    (h : updateObject e o a = .ok o') (hs : slice e a = .ok m) (x : Str) (hx : x ∉ keys m) :
    o'.get x = o.get x := by
  obtain ⟨m', hm', hget⟩ := update_object_frame e o o' a h
  rw [hs] at hm'; cases hm'
  rw [hget x, lookup_eq, Assoc.get_eq_none_iff.mpr hx]

example :
    updateObject (V := Nat) [("a".toList, 1), ("b".toList, 2)] [("q".toList, some 9), ("a".toList, none)]
      { inc := ["a".toList] } = .ok [("q".toList, some 9), ("a".toList, some 1)] := by rfl

theorem mem_sortStrs (l : List Str) (x : Str) : x ∈ sortStrs l ↔ x ∈ l := by
  unfold sortStrs
  simp only [List.mem_map]
  constructor
  · rintro ⟨⟨y, u⟩, hm, rfl⟩
    have := (mem_sortByKey _ _).mp hm
    simpa using this
  · intro h
    exact ⟨(x, ()), (mem_sortByKey _ _).mpr (List.mem_map.mpr ⟨x, h, rfl⟩), rfl⟩

/-- the dict handed to `Dict.set` by `set_by_object` -/
def finalOf (S : Schema V) (o : Obj V) (a : Args) : List (Str × V) :=
  dictOf (((readable o (candidates S.fields a)).filterMap
    (fun p => (outKey { a with key := none } p.1).map (·, p.2))).filter fun p => S.fields.contains p.1)

theorem setByObject_ok (S : Schema V) (e : Elem V) (o : Obj V) (a : Args) (hx : Exclusive a) :
    setByObject S e o a =
      ⟨candidates S.fields a, (dictSetValue S (finalOf S o a)).1, (dictSetValue S (finalOf S o a)).2⟩ := by
  have hx' : Exclusive { a with key := none } := hx
  simp only [setByObject, not_both_of_exclusive hx, Bool.false_eq_true, if_false, keyslicePairs_ok _ hx', finalOf]

theorem reads_eq (S : Schema V) (e : Elem V) (o : Obj V) (a : Args) (hx : Exclusive a) :
    (setByObject S e o a).reads = candidates S.fields a := by
  rw [setByObject_ok S e o a hx]

theorem mem_dictOf_iff {β : Type} (ps : List (Str × β)) (k : Str) (v : β) :
    (k, v) ∈ dictOf ps ↔ dictGet ps k = some v := by
  rw [← lookup_dictOf, lookup_eq]; exact Assoc.mem_iff_get (keys_dictOf_nodup ps)

theorem mem_keys_dictOf (ren : List (Str × Str)) (x : Str) :
    x ∈ keys (dictOf ren) ↔ (dictGet ren x).isSome = true := by
  rw [mem_keys_iff_lookup, lookup_dictOf]

theorem mem_renAttrs (fields : List Str) (ren : List (Str × Str)) (x : Str) :
    x ∈ renAttrs fields ren ↔
      (x ∈ fields ∧ dictGet ren x = none) ∨ ∃ f, dictGet ren x = some f ∧ f ∈ fields := by
  unfold renAttrs
  simp only [List.mem_append, List.mem_map, List.mem_filter, Bool.not_eq_true', List.contains_eq_mem,
    decide_eq_false_iff_not, decide_eq_true_eq, mem_keys_dictOf]
  constructor
  · rintro (⟨h1, h2⟩ | ⟨⟨k, v⟩, ⟨hm, hv⟩, rfl⟩)
    · left; refine ⟨h1, ?_⟩
      cases hd : dictGet ren x with
      | none => rfl
      | some w => simp [hd] at h2
    · exact Or.inr ⟨v, (mem_dictOf_iff _ _ _).mp hm, hv⟩
  · rintro (⟨h1, h2⟩ | ⟨f, hd, hf⟩)
    · exact Or.inl ⟨h1, by simp [h2]⟩
    · exact Or.inr ⟨(x, f), ⟨(mem_dictOf_iff _ _ _).mpr hd, hf⟩, rfl⟩

/-- C20, `set_by_object` reads exactly the attributes that map to declared fields: those whose destination
    (rename target, else own name) is a declared field, minus the omitted ones that are not renamed; for
    Dict and SparseDict alike (KF-C20-a, KF-C20-b: fixes 2460dd6, 786474b, 29e8575). -/
theorem set_by_object_reads (S : Schema V) (e : Elem V) (o : Obj V) (a : Args)
    (hx : Exclusive a) (x : Str) :
    x ∈ (setByObject S e o a).reads ↔ readSet S.fields a x := by
  rw [reads_eq S e o a hx, candidates, mem_sortStrs, List.mem_filter, mem_renAttrs]
  unfold readSet dest renameTo
  simp only [Bool.not_eq_true', Bool.and_eq_false_iff, List.contains_eq_mem, decide_eq_false_iff_not,
    Bool.not_eq_false', decide_eq_true_eq, mem_keys_dictOf]
  cases hd : dictGet a.ren x with
  | none => simp
  | some t => simp

/-- the third clause of the property, as a closed statement -/
def C20_Full : Prop :=
  ∀ (S : Schema Unit) (e : Elem Unit) (o : Obj Unit) (a : Args), Exclusive a →
    ∀ x, x ∈ (setByObject S e o a).reads ↔ readSet S.fields a x

theorem C20_full_holds : C20_Full := fun S e o a hx x => set_by_object_reads S e o a hx x

/-- the witness of KF-C20-a (fixed, 2460dd6): with rename `[(x, a), (y, x)]` and the single field `a`, only
    `a` and `x` are looked at; `y` maps to `x`, which is not a field -/
example :
    (setByObject (V := Unit) { fields := ["a".toList], blank := (), setF := fun _ _ => () } [("a".toList, ())] []
      { ren := [("x".toList, "a".toList), ("y".toList, "x".toList)] }).reads = ["a".toList, "x".toList] := by
  decide +kernel

/-- the witness of KF-C20-b (fixed, 29e8575): a fresh SparseDict with the declared field `a` looks at `a` -/
example :
    (setByObject (V := Unit) { fields := ["a".toList], blank := (), setF := fun _ _ => (), sparse := true } [] [] {}).reads
      = ["a".toList] := by
  decide +kernel

def swapPairs (ren : List (Str × Str)) : List (Str × Str) := ren.map fun p => (p.2, p.1)

/-- the arguments of the read-back: the inverse renaming, nothing else -/
def inverseArgs (a : Args) : Args := { ren := swapPairs a.ren }

theorem mem_swapPairs (ren : List (Str × Str)) (x k : Str) : (x, k) ∈ swapPairs ren ↔ (k, x) ∈ ren := by
  unfold swapPairs
  simp only [List.mem_map, Prod.mk.injEq]
  constructor
  · rintro ⟨⟨a, b⟩, hm, h1, h2⟩; subst h1; subst h2; exact hm
  · intro h; exact ⟨(k, x), h, rfl, rfl⟩

theorem keys_swapPairs (ren : List (Str × Str)) : keys (swapPairs ren) = ren.map (·.2) := by
  simp [keys, swapPairs]

theorem dictGet_none_iff {β : Type} (ps : List (Str × β)) (k : Str) :
    dictGet ps k = none ↔ ∀ v, (k, v) ∉ ps := by
  rw [← Option.not_isSome_iff_eq_none, dictGet_isSome, not_exists]

/-- when the pairs with key `k` are `(k, v)` alone, present or not -/
theorem dictGet_of_pairs {β : Type} (ps : List (Str × β)) (k : Str) (v : β) (c : Bool)
    (h : ∀ w, (k, w) ∈ ps ↔ w = v ∧ c = true) : dictGet ps k = if c then some v else none := by
  cases c with
  | false => exact (dictGet_none_iff ps k).mpr fun w hw => Bool.false_ne_true ((h w).mp hw).2
  | true =>
    cases hd : dictGet ps k with
    | none => exact absurd ((h v).mpr ⟨rfl, rfl⟩) ((dictGet_none_iff ps k).mp hd v)
    | some w => rw [((h w).mp (dictGet_mem ps k w hd)).1]; rfl

theorem mem_readable (o : Obj V) (cand : List Str) (x : Str) (v : V) :
    (x, v) ∈ readable o cand ↔ x ∈ cand ∧ o.get x = some v := by
  unfold readable
  simp only [List.mem_filterMap, Option.map_eq_some_iff, Prod.mk.injEq]
  constructor
  · rintro ⟨x', hx', v', hg, rfl, rfl⟩; exact ⟨hx', hg⟩
  · rintro ⟨hx, hg⟩; exact ⟨x, hx, v, hg, rfl, rfl⟩

theorem finalOf_lookup_mem (S : Schema V) (o : Obj V) (a : Args) (n : Str) (hn : n ∈ S.fields) (w : V) :
    (n, w) ∈ ((readable o (candidates S.fields a)).filterMap
        (fun p => (outKey { a with key := none } p.1).map (·, p.2))).filter (fun p => S.fields.contains p.1) ↔
      ∃ x, x ∈ candidates S.fields a ∧ o.get x = some w ∧ outKey { a with key := none } x = some n := by
  simp only [List.mem_filter, mem_fm, mem_readable, List.contains_eq_mem, hn, decide_true, and_true, and_assoc]

theorem dictSetValue_nonstrict (S : Schema V) (final : List (Str × V)) (hpol : S.policy ≠ .strict)
    (hs : S.sparse = false) :
    dictSetValue S final = (none, S.fields.map fun f => (f, match lookup final f with
                                                            | some x => S.setF f x
                                                            | none => S.blank)) := by
  simp only [dictSetValue, beq_eq_false_iff_ne.mpr hpol, hs, Bool.false_and, Bool.false_eq_true, if_false]
  rfl

theorem dictSetValue_sparse_nonstrict (S : Schema V) (final : List (Str × V)) (hpol : S.policy ≠ .strict)
    (hs : S.sparse = true) :
    dictSetValue S final = (none, final.map fun p => (p.1, S.setF p.1 p.2)) := by
  simp only [dictSetValue, beq_eq_false_iff_ne.mpr hpol, hs, Bool.false_and, Bool.false_eq_true, if_false, if_true]

theorem renAttrs_nodup (fields : List Str) (ren : List (Str × Str)) (h : fields.Nodup) : (renAttrs fields ren).Nodup := by
  unfold renAttrs
  rw [List.nodup_append]
  refine ⟨h.filter _, ?_, ?_⟩
  · have hk := keys_dictOf_nodup ren
    unfold keys at hk
    exact List.Nodup.sublist (List.Sublist.map _ List.filter_sublist) hk
  · intro a ha b hb hab
    subst hab
    obtain ⟨p, hp, rfl⟩ := List.mem_map.mp hb
    have hk : p.1 ∈ keys (dictOf ren) := List.mem_map_of_mem (f := (·.1)) (List.mem_filter.mp hp).1
    have := (List.mem_filter.mp ha).2
    simp [hk] at this

theorem candidates_sorted (fields : List Str) (a : Args) (hf : fields.Nodup) :
    (candidates fields a).Pairwise (fun x y => strLt x y = true) := by
  unfold candidates sortStrs
  generalize (fun x => !(a.om.contains x && !(keys (dictOf a.ren)).contains x)) = keep
  have hn : ((renAttrs fields a.ren).filter keep).Nodup := (renAttrs_nodup fields a.ren hf).filter _
  have hs := sorted_sortByKey (((renAttrs fields a.ren).filter keep).map fun s => (s, ()))
    (by simpa [keys, List.map_map, Function.comp_def] using hn)
  unfold SortedKeys at hs
  exact List.Pairwise.map _ (fun _ _ h => h) hs

theorem readable_sorted (o : Obj V) (cand : List Str) (h : cand.Pairwise (fun x y => strLt x y = true)) :
    SortedKeys (readable o cand) := by
  unfold SortedKeys readable
  apply List.Pairwise.filterMap _ _ h
  intro x y hxy b hb b' hb'
  simp only [Option.map_eq_some_iff] at hb hb'
  obtain ⟨_, _, rfl⟩ := hb
  obtain ⟨_, _, rfl⟩ := hb'
  exact hxy

theorem dictGet_filter_key {β : Type} (l : List (Str × β)) (p : Str → Bool) (k : Str) (hk : p k = true) :
    dictGet (l.filter fun q => p q.1) k = dictGet l k := by
  rw [dictGet_eq, dictGet_eq, ← List.filter_reverse, Assoc.get_filter_key, if_pos hk]

/-- `(x, v)` is the attribute that provides the value for field `f`: a candidate, readable, sent to
    `f` by the reference destination function, and greater than every other such attribute -/
def IsAttrWinner (S : Schema V) (o : Obj V) (a : Args) (f x : Str) (v : V) : Prop :=
  x ∈ candidates S.fields a ∧ o.get x = some v ∧ outKey { a with key := none } x = some f ∧
  ∀ x' v', x' ∈ candidates S.fields a → o.get x' = some v' → outKey { a with key := none } x' = some f →
    x' = x ∨ strLt x' x = true

/-- after `set_by_object` every declared field holds `member.set(v)` for
    the value `v` of the attribute that maps to it (the greatest attribute name when several do),
    and is blank when no readable candidate attribute maps to it. -/
theorem set_by_object_values (S : Schema V) (e : Elem V) (o : Obj V) (a : Args) (hx : Exclusive a)
    (hf : S.fields.Nodup) (hpol : S.policy ≠ .strict) (hs : S.sparse = false) :
    (setByObject S e o a).exc = none ∧
    ∃ val : Str → Option V,
      (setByObject S e o a).elem = S.fields.map (fun f => (f, match val f with
                                                              | some v => S.setF f v
                                                              | none => S.blank)) ∧
      ∀ f ∈ S.fields, ∀ v, val f = some v ↔ ∃ x, IsAttrWinner S o a f x v := by
  rw [setByObject_ok S e o a hx, dictSetValue_nonstrict S _ hpol hs]
  refine ⟨rfl, lookup (finalOf S o a), ?_, ?_⟩
  · rfl
  intro f hfm v
  unfold finalOf
  rw [lookup_dictOf, dictGet_filter_key _ (fun k => S.fields.contains k) f (by simpa using hfm),
    dictGet_fm_sorted _ _ (readable_sorted o _ (candidates_sorted S.fields a hf))]
  unfold IsAttrWinner
  simp only [mem_readable]
  constructor
  · rintro ⟨x, ⟨hc, hg⟩, hk, hmax⟩
    exact ⟨x, hc, hg, hk, fun x' v' hc' hg' hk' => hmax x' v' ⟨hc', hg'⟩ hk'⟩
  · rintro ⟨x, hc, hg, hk, hmax⟩
    exact ⟨x, ⟨hc, hg⟩, hk, fun x' v' h' hk' => hmax x' v' h'.1 h'.2 hk'⟩

theorem outKey_some_iff (a : Args) (hkey : a.key = none) (n k : Str) :
    outKey a n = some k ↔
      dictGet a.ren n = some k ∨ dictGet a.ren n = none ∧ selected a n = true ∧ n = k := by
  simp only [outKey, renameTo, hkey]
  cases dictGet a.ren n <;> simp

/-- the read-back sends every name to its `dest`: the inverse renaming has no include/omit -/
theorem outKey_inverseArgs (a : Args) (x : Str) :
    outKey { inverseArgs a with key := none } x = some (dest (inverseArgs a) x) := by
  simp only [outKey, dest, renameTo, selected, inverseArgs]
  cases dictGet (swapPairs a.ren) x <;> rfl

/-- the inverse renaming finds the source of every destination: a rename target goes back to the name it
    was given for (targets are distinct), an unrenamed field to itself (no target is a field) -/
theorem dest_inverse (fields : List Str) (a : Args) (hkey : a.key = none) (htgtN : (a.ren.map (·.2)).Nodup)
    (htgtF : ∀ p ∈ a.ren, p.2 ∉ fields) {n x : Str} (hn : n ∈ fields) (h : outKey a n = some x) :
    dest (inverseArgs a) x = n := by
  simp only [dest, renameTo, inverseArgs]
  rcases (outKey_some_iff a hkey n x).mp h with hr | ⟨_, _, rfl⟩
  · rw [dictGet_of_nodup _ (keys_swapPairs a.ren ▸ htgtN) x n ((mem_swapPairs _ _ _).mpr (dictGet_mem _ _ _ hr))]
  · rw [(dictGet_none_iff _ _).mpr fun k hk => htgtF _ ((mem_swapPairs _ _ _).mp hk) hn]

theorem dest_inverse_dom (a : Args) (x : Str) :
    x ∈ a.ren.map (·.2) ∨ dest (inverseArgs a) x = x := by
  simp only [dest, renameTo, inverseArgs]
  cases hd : dictGet (swapPairs a.ren) x with
  | none => exact Or.inr rfl
  | some k => exact Or.inl (List.mem_map_of_mem (f := (·.2)) ((mem_swapPairs _ _ _).mp (dictGet_mem _ _ _ hd)))

/-- after `update_object`, the dict that `set_by_object` with the inverse
    renaming hands to `Dict.set` holds, for each member of the source element, its value if it was
    selected and nothing otherwise -/
theorem roundtrip_final (S : Schema V) (e : Elem V) (o : Obj V) (a : Args)
    (hne : (keys e).Nodup) (hmemF : ∀ p ∈ e, p.1 ∈ S.fields) (hkey : a.key = none) (hx : Exclusive a)
    (htgtN : (a.ren.map (·.2)).Nodup) (htgtF : ∀ p ∈ a.ren, p.2 ∉ S.fields)
    (hfresh : ∀ x, (x ∈ S.fields ∨ x ∈ a.ren.map (·.2)) → o.get x = none) :
    ∃ o', updateObject e o a = .ok o' ∧
      ∀ n v, (n, v) ∈ e →
        lookup (finalOf S o' (inverseArgs a)) n = if (outKey a n).isSome then some v else none := by
  obtain ⟨m, hm, -, hspec⟩ := slice_spec e a hne hx
  have hinv := fun {n x : Str} => dest_inverse S.fields a hkey htgtN htgtF (n := n) (x := x)
  -- a function with a left inverse: no two fields share a destination
  have hinj : ∀ p ∈ e, ∀ q ∈ e, (outKey a p.1).isSome → outKey a p.1 = outKey a q.1 → p.1 = q.1 := by
    intro p hp q hq hsome heq
    obtain ⟨k, hk⟩ := Option.isSome_iff_exists.mp hsome
    exact (hinv (hmemF p hp) hk).symm.trans (hinv (hmemF q hq) (heq ▸ hk))
  have hupd : updateObject e o a = .ok (m.foldl (fun o p => o.set p.1 p.2) o) := by
    simp only [updateObject, hm]
  refine ⟨_, hupd, ?_⟩
  obtain ⟨m', hm', hget⟩ := update_object_frame e o _ a hupd
  rw [hm] at hm'; cases hm'
  generalize m.foldl (fun o p => o.set p.1 p.2) o = o' at hget hupd
  -- on a name that goes back to a field the object shows the moved field's value, and nothing else
  have hshow : ∀ x w, dest (inverseArgs a) x ∈ S.fields →
      (o'.get x = some w ↔ ∃ n, (n, w) ∈ e ∧ outKey a n = some x) := by
    intro x w hd
    have hfx : o.get x = none := hfresh x ((dest_inverse_dom a x).elim Or.inr fun h => Or.inl (h ▸ hd))
    have : o'.get x = lookup m x := by rw [hget x, hfx]; cases lookup m x <;> rfl
    rw [this]
    exact ⟨fun hl => let ⟨n, hn, hg, _⟩ := (hspec x w).mp hl; ⟨n, hn, hg⟩,
      fun ⟨n, hn, hg⟩ => slice_spec_injective e a hne hx hinj m hm n w x hn hg⟩
  intro n v hp
  have hnF := hmemF _ hp
  unfold finalOf
  rw [lookup_dictOf]
  apply dictGet_of_pairs
  intro w
  rw [finalOf_lookup_mem S o' (inverseArgs a) n hnF w]
  simp only [outKey_inverseArgs, Option.some.injEq]
  constructor
  · rintro ⟨x, -, hg, hd⟩
    obtain ⟨n', hn', hgn'⟩ := (hshow x w (hd ▸ hnF)).mp hg
    obtain rfl : n' = n := (hinv (hmemF _ hn') hgn').symm.trans hd
    exact ⟨Option.some.inj (((Assoc.mem_iff_get hne).mp hn').symm.trans ((Assoc.mem_iff_get hne).mp hp)), by rw [hgn']; rfl⟩
  · rintro ⟨rfl, hs⟩
    obtain ⟨x, hgx⟩ := Option.isSome_iff_exists.mp hs
    have hd := hinv hnF hgx
    refine ⟨x, ?_, (hshow x w (hd ▸ hnF)).mpr ⟨n, hp, hgx⟩, hd⟩
    rw [← reads_eq S [] o' (inverseArgs a) (Or.inl rfl), set_by_object_reads S [] o' _ (Or.inl rfl)]
    exact ⟨hd ▸ hnF, Or.inr List.not_mem_nil⟩


theorem object_roundtrip_final (S : Schema V) (e : Elem V) (o : Obj V) (a : Args)
    (hne : (keys e).Nodup) (hmemF : ∀ p ∈ e, p.1 ∈ S.fields) (hkey : a.key = none) (hx : Exclusive a)
    (hsrcN : (a.ren.map (·.1)).Nodup) (htgtN : (a.ren.map (·.2)).Nodup)
    (hsrcF : ∀ p ∈ a.ren, p.1 ∈ S.fields) (htgtF : ∀ p ∈ a.ren, p.2 ∉ S.fields)
    (hfresh : ∀ x, (x ∈ S.fields ∨ x ∈ a.ren.map (·.2)) → o.get x = none) :
    ∃ o', updateObject e o a = .ok o' ∧
      ∀ n v, (n, v) ∈ e →
        lookup (finalOf S o' (inverseArgs a)) n = if (outKey a n).isSome then some v else none :=
  roundtrip_final S e o a hne hmemF hkey hx htgtN htgtF hfresh

/-- C20, the round trip: write an element to an object with `update_object(include/omit,
    rename)` and read the object back into a blank element with the inverse renaming: every
    selected field (renamed, or selected by include/omit) gets `member.set(old value)`, every
    other field stays unset.  Hypotheses: identity key function; the renaming is injective, renames
    declared fields to names that are not fields; the object had no readable attribute called like
    a field or a rename target; non-strict policy (strict demands all fields). -/
theorem object_roundtrip (S : Schema V) (e : Elem V) (o : Obj V) (a : Args)
    (he : keys e = S.fields) (hf : S.fields.Nodup) (hkey : a.key = none) (hx : Exclusive a)
    (hsrcN : (a.ren.map (·.1)).Nodup) (htgtN : (a.ren.map (·.2)).Nodup)
    (hsrcF : ∀ p ∈ a.ren, p.1 ∈ S.fields) (htgtF : ∀ p ∈ a.ren, p.2 ∉ S.fields)
    (hfresh : ∀ x, (x ∈ S.fields ∨ x ∈ a.ren.map (·.2)) → o.get x = none)
    (hpol : S.policy ≠ .strict) (hs : S.sparse = false) :
    ∃ o', updateObject e o a = .ok o' ∧
      (setByObject S (S.fields.map (·, S.blank)) o' (inverseArgs a)).exc = none ∧
      (setByObject S (S.fields.map (·, S.blank)) o' (inverseArgs a)).elem =
        e.map (fun p => (p.1, if (outKey a p.1).isSome then S.setF p.1 p.2 else S.blank)) := by
  obtain ⟨o', hupd, hLk⟩ := object_roundtrip_final S e o a (he ▸ hf)
    (fun p hp => he ▸ List.mem_map_of_mem (f := (·.1)) hp) hkey hx hsrcN htgtN hsrcF htgtF hfresh
  refine ⟨o', hupd, ?_⟩
  rw [setByObject_ok S _ o' (inverseArgs a) (Or.inl rfl), dictSetValue_nonstrict S _ hpol hs]
  refine ⟨rfl, ?_⟩
  refine (congrArg (List.map _) he.symm).trans ?_
  simp only [keys, List.map_map]
  apply List.map_congr_left
  intro p hp
  obtain ⟨n, v⟩ := p
  simp only [Function.comp, hLk n v hp]
  by_cases hmoved : (outKey a n).isSome = true <;> simp [hmoved]

theorem lookup_map_setF (S : Schema V) (l : List (Str × V)) (n : Str) :
    lookup (l.map fun p => (p.1, S.setF p.1 p.2)) n = (lookup l n).map (S.setF n) := by
  rw [lookup_eq, lookup_eq]; exact Assoc.get_map_val l S.setF n

/-- the round trip for a SparseDict (fix 29e8575): the members of the source element
    that were selected come back with `member.set(old value)`; no other member is created. -/
theorem object_roundtrip_sparse (S : Schema V) (e : Elem V) (o : Obj V) (a : Args)
    (hne : (keys e).Nodup) (hmemF : ∀ p ∈ e, p.1 ∈ S.fields) (hkey : a.key = none) (hx : Exclusive a)
    (hsrcN : (a.ren.map (·.1)).Nodup) (htgtN : (a.ren.map (·.2)).Nodup)
    (hsrcF : ∀ p ∈ a.ren, p.1 ∈ S.fields) (htgtF : ∀ p ∈ a.ren, p.2 ∉ S.fields)
    (hfresh : ∀ x, (x ∈ S.fields ∨ x ∈ a.ren.map (·.2)) → o.get x = none)
    (hpol : S.policy ≠ .strict) (hs : S.sparse = true) :
    ∃ o', updateObject e o a = .ok o' ∧
      (setByObject S [] o' (inverseArgs a)).exc = none ∧
      ∀ n v, (n, v) ∈ e →
        lookup (setByObject S [] o' (inverseArgs a)).elem n =
          if (outKey a n).isSome then some (S.setF n v) else none := by
  obtain ⟨o', hupd, hLk⟩ := object_roundtrip_final S e o a hne hmemF hkey hx hsrcN htgtN hsrcF htgtF hfresh
  refine ⟨o', hupd, ?_⟩
  rw [setByObject_ok S _ o' (inverseArgs a) (Or.inl rfl), dictSetValue_sparse_nonstrict S _ hpol hs]
  refine ⟨rfl, ?_⟩
  intro n v hnv
  rw [lookup_map_setF, hLk n v hnv]
  by_cases hmoved : (outKey a n).isSome = true <;> simp [hmoved]

example : swapPairs [("b".toList, "bee".toList)] = [("bee".toList, "b".toList)] := rfl

/-- the hypotheses of `object_roundtrip` are satisfiable: fields a, b; include a, rename b → bee;
    an object that only has an unrelated attribute -/
example :
    let S : Schema Nat := { fields := ["a".toList, "b".toList], blank := 0, setF := fun _ x => x + 1 }
    ∃ o', updateObject [("a".toList, 1), ("b".toList, 2)] [("q".toList, some 9)]
            { inc := ["a".toList], ren := [("b".toList, "bee".toList)] } = .ok o' ∧
      (setByObject S (S.fields.map (·, S.blank)) o'
          (inverseArgs { inc := ["a".toList], ren := [("b".toList, "bee".toList)] })).elem =
        [("a".toList, 2), ("b".toList, 3)] := by
  intro S
  obtain ⟨o', h1, _, h3⟩ := object_roundtrip S [("a".toList, 1), ("b".toList, 2)] [("q".toList, some 9)]
    { inc := ["a".toList], ren := [("b".toList, "bee".toList)] } rfl (by decide +kernel) rfl (Or.inr rfl)
    (by decide +kernel) (by decide +kernel) (by decide +kernel) (by decide +kernel)
    (by
      intro x hx
      have : x ≠ "q".toList := by
        rintro rfl
        revert hx
        decide +kernel
      have h' : ¬ ("q".toList = x) := fun h => this h.symm
      simp only [Obj.get, h', if_false])
    (by decide +kernel) rfl
  exact ⟨o', h1, by rw [h3]; rfl⟩

end Flatland.C20.Proofs
