/-
C18 — "setting it with a date or date text sets exactly those members", for member schemas that can
reject a part of the date.  Model: Flatland/C18Explode.lean (member behaviour as a table) and
`DateState.step` of Flatland/C18.lean (whole-element `set()` = the C04 model).
-/
import Flatland.C18Explode
import Proofs.C04
namespace Flatland.C18.Explode.Proofs
open Flatland.Scalar Flatland.C18 Flatland.C18.Explode

variable {M : Type}

/-- `h` is what the catch-all case of `explodeAll` / `loopX` knows under `fun_induction` -/
theorem zip_none {α β γ : Type} {as : List α} {bs : List β} {cs : List γ}
    (h : ∀ a as' b bs' c cs', as = a :: as' → bs = b :: bs' → cs = c :: cs' → False) :
    min (min as.length bs.length) cs.length = 0 := by
  cases as with
  | nil => simp
  | cons a as' =>
    cases bs with
    | nil => simp
    | cons b bs' =>
      cases cs with
      | nil => simp
      | cons c cs' => exact (h a as' b bs' c cs' rfl rfl rfl).elim

theorem everyMemberSet_cons {f : MemberSet M} {fs : List (MemberSet M)} {p : Native} {ps : List Native}
    {o m : M} {olds ms : List M} {b : Bool} (hfp : f p = .ok (m, b)) (h : EveryMemberSet fs ps olds ms) :
    EveryMemberSet (f :: fs) (p :: ps) (o :: olds) (m :: ms) := by
  obtain ⟨hlen, hall⟩ := h
  refine ⟨by simp [hlen], ?_⟩
  intro i f' p' hf hp hi
  cases i with
  | zero =>
    simp only [List.getElem?_cons_zero, Option.some.injEq] at hf hp
    subst hf hp
    exact ⟨m, b, hfp, rfl⟩
  | succ j => exact hall j f' p' hf hp (Nat.lt_of_succ_lt_succ hi)

/-- C18, "setting it with a date sets exactly those members": when the loop of `explode` completes, every member
    holds what its own `set(part)` leaves, whatever flags the members before it returned -/
theorem explode_every_member_set (fs : List (MemberSet M)) (ps : List Native) (olds ms : List M)
    (h : explodeAll fs ps olds = .ok ms) : EveryMemberSet fs ps olds ms := by
  fun_induction explodeAll fs ps olds generalizing ms with
  | case1 => cases h
  | case2 f fs p ps o olds m b hfp ms' hrest ih =>
    cases h
    exact everyMemberSet_cons hfp (ih ms' hrest)
  | case3 => cases h
  | case4 fs ps olds hnone =>
    cases h
    refine ⟨rfl, fun i f p hf hp hi => ?_⟩
    have := zip_none hnone
    have := (List.getElem?_eq_some_iff.mp hf).1
    have := (List.getElem?_eq_some_iff.mp hp).1
    omega

/-- the loop written as `all(<generator>)` does not satisfy the
    statement: a first member that returns False leaves the second one unset (it keeps its old
    state `0` where its own `set` leaves `2`). -/
theorem explodeShortCircuit_fails :
    ¬ ∀ (fs : List (MemberSet Nat)) (ps : List Native) (olds ms : List Nat),
        explodeShort fs ps olds = .ok ms → EveryMemberSet fs ps olds ms := by
  intro h
  obtain ⟨_, hall⟩ := h [fun _ => .ok (1, false), fun _ => .ok (2, true)] [.none, .none] [0, 0] [1, 0] rfl
  obtain ⟨m, b, h1, h2⟩ := hall 1 (fun _ => .ok (2, true)) .none rfl rfl (by decide)
  simp only [Except.ok.injEq, Prod.mk.injEq] at h1
  obtain ⟨rfl, _⟩ := h1
  simp at h2

/-- the same two members under the loop as written: both are set -/
example : explodeAll [fun _ => .ok (1, false), fun _ => .ok (2, true)] [Native.none, .none] [0, 0] = .ok [1, 2] := rfl

/-- the three member `set` calls of a whole-element `set`, in turn: the first exception leaves the call -/
def setMembers (E : Env) (c : DateCfg) (py pm pd : Native) : Except Flatland.C04.CRaise (DateState × Option Bool) :=
  match setScalar E c.ky py with
  | .error r => .error (.scalar r)
  | .ok a => match setScalar E c.km pm with
    | .error r => .error (.scalar r)
    | .ok b => match setScalar E c.kd pd with
      | .error r => .error (.scalar r)
      | .ok d => .ok (⟨a.st, b.st, d.st⟩, some true)

theorem setMembers_ok {E : Env} {c : DateCfg} {py pm pd : Native} {s' : DateState} {ret : Option Bool}
    (h : setMembers E c py pm pd = .ok (s', ret)) :
    ∃ ry rm rd, setScalar E c.ky py = .ok ry ∧ setScalar E c.km pm = .ok rm ∧ setScalar E c.kd pd = .ok rd ∧
      s' = ⟨ry.st, rm.st, rd.st⟩ ∧ ret = some true := by
  unfold setMembers at h
  split at h
  · cases h
  split at h
  · cases h
  split at h
  · cases h
  cases h
  exact ⟨_, _, _, ‹_›, ‹_›, ‹_›, rfl, rfl⟩

/-- whole-element `set(x)` of the C04 model, read on a `DateState`: `Date.adapt`, then the members in turn -/
theorem step_set (E : Env) (c : DateCfg) (s : DateState) (x : Native) :
    s.step E c (.set x) = match adapt E (.date true) x with
      | .error r => .error (.scalar r)
      | .ok (some .none) => .ok (s, some false)
      | .ok (some (.date y m d)) => setMembers E c (.int y) (.int m) (.int d)
      | .ok (some (.datetime y m d _ _ _ _)) => setMembers E c (.int y) (.int m) (.int d)
      | .ok _ => setMembers E c .none .none .none := by
  simp only [DateState.step, DateState.toElem, DateCfg.schema, Flatland.C04.setElem,
    Flatland.C04.Proofs.scalarSetTrace_eq, setMembers]
  cases adapt E (.date true) x with
  | error r => rfl
  | ok ov =>
    rcases ov with _ | v
    rotate_left
    cases v
    case none => rfl
    -- whatever the parts: both sides stop at the first member that raises
    all_goals
      simp only []
      generalize setScalar E c.ky _ = ry, setScalar E c.km _ = rm, setScalar E c.kd _ = rd
      rcases ry with _ | _
      · rfl
      rcases rm with _ | _
      · rfl
      rcases rd with _ | _ <;> rfl

theorem step_set_date (E : Env) (c : DateCfg) (s : DateState) (x : Native) (y m d : Nat)
    (hx : adapt E (.date true) x = .ok (some (.date y m d)) ∨
          ∃ h mi sec us, adapt E (.date true) x = .ok (some (.datetime y m d h mi sec us))) :
    s.step E c (.set x) = setMembers E c (.int y) (.int m) (.int d) := by
  rw [step_set]
  rcases hx with hx | ⟨h, mi, sec, us, hx⟩ <;> rw [hx]

/-- DateYYYYMMDD with any member kinds (generated Integers, custom formats, Enum / Constrained members that reject
    parts, text members): a completed whole-element `set(x)` with a value that denotes the date `y-m-d` (a date,
    a datetime, or date text) returns True and leaves every member in the state of its own `set(part)`, whether
    or not that member (or an earlier one) adapted its part; nothing of the previous member states remains. -/
theorem date_explode_all_members (E : Env) (c : DateCfg) (s s' : DateState) (x : Native) (y m d : Nat)
    (ret : Option Bool)
    (hx : adapt E (.date true) x = .ok (some (.date y m d)) ∨
          ∃ h mi sec us, adapt E (.date true) x = .ok (some (.datetime y m d h mi sec us)))
    (hstep : s.step E c (.set x) = .ok (s', ret)) :
    ∃ ry rm rd, setScalar E c.ky (.int y) = .ok ry ∧ setScalar E c.km (.int m) = .ok rm ∧
      setScalar E c.kd (.int d) = .ok rd ∧ s' = ⟨ry.st, rm.st, rd.st⟩ ∧ ret = some true :=
  setMembers_ok (step_set_date E c s x y m d hx ▸ hstep)

/-- the whole-element `set()` of the DateYYYYMMDD model IS the
    table loop `explodeAll` over the members' own `set` tables (so `explode_every_member_set`
    speaks about the model the correspondence compares with the code) -/
theorem date_step_refines_explodeAll (E : Env) (c : DateCfg) (s s' : DateState) (x : Native) (y m d : Nat)
    (ret : Option Bool)
    (hx : adapt E (.date true) x = .ok (some (.date y m d)) ∨
          ∃ h mi sec us, adapt E (.date true) x = .ok (some (.datetime y m d h mi sec us)))
    (hstep : s.step E c (.set x) = .ok (s', ret)) :
    explodeAll [scalarSet E c.ky, scalarSet E c.km, scalarSet E c.kd] [.int y, .int m, .int d] [s.y, s.m, s.d] =
      .ok [s'.y, s'.m, s'.d] := by
  obtain ⟨ry, rm, rd, hy, hm, hd, rfl, _⟩ := date_explode_all_members E c s s' x y m d ret hx hstep
  simp [explodeAll, scalarSet, hy, hm, hd]

theorem setUpTo_zero (fs : List (MemberSetX M)) (ps : List Native) (olds : List M) : SetUpTo fs ps olds olds 0 :=
  ⟨rfl, fun _ hi => absurd hi (Nat.not_lt_zero _), fun _ _ => rfl⟩

theorem setUpTo_cons {f : MemberSetX M} {fs : List (MemberSetX M)} {p : Native} {ps : List Native}
    {o m : M} {olds ms : List M} {b : Bool} {k : Nat} (hfp : f p = .ok (m, b)) (h : SetUpTo fs ps olds ms k) :
    SetUpTo (f :: fs) (p :: ps) (o :: olds) (m :: ms) (k + 1) := by
  obtain ⟨hlen, hset, hrest⟩ := h
  refine ⟨by simp [hlen], ?_, ?_⟩
  · intro i hi
    cases i with
    | zero => exact ⟨f, p, m, b, rfl, rfl, hfp, rfl⟩
    | succ j => exact hset j (Nat.lt_of_succ_lt_succ hi)
  · intro i hi
    cases i with
    | zero => cases hi
    | succ j => exact hrest j (Nat.le_of_succ_le_succ hi)

/-- with members that may raise the loop sets a prefix: either it completed (`k` = number of zipped triples) or
    member `k`'s own `set(part k)` raised exactly the exception that ended the loop -/
theorem loopX_spec (fs : List (MemberSetX M)) (ps : List Native) (olds : List M) :
    ∃ k, SetUpTo fs ps olds (loopX fs ps olds).1 k ∧
      match (loopX fs ps olds).2 with
      | none => k = min (min fs.length ps.length) olds.length
      | some e => ∃ f p, fs[k]? = some f ∧ ps[k]? = some p ∧ k < olds.length ∧ f p = .error e := by
  fun_induction loopX fs ps olds with
  | case1 f fs p ps o olds e hfp => exact ⟨0, setUpTo_zero .., f, p, rfl, rfl, Nat.zero_lt_succ _, hfp⟩
  | case2 f fs p ps o olds m b hfp r ih =>
    obtain ⟨k, hk, hend⟩ := ih
    refine ⟨k + 1, setUpTo_cons hfp hk, ?_⟩
    revert hend
    cases r.2 with
    | none => intro hend; simp only [hend, List.length_cons, Nat.succ_min_succ]
    | some e => exact fun ⟨f', p', h1, h2, h3, h4⟩ => ⟨f', p', h1, h2, Nat.succ_lt_succ h3, h4⟩
  | case3 fs ps olds hnone => exact ⟨0, setUpTo_zero .., (zip_none hnone).symm⟩

theorem loopX_length (fs : List (MemberSetX M)) (ps : List Native) (olds : List M) :
    (loopX fs ps olds).1.length = olds.length :=
  (loopX_spec fs ps olds).elim fun _ h => h.1.1

/-- `Compound.set` around `explode`: it returns True exactly when nothing was
    raised, False when a member raised (members as the loops left them — never an exception of a member
    leaving `set()`), and the number of members never changes. -/
theorem compound_set_swallows (fs : List (MemberSetX M)) (parts : Option (List Native)) (olds ms : List M) (flag : Bool)
    (h : compoundSetX fs parts olds = .ok (ms, flag)) :
    ms = (explodeX fs parts olds).1 ∧ ms.length = olds.length ∧
    (flag = true ↔ (explodeX fs parts olds).2 = none) := by
  have hlen : (explodeX fs parts olds).1.length = olds.length := by
    unfold explodeX
    cases parts with
    | none => simp [loopX_length]
    | some ps =>
      simp only
      split
      · rw [loopX_length, loopX_length]
      · exact loopX_length ..
  unfold compoundSetX at h
  cases he : (explodeX fs parts olds).2 with
  | none =>
    simp only [he, Except.ok.injEq, Prod.mk.injEq] at h
    exact ⟨h.1.symm, h.1 ▸ hlen, by simp [h.2.symm]⟩
  | some e =>
    cases e with
    | model r => simp [he] at h
    | typeError =>
      simp only [he, Except.ok.injEq, Prod.mk.injEq] at h
      exact ⟨h.1.symm, h.1 ▸ hlen, by simp [h.2.symm]⟩
    | other =>
      simp only [he, Except.ok.injEq, Prod.mk.injEq] at h
      exact ⟨h.1.symm, h.1 ▸ hlen, by simp [h.2.symm]⟩

/-- the role of the `except Exception` of `Compound.set`: without it the same members make `set()` raise -/
theorem noSwallow_fails :
    ∃ (fs : List (MemberSetX Nat)) (parts : Option (List Native)) (olds : List Nat),
      compoundSetX fs parts olds = .ok ([1, 0], false) ∧ compoundSetNoSwallow fs parts olds = .error .other :=
  ⟨[fun _ => .ok (1, true), fun _ => .error .other], some [.none, .none], [0, 0], rfl, rfl⟩

theorem fires_default (v : Native) : ({} : RaiseRule).fires v = none := by
  cases v <;> simp [RaiseRule.fires]

theorem memberSetX_default (E : Env) (k : Kind) (x : Native) :
    memberSetX E k {} x = match setScalar E k x with
      | .ok res => .ok (res.st, res.flag)
      | .error e => .error (.model e) := by
  unfold memberSetX
  cases k with
  | constrained child valid =>
    simp only []
    cases adapt E child x with
    | error e => rfl
    | ok ov => cases ov with
      | none => rfl
      | some v => simp only [fires_default]; rfl
  | _ => rfl

/-- `parts = none` is the `except` branch of `explode`: each member is set with None -/
theorem compoundSetX_noRaise (E : Env) (c : DateCfg) (s : DateState) (py pm pd : Native) (parts : Option (List Native))
    (hp : parts = some [py, pm, pd] ∨ parts = none ∧ py = .none ∧ pm = .none ∧ pd = .none) :
    (match compoundSetX (DateCfgX.tables E { toDateCfg := c }) parts [s.y, s.m, s.d] with
      | .error e => .error (.scalar e)
      | .ok (ms, flag) => .ok (ofList3 s ms, some flag)) = setMembers E c py pm pd := by
  unfold setMembers
  rcases hp with rfl | ⟨rfl, rfl, rfl, rfl⟩
  all_goals
    simp only [compoundSetX, explodeX, DateCfgX.tables, loopX, List.map, memberSetX_default]
    generalize setScalar E c.ky _ = ry, setScalar E c.km _ = rm, setScalar E c.kd _ = rd
    rcases ry with _ | _
    · rfl
    rcases rm with _ | _
    · rfl
    rcases rd with _ | _ <;> rfl

theorem stepX_set (E : Env) (c : DateCfg) (s : DateState) (x : Native) :
    s.stepX E { toDateCfg := c } (.set x) = match adapt E (.date true) x with
      | .error r => .error (.scalar r)
      | .ok (some .none) => .ok (s, some false)
      | .ok (some (.date y m d)) => setMembers E c (.int y) (.int m) (.int d)
      | .ok (some (.datetime y m d _ _ _ _)) => setMembers E c (.int y) (.int m) (.int d)
      | .ok _ => setMembers E c .none .none .none := by
  simp only [DateState.stepX]
  cases adapt E (.date true) x with
  | error r => rfl
  | ok ov =>
    rcases ov with _ | v
    · exact compoundSetX_noRaise E c s _ _ _ _ (Or.inr ⟨rfl, rfl, rfl, rfl⟩)
    cases v
    case none => rfl
    case date => exact compoundSetX_noRaise E c s _ _ _ _ (Or.inl rfl)
    case datetime => exact compoundSetX_noRaise E c s _ _ _ _ (Or.inl rfl)
    all_goals exact compoundSetX_noRaise E c s _ _ _ _ (Or.inr ⟨rfl, rfl, rfl, rfl⟩)

/-- with members that never raise (no `valid_value` that raises) the model with the
    loops, the fallback and the swallowing `Compound.set` written out IS the step the theorems of `Proofs/C18.lean` speak
    about (`DateState.step`, i.e. C04's `setElem` for the whole-element `set`), for whole-element and member `set`
    (`set_flat` of raising members: compared at run time only). -/
theorem stepX_noRaise_eq_step (E : Env) (c : DateCfg) (s : DateState) (op : DateOp) (hop : ∀ ps, op ≠ .setFlat ps) :
    s.stepX E { toDateCfg := c } op = s.step E c op := by
  cases op with
  | set x => rw [stepX_set, step_set]
  | member i x =>
    simp only [DateState.stepX, DateState.step, ite_self, memberSetX_default]
    cases setScalar E (if i = 0 then c.ky else if i = 1 then c.km else c.kd) x <;> rfl
  | setFlat pairs => exact absurd rfl (hop pairs)

end Flatland.C18.Explode.Proofs
