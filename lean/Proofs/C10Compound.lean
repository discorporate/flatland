/-
C10 for Compound roots: "a Dict/Schema/Compound always contains exactly one element per declared field".
A Compound's own `set` (= `explode`, a parameter restricted to its contract) and `set_default` work on the
members in place; every other call is the Mapping's (`compoundStep_edit`), so the step and history theorems
are those of `KidsEdit`.
-/
import Flatland.C10Compound
import Proofs.C10Nodup
namespace Flatland.C10.Proofs
open Flatland.Tree Flatland.PyList Flatland.C10 Flatland.C10.Spec Flatland.C10.Compound

/-- After `__compound_init__` a DateYYYYMMDD class has exactly three fields, whatever
    (at most three) fields the user supplied. -/
theorem prepare_length (supplied : List Schema) (o : Bool) (cids : Nat × Nat × Nat) (h : supplied.length ≤ 3) :
    (prepare supplied o cids).length = 3 := by
  simp only [prepare, List.length_append, List.length_drop, List.length_cons, List.length_nil]
  omega

/-- the supplied fields stay where they are -/
theorem prepare_prefix (supplied : List Schema) (o : Bool) (cids : Nat × Nat × Nat) :
    (prepare supplied o cids).take supplied.length = supplied := by
  simp [prepare]

/-- With no supplied field the declared names are year, month, day. -/
theorem prepare_keys (o : Bool) (cids : Nat × Nat × Nat) :
    (prepare [] o cids).map Schema.key = [['y', 'e', 'a', 'r'], ['m', 'o', 'n', 't', 'h'], ['d', 'a', 'y']] := rfl

theorem replaceKid_hdrs_nodup {kids : List Node} (hnd : ND kids) {k : Str} {child new : Node}
    (hc : findKid kids k = some child) (hn : new.hdr = child.hdr) :
    (replaceKid kids k new).map Node.hdr = kids.map Node.hdr := by
  obtain ⟨a, b, rfl, hr⟩ := replaceKid_split hnd hc
  rw [hr, List.map_append, List.map_append, List.map_cons, List.map_cons, hn]

theorem assignKids_hdrs (subs : List Schema) : ∀ (vs : List Raw) (kids : List Node) (next : Nat), ND kids →
    (assignKids subs vs kids next).1.map Node.hdr = kids.map Node.hdr := by
  induction subs with
  | nil => intro vs kids next _; simp [assignKids]
  | cons f fs ih =>
    intro vs kids next hnd
    cases vs with
    | nil => simp [assignKids]
    | cons v vs =>
      rw [assignKids]
      cases hc : findKid kids f.key with
      | none => rfl
      | some child =>
        have hh := setNode_hdr child v none next
        have hr := replaceKid_hdrs_nodup hnd hc hh
        simp only
        cases hres : (setNode child v none next).res with
        | error e => exact hr
        | ok b =>
          simp only
          have hnd' : ND (replaceKid kids f.key (setNode child v none next).node) := by
            unfold ND; rw [keys_of_map_hdr hr]; exact hnd
          rw [ih vs _ _ hnd', hr]

/-- `Compound.set(value)` — for EVERY `explode` following the contract —
    keeps every member: same identities, classes, keys, stored parents, in the same order; and the Compound
    itself. -/
theorem compound_set_keeps_members (ex : Raw → Explode) (n : Node) (hnd : KeysNodup n) (raw : Raw) (next : Nat) :
    (compoundSet ex n raw next).node.hdr = n.hdr ∧
    (compoundSet ex n raw next).node.kids.map Node.hdr = n.kids.map Node.hdr := by
  unfold compoundSet
  cases ex raw with
  | raises => exact ⟨rfl, rfl⟩
  | assign vs =>
    have := assignKids_hdrs n.sch.subs vs n.kids next hnd
    simp only
    split
    · exact ⟨rfl, by rw [kids_withKids]; exact this⟩
    · exact ⟨rfl, by rw [kids_withKids]; exact this⟩
    · exact ⟨rfl, by rw [kids_withKids]; exact this⟩
  | assignThenRaise vs =>
    have := assignKids_hdrs n.sch.subs vs n.kids next hnd
    simp only
    split
    · exact ⟨rfl, by rw [kids_withKids]; exact this⟩
    · exact ⟨rfl, by rw [kids_withKids]; exact this⟩

/-- the wider contract is inhabited and observable: an `explode` that sets year and month to None and then
    raises (the `set(None)` fallback loop of `DateYYYYMMDD.explode` with a day member whose `valid_value` raises
    on None) returns False and leaves year / month None, day as it was -/
def exRaisingDay : Raw → Explode
  | .str _ => .assignThenRaise [.none, .none]
  | _ => .raises

theorem compoundStep_edit (ex : Raw → Explode) (n : Node) (hd : n.kind = .dict) (hf : FieldsNodup n) (hnd : ND n.kids)
    {E : Str → Node → Prop} (op : MapOp) (hop : OpE E op) (next : Nat) :
    (compoundStep ex n op next).node.hdr = n.hdr ∧
      KidsEdit n.id n.sch E n.kids (compoundStep ex n op next).node.kids := by
  have hset : ∀ raw, (compoundSet ex n raw next).node.hdr = n.hdr ∧
      KidsEdit n.id n.sch E n.kids (compoundSet ex n raw next).node.kids :=
    fun raw => ⟨(compound_set_keeps_members ex n hnd raw next).1, .hdrs (compound_set_keeps_members ex n hnd raw next).2⟩
  unfold compoundStep
  split
  · dsimp only; split <;> exact hset _
  · exact ⟨rfl, .refl _⟩
  · split
    · dsimp only; split
      · exact ⟨rfl, by rw [kids_withKids]; exact .hdrs (setDefaultKids_hdr n.kids next)⟩
      · exact ⟨rfl, by rw [excOut, kids_withKids]; exact .hdrs (setDefaultKids_hdr n.kids next)⟩
    · dsimp only; split <;> exact hset _
  · exact ⟨(Flatland.C08.Proofs.mapStep_shape n _ next).hdr, mapStep_edit n (.inl hd) hf _ hop next⟩

theorem dense_nodup {n : Node} (h : KI n n.kids) (hd : n.kind = .dict) (hnd : FieldsNodup n) : ND n.kids := by
  unfold ND; rw [h.dense hd]; exact hnd

theorem compoundStep_ok (ex : Raw → Explode) (n : Node) (hd : n.kind = .dict) (hnd : FieldsNodup n) (h : KI n n.kids)
    (op : MapOp) (hop : OpExact n op) (next : Nat) :
    (compoundStep ex n op next).node.hdr = n.hdr ∧ KI n (compoundStep ex n op next).node.kids :=
  have e := compoundStep_edit ex n hd hnd (dense_nodup h hd hnd) op (opE_exact hop) next
  ⟨e.1, e.2.ki (fun _ _ h => h) h⟩

/-- Every dict-protocol call on a Compound preserves the mapping invariant. -/
theorem compound_inv_step (ex : Raw → Explode) {n : Node} (h : MapInv n) (hd : n.kind = .dict) (hnd : FieldsNodup n)
    (op : MapOp) (hop : OpExact n op) (next : Nat) : MapInv (compoundStep ex n op next).node := by
  have := compoundStep_ok ex n hd hnd ((mapInv_iff n).mp h) op hop next
  exact mapInv_of_hdr this.1 this.2

theorem crun_edit (ex : Raw → Explode) {E : Str → Node → Prop} (ops : List MapOp) : ∀ (n : Node) (next : Nat),
    n.kind = .dict → FieldsNodup n → ND n.kids → (∀ op ∈ ops, OpE E op) →
    (crun ex ⟨n, next⟩ ops).node.hdr = n.hdr ∧ KidsEdit n.id n.sch E n.kids (crun ex ⟨n, next⟩ ops).node.kids := by
  induction ops with
  | nil => intro n next _ _ _ _; exact ⟨rfl, .refl _⟩
  | cons op ops ih =>
    intro n next hd hf hnd hops
    obtain ⟨hh, h1⟩ := compoundStep_edit ex n hd hf hnd op (hops op (List.mem_cons_self ..)) next
    have h2 := ih (compoundStep ex n op next).node (compoundStep ex n op next).next (by rw [kind_of_hdr hh]; exact hd)
      (by unfold FieldsNodup; rw [sch_of_hdr hh]; exact hf) (h1.nodup hf hnd) (fun o ho => hops o (List.mem_cons_of_mem _ ho))
    rw [(hdr_parts hh).1, sch_of_hdr hh] at h2
    exact ⟨h2.1.trans hh, h1.trans h2.2⟩

theorem crun_ki (ex : Raw → Explode) (ops : List MapOp) (n : Node) (next : Nat) (h : MapInv n) (hd : n.kind = .dict)
    (hnd : FieldsNodup n) (hops : ∀ op ∈ ops, OpExactS n.sch op) :
    (crun ex ⟨n, next⟩ ops).node.hdr = n.hdr ∧ KI n (crun ex ⟨n, next⟩ ops).node.kids :=
  have hki := (mapInv_iff n).mp h
  have e := crun_edit ex ops n next hd hnd (dense_nodup hki hd hnd) (fun op ho => opE_exact (opExact_of_S (hops op ho)))
  ⟨e.1, e.2.ki (fun _ _ h => h) hki⟩

/-- … and so does every history; the Compound keeps its identity and class. -/
theorem compound_inv_run (ex : Raw → Explode) (ops : List MapOp) :
    ∀ (n : Node) (next : Nat), MapInv n → n.kind = .dict → FieldsNodup n → (∀ op ∈ ops, OpExactS n.sch op) →
      (crun ex ⟨n, next⟩ ops).node.hdr = n.hdr ∧ MapInv (crun ex ⟨n, next⟩ ops).node :=
  fun n next h hd hnd hops =>
    have e := crun_ki ex ops n next h hd hnd hops
    ⟨e.1, mapInv_of_hdr e.1 e.2⟩

/-- From `cls()` of a prepared Compound class (field names distinct), after every
    history of dict-protocol calls the key list is exactly the declared field names in declaration order:
    one member per declared field, no other. -/
theorem compound_keys_exact (ex : Raw → Explode) (ops : List MapOp) (cls : Schema) (hd : cls.kind = .dict)
    (hnd : (cls.subs.map Schema.key).Nodup) (next next' : Nat) (hops : ∀ op ∈ ops, OpExactS cls op) :
    keys (crun ex ⟨(cblank cls next).1, next'⟩ ops).node = cls.subs.map Schema.key ∧
    MapInv (crun ex ⟨(cblank cls next).1, next'⟩ ops).node := by
  have hs : (cblank cls next).1.sch = cls := (blank_ni cls none [] next).2
  have hkind : (cblank cls next).1.kind = .dict := by unfold Node.kind; rw [hs]; exact hd
  have e := crun_ki ex ops (cblank cls next).1 next' (mapinv_init cls (Or.inl hd) none [] next) hkind
    (by unfold FieldsNodup; rw [hs]; exact hnd) (fun o ho => by rw [hs]; exact hops o ho)
  exact ⟨(e.2.dense hkind).trans (by rw [hs]), mapInv_of_hdr e.1 e.2⟩

theorem compound_keys_nodup (ex : Raw → Explode) (ops : List MapOp) (cls : Schema) (hd : cls.kind = .dict)
    (hnd : (cls.subs.map Schema.key).Nodup) (next next' : Nat) (hops : ∀ op ∈ ops, OpExactS cls op) :
    (keys (crun ex ⟨(cblank cls next).1, next'⟩ ops).node).Nodup := by
  rw [(compound_keys_exact ex ops cls hd hnd next next' hops).1]; exact hnd

/-- Item assignment, deletion, pop, setdefault, get naming a key the
    Compound does not declare raise TypeError / KeyError and leave it exactly as it was (`compoundStep` is
    `mapStep` on these calls: `undeclared_rejected`). -/
theorem compound_undeclared_rejected (ex : Raw → Explode) {n : Node} (h : MapInv n) (k : Str)
    (hund : fieldFor n.sch.subs k = none) (next : Nat) (op : MapOp)
    (hop : (∃ a, op = .setitem k a) ∨ op = .delitem k ∨ op = .pop k ∨ (∃ d, op = .setdefault k d) ∨ op = .get k) :
    (compoundStep ex n op next).node = n ∧
    ((compoundStep ex n op next).out = .exc .typeError ∨ (compoundStep ex n op next).out = .exc .keyError) := by
  have hm := undeclared_rejected h k hund next op hop
  rcases hop with ⟨a, rfl⟩ | rfl | rfl | ⟨d, rfl⟩ | rfl <;> exact hm

theorem dateExplode_of_date {s : Str} (y m d : Nat) (h : parseDate s = some (y, m, d)) :
    dateExplode (.str s) = .assign [.int y, .int m, .int d] := by
  simp only [dateExplode, h]

theorem dateExplode_of_none {s : Str} (h : parseDate s = none) :
    dateExplode (.str s) = .assign [.none, .none, .none] := by
  simp only [dateExplode, h]

/-- `DateYYYYMMDD.named('when')`, prepared (no supplied fields; generated classes 2, 3, 4) -/
def exDate : Schema := preparedClass { cid := 1, kind := .dict, name := some ['w', 'h', 'e', 'n'] } .none [] (2, 3, 4)

/-- `d['year'] = 2020; d['zz'] = 1` (TypeError); `d |= {'month': 3, 'q': 1}` (TypeError at 'q'); `d.pop('day')`
    (TypeError); `d.clear()` (TypeError); `d.setdefault('year', 1)` (TypeError); `d.set('2024-02-29')`;
    `d.set('junk')`; `d.set(None)`; `d.set('2024-02-29', policy='strict')` (TypeError); `d.set_default()` -/
def exDateHist : List MapOp :=
  [.setitem ['y', 'e', 'a', 'r'] (.plain (.int 2020)), .setitem ['z', 'z'] (.plain (.int 1)),
   .ior (.dict [(['m', 'o', 'n', 't', 'h'], .int 3), (['q'], .int 1)]), .pop ['d', 'a', 'y'], .clear,
   .setdefault ['y', 'e', 'a', 'r'] (.int 1), .set (.str ['2', '0', '2', '4', '-', '0', '2', '-', '2', '9']) none, .set (.str ['j', 'u', 'n', 'k']) none,
   .set .none none, .set (.str ['2', '0', '2', '4', '-', '0', '2', '-', '2', '9']) (some (some .strict)), .setDefault]

theorem exDateHist_exact : ∀ op ∈ exDateHist, OpExactS exDate op := by
  intro op hop
  simp [exDateHist] at hop
  rcases hop with rfl | rfl | rfl | rfl | rfl | rfl | rfl | rfl | rfl | rfl | rfl <;> trivial

example : keys (crun dateExplode ⟨(cblank exDate 1).1, 10⟩ exDateHist).node = [['y', 'e', 'a', 'r'], ['m', 'o', 'n', 't', 'h'], ['d', 'a', 'y']] :=
  (compound_keys_exact dateExplode exDateHist exDate rfl (by decide) 1 10 exDateHist_exact).1

/-- `set('2024-02-29')` explodes into the three members … -/
example : (crun dateExplode ⟨(cblank exDate 1).1, 10⟩ (exDateHist.take 7)).node.kids.map (fun c => c.ni.val) =
    [.int 2024, .int 2, .int 29] := by decide +kernel
/-- … `set('junk')` sets every member to None, `set(None)` changes nothing (and returns False) -/
example : (crun dateExplode ⟨(cblank exDate 1).1, 10⟩ (exDateHist.take 9)).node.kids.map (fun c => c.ni.val) =
    [.none, .none, .none] := by decide +kernel
example : (compoundStep dateExplode (cblank exDate 1).1 (.set .none none) 10).out = .bool false := by rfl
example : (compoundStep dateExplode (cblank exDate 1).1 (.set (.str ['2', '0', '2', '3', '-', '0', '2', '-', '3', '0']) none) 10).out = .bool true := by rfl
example : dateExplode (.str ['2', '0', '2', '3', '-', '0', '2', '-', '3', '0']) = .assign [.none, .none, .none] :=
  dateExplode_of_none (by decide +kernel)
example : dateExplode (.str [' ', '2', '0', '2', '4', '-', '0', '2', '-', '2', '9', ' ']) = .assign [.int 2024, .int 2, .int 29] :=
  dateExplode_of_date 2024 2 29 (by decide +kernel)

/-! ### `dateExplode` reads every Unicode decimal digit (the library's `\d` under `re.UNICODE`, `int()`) -/

/-- the date reader of `dateExplode` IS `Date.adapt` of the scalar model
    (C04: compared with the real `Date` on texts of every `Nd` block) over the regenerated tables. -/
theorem parseDate_is_scalar_date_adapt (E : Flatland.Scalar.Env) (hE : E.T = Compound.T) (s : Str) :
    Flatland.Scalar.adapt E (.date true) (.str s) =
      .ok ((Compound.parseDate s).map fun p => Flatland.Scalar.Native.date p.1 p.2.1 p.2.2) := by
  simp only [Flatland.Scalar.adapt, Flatland.Scalar.adaptTemporalText, Compound.parseDate, hE, if_true]
  cases Flatland.Scalar.matchDate Compound.T (Flatland.Scalar.strip Compound.T s) with
  | none => rfl
  | some r =>
    obtain ⟨y, m, d⟩ := r
    cases hv : Flatland.Scalar.validDate y m d <;> simp [hv]

/-- the source of `Date.regex` (re-read from scalars.py on every run into
    `Generated/C04Tables.lean`) is the pattern `parseDate` transcribes: `\d` (with `re.UNICODE`: every `Nd`
    character), not `[0-9]`.  An edit of the pattern breaks this obligation. -/
theorem date_regex_pinned :
    Flatland.Generated.C04.dateRegex = "^(?P<year>\\d{4})-(?P<month>\\d{2})-(?P<day>\\d{2})$" := rfl

/-- counter-model: the reader with ASCII digits only (`[0-9]{4}-[0-9]{2}-[0-9]{2}`) -/
def asciiTables : Flatland.Scalar.Tables := { Compound.T with zeros := [48] }
def parseDateAscii (s : Str) : Option (Nat × Nat × Nat) :=
  match Flatland.Scalar.matchDate asciiTables (Flatland.Scalar.strip asciiTables s) with
  | some (y, m, d) => if Flatland.Scalar.validDate y m d then some (y, m, d) else none
  | none => none

/-- `'٢٠٢٤-٠٢-٢٩'` (Arabic-Indic digits): the code's reader takes it, an ASCII-only reader does not -/
theorem ascii_reader_differs : ∃ s, Compound.parseDate s = some (2024, 2, 29) ∧ parseDateAscii s = none :=
  ⟨['٢', '٠', '٢', '٤', '-', '٠', '٢', '-', '٢', '٩'], by decide +kernel, by decide +kernel⟩

example : dateExplode (.str ['٢', '٠', '٢', '٤', '-', '٠', '٢', '-', '٢', '٩']) = .assign [.int 2024, .int 2, .int 29] :=
  dateExplode_of_date 2024 2 29 (by decide +kernel)
/-- mixed scripts in one field (ASCII, Arabic-Indic, full-width, Devanagari) -/
example : dateExplode (.str ['2', '٠', '２', '4', '-', '०', '2', '-', '2', '９']) = .assign [.int 2024, .int 2, .int 29] :=
  dateExplode_of_date 2024 2 29 (by decide +kernel)
/-- near misses: one-digit month; 30 February in Arabic-Indic digits; a non-digit of a digit-like block -/
example : dateExplode (.str ['2', '0', '2', '4', '-', '2', '-', '2', '9']) = .assign [.none, .none, .none] :=
  dateExplode_of_none (by decide +kernel)
example : dateExplode (.str ['٢', '٠', '٢', '٤', '-', '٠', '٢', '-', '٣', '٠']) = .assign [.none, .none, .none] :=
  dateExplode_of_none (by decide +kernel)
example : dateExplode (.str ['2', '0', '2', '4', '-', '0', '2', '-', '2', '²']) = .assign [.none, .none, .none] :=
  dateExplode_of_none (by decide +kernel)
/-- `strip()` removes Unicode whitespace (NBSP, ideographic space) and the trailing newline -/
example : dateExplode (.str ['\u00a0', '2', '0', '2', '4', '-', '0', '2', '-', '2', '9', '\u3000', '\n']) =
    .assign [.int 2024, .int 2, .int 29] := dateExplode_of_date 2024 2 29 (by decide +kernel)
/-- the whole call: members hold 2024 / 2 / 29 after `set('٢٠٢٤-٠٢-٢٩')` -/
example : (compoundStep dateExplode (cblank exDate 1).1 (.set (.str ['٢', '٠', '٢', '٤', '-', '٠', '٢', '-', '٢', '٩']) none) 10).node.kids.map
    (fun c => c.ni.val) = [.int 2024, .int 2, .int 29] := by decide +kernel

/-- the wider contract at work: members 2024 / 2 / 29, then a `set` whose explode sets a prefix and raises:
    False, year and month None, day untouched, the same three members under the same keys -/
def exAfterDate : MState := crun dateExplode ⟨(cblank exDate 1).1, 10⟩ (exDateHist.take 7)
example : (compoundStep exRaisingDay exAfterDate.node (.set (.str ['j']) none) exAfterDate.next).out = .bool false := by rfl
example : (compoundStep exRaisingDay exAfterDate.node (.set (.str ['j']) none) exAfterDate.next).node.kids.map (fun c => c.ni.val) =
    [.none, .none, .int 29] := by decide +kernel
example : keys (compoundStep exRaisingDay exAfterDate.node (.set (.str ['j']) none) exAfterDate.next).node = keys exAfterDate.node := by decide +kernel

/-- a user-supplied first field is kept, the other two are generated -/
example : (prepare [.mk { cid := 7, kind := .integer, name := some ['y'] } .none []] false (2, 3, 4)).map Schema.key =
    [['y'], ['m', 'o', 'n', 't', 'h'], ['d', 'a', 'y']] := by decide +kernel

/-- the distinctness of the declared names is a HYPOTHESIS the code does not check: a supplied first field
    named 'month' collides with the generated one, and `_reset()` then builds two members for three fields -/
example : ¬ ((prepare [.mk { cid := 7, kind := .integer, name := some ['m', 'o', 'n', 't', 'h'] } .none []] false (2, 3, 4)).map
    Schema.key).Nodup := by decide +kernel

end Flatland.C10.Proofs
