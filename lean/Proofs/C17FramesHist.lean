/-
C17 — the frame MECHANISM refines model A: corollaries over histories.  `c17_histories_partial` and
`c17_results_partial` (`Proofs.C17`) carried over to the mechanism; `lazy_is_unobservable`: inserting READS into a
guarded history changes no result of the other commands, and the guard with the reads follows from the guard without.
-/
import Proofs.C17FramesStep
namespace Flatland.C17.Frames.Proofs
open Flatland.C17 Flatland.C17.Spec Flatland.C17.Proofs Flatland.C17.Frames

def sharedHist : FState → List Cmd → Bool
  | _, [] => true
  | σ, c :: cs => sharedInit σ c && sharedHist (fstep false σ c).1 cs

theorem refGuard_of_histGuard : ∀ (cs : List Cmd) (σ : FState) (a : State),
    histGuard a cs = true → sharedHist σ cs = true → refGuard σ a cs = true
  | [], _, _, _, _ => rfl
  | c :: cs, σ, a, hg, hs => by
    simp only [histGuard, Bool.and_eq_true] at hg
    simp only [sharedHist, Bool.and_eq_true] at hs
    obtain ⟨hok, _, _, hmi⟩ := (cmdGuard_iff a c).1 hg.1
    simp only [refGuard, Bool.and_eq_true, decide_eq_true_eq]
    exact ⟨⟨⟨hok, hmi⟩, hs.1⟩, refGuard_of_histGuard cs _ _ hg.2 hs.2⟩

theorem op_step_refines {σ : FState} {a : State} (h : Ref σ a) (v : View) (o : Op) :
    (fstep false σ (.op v o)).2 = (step a (.op v o)).2 ∧
    Ref (fstep false σ (.op v o)).1 (step a (.op v o)).1 :=
  frames_step_refines h (.op v o) trivial rfl rfl

/-- what `view[k]` gives in the mechanism model (`none`: `KeyError`, or no such view) -/
def fvisible (σ : FState) (v : View) (k : Key) : Option Val :=
  match (fstep false σ (.op v (.getitem k))).2 with
  | .val x => some x
  | _ => none

theorem getitem_visible (a : State) (v : View) (k : Key) :
    (match (step a (.op v (.getitem k))).2 with
      | .val x => some x
      | _ => none) = visible a v k := by
  cases v with
  | cls c =>
    simp only [step, classOp, visible]
    by_cases hc : c < a.classes.length
    · simp only [hc, if_true]
      cases a.descOf c with
      | none => rfl
      | some d =>
        simp only [dictLikeRead, tReader]
        cases tGet a c d k <;> rfl
    · simp only [hc, if_false, descOf_ge a c (Nat.le_of_not_lt hc)]
  | inst i =>
    simp only [step, instOp, visible]
    cases a.insts[i]? with
    | none => rfl
    | some x =>
      simp only
      cases x.loc with
      | plain m =>
        simp only [plainOp]
        cases AList.get? m k <;> rfl
      | storage f =>
        simp only
        cases a.descOf x.cls with
        | none => rfl
        | some d =>
          simp only [dictLikeRead, iReader]
          cases iGet a f x.cls d k <;> rfl

/-- whatever is proved of model A's results after guarded histories holds of the mechanism's -/
theorem frames_op_after (init : List (Key × Val)) (pre : List Cmd)
    (hg : histGuard (initState init) pre = true) (hs : sharedHist (finit init) pre = true) (v : View) (o : Op) :
    (fstep false (frun false (finit init) pre).1 (.op v o)).2 = (step (run (initState init) pre).1 (.op v o)).2 :=
  (op_step_refines (frames_run_refines_init init pre (refGuard_of_histGuard pre _ _ hg hs)).2 v o).1

/-- `C17_Partial` for the MECHANISM model: after every history from a fresh root that passes
    `histGuard` (outside KF-C17-a and KF-C17-c) and annotates shared `Properties` objects correctly, every
    `view[k]` of the mechanism model — `Properties.map` filled lazily, the read itself possibly
    materialising a frame — is exactly what the layered reference of the property text shows -/
theorem frames_histories_partial (init : List (Key × Val)) (cmds : List Cmd) (v : View) (k : Key)
    (hg : histGuard (initState init) cmds = true) (hs : sharedHist (finit init) cmds = true) :
    fvisible (frun false (finit init) cmds).1 v k
      = Spec.visible (Spec.run (abs (initState init)) cmds) v k := by
  rw [← c17_histories_partial init cmds v k hg, ← getitem_visible]
  simp only [fvisible, frames_op_after init cmds hg hs]

/-- `c17_results_partial` with the mechanism in place of model A -/
theorem frames_results_partial (init : List (Key × Val)) (pre : List Cmd)
    (hg : histGuard (initState init) pre = true) (hs : sharedHist (finit init) pre = true)
    (v : View) (o : Op) (hv : lookupView (run (initState init) pre).1 v = true) :
    let m := Spec.visible (Spec.run (abs (initState init)) pre) v
    (∀ r, dictResult o m = some r → (fstep false (frun false (finit init) pre).1 (.op v o)).2 = r) ∧
    ∃ l, ItemsOf m l ∧
      ∀ r, iterResult l o = some r → (fstep false (frun false (finit init) pre).1 (.op v o)).2 = r := by
  simp only [frames_op_after init pre hg hs]
  exact c17_results_partial init pre hg v o hv

/-- a read-only method call (one that pulls `_frames()` and writes nothing, in either model) -/
def isReadCmd : Cmd → Bool
  | .op _ o => (pullOf o).isSome
  | _ => false

theorem plainOp_pull (m : Dict Val) (o : Op) (h : (pullOf o).isSome = true) : (plainOp m o).1 = m := by
  cases o <;> first | rfl | cases h

theorem setInst_self (a : State) (i : InstId) (x : Inst) (hx : a.insts[i]? = some x) :
    C17.setInst a i x = a := by
  simp only [C17.setInst, set_self_of_getElem? a.insts i x hx]

theorem step_read_state (a : State) (c : Cmd) (h : isReadCmd c = true) : (step a c).1 = a := by
  cases c with
  | op v o =>
    simp only [isReadCmd] at h
    obtain ⟨p, hp⟩ := Option.isSome_iff_exists.mp h
    cases v with
    | cls c => exact classOp_read_state a c o p hp
    | inst i =>
      simp only [step, instOp]
      cases hx : a.insts[i]? with
      | none => rfl
      | some x =>
        obtain ⟨cl, loc⟩ := x
        cases loc with
        | plain m =>
          simp only [plainOp_pull m o h]
          exact setInst_self a i _ hx
        | storage f =>
          simp only
          cases a.descOf cl with
          | none => rfl
          | some d =>
            obtain ⟨res, hres⟩ := dictLikeRead_isRead (iReader a f cl d) o p hp
            simp only [hres]
  | _ => simp [isReadCmd] at h

/-- in a history with marks (`true`: an inserted read), the results of the commands that are NOT marked -/
def keepRes : List (Bool × Cmd) → List Res → List Res
  | bc :: l, r :: rs => if bc.1 then keepRes l rs else r :: keepRes l rs
  | _, _ => []

def unmarked (l : List (Bool × Cmd)) : List Cmd := (l.filter (fun bc => !bc.1)).map (·.2)

theorem run_insert_reads : ∀ (l : List (Bool × Cmd)) (a : State),
    (∀ bc ∈ l, bc.1 = true → isReadCmd bc.2 = true) →
    (run a (l.map (·.2))).1 = (run a (unmarked l)).1 ∧
    keepRes l (run a (l.map (·.2))).2 = (run a (unmarked l)).2
  | [], _, _ => ⟨rfl, rfl⟩
  | (b, c) :: l, a, hr => by
    have hr' : ∀ bc ∈ l, bc.1 = true → isReadCmd bc.2 = true :=
      fun bc hbc => hr bc (List.mem_cons_of_mem _ hbc)
    cases b with
    | true =>
      have hs := step_read_state a c (hr (true, c) List.mem_cons_self rfl)
      have ih := run_insert_reads l a hr'
      simp only [List.map_cons, run, hs, keepRes, if_true]
      have hu : unmarked ((true, c) :: l) = unmarked l := by simp [unmarked]
      rw [hu]; exact ih
    | false =>
      have ih := run_insert_reads l (step a c).1 hr'
      have hu : unmarked ((false, c) :: l) = c :: unmarked l := by simp [unmarked]
      simp only [List.map_cons, run, keepRes, hu, Bool.false_eq_true, if_false]
      exact ⟨ih.1, by rw [ih.2]⟩

theorem mroOf_store {σ σ' : FState} (h : SameStore σ σ') : σ.mroOf = σ'.mroOf :=
  mroOf_of_classes (a := core σ) h.classes
theorem ownOf_store {σ σ' : FState} (h : SameStore σ σ') : σ.ownOf = σ'.ownOf :=
  ownOf_of_classes (a := core σ) h.classes
theorem objOf_store {σ σ' : FState} (h : SameStore σ σ') : σ.objOf = σ'.objOf := by
  funext s; simp only [FState.objOf, h.objs]
theorem initialOf_store {σ σ' : FState} (h : SameStore σ σ') : σ.initialOf = σ'.initialOf := by
  funext P; simp only [FState.initialOf, h.initial]

theorem sharedInit_store {σ σ' : FState} (h : SameStore σ σ') (c : Cmd) : sharedInit σ c = sharedInit σ' c := by
  cases c <;> simp only [sharedInit, ownOf_store h, objOf_store h, initialOf_store h]

theorem store_classOpF {σ : FState} (h : NoAlias σ) (c : ClassId) (o : Op) :
    SameStore (classOpF false σ c o).1 σ := (keeps_classOpF σ c o h).2

theorem store_op {σ : FState} (h : NoAlias σ) (v : View) (o : Op) : SameStore (fstep false σ (.op v o)).1 σ :=
  (keeps_op σ v o h).2

/-- a READ step changes nothing `refGuard` looks at (only `map` may grow); unlike `store_op` it needs no invariant -/
theorem read_step_store (σ : FState) (c : Cmd) (h : isReadCmd c = true) : SameStore (fstep false σ c).1 σ := by
  cases c with
  | op v o =>
    cases v with
    | inst i =>
      obtain ⟨p, hp⟩ := Option.isSome_iff_exists.mp h
      simp only [fstep, instOpF, isRead_of_pullOf hp, if_true]
      split
      · exact .refl σ
      · split
        · exact ⟨rfl, rfl, rfl, rfl⟩
        · split
          · exact .refl σ
          · split
            · exact store_pull _ _ _ _
            · exact .refl σ
    | cls c =>
      obtain ⟨p, hp⟩ := Option.isSome_iff_exists.mp h
      simp only [fstep, classOpF, hp]
      split
      · split
        · exact .refl σ
        · exact store_pull _ _ _ _
      · exact .refl σ
  | _ => simp [isReadCmd] at h

theorem store_addClass {σ σ' : FState} (h : SameStore σ σ') (tail : List ClassId) (own : Option DescId) :
    SameStore (Frames.addClass σ tail own) (Frames.addClass σ' tail own) :=
  ⟨by simp only [Frames.addClass, h.classes], h.ndesc, h.objs, h.initial⟩

theorem store_usingPropsF {σ σ' : FState} (h : SameStore σ σ') (p : ClassId) (init : List (Key × Val)) :
    SameStore (usingPropsF σ p init) (usingPropsF σ' p init) := by
  constructor <;>
    simp only [usingPropsF, Frames.addClass, h.classes, mroOf_store h, h.ndesc, h.objs, h.initial]

theorem store_usingSharedF {σ σ' : FState} (h : SameStore σ σ') (p : ClassId) (s : DescId) :
    SameStore (usingSharedF σ p s) (usingSharedF σ' p s) := by
  constructor <;>
    simp only [usingSharedF, Frames.addClass, h.classes, mroOf_store h, objOf_store h, h.ndesc, h.objs, h.initial]

/-- the store after a command is a function of the store before, whatever is materialised -/
theorem store_fstep {σ σ' : FState} (hs : SameStore σ σ') (h : NoAlias σ) (h' : NoAlias σ') (c : Cmd) :
    SameStore (fstep false σ c).1 (fstep false σ' c).1 := by
  cases c with
  | op v o => exact (store_op h v o).trans (hs.trans (store_op h' v o).symm)
  | subclass p =>
    by_cases hp : p < σ'.classes.length
    · simp only [fstep, hs.classes, mroOf_store hs, hp, if_true]; exact store_addClass hs _ _
    · simp only [fstep, hs.classes, hp, if_false]; exact hs
  | subclassMI tail =>
    cases hp : tail.all (· < σ'.classes.length) with
    | true => simp only [fstep, hs.classes, hp, if_true]; exact store_addClass hs _ _
    | false => simp only [fstep, hs.classes, hp, Bool.false_eq_true, if_false]; exact hs
  | usingProps p init =>
    by_cases hp : p < σ'.classes.length
    · simp only [fstep, hs.classes, hp, if_true]; exact store_usingPropsF hs _ _
    · simp only [fstep, hs.classes, hp, if_false]; exact hs
  | usingShared p owner init =>
    by_cases hp : p < σ'.classes.length
    · simp only [fstep, hs.classes, ownOf_store hs, hp, if_true]
      cases σ'.ownOf owner with
      | none => exact hs
      | some s => exact store_usingSharedF hs _ _
    · simp only [fstep, hs.classes, hp, if_false]; exact hs
  | withProps p pairs =>
    by_cases hp : p < σ'.classes.length
    · simp only [fstep, hs.classes, mroOf_store hs, hp, if_true]
      exact (store_classOpF (σ := Frames.addClass σ (σ'.mroOf p) none) (fun P c => h P c) _ _).trans
        ((store_addClass hs _ _).trans
          (store_classOpF (σ := Frames.addClass σ' (σ'.mroOf p) none) (fun P c => h' P c) _ _).symm)
    · simp only [fstep, hs.classes, hp, if_false]; exact hs
  | newInst c =>
    have key : ∀ τ : FState, SameStore (fstep false τ (.newInst c)).1 τ := by
      intro τ; simp only [fstep]; split <;> exact ⟨rfl, rfl, rfl, rfl⟩
    exact (key σ).trans (hs.trans (key σ').symm)
  | newInstWith c m =>
    have key : ∀ τ : FState, SameStore (fstep false τ (.newInstWith c m)).1 τ := by
      intro τ; simp only [fstep]; split <;> exact ⟨rfl, rfl, rfl, rfl⟩
    exact (key σ).trans (hs.trans (key σ').symm)
  | assign i m =>
    have key : ∀ τ : FState, SameStore (fstep false τ (.assign i m)).1 τ := by
      intro τ; simp only [fstep]; split <;> exact ⟨rfl, rfl, rfl, rfl⟩
    exact (key σ).trans (hs.trans (key σ').symm)
  | newInstCompound c m =>
    by_cases hp : c < σ'.classes.length
    · simp only [fstep, hs.classes, hp, if_true]
      have := store_usingPropsF hs c m
      exact ⟨this.1, this.2, this.3, this.4⟩
    · simp only [fstep, hs.classes, hp, if_false]; exact hs

/-- two states, because after an inserted read the two runs differ in what is materialised: they refine the
    same model-A state and have the same store -/
theorem refGuard_insert_reads_from : ∀ (l : List (Bool × Cmd)) (σ σ' : FState) (a : State),
    Ref σ a → Ref σ' a → SameStore σ σ' →
    (∀ bc ∈ l, bc.1 = true → isReadCmd bc.2 = true) →
    refGuard σ a (l.map (·.2)) = refGuard σ' a (unmarked l)
  | [], _, _, _, _, _, _, _ => rfl
  | (b, c) :: l, σ, σ', a, h, h', hs, hr => by
    have hr' : ∀ bc ∈ l, bc.1 = true → isReadCmd bc.2 = true :=
      fun bc hbc => hr bc (List.mem_cons_of_mem _ hbc)
    cases b with
    | true =>
      have hrd := hr (true, c) List.mem_cons_self rfl
      have hu : unmarked ((true, c) :: l) = unmarked l := by simp [unmarked]
      cases c with
      | op v o =>
        -- a read passes `CmdOK` / `miGuard` / `sharedInit` trivially, changes nothing in model A and nothing in the store
        obtain ⟨_, href⟩ := op_step_refines h v o
        rw [step_read_state a _ hrd] at href
        have hst := (store_op h.finv.noAlias v o).trans hs
        rw [hu, ← refGuard_insert_reads_from l _ σ' a href h' hst hr']
        have e : (decide (CmdOK (.op v o)) && miGuard a (.op v o) && sharedInit σ (.op v o)) = true := by
          simp only [Bool.and_eq_true, decide_eq_true_eq]
          exact ⟨⟨trivial, rfl⟩, rfl⟩
        simp only [List.map_cons, refGuard, step_read_state a _ hrd, e, Bool.true_and]
      | _ => simp [isReadCmd] at hrd
    | false =>
      have hu : unmarked ((false, c) :: l) = c :: unmarked l := by simp [unmarked]
      rw [hu]
      -- any other command is judged by `CmdOK` (the command alone), `miGuard` (model A) and `sharedInit` (the store),
      -- and maps equal stores to equal stores
      simp only [List.map_cons, refGuard, sharedInit_store hs c]
      cases hhead : (decide (CmdOK c) && miGuard a c && sharedInit σ' c) with
      | false => simp only [Bool.false_and]
      | true =>
        simp only [Bool.and_eq_true, decide_eq_true_eq] at hhead
        obtain ⟨⟨hok, hmi⟩, hsh⟩ := hhead
        have hsh1 : sharedInit σ c = true := by rw [sharedInit_store hs c]; exact hsh
        obtain ⟨_, r1⟩ := frames_step_refines h c hok hmi hsh1
        obtain ⟨_, r2⟩ := frames_step_refines h' c hok hmi hsh
        simp only [Bool.true_and]
        exact refGuard_insert_reads_from l _ _ _ r1 r2 (store_fstep hs h.finv.noAlias h'.finv.noAlias c) hr'

theorem refGuard_insert_reads {σ : FState} {a : State} (h : Ref σ a) (l : List (Bool × Cmd))
    (hr : ∀ bc ∈ l, bc.1 = true → isReadCmd bc.2 = true) :
    refGuard σ a (l.map (·.2)) = refGuard σ a (unmarked l) :=
  refGuard_insert_reads_from l σ σ a h h (.refl σ) hr

theorem lazy_is_unobservable_two_guards {σ : FState} {a : State} (h : Ref σ a) (l : List (Bool × Cmd))
    (hr : ∀ bc ∈ l, bc.1 = true → isReadCmd bc.2 = true)
    (hg1 : refGuard σ a (l.map (·.2)) = true) (hg2 : refGuard σ a (unmarked l) = true) :
    keepRes l (frun false σ (l.map (·.2))).2 = (frun false σ (unmarked l)).2 ∧
    Ref (frun false σ (l.map (·.2))).1 (run a (unmarked l)).1 ∧
    Ref (frun false σ (unmarked l)).1 (run a (unmarked l)).1 := by
  obtain ⟨r1, s1⟩ := frames_run_refines _ σ a h hg1
  obtain ⟨r2, s2⟩ := frames_run_refines _ σ a h hg2
  obtain ⟨hs, hres⟩ := run_insert_reads l a hr
  rw [hs] at s1
  exact ⟨by rw [r1, r2, hres], s1, s2⟩

/-- Take any guarded history and insert read-only method calls — through
    any class or instance view, at any points, each possibly materialising a frame in
    `Properties.map` (the marked commands of `l`).  Then every OTHER command returns exactly what it
    returns without the inserted reads, and the two final mechanism states — which differ in which
    frames are materialised — refine one and the same model-A state: no later command can tell them
    apart either (`frames_step_refines` from that state).  Only the history WITHOUT the inserted
    reads is assumed guarded; the guard of the other one follows (`refGuard_insert_reads`). -/
theorem lazy_is_unobservable {σ : FState} {a : State} (h : Ref σ a) (l : List (Bool × Cmd))
    (hr : ∀ bc ∈ l, bc.1 = true → isReadCmd bc.2 = true)
    (hg : refGuard σ a (unmarked l) = true) :
    keepRes l (frun false σ (l.map (·.2))).2 = (frun false σ (unmarked l)).2 ∧
    Ref (frun false σ (l.map (·.2))).1 (run a (unmarked l)).1 ∧
    Ref (frun false σ (unmarked l)).1 (run a (unmarked l)).1 :=
  lazy_is_unobservable_two_guards h l hr (by rw [refGuard_insert_reads h l hr]; exact hg) hg

def kT : Key := ['t']

/-- root 0 `{s: 1}` with an instance; the instance READS (materialising the root's frame through
    the read path); class 1 = subclass, written through (its frame `{}` comes from `_base_frame`);
    class 2 = `using(properties={t: 3})`, written through FIRST (its OWNER frame is materialised by
    the write path, as a copy); class 3 = a sibling handed the SAME `Properties` object; reads
    through it, instance reads after, instance `clear()`, a detached instance -/
def frameHist : List Cmd :=
  [.newInst 0, .op (.inst 0) (.getitem kS),
   .subclass 0, .op (.cls 1) (.setitem kB (.int 2)),
   .usingProps 0 [(kT, .int 3)], .op (.cls 2) (.setitem kB (.int 9)),
   .usingShared 0 2 [(kT, .int 3)], .op (.cls 3) (.getitem kB), .op (.cls 3) .items,
   .op (.cls 1) (.pop kS none), .op (.inst 0) (.getitem kS), .op (.inst 0) (.setitem kS (.int 4)),
   .op (.inst 0) .clear, .op (.inst 0) .items,
   .newInstWith 1 [(kS, .int 7)], .op (.inst 1) .popitem, .withProps 3 [(kS, .int 5)], .op (.cls 4) .items]

theorem frameHist_guard :
    histGuard (initState [(kS, .int 1)]) frameHist = true ∧
    sharedHist (finit [(kS, .int 1)]) frameHist = true := by decide +kernel

example : (frun false (finit [(kS, .int 1)]) frameHist).2 = (run (initState [(kS, .int 1)]) frameHist).2 :=
  (frames_run_refines_init _ _ (refGuard_of_histGuard _ _ _ frameHist_guard.1 frameHist_guard.2)).1

example (v : View) (k : Key) :
    fvisible (frun false (finit [(kS, .int 1)]) frameHist).1 v k
      = Spec.visible (Spec.run (abs (initState [(kS, .int 1)])) frameHist) v k :=
  frames_histories_partial _ _ v k frameHist_guard.1 frameHist_guard.2

/-- the history does what it says: frames come into being one by one (root by the instance
    read, class 1 and the owner class 2 by writes, class 3 by a read, class 4 by `with_properties`),
    the sibling sharing the object sees none of class 2's write (`KeyError`), the instance of the
    root reads `s = 1` before and after (class 1's `pop` writes a tombstone into class 1's frame only),
    its `clear()` hides everything -/
example :
    materialised (frun false (finit [(kS, .int 1)]) (frameHist.take 1)).1 = [] ∧
    materialised (frun false (finit [(kS, .int 1)]) (frameHist.take 2)).1 = [0] ∧
    materialised (frun false (finit [(kS, .int 1)]) (frameHist.take 4)).1 = [0, 1] ∧
    materialised (frun false (finit [(kS, .int 1)]) (frameHist.take 5)).1 = [0, 1] ∧
    materialised (frun false (finit [(kS, .int 1)]) (frameHist.take 6)).1 = [0, 1, 2] ∧
    materialised (frun false (finit [(kS, .int 1)]) (frameHist.take 7)).1 = [0, 1, 2] ∧
    materialised (frun false (finit [(kS, .int 1)]) (frameHist.take 8)).1 = [0, 1, 2, 3] ∧
    materialised (frun false (finit [(kS, .int 1)]) frameHist).1 = [0, 1, 2, 3, 4] ∧
    (frun false (finit [(kS, .int 1)]) frameHist).2 =
      [.unit, .val (.int 1), .unit, .unit, .unit, .unit, .unit, .err .keyError, .items [(kT, .int 3)],
       .val (.int 1), .val (.int 1), .unit, .unit, .items [],
       .unit, .items [(kS, .int 7)], .unit, .items [(kS, .int 5), (kT, .int 3)]] := by decide +kernel

/-- the step refinement also covers what `histGuard` excludes for the LAYERED reference: the instance
    `clear()` quirk KF-C17-a is common to both models (`refGuard` passes, `histGuard` does not) -/
def quirkHist : List Cmd :=
  [.newInst 0, .op (.inst 0) (.setitem kB (.int 4)), .op (.inst 0) .clear, .op (.inst 0) .items,
   .op (.inst 0) (.setitem kB (.int 5)), .op (.inst 0) .items]

example :
    histGuard (initState [(kS, .int 1)]) quirkHist = false ∧
    (frun false (finit [(kS, .int 1)]) quirkHist).2 = (run (initState [(kS, .int 1)]) quirkHist).2 :=
  ⟨by decide +kernel, (frames_run_refines_init _ _ (by decide +kernel)).1⟩

/-- `lazy_is_unobservable` on a concrete pair: the same history with and without three inserted
    reads (one through an instance before anything is materialised, one through the sibling) -/
def markedHist : List (Bool × Cmd) :=
  [(false, .newInst 0), (true, .op (.inst 0) (.getitem kS)),
   (false, .usingProps 0 [(kT, .int 3)]), (true, .op (.cls 1) .items),
   (false, .op (.cls 1) (.setitem kB (.int 9))),
   (false, .usingShared 0 1 [(kT, .int 3)]), (true, .op (.cls 2) (.contains kB)),
   (false, .op (.cls 2) .items), (false, .op (.inst 0) .items)]

example :
    keepRes markedHist (frun false (finit [(kS, .int 1)]) (markedHist.map (·.2))).2
      = (frun false (finit [(kS, .int 1)]) (unmarked markedHist)).2 ∧
    materialised (frun false (finit [(kS, .int 1)]) (markedHist.map (·.2))).1 = [0, 1, 2] ∧
    materialised (frun false (finit [(kS, .int 1)]) (unmarked markedHist)).1 = [0, 1, 2] ∧
    materialised (frun false (finit [(kS, .int 1)]) ((markedHist.take 4).map (·.2))).1 = [0, 1] ∧
    materialised (frun false (finit [(kS, .int 1)]) (unmarked (markedHist.take 4))).1 = [] :=
  ⟨(lazy_is_unobservable (Ref_init _) markedHist (by decide +kernel) (by decide +kernel)).1,
    by decide +kernel, by decide +kernel, by decide +kernel, by decide +kernel⟩

/-- guard invariance is not vacuous: the guard of `markedHist` WITHOUT its three reads holds, the
    theorem gives the guard WITH them (and `decide` agrees); the reads do materialise frames (the
    `map` differs after four commands) while the store — what `refGuard` looks at — is the same -/
example :
    refGuard (finit [(kS, .int 1)]) (initState [(kS, .int 1)]) (unmarked markedHist) = true ∧
    refGuard (finit [(kS, .int 1)]) (initState [(kS, .int 1)]) (markedHist.map (·.2)) = true ∧
    SameStore (frun false (finit [(kS, .int 1)]) ((markedHist.take 4).map (·.2))).1
      (frun false (finit [(kS, .int 1)]) (unmarked (markedHist.take 4))).1 :=
  ⟨by decide +kernel,
    by rw [refGuard_insert_reads (Ref_init _) markedHist (by decide +kernel)]; decide +kernel,
    ⟨rfl, rfl, rfl, rfl⟩⟩

/-- a guard that FAILS stays failed under inserted reads (the equality goes both ways): a wrong
    `initial_set` annotation of the shared object is rejected with or without the reads -/
def markedBad : List (Bool × Cmd) :=
  [(false, .usingProps 0 [(kT, .int 3)]), (true, .op (.cls 1) .items),
   (false, .usingShared 0 1 [(kT, .int 4)]), (true, .op (.cls 2) .items)]

example :
    refGuard (finit [(kS, .int 1)]) (initState [(kS, .int 1)]) (unmarked markedBad) = false ∧
    refGuard (finit [(kS, .int 1)]) (initState [(kS, .int 1)]) (markedBad.map (·.2)) = false :=
  ⟨by decide +kernel, by rw [refGuard_insert_reads (Ref_init _) markedBad (by decide +kernel)]; decide +kernel⟩

end Flatland.C17.Frames.Proofs
