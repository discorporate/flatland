/-
C07 on the tree model — the invariant the operations keep.  `dp` (Flatland/C07Tree.lean) alone is NOT preserved: it does not
say that the items of a List's underlying list are ListSlot nodes, so an item that is itself a List could be emptied or lengthened
by a call addressed to it, and `lst[i] = element` re-fills the item under an arbitrary key (both checked in Proofs/C07TreeInv.lean).
Hence `dps`: `dp` plus "every item of a List's underlying list is a node of kind `.slot`"; it implies `dp` (`dp_of_dps`).
-/
import Proofs.C07Tree
import Proofs.C08Placed
namespace Flatland.C07Tree.Proofs.Inv
open Flatland.Tree Flatland.PyList Flatland.C08 Flatland.C07Tree
open Flatland.C09.Proofs (WellNumbered wn_nil wn_append)
open Flatland.C08.Proofs (IsDeep deep_iff)

def slotKinds (ks : List Node) : Bool := ks.all (fun s => s.kind == .slot)

mutual
/-- deep positional, slotted: `dp`, and every item of a List's underlying list is a node of kind `.slot` -/
def dps : Node → Bool
  | .mk _ s kids =>
    (!(s.kind == .list) || (wnFrom 0 kids && single kids && slotKinds kids)) && dpsL kids
def dpsL : List Node → Bool
  | [] => true
  | k :: ks => dps k && dpsL ks
end

/-- what `dps` asks of one node -/
def dpsLoc (n : Node) : Bool := !(n.kind == .list) || (wnFrom 0 n.kids && single n.kids && slotKinds n.kids)

theorem dps_deep : IsDeep dps dpsL dpsLoc :=
  deep_iff (fun _ _ _ => by rw [dps]; rfl) (by rw [dpsL]) (fun _ _ => by rw [dpsL])

theorem dp_of_dps : ∀ n : Node, dps n = true → dp n = true :=
  fun n h => (dp_deep.2 n).mpr fun x hx => by
    have := (dps_deep.2 n).mp h x hx
    simp only [dpsLoc, dpLoc, Bool.or_eq_true, Bool.and_eq_true] at this ⊢
    exact this.imp_right fun h => h.1

theorem dpL_of_dpsL : ∀ ks : List Node, dpsL ks = true → dpL ks = true :=
  fun ks h => (dp_deep.1 ks).mpr fun k hk => dp_of_dps k ((dps_deep.1 ks).mp h k hk)

theorem dpsL_iff (ks : List Node) : dpsL ks = true ↔ ∀ k ∈ ks, dps k = true := dps_deep.1 ks

theorem slotKinds_iff (ks : List Node) : slotKinds ks = true ↔ ∀ s ∈ ks, s.kind = .slot := by
  simp [slotKinds]

theorem dp_iff (n : Node) :
    dp n = true ↔
      (n.kind = .list → WellNumbered n.kids ∧ ∀ s ∈ n.kids, s.kids.length = 1) ∧ ∀ k ∈ n.kids, dp k = true :=
  Flatland.C07Tree.Proofs.dp_iff n

/-- what the invariant asks of one item of the underlying list of a node (`L`: the node is a List) -/
def Item (L : Prop) (k : Node) : Prop :=
  dps k = true ∧ (L → k.kids.length = 1 ∧ k.kind = .slot)

/-- all items of an underlying list (mirror of C08's `KidsWP`) -/
def KidsDP (L : Prop) (ks : List Node) : Prop := ∀ k ∈ ks, Item L k

theorem dps_mk_iff (i : NInfo) (s : Schema) (kids : List Node) :
    dps (.mk i s kids) = true ↔
      (s.kind = .list → WellNumbered kids) ∧ KidsDP (s.kind = .list) kids := by
  rw [dps]
  simp only [Bool.and_eq_true, Bool.or_eq_true, Bool.not_eq_true', beq_eq_false_iff_ne, ne_eq,
    dpsL_iff, wn_iff, single_iff, slotKinds_iff, KidsDP, Item, ← Decidable.imp_iff_not_or]
  exact ⟨fun ⟨h1, h2⟩ => ⟨fun hl => (h1 hl).1.1, fun k hk => ⟨h2 k hk, fun hl => ⟨(h1 hl).1.2 k hk, (h1 hl).2 k hk⟩⟩⟩,
    fun ⟨h1, h2⟩ => ⟨fun hl => ⟨⟨h1 hl, fun k hk => ((h2 k hk).2 hl).1⟩, fun k hk => ((h2 k hk).2 hl).2⟩, fun k hk => (h2 k hk).1⟩⟩

theorem dps_iff' (n : Node) :
    dps n = true ↔ (n.kind = .list → WellNumbered n.kids) ∧ KidsDP (n.kind = .list) n.kids := by
  cases n with
  | mk i s kids => exact dps_mk_iff i s kids

theorem dps_iff (n : Node) :
    dps n = true ↔
      (n.kind = .list → WellNumbered n.kids ∧ ∀ s ∈ n.kids, s.kids.length = 1 ∧ s.kind = .slot) ∧
      ∀ k ∈ n.kids, dps k = true := by
  rw [dps_iff']
  constructor
  · rintro ⟨h1, h2⟩
    exact ⟨fun hl => ⟨h1 hl, fun s hs => (h2 s hs).2 hl⟩, fun k hk => (h2 k hk).1⟩
  · rintro ⟨h1, h2⟩
    exact ⟨fun hl => (h1 hl).1, fun k hk => ⟨h2 k hk, fun hl => (h1 hl).2 k hk⟩⟩

theorem dps_withKey (x : Node) (k : Str) : dps (x.withKey k) = dps x := by
  cases x; simp only [Node.withKey, dps, Node.sch, Node.kids]
theorem dps_withParent (x : Node) (p : Option Nat) : dps (x.withParent p) = dps x := by
  cases x; simp only [Node.withParent, dps, Node.sch, Node.kids]
theorem dps_withScalar (x : Node) (v : Val) (u : Str) : dps (x.withScalar v u) = dps x := by
  cases x; simp only [Node.withScalar, dps, Node.sch, Node.kids]
theorem dps_ni (i i' : NInfo) (s : Schema) (ks : List Node) : dps (.mk i s ks) = dps (.mk i' s ks) := by
  simp only [dps]

theorem kids_withKey (x : Node) (k : Str) : (x.withKey k).kids = x.kids := by cases x; rfl
theorem kids_withParent (x : Node) (p : Option Nat) : (x.withParent p).kids = x.kids := by cases x; rfl
theorem kids_withScalar (x : Node) (v : Val) (u : Str) : (x.withScalar v u).kids = x.kids := by cases x; rfl
theorem kind_withKey (x : Node) (k : Str) : (x.withKey k).kind = x.kind := by cases x; rfl
theorem kind_withParent (x : Node) (p : Option Nat) : (x.withParent p).kind = x.kind := by cases x; rfl
theorem kind_withScalar (x : Node) (v : Val) (u : Str) : (x.withScalar v u).kind = x.kind := by cases x; rfl
theorem key_withKids (x : Node) (ks : List Node) : (x.withKids ks).key = x.key := by cases x; rfl

theorem dps_withKids (n : Node) (ks : List Node) :
    dps (n.withKids ks) = true ↔ (n.kind = .list → WellNumbered ks) ∧ KidsDP (n.kind = .list) ks := by
  cases n with
  | mk i s kids => exact dps_mk_iff i s ks

theorem dps_mk_notList (i : NInfo) (s : Schema) (ks : List Node) (h : s.kind ≠ .list) :
    dps (.mk i s ks) = true ↔ ∀ k ∈ ks, dps k = true := by
  rw [dps_mk_iff]
  constructor
  · rintro ⟨_, h2⟩ k hk; exact (h2 k hk).1
  · intro h2; exact ⟨fun hl => absurd hl h, fun k hk => ⟨h2 k hk, fun hl => absurd hl h⟩⟩

theorem dps_withKids_notList (n : Node) (ks : List Node) (h : n.kind ≠ .list) :
    dps (n.withKids ks) = true ↔ ∀ k ∈ ks, dps k = true := by
  cases n with
  | mk i s kids => exact dps_mk_notList i s ks h

theorem dps_mk_nil (i : NInfo) (s : Schema) : dps (.mk i s []) = true := by
  rw [dps_mk_iff]; exact ⟨fun _ => wn_nil, fun k hk => by cases hk⟩

theorem dps_of_hdr {r n : Node} (h : r.hdr = n.hdr) (hw : n.kind = .list → WellNumbered r.kids)
    (hk : KidsDP (n.kind = .list) r.kids) : dps r = true := by
  rw [dps_iff', kind_of_hdr h]; exact ⟨hw, hk⟩

theorem item_withKey {L : Prop} {x : Node} (h : Item L x) (k : Str) : Item L (x.withKey k) := by
  unfold Item at *; rw [dps_withKey, kids_withKey, kind_withKey]; exact h

theorem item_notList {L : Prop} (hL : ¬ L) {x : Node} (h : dps x = true) : Item L x :=
  ⟨h, fun hl => absurd hl hL⟩

theorem kd_append {L : Prop} {kids : List Node} (h : KidsDP L kids) (new : Node) (hn : Item L new) :
    KidsDP L (kids ++ [new]) := by
  intro x hx
  rcases List.mem_append.mp hx with h1 | h1
  · exact h x h1
  · simp only [List.mem_singleton] at h1; rw [h1]; exact hn

theorem kd_of_forall {L : Prop} (hL : ¬ L) {ks : List Node} (h : ∀ k ∈ ks, dps k = true) : KidsDP L ks :=
  fun k hk => item_notList hL (h k hk)

theorem kd_deep {L : Prop} {ks : List Node} (h : KidsDP L ks) : ∀ k ∈ ks, dps k = true :=
  fun k hk => (h k hk).1

theorem item_mkSlot (L : Prop) (id lst nm : Nat) (e : Node) (he : dps e = true) :
    Item L (mkSlot id lst nm e) := by
  refine ⟨?_, fun _ => ⟨rfl, rfl⟩⟩
  unfold mkSlot
  rw [dps_mk_notList _ _ _ (by decide)]
  intro k hk
  simp only [List.mem_singleton] at hk
  rw [hk, dps_withParent]; exact he

theorem dps_mkSlot (id lst nm : Nat) (e : Node) (he : dps e = true) : dps (mkSlot id lst nm e) = true :=
  (item_mkSlot True id lst nm e he).1

theorem item_slot_withKids {L : Prop} {slot : Node} (hs : Item L slot) (hL : L) (x : Node)
    (hx : dps x = true) : Item L (slot.withKids [x]) := by
  have h2 := hs.2 hL
  refine ⟨?_, fun _ => ⟨by rw [kids_withKids]; rfl, by rw [kind_withKids]; exact h2.2⟩⟩
  rw [dps_withKids_notList _ _ (by rw [h2.2]; decide)]
  intro k hk
  simp only [List.mem_singleton] at hk
  rw [hk]; exact hx

theorem dps_slotElement {L : Prop} {slot el : Node} (hs : Item L slot) (h : slotElement slot = some el) :
    dps el = true := by
  have helm : el ∈ slot.kids := by
    unfold slotElement at h
    exact List.mem_of_mem_head? h
  exact ((dps_iff slot).mp hs.1).2 el helm

theorem appendEl_dps (n w : Node) (hn : dps n = true) (hw : dps w = true) (next : Nat) :
    dps (appendEl n w next).1 = true := by
  have h := (dps_iff' n).mp hn
  unfold appendEl
  split
  · rename_i hl
    rw [dps_withKids]
    exact ⟨fun _ => wn_append (h.1 hl) _ _ _, kd_append h.2 _ (item_mkSlot _ _ _ _ w hw)⟩
  · rename_i hl
    rw [dps_withKids]
    exact ⟨fun h' => absurd h' hl, kd_append h.2 _ (item_notList hl (by rw [dps_withParent]; exact hw))⟩

end Flatland.C07Tree.Proofs.Inv
