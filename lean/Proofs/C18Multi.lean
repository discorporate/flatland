/-
C18 — MultiValue: "a MultiValue's scalar view is always its first member", over the model that
follows the code (Flatland/C18Multi.lean: getters and SETTERS of `MultiValue.u` / `.value` as
written, the CPython list operations of Flatland/PyList.lean).  Spec: Flatland/Spec/C18.lean
(`firstView`, `writeFirstU`, `writeFirstValue`, `SetReachable`).
-/
import Flatland.C18Multi
import Flatland.Spec.C18
import Proofs.C04
namespace Flatland.C18.Multi.Proofs
open Flatland.Scalar Flatland.C18 Flatland.C18.Spec Flatland.C18.Multi Flatland.PyList
open Flatland.C04.Proofs (plainEnv)

theorem adapt_none (E : Env) (k : Kind) :
    adapt E k .none = .ok (some .none) ∨ adapt E k .none = .ok none := by
  induction k with
  | constrained child valid ih =>
    rcases ih with h | h
    · simp only [adapt, h]
      split <;> simp
    · simp [adapt, h]
  | _ => simp [adapt]

/-- `member_schema(value=None)`, the member `self.append(None)` creates: a Constrained member may reject None; its
    value is None and its text `''` all the same -/
theorem newMember_none (E : Env) (k : Kind) : newMember E k .none = .ok blankMember := by
  unfold newMember setScalar
  rcases adapt_none E k with h | h <;> simp [h, uOfValue, uOfFailed, blankMember]

theorem getItem_zero_cons (m : SState) (r : MultiState) : getItem (m :: r) 0 = some m := by
  simp [getItem, normIndex]

theorem setItem_zero_cons (m m' : SState) (r : MultiState) : setItem (m :: r) 0 m' = some (m' :: r) := by
  simp [setItem, normIndex]

theorem getU_first (s : MultiState) : getU s = .ok (firstView s).1 := by
  cases s with
  | nil => rfl
  | cons m r => simp [getU, truth, firstView, getItem_zero_cons]

theorem getValue_first (s : MultiState) : getValue s = .ok (firstView s).2 := by
  cases s with
  | nil => rfl
  | cons m r => simp [getValue, truth, firstView, getItem_zero_cons]

theorem setU_spec (E : Env) (k : Kind) (s : MultiState) (x : Str) : setU E k s x = .ok (writeFirstU s x) := by
  cases s with
  | nil => simp [setU, ensureFirst, truth, newMember_none, assignAt, getItem_zero_cons, setItem_zero_cons, writeFirstU]
  | cons m r => simp [setU, ensureFirst, truth, assignAt, getItem_zero_cons, setItem_zero_cons, writeFirstU]

theorem setValue_spec (E : Env) (k : Kind) (s : MultiState) (x : Native) :
    setValue E k s x = .ok (writeFirstValue s x) := by
  cases s with
  | nil => simp [setValue, ensureFirst, truth, newMember_none, assignAt, getItem_zero_cons, setItem_zero_cons, writeFirstValue]
  | cons m r => simp [setValue, ensureFirst, truth, assignAt, getItem_zero_cons, setItem_zero_cons, writeFirstValue]

theorem writeFirstU_view (s : MultiState) (x : Str) : firstView (writeFirstU s x) = (x, (firstView s).2) := by
  cases s <;> rfl
theorem writeFirstU_rest (s : MultiState) (x : Str) : (writeFirstU s x).drop 1 = s.drop 1 := by
  cases s <;> rfl
theorem writeFirstU_length (s : MultiState) (x : Str) : (writeFirstU s x).length = max 1 s.length := by
  cases s <;> simp [writeFirstU] <;> omega
theorem writeFirstValue_view (s : MultiState) (x : Native) : firstView (writeFirstValue s x) = ((firstView s).1, x) := by
  cases s <;> rfl
theorem writeFirstValue_rest (s : MultiState) (x : Native) : (writeFirstValue s x).drop 1 = s.drop 1 := by
  cases s <;> rfl
theorem writeFirstValue_length (s : MultiState) (x : Native) : (writeFirstValue s x).length = max 1 s.length := by
  cases s <;> simp [writeFirstValue] <;> omega

/-- `mv.u = x` assigns one attribute of the first member, it does not `set()` it: the member's VALUE is what it
    was (None for the member the setter had to create) -/
theorem multivalue_setter_spec (E : Env) (k : Kind) (s : MultiState) (x : Str) :
    ∃ s', step E k s (.writeU x) = .ok (s', none) ∧ s'.length = max 1 s.length ∧
      s'.head?.map (·.u) = some x ∧ s'.drop 1 = s.drop 1 ∧
      s'.head?.map (·.value) = some (firstView s).2 := by
  refine ⟨writeFirstU s x, by simp [step, setU_spec], writeFirstU_length s x, ?_, writeFirstU_rest s x, ?_⟩ <;>
    cases s <;> rfl

/-- the same for `mv.value = x`: the first member's TEXT is what it was (`''` for a new member) -/
theorem multivalue_value_setter_spec (E : Env) (k : Kind) (s : MultiState) (x : Native) :
    ∃ s', step E k s (.writeValue x) = .ok (s', none) ∧ s'.length = max 1 s.length ∧
      s'.head?.map (·.value) = some x ∧ s'.drop 1 = s.drop 1 ∧
      s'.head?.map (·.u) = some (firstView s).1 := by
  refine ⟨writeFirstValue s x, by simp [step, setValue_spec], writeFirstValue_length s x, ?_, writeFirstValue_rest s x, ?_⟩ <;>
    cases s <;> rfl

example : ∃ s', step plainEnv (.string true) [] (.writeU ['x']) = .ok (s', none) ∧ s' = [⟨.none, .none, ['x']⟩] :=
  ⟨_, by simp [step, setU_spec, writeFirstU, blankMember], rfl⟩

theorem isEmpty_iff (s : MultiState) : isEmpty s = true ↔ s = [] := by
  cases s <;> simp [isEmpty]

theorem isEmpty_writeFirstU (s : MultiState) (x : Str) : isEmpty (writeFirstU s x) = false := by
  cases s <;> simp [isEmpty, writeFirstU]
theorem isEmpty_writeFirstValue (s : MultiState) (x : Native) : isEmpty (writeFirstValue s x) = false := by
  cases s <;> simp [isEmpty, writeFirstValue]

/-- observation: `mv.u = ''` on a MultiValue without members leaves the scalar view what it was
    (`''`, None) and turns `is_empty` from True to False — `is_empty` counts members, it does not
    look at the view ("True if the element has no value", `Element.is_empty`) -/
theorem writeU_blank_flips_isEmpty (E : Env) (k : Kind) :
    ∃ s', step E k [] (.writeU []) = .ok (s', none) ∧ firstView s' = firstView [] ∧
      isEmpty [] = true ∧ isEmpty s' = false :=
  ⟨writeFirstU [] [], by simp [step, setU_spec], rfl, rfl, rfl⟩

/-- reading the view of `s` through the machine's getters gives `v` (and does not raise) -/
def viewIs (M : Machine) (s : MultiState) (v : Str × Native) : Bool :=
  (match M.getU s with | .ok u => decide (u = v.1) | .error _ => false) &&
  (match M.getValue s with | .ok x => decide (x = v.2) | .error _ => false)

/-- what the statement demands of one completed step `s --op--> s'`:
    * the view read after the step is the first member of the member list at that moment;
    * a view write is read back, leaves the view's other half, the other members and nothing but
      a missing first member's existence alone, and the element is not `is_empty` afterwards -/
def stepOK (M : Machine) (s : MultiState) (op : Op) (s' : MultiState) : Bool :=
  viewIs M s' (firstView s') &&
  (match op with
   | .writeU x => viewIs M s' (x, (firstView s).2) && decide (s'.drop 1 = s.drop 1) &&
                  decide (s'.length = max 1 s.length) && !isEmpty s'
   | .writeValue x => viewIs M s' ((firstView s).1, x) && decide (s'.drop 1 = s.drop 1) &&
                      decide (s'.length = max 1 s.length) && !isEmpty s'
   | _ => true)

/-- every completed step of the history is `stepOK` (a raising operation ends the history) -/
def HistoryOK (M : Machine) : MultiState → List Op → Bool
  | _, [] => true
  | s, op :: rest =>
    match M.step s op with
    | .error _ => true
    | .ok (s', _) => stepOK M s op s' && HistoryOK M s' rest

theorem viewIs_code (E : Env) (k : Kind) (s : MultiState) (v : Str × Native) :
    viewIs (code E k) s v = decide (firstView s = v) := by
  obtain ⟨a, b⟩ := v
  simp only [viewIs, code, getU_first, getValue_first]
  cases hfv : firstView s with
  | mk c d => simp [Prod.ext_iff]

theorem step_ok (E : Env) (k : Kind) (s : MultiState) (op : Op) (s' : MultiState) (r : Option Bool)
    (h : step E k s op = .ok (s', r)) : stepOK (code E k) s op s' = true := by
  have hv : viewIs (code E k) s' (firstView s') = true := by simp [viewIs_code]
  cases op with
  | writeU x =>
    simp only [step, setU_spec, Except.ok.injEq, Prod.mk.injEq] at h
    obtain ⟨rfl, _⟩ := h
    have hr := writeFirstU_rest s x
    simp only [List.drop_one] at hr
    simp [stepOK, viewIs_code, writeFirstU_view, hr, writeFirstU_length, isEmpty_writeFirstU]
  | writeValue x =>
    simp only [step, setValue_spec, Except.ok.injEq, Prod.mk.injEq] at h
    obtain ⟨rfl, _⟩ := h
    have hr := writeFirstValue_rest s x
    simp only [List.drop_one] at hr
    simp [stepOK, viewIs_code, writeFirstValue_view, hr, writeFirstValue_length, isEmpty_writeFirstValue]
  | _ => simp [stepOK, hv]

/-- C18, "a MultiValue's scalar view is always its first member": for every member type, start state and history of
    operations, after every completed step the scalar view read through the getters as written is the first
    member's (text, value) — `('', None)` without members —, and every view write is read back, changes neither
    the other half of the view nor any other member, and creates exactly one member when there was none.
    Outside the two view-write operations this holds by construction of the getters: the view is computed from
    the current members on every read, whatever the step function does.  The content is in `setU_spec` /
    `setValue_spec` for the writes, and in `lastWriter_fails`, `lastReader_fails`, `setterViaSet_fails`: three
    one-line edits of the code for which the same statement is false. -/
theorem multivalue_view_history (E : Env) (k : Kind) (s : MultiState) (ops : List Op) :
    HistoryOK (code E k) s ops = true := by
  induction ops generalizing s with
  | nil => rfl
  | cons op rest ih =>
    simp only [HistoryOK]
    cases h : (code E k).step s op with
    | error e => rfl
    | ok res =>
      obtain ⟨s', r⟩ := res
      simp only [Bool.and_eq_true]
      exact ⟨step_ok E k s op s' r h, ih s'⟩

/-- non-vacuity: a history that completes, with view writes on an empty and on a filled MultiValue -/
example :
    ((step plainEnv (.string true) [] (.writeValue (.str ['v']))).toOption.bind fun p =>
      ((step plainEnv (.string true) p.1 (.append (.str ['b']))).toOption.bind fun q =>
        (step plainEnv (.string true) q.1 (.writeU ['x'])).toOption.map (·.1))) =
      some [⟨.none, .str ['v'], ['x']⟩, ⟨.str ['b'], .str ['b'], ['b']⟩] := by
  decide +kernel

/-- a setter that writes to the LAST member does not satisfy the statement:
    `mv.append('a'); mv.append('b'); mv.u = 'x'` then reads `'a'` -/
theorem lastWriter_fails : ¬ ∀ (s : MultiState) (ops : List Op), HistoryOK (lastWriter plainEnv (.string true)) s ops = true := by
  intro h
  have := h [] [.append (.str ['a']), .append (.str ['b']), .writeU ['x']]
  revert this
  decide +kernel

theorem lastReader_fails : ¬ ∀ (s : MultiState) (ops : List Op), HistoryOK (lastReader plainEnv (.string true)) s ops = true := by
  intro h
  have := h [] [.append (.str ['a']), .append (.str ['b'])]
  revert this
  decide +kernel

/-- `set()`ting the member instead of assigning its text changes the value half of the view -/
theorem setterViaSet_fails : ¬ ∀ (s : MultiState) (ops : List Op), HistoryOK (setterViaSet plainEnv (.string true)) s ops = true := by
  intro h
  have := h [] [.append (.str ['a']), .writeU ['x']]
  revert this
  decide +kernel

/-- the full statement one might expect of a view write: members stay in a state that `set()`
    produces (C04's coherence of value and text, lifted to the MultiValue) -/
def C18_Full_view_write_coherent : Prop :=
  ∀ (k : Kind) (s : MultiState) (x : Str) (s' : MultiState), (∀ m ∈ s, SetReachable plainEnv k m) →
    setU plainEnv k s x = .ok s' → ∀ m ∈ s', SetReachable plainEnv k m

/-- it holds when the written text is the text that some `set()`
    of the member type pairs with the first member's current value (None for a new member) -/
theorem view_write_coherent_partial (E : Env) (k : Kind) (s : MultiState) (x : Str) (s' : MultiState)
    (hs : ∀ m ∈ s, SetReachable E k m)
    (hx : ∃ obj r, setScalar E k obj = .ok r ∧ r.st.value = (firstView s).2 ∧ r.st.u = x)
    (h : setU E k s x = .ok s') : ∀ m ∈ s', SetReachable E k m := by
  rw [setU_spec] at h
  simp only [Except.ok.injEq] at h
  subst h
  cases s with
  | nil =>
    intro m hm
    simp only [writeFirstU, List.mem_singleton] at hm
    subst hm
    exact hx
  | cons m0 rest =>
    intro m hm
    simp only [writeFirstU, List.mem_cons] at hm
    rcases hm with rfl | hm
    · exact hx
    · exact hs m (List.mem_cons_of_mem _ hm)

example : ∃ obj r, setScalar plainEnv (.string false) obj = .ok r ∧
    r.st.value = (firstView [⟨.str ['a'], .str ['a'], ['a']⟩]).2 ∧ r.st.u = ['a'] :=
  ⟨.str ['a'], ⟨⟨.str ['a'], .str ['a'], ['a']⟩, true, [true]⟩, rfl, rfl, rfl⟩

/-- `MultiValue.of(String)`: `mv.set(['a']); mv.u = 'x'` leaves the first member with value `'a'`
    and text `'x'`, a state no `set()` of a String produces -/
theorem C18_view_write_incoherent : ¬ C18_Full_view_write_coherent := by
  intro hfull
  have hreach := hfull (.string false) [⟨.str ['a'], .str ['a'], ['a']⟩] ['x'] _
    (by
      intro m hm
      simp only [List.mem_singleton] at hm
      subst hm
      exact ⟨.str ['a'], ⟨⟨.str ['a'], .str ['a'], ['a']⟩, true, [true]⟩, rfl, rfl, rfl⟩)
    (setU_spec _ _ _ _) ⟨.str ['a'], .str ['a'], ['x']⟩ (by simp [writeFirstU])
  obtain ⟨obj, r, h, hv, hu⟩ := hreach
  have hc := Flatland.C04.Proofs.set_coherent plainEnv (.string false) obj r h
  cases hf : r.flag with
  | false => rw [(hc.failure hf).1] at hv; cases hv
  | true =>
    -- a String's text is its value
    obtain ⟨v, _, hval, hser⟩ := hc.success hf
    rw [← hval, hv, hu] at hser
    cases hser

end Flatland.C18.Multi.Proofs
