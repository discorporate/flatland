/-
C08 — everything the constructors and element-level mutators of the model build is
well-parented: `schema(parent=…)`, `element.set(raw)`, `schema(value)`, `from_defaults`,
`set_default`.  `wp` is an invariant in the sense of `ElemInv` (Proofs/Lemmas/TreeBuild.lean); the
theorems are its instances.
-/
import Proofs.C08
import Proofs.C09
import Proofs.C10
import Proofs.Lemmas.TreeBuild
namespace Flatland.C08.Proofs
open Flatland.Tree Flatland.PyList Flatland.C08 Flatland.C08.Spec

theorem kidsWP_iff (n : Node) : wp n = true ↔ KidsWP n.id n.kids := wp_iff n

theorem defaultSlotsWith_wp (mk : Nat → SetR) (hmk : ∀ nx, wp (mk nx).node = true) (lst : Nat) :
    ∀ (k idx next : Nat), KidsWP lst (defaultSlotsWith mk lst k idx next).1 :=
  defaultSlotsWith_forall mk lst (fun _ _ _ => wp_mkSlot _ _ _ _ (hmk _))

theorem wpElem : ElemInv (fun n => wp n = true) where
  scalar _ _ h := h
  leaf _ _ := rfl
  append := fun {n w} next _ hn hw => by
    rw [wp_iff, id_of_hdr (appendEl_hdr n w next)]
    exact appendEl_wp n w ((wp_iff n).mp hn) hw next
  fields _ h := by rw [Spec.wp, wpL_iff]; exact h
  dictDefault := fun {i s ks} next _ h ih => by
    rw [Spec.wp, wpL_iff] at h ⊢
    exact setDefaultKids_forall ks (P := fun c => c.parent = some i.id ∧ wp c = true)
      (fun k hk nx hc => ⟨parent_eq_of_hdr (setDefault_hdr k nx) hc.1, ih k hk nx hc.2⟩) next h
  withParent p h := (wp_withParent _ p).trans h
  slots mk _ _ _ _ h := by rw [Spec.wp, wpL_iff]; exact defaultSlotsWith_wp mk (fun nx => (h nx).2) _ _ _ _

theorem blank_wp (s : Schema) (parent : Option Nat) (key : Str) (next : Nat) : wp (blank s parent key next).1 = true :=
  wpElem.blank s parent key next

theorem blankFields_wp (subs : List Schema) (pid : Nat) (b : Bool) (next : Nat) :
    ∀ k ∈ (blankFields subs pid b next).1, k.parent = some pid ∧ wp k = true :=
  blankFields_forall subs pid b
    (fun f _ n1 => ⟨(hdr_id_parent (blank_hdr f (some pid) f.key n1)).2, blank_wp f (some pid) f.key n1⟩) next

theorem setNode_wp : ∀ (raw : Raw) (n : Node) (pol : Option Policy) (next : Nat), wp n = true →
    wp (setNode n raw pol next).node = true :=
  wpElem.setNode

theorem construct_wp (s : Schema) (raw : Raw) (parent : Option Nat) (key : Str) (next : Nat) (e : Node) (n1 : Nat)
    (h : construct s raw parent key next = (.ok e, n1)) : wp e = true :=
  wpElem.construct s raw parent key next e n1 h

theorem fromDefaults_wp : ∀ (s : Schema) (parent : Option Nat) (key : Str) (next : Nat),
    wp (fromDefaults s parent key next).node = true :=
  wpElem.fromDefaults

theorem setDefault_wp : ∀ (n : Node) (next : Nat), wp n = true → wp (setDefault n next).node = true :=
  wpElem.setDefault

theorem setDefaultKids_wp : ∀ (kids : List Node) (pid : Nat) (next : Nat), KidsWP pid kids →
    KidsWP pid (setDefaultKids kids next).1 :=
  fun kids pid next => setDefaultKids_forall kids (P := fun c => c.parent = some pid ∧ wp c = true)
    (fun k _ nx hc => ⟨parent_eq_of_hdr (setDefault_hdr k nx) hc.1, setDefault_wp k nx hc.2⟩) next

end Flatland.C08.Proofs
