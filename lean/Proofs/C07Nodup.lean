/-
C07 — "keys are unique except for the repeated members of an Array / MultiValue".

`Proofs/C07Unique.lean`: two emitted pairs with one key belong to elements with one *name path*.  Here: different
elements have different name paths, unless they are members of one Array / MultiValue — for every well-formed schema
without SparseDicts and every conforming state `e` (`OkP env s e`).  If every Array / MultiValue of `e` holds at most
one member (`arrLe1`; in particular if the schema has none, `noArray`), the emitted token paths and, under `SepSafe`,
the keys are pairwise distinct.  In general, cutting every Array / MultiValue down to its first member (`firstOnly`)
leaves a conforming state that emits pairwise distinct paths (keys) and the same *set* of paths (keys) as `e`: the
only repeats are the 2nd, 3rd, … members of an Array / MultiValue, which repeat the path (key) of the first.

No hypothesis on the root (`rootOK`) and none on the interpreter's digit table (`EnvOK`) is needed: an anonymous scalar
root emits the single empty path, and the decimal forms of different indexes differ whatever the table.
-/
import Proofs.Lemmas.C07PathsSchema
import Proofs.C07Unique
namespace Flatland.Flat.Proofs
open Flatland.Flat Flatland.Flat.Spec

theorem flattenNode_keys (sep : Str) (m : FNode) :
    (flattenNode sep m).map Prod.fst = (paths m).map (joinSep sep) := by
  unfold paths relFlat
  rw [flattenNode_eq, ← bfsFlat_single sep ([], m), bfsFlat_eq_map, List.map_map, List.map_map]
  rfl

theorem keys_nodup_of_pathsOK {env : Env} {sep : Str} {T : Str → Prop} (hs : SepSafe env sep T) {n : FNode}
    (h : PathsOK T n) : ((flattenNode sep n).map Prod.fst).Nodup := by
  rw [flattenNode_keys]
  exact Lists.nodup_map_of_inj_on _ _ (fun a ha b hb hab => joinSep_inj hs a b (h.2 a ha) (h.2 b hb) hab) h.1

theorem keys_nodup_arrLe1 (env : Env) (sep : Str) (s : Schema) (e : Elem)
    (hs : SepSafe env sep (Tok s)) (hw : wf s = true) (hd : dense s = true) (hok : OkP env s e)
    (hle : arrLe1 s e) : ((flatten env sep s e).map Prod.fst).Nodup :=
  keys_nodup_of_pathsOK hs (pathsOK_resolve env s hw hd e hok hle)

/-- Without Arrays / MultiValues the emitted token paths are pairwise distinct. -/
theorem paths_nodup_noArray (env : Env) (s : Schema) (e : Elem) (hw : wf s = true) (hd : dense s = true)
    (hna : noArray s = true) (hok : OkP env s e) : ((relFlat (resolve env s e)).map Prod.fst).Nodup :=
  (pathsOK_resolve env s hw hd e hok (arrLe1_of_noArray s hna e)).1

/-- Without Arrays / MultiValues the emitted keys are pairwise distinct. -/
theorem keys_nodup_noArray (env : Env) (sep : Str) (s : Schema) (e : Elem)
    (hs : SepSafe env sep (Tok s)) (hw : wf s = true) (hd : dense s = true) (hna : noArray s = true)
    (hok : OkP env s e) : ((flatten env sep s e).map Prod.fst).Nodup :=
  keys_nodup_arrLe1 env sep s e hs hw hd hok (arrLe1_of_noArray s hna e)

/-- so the `…_noArray` theorems are the special case of the `…_firstOnly` ones in which `firstOnly s e = e` -/
theorem firstOnly_eq_self : ∀ (s : Schema) (e : Elem), arrLe1 s e → firstOnly s e = e := by
  have hfields : ∀ (fs : List Schema) (ms : List (Str × Elem)),
      (∀ f ∈ fs, ∀ e, arrLe1 f e → firstOnly f e = e) → arrLe1Fields fs ms → firstOnlyFields fs ms = ms := by
    intro fs
    induction fs with
    | nil => intro ms _ _; simp [firstOnlyFields]
    | cons f fs ih =>
      intro ms hall hle
      cases ms with
      | nil => simp [firstOnlyFields]
      | cons m ms =>
        obtain ⟨k, e⟩ := m
        simp only [arrLe1Fields] at hle
        simp only [firstOnlyFields]
        rw [hall f (by simp) e hle.1, ih ms (fun g hg => hall g (List.mem_cons_of_mem _ hg)) hle.2]
  intro s
  induction s using schema_ind_mapping with
  | hleaf nm o k => intro e _; simp [firstOnly]
  | hjoined nm o k m => intro e _; simp [firstOnly]
  | hdict nm o mode fields ih =>
    intro e hle
    cases e with
    | dict ms =>
      simp only [arrLe1] at hle
      simp only [firstOnly]
      rw [hfields fields ms ih hle]
    | _ => simp [firstOnly]
  | hcompound nm o k fields h => simpa only [arrLe1_compound, firstOnly_compound] using h
  | hlist nm o p mx member ih =>
    intro e hle
    cases e with
    | list ms =>
      simp only [arrLe1] at hle
      simp only [firstOnly]
      congr 1
      have : ms.map (firstOnly member) = ms.map id :=
        List.map_congr_left (fun m hm => ih m (hle m hm))
      rw [this, List.map_id]
    | _ => simp [firstOnly]
  | harray nm o p member ih =>
    intro e hle
    cases e with
    | array ms =>
      simp only [arrLe1] at hle
      simp only [firstOnly]
      rw [List.take_of_length_le hle]
    | _ => simp [firstOnly]

/-- With every Array / MultiValue cut down to its
    first member, the emitted token paths are pairwise distinct. -/
theorem paths_nodup_firstOnly (env : Env) (s : Schema) (e : Elem) (hw : wf s = true) (hd : dense s = true)
    (hok : OkP env s e) : ((relFlat (resolve env s (firstOnly s e))).map Prod.fst).Nodup :=
  have h := firstOnly_ok env s hw hd e hok
  (pathsOK_resolve env s hw hd (firstOnly s e) h.1 h.2.1).1

/-- Cutting the Arrays down does not change the *set* of emitted
    paths: the only repeated paths are those of the 2nd, 3rd, … member of an Array / MultiValue, and
    they repeat the path of its first member. -/
theorem paths_firstOnly_iff (env : Env) (s : Schema) (e : Elem) (hw : wf s = true) (hd : dense s = true)
    (hok : OkP env s e) (π : List Str) :
    π ∈ (relFlat (resolve env s e)).map Prod.fst
      ↔ π ∈ (relFlat (resolve env s (firstOnly s e))).map Prod.fst :=
  (firstOnly_ok env s hw hd e hok).2.2 π

theorem keys_nodup_firstOnly (env : Env) (sep : Str) (s : Schema) (e : Elem)
    (hs : SepSafe env sep (Tok s)) (hw : wf s = true) (hd : dense s = true) (hok : OkP env s e) :
    ((flatten env sep s (firstOnly s e)).map Prod.fst).Nodup :=
  have h := firstOnly_ok env s hw hd e hok
  keys_nodup_arrLe1 env sep s (firstOnly s e) hs hw hd h.1 h.2.1

theorem keys_firstOnly_iff (env : Env) (sep : Str) (s : Schema) (e : Elem) (hw : wf s = true)
    (hd : dense s = true) (hok : OkP env s e) (k : Str) :
    k ∈ (flatten env sep s e).map Prod.fst ↔ k ∈ (flatten env sep s (firstOnly s e)).map Prod.fst := by
  unfold flatten
  rw [flattenNode_keys, flattenNode_keys, List.mem_map, List.mem_map]
  constructor
  · rintro ⟨π, hπ, rfl⟩
    exact ⟨π, (paths_firstOnly_iff env s e hw hd hok π).mp hπ, rfl⟩
  · rintro ⟨π, hπ, rfl⟩
    exact ⟨π, (paths_firstOnly_iff env s e hw hd hok π).mpr hπ, rfl⟩

end Flatland.Flat.Proofs
