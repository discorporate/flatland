/-
C07, uniqueness of keys: non-vacuity of `Proofs/C07Nodup.lean` on concrete nested states, and a
witness that the exception for Array / MultiValue members is needed; a witness that `SepSafe` is needed
(`keys_nodup_needs_sepSafe`).
-/
import Proofs.C07Nodup
import Proofs.C01Examples
import Proofs.Lemmas.FlattenE
namespace Flatland.Flat.Proofs
open Flatland.Flat Flatland.Flat.Spec

/-- Dict{ x : String, y : String } (anonymous: a list member) -/
def ndRow : Schema :=
  .dict none false .dense [.leaf (some "x".toList) false 0, .leaf (some "y".toList) false 0]

/-- Dict{ a : String, l : List[ Dict{x, y} ] } -/
def ndSchema1 : Schema :=
  .dict none false .dense
    [ .leaf (some "a".toList) false 0,
      .list (some "l".toList) false false 1024 ndRow ]

def ndElem1 : Elem :=
  .dict [ ("a".toList, .leaf "1".toList),
          ("l".toList, .list
            [ .dict [("x".toList, .leaf "p".toList), ("y".toList, .leaf "q".toList)],
              .dict [("x".toList, .leaf "r".toList), ("y".toList, .leaf "".toList)] ]) ]

theorem nd_index_ok (n : Nat) (i : Nat) (hn : n ≤ 10) (hi : i < n) :
    (natStr i).length ≤ exEnv01.maxDigits := by
  rw [natStr_lt i (by omega)]
  simp [exEnv01]

theorem nd1_okP : OkP exEnv01 ndSchema1 ndElem1 := by
  simp only [ndSchema1, ndElem1, ndRow, OkP, OkPFields, Schema.name, true_and, and_true]
  refine ⟨by simp [exEnv01], by decide +kernel, fun i hi => nd_index_ok 2 i (by omega) hi, ?_⟩
  intro e he
  simp only [List.mem_cons, List.not_mem_nil, or_false] at he
  rcases he with rfl | rfl <;> simp [OkP, OkPFields, Schema.name, exEnv01]

theorem nd1_sepSafe : SepSafe exEnv01 "_".toList (Tok ndSchema1) :=
  sepSafe_single_char exEnv01 exEnvOK ndSchema1 '_' (by decide +kernel) (by decide +kernel)

/-- the hypotheses of `keys_nodup_noArray` are satisfiable by a nested state: a Dict holding a List of Dicts -/
example : ((flatten exEnv01 "_".toList ndSchema1 ndElem1).map Prod.fst).Nodup :=
  keys_nodup_noArray exEnv01 "_".toList ndSchema1 ndElem1 nd1_sepSafe (by decide +kernel) (by decide +kernel)
    (by decide +kernel) nd1_okP

example : ((relFlat (resolve exEnv01 ndSchema1 ndElem1)).map Prod.fst).Nodup :=
  paths_nodup_noArray exEnv01 ndSchema1 ndElem1 (by decide +kernel) (by decide +kernel) (by decide +kernel) nd1_okP

theorem nd1_flatten :
    flatten exEnv01 "_".toList ndSchema1 ndElem1
      = [("a".toList, "1".toList), ("l_0_x".toList, "p".toList), ("l_0_y".toList, "q".toList),
         ("l_1_x".toList, "r".toList), ("l_1_y".toList, "".toList)] := by
  rw [flatten_eq_flattenE]; decide +kernel

/-- the same with a MultiValue `m` (three members in `ndElem2`) -/
def ndSchema2 : Schema :=
  .dict none false .dense
    [ .leaf (some "a".toList) false 0,
      .list (some "l".toList) false false 1024 ndRow,
      .array (some "m".toList) false false (.leaf none false 0) ]

def ndElem2 : Elem :=
  .dict [ ("a".toList, .leaf "1".toList),
          ("l".toList, .list
            [ .dict [("x".toList, .leaf "p".toList), ("y".toList, .leaf "q".toList)],
              .dict [("x".toList, .leaf "r".toList), ("y".toList, .leaf "".toList)] ]),
          ("m".toList, .array [.leaf "u".toList, .leaf "v".toList, .leaf "u".toList]) ]

theorem nd2_okP : OkP exEnv01 ndSchema2 ndElem2 := by
  simp only [ndSchema2, ndElem2, ndRow, OkP, OkPFields, Schema.name, true_and, and_true]
  refine ⟨by simp [exEnv01], ⟨by decide +kernel, fun i hi => nd_index_ok 2 i (by omega) hi, ?_⟩,
    ⟨_, _, _, rfl⟩, ?_⟩
  · intro e he
    simp only [List.mem_cons, List.not_mem_nil, or_false] at he
    rcases he with rfl | rfl <;> simp [OkP, OkPFields, Schema.name, exEnv01]
  · intro e he
    simp only [List.mem_cons, List.not_mem_nil, or_false] at he
    rcases he with rfl | rfl | rfl <;> simp [OkP, exEnv01]

theorem nd2_sepSafe : SepSafe exEnv01 "_".toList (Tok ndSchema2) :=
  sepSafe_single_char exEnv01 exEnvOK ndSchema2 '_' (by decide +kernel) (by decide +kernel)

theorem nd2_firstOnly :
    firstOnly ndSchema2 ndElem2 =
      .dict [ ("a".toList, .leaf "1".toList),
              ("l".toList, .list
                [ .dict [("x".toList, .leaf "p".toList), ("y".toList, .leaf "q".toList)],
                  .dict [("x".toList, .leaf "r".toList), ("y".toList, .leaf "".toList)] ]),
              ("m".toList, .array [.leaf "u".toList]) ] := by
  simp [ndSchema2, ndElem2, ndRow, firstOnly, firstOnlyFields]

/-- the hypotheses of `keys_nodup_firstOnly` are satisfiable by a nested state with a three-member MultiValue: once the
    MultiValue is cut down to its first member all keys are distinct … -/
example : ((flatten exEnv01 "_".toList ndSchema2 (firstOnly ndSchema2 ndElem2)).map Prod.fst).Nodup :=
  keys_nodup_firstOnly exEnv01 "_".toList ndSchema2 ndElem2 nd2_sepSafe (by decide +kernel) (by decide +kernel) nd2_okP

example : ((relFlat (resolve exEnv01 ndSchema2 (firstOnly ndSchema2 ndElem2))).map Prod.fst).Nodup :=
  paths_nodup_firstOnly exEnv01 ndSchema2 ndElem2 (by decide +kernel) (by decide +kernel) nd2_okP

/-- … and no key is lost -/
example (k : Str) :
    k ∈ (flatten exEnv01 "_".toList ndSchema2 ndElem2).map Prod.fst
      ↔ k ∈ (flatten exEnv01 "_".toList ndSchema2 (firstOnly ndSchema2 ndElem2)).map Prod.fst :=
  keys_firstOnly_iff exEnv01 "_".toList ndSchema2 ndElem2 (by decide +kernel) (by decide +kernel) nd2_okP k

theorem nd2_flatten :
    flatten exEnv01 "_".toList ndSchema2 ndElem2
      = [("a".toList, "1".toList),
         ("m".toList, "u".toList), ("m".toList, "v".toList), ("m".toList, "u".toList),
         ("l_0_x".toList, "p".toList), ("l_0_y".toList, "q".toList),
         ("l_1_x".toList, "r".toList), ("l_1_y".toList, "".toList)] := by
  rw [flatten_eq_flattenE]; decide +kernel

/-- the exception is needed: the members of the MultiValue do share one key -/
example : ¬ ((flatten exEnv01 "_".toList ndSchema2 ndElem2).map Prod.fst).Nodup := by
  rw [nd2_flatten]
  decide +kernel

/- C07 / C01: the hypothesis `SepSafe` is needed (KF-C07-a, KF-C01-a).  Under the separator "__" the names
   'a_' / 'b' and 'a' / '_b' join to ONE key, so `flatten()` emits a key twice although no Array is involved. -/
/-- Dict{ a_ : Dict{ b : String }, a : Dict{ _b : String } } -/
def ovSchema : Schema :=
  .dict none false .dense
    [ .dict (some "a_".toList) false .dense [.leaf (some "b".toList) false 0],
      .dict (some "a".toList) false .dense [.leaf (some "_b".toList) false 0] ]

def ovElem : Elem :=
  .dict [ ("a_".toList, .dict [("b".toList, .leaf "1".toList)]),
          ("a".toList, .dict [("_b".toList, .leaf "2".toList)]) ]

theorem ov_flatten :
    flatten exEnv01 "__".toList ovSchema ovElem
      = [("a___b".toList, "1".toList), ("a___b".toList, "2".toList)] := by
  rw [flatten_eq_flattenE]; decide +kernel

/-- without `SepSafe` the keys of a tree WITHOUT any Array are not distinct: two different paths, one key -/
theorem keys_nodup_needs_sepSafe :
    ¬ ((flatten exEnv01 "__".toList ovSchema ovElem).map Prod.fst).Nodup := by
  rw [ov_flatten]; decide +kernel

/-- … and the separator really is outside `SepSafe`: it occurs inside 'a_' ++ "__" ++ 'b' at two offsets -/
theorem ov_not_sepSafe : ¬ SepSafe exEnv01 "__".toList (Tok ovSchema) := by
  intro h
  have := keys_nodup_noArray exEnv01 "__".toList ovSchema ovElem h (by decide +kernel) (by decide +kernel) (by decide +kernel)
    (by simp [ovSchema, ovElem, OkP, OkPFields, Schema.name, exEnv01])
  exact keys_nodup_needs_sepSafe this

end Flatland.Flat.Proofs
