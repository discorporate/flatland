/-
C13 with EMPTY path steps at any depth (05c4adc: `'//x'`, `'/l/0//'`, `'///y'`), against spec B: the law from
`addressable` / `spellable` and the library's tree invariants alone (`find_fq_addressable`, `find_fq_iff`,
`C13_key_mismatch_fails`), and KF-C13-b at any depth (`C13_empty_name_fails`).  The tokenizer on such paths
and the law at every `PathOK'` position are in `Proofs/C13.lean`.
-/
import Proofs.C13
namespace Flatland.C13.Proofs
open Flatland.Path Flatland.C13.Spec Flatland.Path.Lemmas Flatland.Generated.C14 Flatland.C14.Proofs

/-- **spec B's restriction suffices** — unnamed fields on the way included: on a tree with the library's
    invariants every `addressable` element is found, alone, by its `fq_name()` from every start -/
theorem find_fq_addressable (root : Node) (hinv : TreeInv root) (start pos : Pos) (strict : Bool)
    (ha : addressable root pos = true) :
    find root start (fqName root pos) false strict = .many [pos] :=
  find_fq_empty root start pos strict (pathOK'_of_addressable pos root hinv ha)

/-- **`addressable` is exact on spellable positions — unnamed fields on the way included**: on a tree with
    the library's invariants, for a position whose Dict names can be spelled (non-empty or unnamed, no
    backslash at the end of a non-final one), `find(fq_name(pos))` from any start returns exactly `[pos]`
    IF AND ONLY IF the position is `addressable`. -/
theorem find_fq_iff (root : Node) (hinv : TreeInv root) (start pos : Pos) (strict : Bool)
    (hs : spellable root pos = true) :
    find root start (fqName root pos) false strict = .many [pos] ↔ addressable root pos = true :=
  ⟨fun hf => addressableFrom_of_pathOK' pos root
    ((find_fq_iff_pathOK root start pos strict (spellOK'_of_spellable pos root hinv hs)).1 hf),
   find_fq_addressable root hinv start pos strict⟩

/-- the general form of KF-C13-c, unnamed fields on the way included -/
theorem C13_key_mismatch_fails (root : Node) (hinv : TreeInv root) (start pos : Pos)
    (hs : spellable root pos = true) (hna : addressable root pos = false) :
    isInverseAt root start pos = false := by
  refine Bool.eq_false_iff.2 (fun hi => ?_)
  have := (find_fq_iff root hinv start pos true hs).1 ((isInverseAt_iff root start pos).1 hi)
  rw [hna] at this
  cases this

theorem find_fq_addressable_named (root : Node) (hinv : TreeInv root) (start pos : Pos) (strict : Bool)
    (_hnm : namedFrom root pos = true) (ha : addressable root pos = true) :
    find root start (fqName root pos) false strict = .many [pos] :=
  find_fq_addressable root hinv start pos strict ha

theorem find_fq_iff_named (root : Node) (hinv : TreeInv root) (start pos : Pos) (strict : Bool)
    (_hnm : namedFrom root pos = true) (hs : spellable root pos = true) :
    find root start (fqName root pos) false strict = .many [pos] ↔ addressable root pos = true :=
  find_fq_iff root hinv start pos strict hs

theorem C13_key_mismatch_fails_named (root : Node) (hinv : TreeInv root) (start pos : Pos)
    (_hnm : namedFrom root pos = true) (hs : spellable root pos = true) (hna : addressable root pos = false) :
    isInverseAt root start pos = false :=
  C13_key_mismatch_fails root hinv start pos hs hna

theorem tokenize_fqName_of_empty (root : Node) (pos : Pos) (hok : SpellOK root pos = true) :
    tokenize (fqName root pos)
      = .ok (Op.top :: (segs root pos).map (fun s => Op.name (some (unescape s)))) :=
  tokenize_fqName root pos hok

theorem C13_full_fails_key_general : ¬ Inverse witnessKey := C13_full_fails_key

/-- non-vacuity of `find_fq_iff` in both directions on one tree: the root is spellable and addressable
    (the law holds), the list member `[0,0,1]` is spellable and NOT addressable (the law fails, from the
    start `[0]`) -/
example : (find witnessKeyDeep [0] (fqName witnessKeyDeep []) false true = .many [[]]) ∧
    ¬ (find witnessKeyDeep [0] (fqName witnessKeyDeep [0, 0, 1]) false true = .many [[0, 0, 1]]) :=
  ⟨(find_fq_iff witnessKeyDeep witnessKeyDeep_inv [0] [] true (by decide)).2 (by decide),
   fun h => by
     have := (find_fq_iff witnessKeyDeep witnessKeyDeep_inv [0] [0, 0, 1] true (by decide)).1 h
     revert this; decide⟩

/-- `Dict{None: Dict{None: Dict{y}}}`: `d[None][None]['y'].fq_name() == '///y'` -/
def witnessUnnamed3 : Node :=
  .mk .map none [] [.mk .map none [] [.mk .map none [] [.mk .scalar (some ['y']) ['y'] []]]]

/-- `Dict{l: List[Dict{None: Dict{z}}]}`: `d['l'][0][None]['z'].fq_name() == '/l/0//z'` -/
def witnessUnnamedList : Node :=
  .mk .map none [] [.mk .list (some ['l']) ['l'] [.mk .map none [] [.mk .map none [] [.mk .scalar (some ['z']) ['z'] []]]]]

theorem witnessUnnamed3_inv : TreeInv witnessUnnamed3 := treeInv_of_treeInvB _ (by decide)

theorem witnessUnnamedList_inv : TreeInv witnessUnnamedList := treeInv_of_treeInvB _ (by decide)

/-- `'///y'`: two consecutive empty segments; NOT `namedFrom`; tokenized to `[TOP, NAME None, NAME None,
    NAME y]` and found, alone, from a start below the root -/
example : fqName witnessUnnamed3 [0, 0, 0] = ['/', '/', '/', 'y'] ∧
    namedFrom witnessUnnamed3 [0, 0, 0] = false ∧
    tokenize (fqName witnessUnnamed3 [0, 0, 0]) = .ok [.top, .name none, .name none, .name (some ['y'])] ∧
    find witnessUnnamed3 [0, 0] (fqName witnessUnnamed3 [0, 0, 0]) false true = .many [[0, 0, 0]] :=
  ⟨by decide, by decide,
   by rw [tokenize_fqName_empty witnessUnnamed3 [0, 0, 0] (by decide)]; decide,
   find_fq_addressable witnessUnnamed3 witnessUnnamed3_inv [0, 0] [0, 0, 0] true (by decide)⟩

/-- a trailing empty segment below an empty one: `d[None][None].fq_name() == '///'` -/
example : fqName witnessUnnamed3 [0, 0] = ['/', '/', '/'] ∧
    find witnessUnnamed3 [] (fqName witnessUnnamed3 [0, 0]) false true = .many [[0, 0]] :=
  ⟨by decide, find_fq_addressable witnessUnnamed3 witnessUnnamed3_inv [] [0, 0] true (by decide)⟩

/-- `'/l/0//z'`: an empty segment between two slashes, below a List member -/
example : fqName witnessUnnamedList [0, 0, 0, 0] = ['/', 'l', '/', '0', '/', '/', 'z'] ∧
    namedFrom witnessUnnamedList [0, 0, 0, 0] = false ∧
    find witnessUnnamedList [0] (fqName witnessUnnamedList [0, 0, 0, 0]) false true = .many [[0, 0, 0, 0]] :=
  ⟨by rw [fqName_eq]; simp only [witnessUnnamedList, segs, List.getElem?_cons_zero, segText, natStr_zero]; decide,
   by decide,
   find_fq_addressable witnessUnnamedList witnessUnnamedList_inv [0] [0, 0, 0, 0] true (by decide)⟩

/-- `'/l/0//'`: the trailing empty segment with its extra slash, below a List member; and the iff in the
    direction law → addressable on the same position -/
example : fqName witnessUnnamedList [0, 0, 0] = ['/', 'l', '/', '0', '/', '/'] ∧
    (find witnessUnnamedList [] (fqName witnessUnnamedList [0, 0, 0]) false false = .many [[0, 0, 0]]
      ↔ addressable witnessUnnamedList [0, 0, 0] = true) :=
  ⟨by rw [fqName_eq]; simp only [witnessUnnamedList, segs, List.getElem?_cons_zero, segText, natStr_zero]; decide,
   find_fq_iff witnessUnnamedList witnessUnnamedList_inv [] [0, 0, 0] false (by decide)⟩

/-- a Dict child on the way emits the empty step (its name is `''`) but is not the child stored under
    the key `None` (KF-C13-b: e.g. a field NAMED `''`, stored under `''`) -/
def emptyNamedFrom : Node → Pos → Bool
  | _, [] => false
  | .mk k _ _ kids, i :: p =>
    match kids[i]? with
    | none => false
    | some c => (k == .map && c.name.isEmpty && findName none kids != some i) || emptyNamedFrom c p

theorem not_pathOK'_of_emptyNamed : ∀ (pos : Pos) (n : Node), emptyNamedFrom n pos = true → ¬ PathOK' n pos = true
  | [], _, h, _ => by simp [emptyNamedFrom] at h
  | i :: p, .mk k ky nm kids, h, hok => by
    obtain ⟨c, hk, hstep, hrest⟩ := (cons_iff pathOK'_along).1 hok
    simp only [emptyNamedFrom, hk, Bool.or_eq_true, Bool.and_eq_true, beq_iff_eq, bne_iff_ne, ne_eq] at h
    rcases h with ⟨⟨rfl, hn⟩, hf⟩ | h
    · simp only [stepOK', nameKey, hn, if_true, Bool.and_eq_true, beq_iff_eq] at hstep
      exact hf hstep.1
    · exact not_pathOK'_of_emptyNamed p c h hrest

/-- **KF-C13-b at ANY depth, for every tree**: every element at or below a Dict child that emits the empty
    step without being the child stored under `None` breaks the inverse law, from every start (wherever
    the emitted path can be tokenized at all: `SpellOK'`) -/
theorem C13_empty_name_fails (root : Node) (start pos : Pos) (hs : SpellOK' root pos = true)
    (he : emptyNamedFrom root pos = true) : isInverseAt root start pos = false :=
  Bool.eq_false_iff.2 (fun hi => not_pathOK'_of_emptyNamed pos root he
    ((find_fq_iff_pathOK root start pos true hs).1 ((isInverseAt_iff root start pos).1 hi)))

/-- non-vacuity: `Dict{a: Dict{'': Dict{x}}}` — the field named `''` (`'/a//'`) and the one below it
    (`'/a//x'`) both fail, from a start below the root -/
example :
    let t : Node := .mk .map none [] [.mk .map (some ['a']) ['a'] [.mk .map (some []) [] [.mk .scalar (some ['x']) ['x'] []]]]
    isInverseAt t [0] [0, 0] = false ∧ isInverseAt t [0] [0, 0, 0] = false :=
  ⟨C13_empty_name_fails _ [0] [0, 0] (by decide) (by decide),
   C13_empty_name_fails _ [0] [0, 0, 0] (by decide) (by decide)⟩

end Flatland.C13.Proofs
