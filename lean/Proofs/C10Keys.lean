/-
C10, second part — what the invariant means to a user of the mapping, for every call and every history: no member
is ever stored under an undeclared key (`undeclared_never_stored`), a Dict's keys are exactly the declared field
names (`keys_exact`), a SparseDict's are declared ones (`sparse_keys`); and how the calls that carry several keys
(`update`, `|=`, `set`) treat an undeclared one.
-/
import Proofs.C10
namespace Flatland.C10.Proofs
open Flatland.Tree Flatland.PyList Flatland.C10 Flatland.C10.Spec
open Flatland.C08.Proofs (mapUpdatePairs_eq mapStep_update_pairs)

def declared (s : Schema) : List Str := s.subs.map Schema.key

theorem fieldFor_none_iff {subs : List Schema} {k : Str} : fieldFor subs k = none ↔ k ∉ subs.map Schema.key := by
  constructor
  · exact fieldFor_none
  · intro hk
    cases hf : fieldFor subs k with
    | none => rfl
    | some f =>
      obtain ⟨hfm, hfk⟩ := fieldFor_some hf
      exact absurd (List.mem_map.mpr ⟨f, hfm, hfk⟩) hk

theorem KI.keys_declared {n : Node} {ks : List Node} (h : KI n ks) : ∀ k ∈ ks.map Node.key, k ∈ declared n.sch := by
  intro k hk
  obtain ⟨c, hc, rfl⟩ := List.mem_map.mp hk
  obtain ⟨_, hmem, hkey, _⟩ := h.ok c hc
  exact hkey ▸ List.mem_map_of_mem hmem

def StoredOK (pid : Nat) (s : Schema) (kids : List Node) : Prop :=
  ∀ c ∈ kids, c.parent = some pid ∧ c.sch ∈ s.subs ∧ c.key = c.sch.key ∧ c.key ∈ declared s

theorem KI.stored {n : Node} {ks : List Node} (h : KI n ks) :
    (∀ k, fieldFor n.sch.subs k = none → k ∉ ks.map Node.key) ∧ StoredOK n.id n.sch ks :=
  ⟨fun k hund hk => fieldFor_none hund (h.keys_declared k hk),
    fun c hc => ⟨(h.ok c hc).1, (h.ok c hc).2.1, (h.ok c hc).2.2.1, h.keys_declared _ (List.mem_map_of_mem hc)⟩⟩

/-- Whatever the call — item assignment, del, pop,
    popitem, clear, update in its three forms, `|=`, setdefault, get, set under any policy,
    set_default; accepted or raising — afterwards no member sits under an undeclared key, and
    every member is an element of a declared field class stored under that field's name with the
    mapping as stored parent. -/
theorem undeclared_never_stored_step {n : Node} (h : MapInv n) (hk : MapKind n) (hnd : FieldsNodup n) (op : MapOp)
    (hop : OpExact n op) (next : Nat) :
    (∀ k, fieldFor n.sch.subs k = none → k ∉ keys (mapStep n op next).node) ∧
    StoredOK n.id n.sch (mapStep n op next).node.kids :=
  (mapStep_ok n hk hnd ((mapInv_iff n).mp h) op hop next).2.stored

/-- The same after any history of calls. -/
theorem undeclared_never_stored (ops : List MapOp) (n : Node) (next : Nat) (h : MapInv n) (hk : MapKind n)
    (hnd : FieldsNodup n) (hops : ∀ op ∈ ops, OpExactS n.sch op) :
    (∀ k, fieldFor n.sch.subs k = none → k ∉ keys (run ⟨n, next⟩ ops).node) ∧
    StoredOK n.id n.sch (run ⟨n, next⟩ ops).node.kids :=
  (run_ki ops n next h hk hnd hops).stored

/-- After every history the key list of a Dict is exactly the declared field
    names, in declaration order (so: one member per declared field, none else). -/
theorem keys_exact (ops : List MapOp) (n : Node) (next : Nat) (h : MapInv n) (hd : n.kind = .dict)
    (hnd : FieldsNodup n) (hops : ∀ op ∈ ops, OpExactS n.sch op) :
    keys (run ⟨n, next⟩ ops).node = declared n.sch :=
  (run_ki ops n next h (Or.inl hd) hnd hops).dense hd

theorem keys_exact_nodup (ops : List MapOp) (n : Node) (next : Nat) (h : MapInv n) (hd : n.kind = .dict)
    (hnd : FieldsNodup n) (hops : ∀ op ∈ ops, OpExactS n.sch op) :
    (keys (run ⟨n, next⟩ ops).node).Nodup := by
  rw [keys_exact ops n next h hd hnd hops]; exact hnd

/-- After every history a SparseDict holds declared keys only, and with
    minimum_fields='required' every non-optional field is present. -/
theorem sparse_keys (ops : List MapOp) (n : Node) (next : Nat) (h : MapInv n) (hsp : n.kind = .sparse)
    (hnd : FieldsNodup n) (hops : ∀ op ∈ ops, OpExactS n.sch op) :
    (∀ k ∈ keys (run ⟨n, next⟩ ops).node, k ∈ declared n.sch) ∧
    (n.sch.info.minreq = true → ∀ f ∈ n.sch.subs, f.info.optional = false → f.key ∈ keys (run ⟨n, next⟩ ops).node) :=
  have h := run_ki ops n next h (Or.inr hsp) hnd hops
  ⟨h.keys_declared, h.required hsp⟩

/-- `update` / `|=` whose values may be Elements: the loop stops at the first undeclared key -/
theorem updateArgs_stops_at_undeclared (k : Str) (a : Arg) (post : List (Str × Arg)) (pre : List (Str × Arg)) :
    ∀ (n : Node) (next : Nat), KI n n.kids → (∀ p ∈ pre, ArgExact n p.1 p.2) → fieldFor n.sch.subs k = none →
      (mapUpdateArgs n (pre ++ (k, a) :: post) next).node = (mapUpdateArgs n pre next).node ∧
      (mapUpdateArgs n (pre ++ (k, a) :: post) next).next = (mapUpdateArgs n pre next).next ∧
      (mapUpdateArgs n (pre ++ (k, a) :: post) next).out =
        (match (mapUpdateArgs n pre next).out with | .exc e => .exc e | _ => .exc .typeError) := by
  induction pre with
  | nil =>
    intro n next h _ hund
    simp [mapUpdateArgs, mapSetItem_undeclared h hund, excOut]
  | cons kv rest ih =>
    intro n next h hex hund
    obtain ⟨k', a'⟩ := kv
    have hs := mapSetItem_ok n h k' a' (hex (k', a') (by simp)) next
    simp only [List.cons_append]
    rw [mapUpdateArgs, mapUpdateArgs]
    split
    · rename_i e he
      exact ⟨rfl, rfl, rfl⟩
    · have hsch : (mapSetItem n k' a' next).node.sch = n.sch := (hdr_parts hs.1).2.2.1
      exact ih _ _ ((mapInv_iff _).mp (mapInv_of_hdr hs.1 hs.2))
        (fun p hp => (argExact_congr hs.1 p.1 p.2).mpr (hex p (by simp [hp]))) (by rw [hsch]; exact hund)

/-- `update({…})` / `update(**kw)` / `update([(k, v), …])` /
    `|=` with plain values: the pairs before the first undeclared key are applied exactly as the
    same update without the rest would apply them; at the undeclared key the call raises TypeError
    (unless an earlier pair already raised — then that exception) and the remaining pairs are
    never looked at. -/
theorem update_stops_at_undeclared (k : Str) (v : Raw) (post : List (Str × Raw)) (pre : List (Str × Raw)) :
    ∀ (n : Node) (next : Nat), KI n n.kids → fieldFor n.sch.subs k = none →
      (mapUpdatePairs n (pre ++ (k, v) :: post) next).node = (mapUpdatePairs n pre next).node ∧
      (mapUpdatePairs n (pre ++ (k, v) :: post) next).next = (mapUpdatePairs n pre next).next ∧
      (mapUpdatePairs n (pre ++ (k, v) :: post) next).out =
        (match (mapUpdatePairs n pre next).out with | .exc e => .exc e | _ => .exc .typeError) := by
  intro n next h hund
  rw [mapUpdatePairs_eq, mapUpdatePairs_eq, List.map_append, List.map_cons]
  exact updateArgs_stops_at_undeclared k (.plain v) _ _ n next h
    (fun p hp => by obtain ⟨q, _, rfl⟩ := List.mem_map.mp hp; trivial) hund

def Raises (r : StepR) : Prop := ∃ e, r.out = .exc e

theorem split_at_key {β : Type} {kvs : List (Str × β)} {k : Str} (h : k ∈ kvs.map (·.1)) :
    ∃ pre v post, kvs = pre ++ (k, v) :: post := by
  obtain ⟨⟨k', v⟩, hmem, hk⟩ := List.mem_map.mp h
  simp only at hk
  subst hk
  obtain ⟨pre, post, rfl⟩ := List.append_of_mem hmem
  exact ⟨pre, v, post, rfl⟩

theorem mapUpdateArgs_raises {n : Node} (h : KI n n.kids) {k : Str} (hund : fieldFor n.sch.subs k = none)
    {kvs : List (Str × Arg)} (hex : ∀ p ∈ kvs, ArgExact n p.1 p.2) (hk : k ∈ kvs.map (·.1)) (next : Nat) :
    Raises (mapUpdateArgs n kvs next) := by
  obtain ⟨pre, v, post, rfl⟩ := split_at_key hk
  have := (updateArgs_stops_at_undeclared k v post pre n next h (fun p hp => hex p (by simp [hp])) hund).2.2
  unfold Raises
  rw [this]
  split
  · exact ⟨_, rfl⟩
  · exact ⟨_, rfl⟩

theorem mapUpdatePairs_raises {n : Node} (h : KI n n.kids) {k : Str} (hund : fieldFor n.sch.subs k = none)
    {kvs : List (Str × Raw)} (hk : k ∈ keysOf kvs) (next : Nat) : Raises (mapUpdatePairs n kvs next) := by
  rw [mapUpdatePairs_eq]
  exact mapUpdateArgs_raises h hund (fun p hp => by obtain ⟨q, _, rfl⟩ := List.mem_map.mp hp; trivial)
    (by rw [List.map_map]; exact hk) next

/-- the keys an update-like call names: those of the positional dict / pair list (when it is
    one) followed by the keyword ones -/
def updateKeys : MapOp → List Str
  | .update pos kw =>
    (match pos with
     | none => []
     | some raw => (match toPairs raw with | some (some kvs) => keysOf kvs | _ => [])) ++ keysOf kw
  | .ior raw => (match toPairs raw with | some (some kvs) => keysOf kvs | _ => [])
  | .updateArgs kvs => kvs.map (·.1)
  | _ => []

/-- Every form of `update` and `|=` that names an undeclared key
    raises (TypeError at that key, unless something raised before it), and — by
    `undeclared_never_stored_step` — stores nothing under it. -/
theorem update_undeclared_rejected {n : Node} (h : MapInv n) (op : MapOp) (hop : OpExact n op) {k : Str}
    (hund : fieldFor n.sch.subs k = none) (hk : k ∈ updateKeys op) (next : Nat) :
    Raises (mapStep n op next) := by
  have hki := (mapInv_iff n).mp h
  cases op with
  | update pos kw =>
    cases pos with
    | none => exact mapUpdatePairs_raises hki hund hk next
    | some raw =>
      cases htp : toPairs raw with
      | none => unfold mapStep; simp only [htp]; exact ⟨_, rfl⟩
      | some o =>
        cases o with
        | none => unfold mapStep; simp only [htp]; exact ⟨_, rfl⟩
        | some kvs =>
          rw [mapStep_update_pairs htp]
          refine mapUpdatePairs_raises hki hund ?_ next
          simp only [updateKeys, htp] at hk
          rw [keysOf, List.map_append]; exact hk
  | ior raw =>
    cases htp : toPairs raw with
    | none => unfold mapStep; simp only [htp]; exact ⟨_, rfl⟩
    | some o =>
      cases o with
      | none => unfold mapStep; simp only [htp]; exact ⟨_, rfl⟩
      | some kvs =>
        simp only [updateKeys, htp] at hk
        unfold mapStep; simp only [htp]
        exact mapUpdatePairs_raises hki hund hk next
  | updateArgs kvs => exact mapUpdateArgs_raises hki hund hop hk next
  | _ => simp [updateKeys] at hk

/-- the policy a `set(value, policy=…)` call evaluates: the argument, else the class attribute -/
def effPolicy (n : Node) : Option (Option Policy) → Policy
  | some (some p) => p
  | _ => n.sch.info.policy

theorem setResult_eq (s : SetR) :
    (match s.res with
      | .ok b => (⟨s.node, s.next, .bool b, []⟩ : StepR)
      | .error e => excOut s.node s.next e).node = s.node ∧
    (match s.res with
      | .ok b => (⟨s.node, s.next, .bool b, []⟩ : StepR)
      | .error e => excOut s.node s.next e).out = (match s.res with | .ok b => .bool b | .error e => .exc e) := by
  cases s.res <;> exact ⟨rfl, rfl⟩

theorem mapStep_set_eq (n : Node) (raw : Raw) (pol : Option (Option Policy)) (next : Nat) :
    (mapStep n (.set raw pol) next).node = (setNode n raw (some (effPolicy n pol)) next).node ∧
    (mapStep n (.set raw pol) next).out =
      (match (setNode n raw (some (effPolicy n pol)) next).res with | .ok b => .bool b | .error e => .exc e) := by
  have hpol : setNode n raw none next = setNode n raw (some n.sch.info.policy) next := by
    cases n with
    | mk i s kids =>
      unfold setNode
      simp only [dictPrep, Option.getD_none, Option.getD_some, Node.sch]
  rcases pol with _ | _ | p
  · exact hpol ▸ setResult_eq (setNode n raw none next)
  · exact hpol ▸ setResult_eq (setNode n raw none next)
  · exact setResult_eq (setNode n raw (some p) next)

theorem extra_nonempty {subs : List Schema} {kvs : List (Str × Raw)} {k : Str} (hk : k ∈ keysOf kvs)
    (hund : fieldFor subs k = none) :
    ((keysOf kvs).filter (fun k => !(subs.map Schema.key).contains k)).isEmpty = false := by
  have hnot := fieldFor_none hund
  have : k ∈ (keysOf kvs).filter (fun k => !(subs.map Schema.key).contains k) :=
    List.mem_filter.mpr ⟨hk, by simpa using hnot⟩
  cases hl : (keysOf kvs).filter (fun k => !(subs.map Schema.key).contains k) with
  | nil => rw [hl] at this; cases this
  | cons _ _ => rfl

theorem policyCheck_undeclared {subs : List Schema} {kvs : List (Str × Raw)} {k : Str} (hk : k ∈ keysOf kvs)
    (hund : fieldFor subs k = none) (p : Policy) (hp : p = .strict ∨ p = .subset) :
    policyCheck p subs kvs = .error .keyError := by
  have he := extra_nonempty hk hund
  unfold policyCheck
  rcases hp with rfl | rfl
  · simp only [he]
    cases ((subs.map Schema.key).filter (fun k => !(keysOf kvs).contains k)).isEmpty <;> rfl
  · simp only [he]; rfl

/-- the dict-like forms `Dict.set` accepts in the model -/
def DictLike (raw : Raw) (kvs : List (Str × Raw)) : Prop := raw = .dict kvs ∨ raw = .pairs kvs

/-- `set(value)` with an undeclared key under the 'strict' or the
    'subset' policy (given as argument or as the class attribute): the mapping is `_reset()`
    (every field blank again; a SparseDict keeps its required ones only) and KeyError is raised. -/
theorem set_undeclared_rejected (n : Node) (hk : MapKind n) {raw : Raw} {kvs : List (Str × Raw)}
    (hraw : DictLike raw kvs) {k : Str} (hmem : k ∈ keysOf kvs) (hund : fieldFor n.sch.subs k = none)
    (pol : Option (Option Policy)) (hp : effPolicy n pol = .strict ∨ effPolicy n pol = .subset) (next : Nat) :
    (mapStep n (.set raw pol) next).out = .exc .keyError ∧
    (mapStep n (.set raw pol) next).node = n.withKids (resetKids n next).1 := by
  obtain ⟨hnode, hout⟩ := mapStep_set_eq n raw pol next
  rw [hnode, hout]
  have hpc := policyCheck_undeclared hmem hund (effPolicy n pol) hp
  cases n with
  | mk i s kids =>
    have hkind : s.kind = .dict ∨ s.kind = .sparse := hk
    have hprep : dictPrep i s kvs (some (effPolicy (.mk i s kids) pol)) next =
        .error ⟨.mk i s (resetKids (.mk i s kids) next).1, (resetKids (.mk i s kids) next).2, .error .keyError⟩ := by
      have hpc' : policyCheck (effPolicy (.mk i s kids) pol) s.subs kvs = .error .keyError := hpc
      simp only [dictPrep, Option.getD_some, hpc']
      rfl
    have htp : toPairs raw = some (some kvs) := by rcases hraw with rfl | rfl <;> rfl
    rw [setNode_map i s kids raw _ next hkind]
    simp only [htp, mapSetKvs, hprep, Node.withKids, Node.ni, Node.sch, and_self]

theorem setPairs_skip (pid : Nat) (subs : List Schema) (kvs : List (Str × Raw)) :
    ∀ (kids : List Node) (next : Nat),
      setPairs pid subs kids kvs next =
        setPairs pid subs kids (kvs.filter (fun p => (fieldFor subs p.1).isSome)) next := by
  induction kvs with
  | nil => intro kids next; rfl
  | cons kv rest ih =>
    intro kids next
    obtain ⟨k, v⟩ := kv
    cases hf : fieldFor subs k with
    | none =>
      simp only [List.filter_cons, hf, Option.isSome_none, Bool.false_eq_true, if_false]
      rw [setPairs]
      simp only [hf]
      exact ih kids next
    | some f =>
      simp only [List.filter_cons, hf, Option.isSome_some, if_true]
      rw [setPairs, setPairs]
      simp only [hf]
      cases findKid kids k with
      | some child =>
        simp only
        split
        · rfl
        · rw [ih]
      | none =>
        simp only
        split
        · rfl
        · rw [ih]

/-- Under the 'duck' policy or policy None, `set(value)` skips
    every pair whose key is undeclared: the call is, in result, return value and state, the same
    call without those pairs. -/
theorem set_undeclared_ignored (n : Node) (hk : MapKind n) (kvs : List (Str × Raw))
    (pol : Option (Option Policy)) (hp : effPolicy n pol = .duck ∨ effPolicy n pol = .off) (next : Nat) :
    (mapStep n (.set (.dict kvs) pol) next).node =
      (mapStep n (.set (.dict (kvs.filter (fun p => (fieldFor n.sch.subs p.1).isSome))) pol) next).node ∧
    (mapStep n (.set (.dict kvs) pol) next).out =
      (mapStep n (.set (.dict (kvs.filter (fun p => (fieldFor n.sch.subs p.1).isSome))) pol) next).out ∧
    (mapStep n (.set (.pairs kvs) pol) next).node =
      (mapStep n (.set (.pairs (kvs.filter (fun p => (fieldFor n.sch.subs p.1).isSome))) pol) next).node ∧
    (mapStep n (.set (.pairs kvs) pol) next).out =
      (mapStep n (.set (.pairs (kvs.filter (fun p => (fieldFor n.sch.subs p.1).isSome))) pol) next).out := by
  have e1 := mapStep_set_eq n (.dict kvs) pol next
  have e2 := mapStep_set_eq n (.dict (kvs.filter (fun p => (fieldFor n.sch.subs p.1).isSome))) pol next
  have e3 := mapStep_set_eq n (.pairs kvs) pol next
  have e4 := mapStep_set_eq n (.pairs (kvs.filter (fun p => (fieldFor n.sch.subs p.1).isSome))) pol next
  rw [e1.1, e1.2, e2.1, e2.2, e3.1, e3.2, e4.1, e4.2]
  have hpc : ∀ l : List (Str × Raw), policyCheck (effPolicy n pol) n.sch.subs l = .ok () := by
    intro l; rcases hp with hp | hp <;> rw [hp] <;> rfl
  cases n with
  | mk i s kids =>
    have hkind : s.kind = .dict ∨ s.kind = .sparse := hk
    have hskip : mapSetKvs i s kvs (some (effPolicy (.mk i s kids) pol)) next =
        mapSetKvs i s (kvs.filter (fun p => (fieldFor s.subs p.1).isSome)) (some (effPolicy (.mk i s kids) pol)) next := by
      unfold mapSetKvs dictPrep
      simp only [Option.getD_some, show ∀ l, policyCheck (effPolicy (.mk i s kids) pol) s.subs l = .ok () from hpc]
      rw [setPairs_skip]
    simp only [Node.sch, setNode_map i s kids _ _ next hkind, toPairs]
    rw [hskip]
    exact ⟨rfl, rfl, rfl, rfl⟩

/-- on `Dict.of(Integer.named('x'), String.named('y'))()`:
    `d['x'] = '7'; d |= {'y': 3, 'q': 1}` (TypeError at 'q'); `d.pop('x')` (TypeError);
    `d.set({'x': 1}, policy='strict')` (TypeError: 'y' missing); `d.clear()` (TypeError);
    `d.update([('y', None)])`; `d.update({'zz': 1}, x=2)` (TypeError at 'zz');
    `d.set({'x': 4, 'w': 0}, policy='duck')` -/
def exHist : List MapOp :=
  exMapOps ++ [.update (some (.dict [(['z', 'z'], .int 1)])) [(['x'], .int 2)],
    .set (.dict [(['x'], .int 4), (['w'], .int 0)]) (some (some .duck))]

theorem exHist_exact : ∀ op ∈ exHist, OpExactS exDict.sch op := by
  intro op hop
  simp [exHist, exMapOps] at hop
  rcases hop with rfl | rfl | rfl | rfl | rfl | rfl | rfl | rfl <;> trivial

theorem exDict_inv : MapInv exDict := mapinv_init exDS (Or.inl rfl) none [] 1
theorem exDict_nodup : FieldsNodup exDict := by unfold FieldsNodup; decide

example : keys (run ⟨exDict, 10⟩ exHist).node = [['x'], ['y']] :=
  keys_exact exHist exDict 10 exDict_inv rfl exDict_nodup exHist_exact

example : ['q'] ∉ keys (run ⟨exDict, 10⟩ exHist).node ∧ ['z', 'z'] ∉ keys (run ⟨exDict, 10⟩ exHist).node ∧
    ['w'] ∉ keys (run ⟨exDict, 10⟩ exHist).node :=
  have h := (undeclared_never_stored exHist exDict 10 exDict_inv (Or.inl rfl) exDict_nodup exHist_exact).1
  ⟨h _ rfl, h _ rfl, h _ rfl⟩

/-- the history is not a sequence of no-ops: the values end up as the accepted calls left them -/
example : (run ⟨exDict, 10⟩ exHist).node.kids.map (fun c => c.ni.val) = [.int 4, .none] := by decide +kernel

/-- `S = SparseDict.of(String.named('a'), Integer.named('b').using(optional=True))
        .using(minimum_fields='required')` -/
def exSR2 : Schema :=
  .mk { cid := 1, kind := .sparse, minreq := true } .none
    [exA, .mk { cid := 3, kind := .integer, name := some ['b'], optional := true } .none []]
def exSparse2 : Node := (blank exSR2 none [] 1).1

/-- `s['b'] = 5; s.update({'a': 'v'}, c=1)` (TypeError at 'c'); `del s['b']; s.pop('a')` (TypeError: required);
    `s.setdefault('b', 2); s.clear(); s |= [('b', 1), ('zz', 2), ('a', 'w')]` (TypeError at 'zz', 'a' untouched);
    `s.set({'a': 'q', 'k': 0})` ('subset': KeyError after the reset) -/
def exSparseHist : List MapOp :=
  [.setitem ['b'] (.plain (.int 5)), .update (some (.dict [(['a'], .str ['v'])])) [(['c'], .int 1)],
   .delitem ['b'], .pop ['a'], .setdefault ['b'] (.int 2), .clear,
   .ior (.pairs [(['b'], .int 1), (['z', 'z'], .int 2), (['a'], .str ['w'])]),
   .set (.dict [(['a'], .str ['q']), (['k'], .int 0)]) none]

theorem exSparseHist_exact : ∀ op ∈ exSparseHist, OpExactS exSparse2.sch op := by
  intro op hop
  simp [exSparseHist] at hop
  rcases hop with rfl | rfl | rfl | rfl | rfl | rfl | rfl | rfl <;> trivial

theorem exSparse2_inv : MapInv exSparse2 := mapinv_init exSR2 (Or.inr rfl) none [] 1
theorem exSparse2_nodup : FieldsNodup exSparse2 := by unfold FieldsNodup; decide

example : ['a'] ∈ keys (run ⟨exSparse2, 10⟩ exSparseHist).node :=
  (sparse_keys exSparseHist exSparse2 10 exSparse2_inv rfl exSparse2_nodup exSparseHist_exact).2 rfl exA
    (by simp [exSparse2, exSR2, blank, Node.sch, Schema.subs]) rfl

example : ['z', 'z'] ∉ keys (run ⟨exSparse2, 10⟩ exSparseHist).node :=
  (undeclared_never_stored exSparseHist exSparse2 10 exSparse2_inv (Or.inr rfl) exSparse2_nodup exSparseHist_exact).1 _ rfl

/-- before the last call the optional key is there (`|=` applied `('b', 1)` before raising at 'zz') … -/
example : keys (run ⟨exSparse2, 10⟩ (exSparseHist.take 7)).node = [['a'], ['b']] := by decide +kernel
/-- … and the rejected `set` has reset the mapping to its required field -/
example : keys (run ⟨exSparse2, 10⟩ exSparseHist).node = [['a']] := by decide +kernel

/-- `update_stops_at_undeclared` on the `|=` above: `('b', 1)` is applied, 'zz' raises TypeError,
    `('a', 'w')` is never applied -/
example :
    (mapUpdatePairs exSparse2 ([(['b'], .int 1)] ++ ((['z', 'z'], .int 2) :: [(['a'], .str ['w'])])) 10).node =
      (mapUpdatePairs exSparse2 [(['b'], .int 1)] 10).node ∧
    (mapUpdatePairs exSparse2 ([(['b'], .int 1)] ++ ((['z', 'z'], .int 2) :: [(['a'], .str ['w'])])) 10).out =
      .exc .typeError := by
  have h := update_stops_at_undeclared ['z', 'z'] (.int 2) [(['a'], .str ['w'])] [(['b'], .int 1)] exSparse2 10
    ((mapInv_iff _).mp exSparse2_inv) rfl
  exact ⟨h.1, h.2.2⟩

example : Raises (mapStep exSparse2 (.updateArgs [(['b'], .plain (.int 1)), (['z', 'z'], .elem exOwned)]) 10) :=
  update_undeclared_rejected exSparse2_inv _ (by
      intro p hp; simp at hp
      rcases hp with rfl | rfl
      · trivial
      · intro f hf
        have : fieldFor exSparse2.sch.subs ['z', 'z'] = none := rfl
        rw [this] at hf; cases hf)
    (k := ['z', 'z']) rfl (by simp [updateKeys]) 10

example : (mapStep exDict (.set (.dict [(['x'], .int 1), (['q'], .int 2)]) (some (some .strict))) 10).out = .exc .keyError :=
  (set_undeclared_rejected exDict (Or.inl rfl) (Or.inl rfl) (k := ['q']) (by simp [keysOf]) rfl _ (Or.inl rfl) 10).1

example : (mapStep exDict (.set (.pairs [(['x'], .int 1), (['q'], .int 2)]) none) 10).out = .exc .keyError :=
  (set_undeclared_rejected exDict (Or.inl rfl) (Or.inr rfl) (k := ['q']) (by simp [keysOf]) rfl _ (Or.inr rfl) 10).1

example : (mapStep exDict (.set (.dict [(['x'], .int 1), (['q'], .int 2)]) (some (some .duck))) 10).node =
    (mapStep exDict (.set (.dict [(['x'], .int 1)]) (some (some .duck))) 10).node :=
  (set_undeclared_ignored exDict (Or.inl rfl) _ _ (Or.inl rfl) 10).1

end Flatland.C10.Proofs
