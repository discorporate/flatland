/-
What a dict-protocol call makes of the mapping it is called on.  `ItemShape`: the four things
`mapping[key] = arg` can do (nothing; add a new child — `NewKid` says where it comes from; put an Element in
the place of the child stored under the key; set that child in place).  `ItemSteps`: a run of item assignments
that stops at the first exception (`update`, `|=`).  `MapShape`: the shapes of `mapStep`.  That every call keeps
an invariant is proved of each shape (`cases`) and applied to `mapSetItem_shape` / `mapStep_shape`.
-/
import Flatland.Spec.C08
import Proofs.Lemmas.TreeHdr
namespace Flatland.C08.Proofs
open Flatland.Tree Flatland.PyList Flatland.C08 Flatland.C08.Spec

/-- where a child newly stored under `key` comes from: `x` is the child, the second number the
    counter afterwards -/
inductive NewKid (n : Node) (key : Str) (next : Nat) : Arg → Node → Nat → Prop
  /-- an Element of the field's class is stored itself -/
  | placed {e : Node} {f : Schema} (hf : fieldFor n.sch.subs key = some f) (hi : isInstance e f = true) :
      NewKid n key next (.elem e) ((e.withParent (some n.id)).withKey key) next
  /-- any other Element gives its text to a fresh scalar -/
  | scalar {e : Node} {f : Schema} {v : Val} {u : Str} {ok : Bool} (hf : fieldFor n.sch.subs key = some f)
      (ha : adaptElem f.kind e = some (v, u, ok)) :
      NewKid n key next (.elem e) ((blank f (some n.id) key next).1.withScalar v u) (blank f (some n.id) key next).2
  /-- a plain value is wrapped by the field's class -/
  | built {r : Raw} {f : Schema} {x : Node} {n1 : Nat} (hf : fieldFor n.sch.subs key = some f)
      (hc : construct f r (some n.id) key next = (.ok x, n1)) : NewKid n key next (.plain r) x n1
  /-- `setdefault`: a blank child of the field's class, then `set(default)` -/
  | defaulted {d : Raw} {f : Schema} (hf : fieldFor n.sch.subs key = some f) :
      NewKid n key next (.plain d)
        (setNode ((blank f none key next).1.withParent (some n.id)) d none (blank f none key next).2).node
        (setNode ((blank f none key next).1.withParent (some n.id)) d none (blank f none key next).2).next

inductive ItemShape (n : Node) (next : Nat) (key : Str) (a : Arg) : StepR → Prop
  /-- refused: nothing changes (a failing constructor has used identities) -/
  | keep {n1 : Nat} {out : Out}
      (hn : n1 = next ∨ ∃ f r, fieldFor n.sch.subs key = some f ∧ n1 = (construct f r (some n.id) key next).2) :
      ItemShape n next key a ⟨n, n1, out, []⟩
  /-- a SparseDict without a child under `key` gets one -/
  | add {x : Node} {n1 : Nat} {out : Out} (hs : n.kind = .sparse) (hnone : findKid n.kids key = none)
      (hx : NewKid n key next a x n1) : ItemShape n next key a ⟨n.withKids (n.kids ++ [x]), n1, out, []⟩
  /-- a SparseDict stores an Element of the field's class in the place of the child it had -/
  | put {e child : Node} {f : Schema} (ha : a = .elem e) (hs : n.kind = .sparse)
      (hc : findKid n.kids key = some child) (hf : fieldFor n.sch.subs key = some f) (hi : isInstance e f = true) :
      ItemShape n next key a
        ⟨n.withKids (replaceKid n.kids key ((e.withParent (some n.id)).withKey key)), next, .ok, [child]⟩
  /-- the child stored under `key` is set in place -/
  | update {child : Node} {out : Out} (hc : findKid n.kids key = some child) :
      ItemShape n next key a
        ⟨n.withKids (replaceKid n.kids key (setChild child a next).node), (setChild child a next).next, out, []⟩

theorem mapSetItem_shape (n : Node) (key : Str) (a : Arg) (next : Nat) :
    ItemShape n next key a (mapSetItem n key a next) := by
  unfold mapSetItem
  split
  · rename_i hs
    dsimp only
    split
    · rename_i hnone
      split
      · exact .keep (.inl rfl)
      · rename_i f hf
        split
        · rename_i e
          split
          · rename_i hi; exact .add hs hnone (.placed hf hi)
          · split
            · rename_i v u ok ha; exact .add hs hnone (.scalar hf ha)
            · exact .keep (.inl rfl)
        · rename_i r
          split
          · rename_i e n1 hcon; exact .keep (.inr ⟨f, r, hf, by rw [hcon]⟩)
          · rename_i el n1 hcon; exact .add hs hnone (.built hf hcon)
    · rename_i child hc
      split
      · exact .keep (.inl rfl)
      · rename_i f e hf
        split
        · rename_i hi; exact .put rfl hs hc hf hi
        · split <;> exact .update hc
      · split <;> exact .update hc
  · split
    · exact .keep (.inl rfl)
    · rename_i child hc
      dsimp only
      split <;> exact .update hc

/-- a run of item assignments, stopping at the first that raises; what left the mapping adds up -/
inductive ItemSteps : Node → Nat → List (Str × Arg) → StepR → Prop
  | done (n : Node) (k : Nat) : ItemSteps n k [] ⟨n, k, .ok, []⟩
  | stop {n : Node} {k : Nat} {key : Str} {a : Arg} {r : StepR} (h : ItemShape n k key a r) (he : ¬ noExc r.out) :
      ItemSteps n k [(key, a)] r
  | step {n : Node} {k : Nat} {key : Str} {a : Arg} {r : StepR} {rest : List (Str × Arg)} {q : StepR}
      (h : ItemShape n k key a r) (hok : noExc r.out) (hrest : ItemSteps r.node r.next rest q) :
      ItemSteps n k ((key, a) :: rest) ⟨q.node, q.next, q.out, r.detached ++ q.detached⟩

theorem mapUpdateArgs_steps (kvs : List (Str × Arg)) : ∀ (n : Node) (next : Nat),
    ∃ used rest, kvs = used ++ rest ∧ (noExc (mapUpdateArgs n kvs next).out → rest = []) ∧
      ItemSteps n next used (mapUpdateArgs n kvs next) := by
  induction kvs with
  | nil => intro n next; exact ⟨[], [], rfl, fun _ => rfl, .done n next⟩
  | cons kv rest ih =>
    intro n next
    obtain ⟨k, a⟩ := kv
    have hs := mapSetItem_shape n k a next
    rw [mapUpdateArgs]
    split
    · rename_i e he
      refine ⟨[(k, a)], rest, rfl, fun h => False.elim h, ?_⟩
      have := ItemSteps.stop hs (by rw [he]; exact fun h => h)
      rw [← he]; exact this
    · rename_i hne
      obtain ⟨used, rest', h1, h2, h3⟩ := ih (mapSetItem n k a next).node (mapSetItem n k a next).next
      refine ⟨(k, a) :: used, rest', by rw [h1]; rfl, h2, .step hs ?_ h3⟩
      cases ho : (mapSetItem n k a next).out <;> first | trivial | exact absurd ho (hne _)

theorem ItemShape.plain_detached {n : Node} {next : Nat} {key : Str} {v : Raw} {r : StepR}
    (h : ItemShape n next key (.plain v) r) : r.detached = [] := by
  cases h with
  | keep => rfl
  | add => rfl
  | put ha => cases ha
  | update => rfl

theorem mapUpdatePairs_eq (kvs : List (Str × Raw)) : ∀ (n : Node) (next : Nat),
    mapUpdatePairs n kvs next = mapUpdateArgs n (kvs.map (fun p => (p.1, Arg.plain p.2))) next := by
  induction kvs with
  | nil => intro n next; rfl
  | cons kv rest ih =>
    intro n next
    obtain ⟨k, v⟩ := kv
    have hd := (mapSetItem_shape n k (.plain v) next).plain_detached
    rw [mapUpdatePairs, List.map_cons, mapUpdateArgs]
    split
    · rename_i e he
      simp only [he, excOut, hd]
    · rename_i hne
      cases ho : (mapSetItem n k (.plain v) next).out <;>
        first
        | exact absurd ho (hne _)
        | (simp only [hd, List.nil_append]; rw [ih])

theorem plain_used_nil {kvs : List (Str × Raw)} {used rest : List (Str × Arg)}
    (h : kvs.map (fun p => (p.1, Arg.plain p.2)) = used ++ rest) : used.flatMap (fun p => argElems p.2) = [] := by
  have : ∀ l : List (Str × Raw), (l.map (fun p => (p.1, Arg.plain p.2))).flatMap (fun p => argElems p.2) = [] := by
    intro l
    induction l with
    | nil => rfl
    | cons kv l ih => rw [List.map_cons, List.flatMap_cons, ih]; rfl
  have := this kvs
  rw [h, List.flatMap_append, List.append_eq_nil_iff] at this
  exact this.1

inductive MapShape (n : Node) (next : Nat) (op : MapOp) : StepR → Prop
  /-- nothing happened to the mapping (the call was refused, or only reads) -/
  | keep {out : Out} (hpl : noExc out → placedMap op = []) : MapShape n next op ⟨n, next, out, []⟩
  | item {k : Str} {a : Arg} {r : StepR} (hop : op = .setitem k a) (h : ItemShape n next k a r) : MapShape n next op r
  /-- `setdefault` on a SparseDict: the child is set in place, or a new one is made -/
  | default {k : Str} {d : Raw} {r : StepR} (hop : op = .setdefault k d) (hs : n.kind = .sparse)
      (h : ItemShape n next k (.plain d) r) : MapShape n next op r
  /-- the child a SparseDict stores under a key leaves; where all required fields are kept
      (`minimum_fields='required'`) only an optional one can -/
  | erase {k : Str} {out : Out} (hs : n.kind = .sparse)
      (hopt : n.sch.info.minreq = true → keyOptional n k = some true) (hout : noExc out) (hpl : placedMap op = []) :
      MapShape n next op ⟨n.withKids (eraseKey n.kids k), next, out, (findKid n.kids k).toList⟩
  | reset (hop : op = .clear) : MapShape n next op ⟨(mapReset n next).1, (mapReset n next).2, .ok, n.kids⟩
  /-- `update`, `|=`: a run of item assignments; with Element arguments all of them are made
      unless one raises -/
  | items {used : List (Str × Arg)} {r : StepR} (h : ItemSteps n next used r)
      (hpl : (used.flatMap (fun p => argElems p.2)).Sublist (placedMap op))
      (hop : (∃ pos kw, op = .update pos kw) ∨ (∃ raw, op = .ior raw) ∨
        ∃ kvs, op = .updateArgs kvs ∧ (noExc r.out → used = kvs))
      (hpre : ∀ kvs, op = .updateArgs kvs → ∃ rest, kvs = used ++ rest) : MapShape n next op r
  | set {raw : Raw} {p : Option (Option Policy)} {pol : Option Policy} {out : Out} (hop : op = .set raw p) :
      MapShape n next op ⟨(setNode n raw pol next).node, (setNode n raw pol next).next, out, []⟩
  | setDefault {out : Out} (hop : op = .setDefault) :
      MapShape n next op ⟨(setDefault n next).node, (setDefault n next).next, out, []⟩

theorem mapUpdatePairs_append (a b : List (Str × Raw)) : ∀ (n : Node) (next : Nat),
    mapUpdatePairs n (a ++ b) next =
      (match (mapUpdatePairs n a next).out with
       | .exc e => excOut (mapUpdatePairs n a next).node (mapUpdatePairs n a next).next e
       | _ => mapUpdatePairs (mapUpdatePairs n a next).node b (mapUpdatePairs n a next).next) := by
  induction a with
  | nil => intro n next; rfl
  | cons kv a ih =>
    intro n next
    obtain ⟨k, v⟩ := kv
    rw [List.cons_append, mapUpdatePairs, mapUpdatePairs]
    split
    · rfl
    · exact ih _ _

theorem mapStep_update_pairs {raw : Raw} {kvs : List (Str × Raw)} (htp : toPairs raw = some (some kvs)) (kw : List (Str × Raw))
    (n : Node) (next : Nat) : mapStep n (.update (some raw) kw) next = mapUpdatePairs n (kvs ++ kw) next := by
  rw [mapUpdatePairs_append]
  unfold mapStep
  simp only [htp]
  split
  · rename_i e he; simp only [he]
  · rename_i hne
    split
    · rename_i e he; exact absurd he (hne e)
    · rfl

theorem pairs_items {n : Node} {next : Nat} {op : MapOp} (kvs : List (Str × Raw))
    (hop : (∃ pos kw, op = .update pos kw) ∨ ∃ raw, op = .ior raw) :
    MapShape n next op (mapUpdatePairs n kvs next) := by
  rw [mapUpdatePairs_eq]
  obtain ⟨used, rest, h1, _, h3⟩ := mapUpdateArgs_steps (kvs.map (fun p => (p.1, Arg.plain p.2))) n next
  refine .items h3 ?_ (hop.elim .inl (fun h => .inr (.inl h)))
    (fun _ h => by rcases hop with ⟨_, _, rfl⟩ | ⟨_, rfl⟩ <;> cases h)
  rw [plain_used_nil h1]; exact List.nil_sublist _

theorem mapStep_shape (n : Node) (op : MapOp) (next : Nat) : MapShape n next op (mapStep n op next) := by
  unfold mapStep
  cases op with
  | setitem k a => exact .item rfl (mapSetItem_shape n k a next)
  | delitem k =>
    dsimp only
    split
    · split <;> exact .keep (fun _ => rfl)
    · rename_i hs
      have hs' : n.kind = .sparse := by simpa using hs
      split
      · rename_i hm
        split
        · exact .erase hs' (fun hm' => by simp [hm'] at hm) trivial rfl
        · split <;> exact .keep (fun _ => rfl)
      · split
        · exact .keep (fun _ => rfl)
        · exact .keep (fun _ => rfl)
        · rename_i hko
          split
          · exact .erase hs' (fun _ => hko) trivial rfl
          · exact .keep (fun _ => rfl)
  | pop k =>
    dsimp only
    split
    · exact .keep (fun _ => rfl)
    · split
      · exact .keep (fun _ => rfl)
      · rename_i hs
        have hs' : n.kind = .sparse := by simpa using hs
        split
        · exact .keep (fun _ => rfl)
        · rename_i hreq
          split
          · rename_i c hc
            have hopt : n.sch.info.minreq = true → keyOptional n k = some true := by
              intro hm
              simp only [hm, Bool.true_and] at hreq
              cases hko : keyOptional n k with
              | none =>
                unfold keyOptional at hko
                rw [hc] at hko
                split at hko <;> cases hko
              | some b => cases b <;> simp_all
            have := MapShape.erase (n := n) (next := next) (op := .pop k) (k := k) (out := .node c) hs' hopt trivial rfl
            rw [hc] at this; exact this
          · exact .keep (fun _ => rfl)
  | popitem => dsimp only; split <;> exact .keep (fun _ => rfl)
  | clear =>
    dsimp only
    split
    · exact .reset rfl
    · exact .keep (fun _ => rfl)
  | update pos kw =>
    have hop : (∃ p k, MapOp.update pos kw = .update p k) ∨ ∃ raw, MapOp.update pos kw = .ior raw := .inl ⟨_, _, rfl⟩
    show MapShape n next (.update pos kw) (mapStep n (.update pos kw) next)
    cases pos with
    | none => exact pairs_items kw hop
    | some raw =>
      cases htp : toPairs raw with
      | none => unfold mapStep; simp only [htp]; exact .keep (fun _ => rfl)
      | some o =>
        cases o with
        | none => unfold mapStep; simp only [htp]; exact .keep (fun _ => rfl)
        | some kvs => rw [mapStep_update_pairs htp]; exact pairs_items (kvs ++ kw) hop
  | updateArgs kvs =>
    obtain ⟨used, rest, h1, h2, h3⟩ := mapUpdateArgs_steps kvs n next
    refine .items h3 ?_ (.inr (.inr ⟨kvs, rfl, fun hno => by rw [h1, h2 hno, List.append_nil]⟩))
      (fun _ h => by cases h; exact ⟨rest, h1⟩)
    show (used.flatMap (fun p => argElems p.2)).Sublist (kvs.flatMap (fun p => argElems p.2))
    rw [h1, List.flatMap_append]; exact List.sublist_append_left _ _
  | ior raw =>
    dsimp only
    split
    · exact .keep (fun _ => rfl)
    · exact .keep (fun _ => rfl)
    · exact pairs_items _ (.inr ⟨_, rfl⟩)
  | setdefault k d =>
    dsimp only
    split
    · exact .keep (fun _ => rfl)
    · rename_i hs
      have hs' : n.kind = .sparse := by simpa using hs
      split
      · exact .keep (fun _ => rfl)
      · split
        · rename_i child hc
          split
          · exact .keep (fun _ => rfl)
          · split <;> exact .default rfl hs' (.update (a := .plain d) hc)
        · rename_i hnone
          split
          · exact .keep (fun _ => rfl)
          · rename_i f hf
            split <;> exact .default rfl hs' (.add hs' hnone (.defaulted hf))
  | get k => dsimp only; split <;> exact .keep (fun _ => rfl)
  | set raw pol =>
    dsimp only
    split
    · split <;> exact .set rfl
    · split <;> exact .set rfl
    · split <;> exact .set rfl
  | setDefault => dsimp only; split <;> exact .setDefault rfl
  | contains k => exact .keep (fun _ => rfl)
  | len => exact .keep (fun _ => rfl)

theorem nodeStep_cases (n : Node) (op : Op) (next : Nat) :
    (∃ o, op = .seq o ∧ IsSeq n.kind ∧ nodeStep n op next = seqStep n o next) ∨
    (∃ o, op = .map o ∧ isMap n.kind = true ∧ nodeStep n op next = mapStep n o next) ∨
    nodeStep n op next = excOut n next .unsupported := by
  unfold nodeStep
  split
  · rename_i o hk; exact .inl ⟨o, rfl, .inl hk, rfl⟩
  · rename_i o hk; exact .inl ⟨o, rfl, .inr (.inl hk), rfl⟩
  · rename_i o hk; exact .inl ⟨o, rfl, .inr (.inr hk), rfl⟩
  · rename_i o hk; exact .inr (.inl ⟨o, rfl, by rw [hk]; rfl, rfl⟩)
  · rename_i o hk; exact .inr (.inl ⟨o, rfl, by rw [hk]; rfl, rfl⟩)
  · exact .inr (.inr rfl)

theorem ItemShape.hdr {n : Node} {next : Nat} {key : Str} {a : Arg} {r : StepR} (h : ItemShape n next key a r) :
    r.node.hdr = n.hdr := by
  cases h <;> rfl

theorem ItemSteps.hdr {n : Node} {k : Nat} {used : List (Str × Arg)} {r : StepR} (h : ItemSteps n k used r) :
    r.node.hdr = n.hdr := by
  induction h with
  | done => rfl
  | stop h he => exact h.hdr
  | step h hok hrest ih => exact ih.trans h.hdr

theorem mapUpdateArgs_hdr (kvs : List (Str × Arg)) (n : Node) (next : Nat) :
    (mapUpdateArgs n kvs next).node.hdr = n.hdr := by
  obtain ⟨_, _, _, _, h⟩ := mapUpdateArgs_steps kvs n next
  exact h.hdr

theorem MapShape.hdr {n : Node} {next : Nat} {op : MapOp} {r : StepR} (h : MapShape n next op r) : r.node.hdr = n.hdr := by
  cases h with
  | keep => rfl
  | item hop h => exact h.hdr
  | default hop hs h => exact h.hdr
  | erase => rfl
  | reset => exact mapReset_hdr n next
  | items h => exact h.hdr
  | set => exact setNode_hdr _ _ _ _
  | setDefault => exact setDefault_hdr _ _

theorem ItemShape.keeps {n : Node} {next : Nat} {key : Str} {a : Arg} {r : StepR} (h : ItemShape n next key a r)
    {x : Node} (hx : x ∈ n.kids) (hne : x.key ≠ key) : x ∈ r.node.kids := by
  have hrep : ∀ y, x ∈ replaceKid n.kids key y := fun y => by
    unfold replaceKid
    exact List.mem_map.mpr ⟨x, hx, by simp [hne]⟩
  cases h with
  | keep => exact hx
  | add => exact List.mem_append.mpr (.inl hx)
  | put => exact hrep _
  | update => exact hrep _

/-- `P c`: what the holder with identity `pid` asks of a stored child `c`; `W e`: what is known of an Element handed
    to the call.  The fields are the ways a child of a mapping comes to be or changes. -/
structure KidInv (pid : Nat) (W P : Node → Prop) : Prop where
  placed : ∀ {e : Node} (key : Str), W e → P ((e.withParent (some pid)).withKey key)
  scalar : ∀ (f : Schema) (key : Str) (next : Nat) (v : Val) (u : Str), P ((blank f (some pid) key next).1.withScalar v u)
  built : ∀ {f : Schema} {r : Raw} {key : Str} {next n1 : Nat} {x : Node},
    construct f r (some pid) key next = (.ok x, n1) → P x
  defaulted : ∀ (f : Schema) (key : Str) (next : Nat) (d : Raw),
    P (setNode ((blank f none key next).1.withParent (some pid)) d none (blank f none key next).2).node
  setChild : ∀ {c : Node} (a : Arg) (next : Nat), P c → P (setChild c a next).node
  fresh : ∀ (subs : List Schema) (b : Bool) (next : Nat), ∀ k ∈ (blankFields subs pid b next).1, P k

section
variable {W P : Node → Prop}

theorem NewKid.forall {n : Node} (S : KidInv n.id W P) {key : Str} {next : Nat} {a : Arg} {x : Node} {n1 : Nat}
    (h : NewKid n key next a x n1) (ha : ∀ e ∈ argElems a, W e) : P x := by
  cases h with
  | placed => exact S.placed key (ha _ (List.mem_singleton_self _))
  | scalar => exact S.scalar _ _ _ _ _
  | built hf hc => exact S.built hc
  | defaulted => exact S.defaulted _ _ _ _

theorem ItemShape.forall_kids {n : Node} (S : KidInv n.id W P) {next : Nat} {key : Str} {a : Arg} {r : StepR}
    (h : ItemShape n next key a r) (hK : ∀ k ∈ n.kids, P k) (ha : ∀ e ∈ argElems a, W e) : ∀ k ∈ r.node.kids, P k := by
  have hrep : ∀ {new : Node}, P new → ∀ x ∈ replaceKid n.kids key new, P x := fun hn x hx => by
    obtain ⟨y, hy, rfl⟩ := List.mem_map.mp hx
    split
    · exact hn
    · exact hK y hy
  cases h with
  | keep => exact hK
  | add hs hnone hx =>
    rw [kids_withKids]
    exact fun x h => (List.mem_append.mp h).elim (hK x) (fun h1 => List.mem_singleton.mp h1 ▸ hx.forall S ha)
  | put hae =>
    subst hae
    rw [kids_withKids]; exact hrep (S.placed key (ha _ (List.mem_singleton_self _)))
  | @update child out hc =>
    rw [kids_withKids]; exact hrep (S.setChild a next (hK child (List.mem_of_find?_eq_some hc)))

theorem ItemSteps.forall_kids {n : Node} {k : Nat} {used : List (Str × Arg)} {r : StepR} (h : ItemSteps n k used r) :
    KidInv n.id W P → (∀ c ∈ n.kids, P c) → (∀ p ∈ used, ∀ e ∈ argElems p.2, W e) → ∀ c ∈ r.node.kids, P c := by
  induction h with
  | done => exact fun _ hK _ => hK
  | stop h he => exact fun S hK ha => h.forall_kids S hK (ha _ (List.mem_singleton_self _))
  | @step n k key a r rest q h hok hrest ih =>
    intro S hK ha
    have hid : r.node.id = n.id := congrArg Prod.fst h.hdr
    exact ih (hid ▸ S) (h.forall_kids S hK (ha _ (List.mem_cons_self ..))) (fun p hp => ha p (List.mem_cons_of_mem _ hp))

theorem MapShape.forall_kids {n : Node} (S : KidInv n.id W P) {next : Nat} {op : MapOp} {r : StepR}
    (h : MapShape n next op r) (hK : ∀ k ∈ n.kids, P k) (hop : ∀ e ∈ placedMap op, W e)
    (hset : ∀ raw pol, ∀ k ∈ (setNode n raw pol next).node.kids, P k)
    (hdef : ∀ k ∈ (Tree.setDefault n next).node.kids, P k) : ∀ k ∈ r.node.kids, P k := by
  cases h with
  | keep => exact hK
  | item hopq h => subst hopq; exact h.forall_kids S hK hop
  | default hopq hs h => exact h.forall_kids S hK (fun _ he => by cases he)
  | erase => rw [kids_withKids]; exact fun x hx => hK x (List.mem_filter.mp hx).1
  | reset =>
    unfold mapReset
    split
    · rw [kids_withKids]; exact S.fresh _ _ _
    · split
      · rw [kids_withKids]; exact S.fresh _ _ _
      · rw [kids_withKids]; exact fun x hx => by cases hx
  | items h hpl hopq =>
    exact h.forall_kids S hK (fun p hp e he => hop e (hpl.subset (List.mem_flatMap.mpr ⟨p, hp, he⟩)))
  | set => exact hset _ _
  | setDefault => exact hdef

end

end Flatland.C08.Proofs
