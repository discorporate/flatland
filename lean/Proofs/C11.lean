/-
C11 — generated markup cannot be broken out of by data.

Generic theorems (any `.replace` chain satisfying decidable side conditions) and their
instantiation on the chains re-extracted from the current source (`Generated/C11Tables.lean`)
by `decide`.  Dropping `.replace('"', '&quot;')` from `_attribute_escape`, moving `&` later in
a chain, or emitting a reference the decoder does not know breaks one of the `*_ok` theorems.
-/
import Flatland.C11
import Flatland.Spec.C11
import Proofs.Lemmas.C11Chain
import Proofs.Lemmas.C11Decode
import Proofs.Lemmas.C11Parse
import Proofs.Lemmas.C11EndToEnd
import Proofs.Lemmas.C12Transforms
import Proofs.Lemmas.C19Scope
namespace Flatland.C11.Proofs
open Flatland.C11 Flatland.Markup Flatland.Generated.C11

/-- a chain is safe inside a double-quoted attribute value and decodable -/
def AttrChainOK (ch : Chain) : Bool :=
  Good ch && Forbidden ch '"' && Forbidden ch '<' && Forbidden ch '>' &&
  ch.all entOK && (keys ch).contains '&'

/-- a chain is safe as element text and decodable -/
def TextChainOK (ch : Chain) : Bool :=
  Good ch && Forbidden ch '<' && ch.all entOK && (keys ch).contains '&'

theorem attrChain_ok : AttrChainOK attrChain = true := by decide +kernel
theorem textChain_ok : TextChainOK textChain = true := by decide +kernel
theorem xChain_ok : TextChainOK xChain = true := by decide +kernel
theorem xaChain_ok : AttrChainOK xaChain = true := by decide +kernel

theorem attrOK_text {ch : Chain} (h : AttrChainOK ch = true) : TextChainOK ch = true := by
  simp only [AttrChainOK, TextChainOK, Bool.and_eq_true] at *
  obtain ⟨⟨⟨⟨⟨h1, _⟩, h3⟩, _⟩, h5⟩, h6⟩ := h
  exact ⟨⟨⟨h1, h3⟩, h5⟩, h6⟩

theorem no_breakout_attr (ch : Chain) (h : AttrChainOK ch = true) (s : Str) :
    '"' ∉ escapeChain ch s ∧ '<' ∉ escapeChain ch s ∧ '>' ∉ escapeChain ch s := by
  simp only [AttrChainOK, Bool.and_eq_true] at h
  obtain ⟨⟨⟨⟨⟨hg, hq⟩, hl⟩, hr⟩, _⟩, _⟩ := h
  exact ⟨forbidden_not_in_escape ch _ hg hq s, forbidden_not_in_escape ch _ hg hl s,
         forbidden_not_in_escape ch _ hg hr s⟩

theorem no_breakout_text (ch : Chain) (h : TextChainOK ch = true) (s : Str) :
    '<' ∉ escapeChain ch s := by
  simp only [TextChainOK, Bool.and_eq_true] at h
  exact forbidden_not_in_escape ch _ h.1.1.1 h.1.1.2 s

theorem chain_is_simultaneous (ch : Chain) (h : TextChainOK ch = true) (s : Str) :
    escapeChain ch s = s.flatMap (substOf ch) := by
  simp only [TextChainOK, Bool.and_eq_true] at h
  exact chain_simultaneous ch h.1.1.1 s

/-- decoding character references inverts the chain — for EVERY decoder that agrees with HTML
    on the references the chain emits -/
theorem decode_escape_any (ch : Chain) (dec : Str → Str) (h : TextChainOK ch = true)
    (ok : DecoderOK ch dec) (s : Str) : dec (escapeChain ch s) = s := by
  simp only [TextChainOK, Bool.and_eq_true] at h
  exact decode_escape ch dec h.1.1.1 ok s

theorem decodeRefs_escape (ch : Chain) (h : TextChainOK ch = true) (s : Str) :
    decodeRefs (escapeChain ch s) = s := by
  have h' := h
  simp only [TextChainOK, Bool.and_eq_true] at h'
  exact decode_escape_any ch decodeRefs h (decoderOK_of ch h'.1.2 h'.2) s

theorem x_unescapes (u : Str) : decodeRefs (sugar xChain u) = u :=
  decodeRefs_escape xChain xChain_ok u

theorem xa_unescapes (u : Str) : decodeRefs (sugar xaChain u) = u :=
  decodeRefs_escape xaChain (attrOK_text xaChain_ok) u

theorem xa_attribute_safe (u : Str) :
    '"' ∉ sugar xaChain u ∧ '<' ∉ sugar xaChain u ∧ '>' ∉ sugar xaChain u :=
  no_breakout_attr xaChain xaChain_ok u

theorem x_text_safe (u : Str) : '<' ∉ sugar xChain u := no_breakout_text xChain xChain_ok u

/-- the serialiser's output for data (plain-text attribute values, escaped text) -/
def renderData (ch tch : Chain) (voids : List Str) (xml : Bool) (tag : Str)
    (attrs : List (Str × Str)) (text : Str) : Except PyErr Str :=
  renderTag ch voids xml tag (attrs.map (fun kv => (kv.1, Val.text kv.2))) (markupEscape tch text)

/-- Attribute values and text are arbitrary; a void element has no text, by construction of `Tag.__call__`.
    The serialiser's void table `voids` (the generator's `VOID_ELEMENTS`) and the parser's
    `pvoids` are separate; they must agree on the tag (`voids_agree` on the generated table), so a
    wrong `VOID_ELEMENTS` — one that would silently drop a textarea's text — breaks the build. -/
theorem parse_render_generic (ch tch : Chain) (hch : AttrChainOK ch = true) (htch : TextChainOK tch = true)
    (voids pvoids : List Str) (xml : Bool) (tag : Str) (attrs : List (Str × Str)) (text : Str)
    (htag : validName tag = true) (hv : ∀ kv ∈ attrs, validName kv.1 = true)
    (hv2 : pvoids.contains tag = voids.contains tag) :
    ∃ s, renderData ch tch voids xml tag attrs text = .ok s ∧
      parseTag decodeRefs pvoids s =
        some ⟨tag, attrs, if voids.contains tag then [] else text⟩ := by
  have hq := (no_breakout_attr ch hch · |>.1)
  have hdec := decodeRefs_escape ch (attrOK_text hch)
  have hlt := no_breakout_text tch htch
  have hdect := decodeRefs_escape tch htch
  have htag' := htag
  simp only [validName, Bool.and_eq_true, Bool.not_eq_true', List.isEmpty_eq_false_iff] at htag'
  obtain ⟨htne, htall⟩ := htag'
  have hname_ne : tag.isEmpty = false := by simpa using htne
  have start : ∀ (closer : Str) (cl : Closer) (tail : Str),
      (closer = ['>'] ∨ closer = [' ', '/', '>']) →
      parseAttrs decodeRefs (closer ++ tail) = some ([], cl, tail) →
      parseTag decodeRefs pvoids
        ('<' :: tag ++ attrs.flatMap (attrText (escapeChain ch)) ++ closer ++ tail) =
      (if cl = .selfClosed || voids.contains tag then
        if tail.isEmpty then some ⟨tag, attrs, []⟩ else none
      else
        match splitAtChar '<' tail with
        | some (text, tl) => if tl = '/' :: tag ++ ['>'] then some ⟨tag, attrs, decodeRefs text⟩ else none
        | none => none) := by
    intro closer cl tail hc hcl
    obtain ⟨c, rest, hcr, hstop⟩ := after_name_stop (escapeChain ch) attrs closer tail hc
    have hstr : '<' :: tag ++ attrs.flatMap (attrText (escapeChain ch)) ++ closer ++ tail =
        '<' :: (tag ++ c :: rest) := by
      simp only [List.cons_append, List.append_assoc, List.cons.injEq, true_and]
      rw [← hcr]; simp
    obtain ⟨h1, h2⟩ := takeWhile_name tag rest c htall hstop
    rw [hstr]
    simp only [parseTag, h1, h2, hname_ne, Bool.false_eq_true, ↓reduceIte, hv2]
    rw [← hcr, parseAttrs_render decodeRefs (escapeChain ch) hq hdec attrs hv closer cl tail hcl]
    rfl
  unfold renderData renderTag
  rw [renderOpen_text]
  by_cases hvoid : voids.contains tag = true
  · simp only [hvoid, ↓reduceIte]
    cases xml with
    | true =>
      refine ⟨_, rfl, ?_⟩
      have := start [' ', '/', '>'] .selfClosed [] (Or.inr rfl) (parseAttrs_selfclose _ _)
      simp only [List.append_nil] at this
      simp only [↓reduceIte]
      rw [this]; simp
    | false =>
      refine ⟨_, rfl, ?_⟩
      have := start ['>'] .opened [] (Or.inl rfl) (parseAttrs_close _ _)
      simp only [List.append_nil] at this
      simp only [Bool.false_eq_true, ↓reduceIte]
      have hmem : tag ∈ voids := by simpa using hvoid
      rw [this]; simp [hmem]
  · simp only [hvoid, Bool.false_eq_true, ↓reduceIte]
    refine ⟨_, rfl, ?_⟩
    have := start ['>'] .opened (markupEscape tch text ++ '<' :: '/' :: tag ++ ['>']) (Or.inl rfl)
      (parseAttrs_close _ _)
    have e : '<' :: tag ++ attrs.flatMap (attrText (escapeChain ch)) ++
        '>' :: markupEscape tch text ++ '<' :: '/' :: tag ++ ['>'] =
        '<' :: tag ++ attrs.flatMap (attrText (escapeChain ch)) ++ ['>'] ++
          (markupEscape tch text ++ '<' :: '/' :: tag ++ ['>']) := by simp
    rw [e, this]
    simp only [hvoid, Bool.or_false]
    rw [markupEscape_eq]
    have hs := splitAtChar_append (escapeChain tch text) ('/' :: tag ++ ['>']) (hlt text)
    simp only [List.append_assoc, List.cons_append] at hs ⊢
    simp [hs, hdect]

/-- the generator's `VOID_ELEMENTS` is the HTML parser's void table -/
theorem voids_agree : (voidElements.all htmlVoidElements.contains && htmlVoidElements.all voidElements.contains) = true := by
  decide +kernel

theorem voids_contains (tag : Str) : htmlVoidElements.contains tag = voidElements.contains tag := by
  have h := voids_agree
  simp only [Bool.and_eq_true, List.all_eq_true] at h
  by_cases h1 : voidElements.contains tag = true
  · rw [h1]; exact h.1 tag (by simpa using h1)
  · simp only [Bool.not_eq_true] at h1
    rw [h1, Bool.eq_false_iff]
    intro h2
    have := h.2 tag (by simpa using h2)
    rw [this] at h1; simp at h1

/-- C11, markup part, on the tables of the current source: `Tag.__call__`'s serialisation of any
    tag name / attribute names from the declared grammar (`[A-Za-z][A-Za-z0-9_:.-]*`, lower case —
    names are chosen by the template author; html.parser lower-cases them) with ANY attribute values
    and ANY text parses back to exactly one element with exactly those attributes and that text. -/
theorem parse_render (xml : Bool) (tag : Str) (attrs : List (Str × Str)) (text : Str)
    (htag : lowerName tag = true) (hv : ∀ kv ∈ attrs, lowerName kv.1 = true) :
    ∃ s, renderData attrChain textChain voidElements xml tag attrs text = .ok s ∧
      Spec.ParsesTo decodeRefs htmlVoidElements s tag attrs (if voidElements.contains tag then [] else text) :=
  parse_render_generic attrChain textChain attrChain_ok textChain_ok voidElements htmlVoidElements xml tag attrs text
    (lowerName_valid htag) (fun kv h => lowerName_valid (hv kv h)) (voids_contains tag)

example : lowerName "input".toList = true := by decide +kernel
example : lowerName "data-x".toList = true := by decide +kernel
/-- names outside the declared grammar are outside the theorem (author-controlled, not data) -/
example : lowerName "a\nonclick".toList = false ∧ lowerName "CLASS".toList = false ∧ lowerName "a\tb".toList = false := by
  decide +kernel
example : escapeChain attrChain "a\"<b>&".toList = "a&quot;&lt;b&gt;&amp;".toList := by decide +kernel
example : substOf attrChain '"' = "&quot;".toList := by decide +kernel
/-- a chain with `&` replaced last is rejected by the side condition … -/
example : Good [('<', "&lt;".toList), ('&', "&amp;".toList)] = false := by decide +kernel
/-- … and really is wrong -/
example : escapeChain [('<', "&lt;".toList), ('&', "&amp;".toList)] ['<'] = "&amp;lt;".toList := by decide +kernel
/-- a chain without the `"` entry is rejected -/
example : AttrChainOK textChain = false := by decide +kernel

open Flatland.C19.Proofs

/-- C11 through the whole generator.  For the tables of the current source, ANY generator state,
    a tag name of the declared grammar, ANY bound element (its flattened name and text are arbitrary
    strings — the hostile data), and keyword arguments of the declared domain (`GoodKwargs`: options
    with any value, plain strings under names of the declared grammar; no explicit `contents=`):
    if the call returns markup `s`, then

    * `s` parses as exactly one element of the requested tag, whose attributes `attrs` are EXACTLY
      what the transforms computed (`r.pairs`, all plain strings) and whose text is the text whose
      escaped form the transforms left as contents (`r`: the model's `prepareTag` result — what
      those strings are for each control kind is the subject of the C12 theorems);
    * none of the attributes is an `auto_*` option;
    * every author attribute outside the generated names (name, value, id, for, tabindex, checked,
      selected) is among them with exactly the author's string;
    * the text is empty or exactly the bound element's text. -/
theorem callTag_parses (g g' : Gen) (tag : Str) (bnd : Option Bind) (kwargs : List (Str × Val)) (s : Str)
    (htag : lowerName tag = true) (hkw : GoodKwargs kwargs)
    (hnc : Dict.get? kwargs "contents".toList = none)
    (h : g.callTag Tables.current attrChain voidElements staticAttributeOrder tag bnd kwargs = .ok (s, g')) :
    ∃ r attrs text,
      prepareTag Tables.current staticAttributeOrder g tag bnd kwargs = .ok r ∧
      r.pairs = attrs.map (fun kv => (kv.1, Val.text kv.2)) ∧
      r.contents = markupEscape textChain text ∧
      Spec.ParsesTo decodeRefs htmlVoidElements s tag attrs (if voidElements.contains tag then [] else text) ∧
      (∀ kv ∈ attrs, kv.1 ∉ optionKeys) ∧
      (∀ k v, k ∉ Flatland.C12.Proofs.touchKeys → Dict.get? (transformKeys kwargs) k = some (.text v) → (k, v) ∈ attrs) ∧
      (text = [] ∨ ∃ b, bnd = some b ∧ text = b.u) := by
  simp only [Gen.callTag, bind_eq_ok, pure_eq_ok, Prod.mk.injEq] at h
  obtain ⟨r, hp, s', hr, rfl, _⟩ := h
  have hno := options_never_rendered hp
  obtain ⟨st6, o, ht, hpairs, hcont, _⟩ := prepareTag_steps hp
  rw [Dict.erase_absent kwargs "contents".toList hnc, hnc] at ht
  obtain ⟨hgood, hcok⟩ := transform_good (transformKeys_nodup kwargs) (transformKeys_good kwargs hkw) ht
  obtain ⟨attrs, hattrs, hvalid⟩ := goodAttrs_as_text r.pairs
    (hpairs ▸ goodAttrs_orderPairs staticAttributeOrder o st6.attrs hgood)
  obtain ⟨t, hct, htt⟩ : ∃ t, r.contents = markupEscape textChain t ∧ (t = [] ∨ ∃ b, bnd = some b ∧ t = b.u) := by
    rcases hcok with hc0 | ⟨b, hb, hc1⟩
    · exact ⟨[], by rw [hc0] at hcont; exact (Except.ok.inj hcont).symm, Or.inl rfl⟩
    · exact ⟨b.u, by rw [hc1] at hcont; exact (Except.ok.inj hcont).symm, Or.inr ⟨b, hb, rfl⟩⟩
  obtain ⟨s2, hs2, hparse⟩ := parse_render_generic attrChain textChain attrChain_ok textChain_ok voidElements
    htmlVoidElements g.xml tag attrs t (lowerName_valid htag) hvalid (voids_contains tag)
  rw [renderData, ← hattrs, ← hct, hr] at hs2
  cases hs2
  refine ⟨r, attrs, t, hp, hattrs, hct, hparse, fun kv hm hopt => ?_, fun k v hk hget => ?_, htt⟩
  · exact hno kv.1 hopt (.text kv.2) (hattrs ▸ List.mem_map.mpr ⟨kv, hm, rfl⟩)
  · have hmr : (k, Val.text v) ∈ r.pairs := hpairs ▸ (mem_orderPairs ..).mpr
      (Dict.mem_of_get? ((Flatland.C12.Proofs.transform_frame k hk ht).trans hget))
    rw [hattrs] at hmr
    obtain ⟨⟨k', v'⟩, hkv, he⟩ := List.mem_map.mp hmr
    cases he
    exact hkv

/-! non-vacuity of `callTag_parses`: hostile bind, hostile attribute value, valid names -/

def nvKwargs : List (Str × Val) :=
  [("class_".toList, .text "x\" onclick=\"y".toList), ("type".toList, .text "text".toList),
   ("auto_domid".toList, .bool true)]
def nvBind : Bind := ⟨"a\"b".toList, "\"><script>&amp;".toList, .scalar⟩
def nvGen : Gen :=
  match Gen.init Tables.current "xhtml".toList [("auto_domid".toList, .bool true)] with
  | .ok g => g
  | .error _ => ⟨false, ⟨[], []⟩⟩

example : GoodKwargs nvKwargs := by
  intro kv hm
  simp only [nvKwargs, List.mem_cons, List.not_mem_nil, or_false] at hm
  rcases hm with rfl | rfl | rfl
  · exact Or.inr ⟨⟨_, rfl⟩, by decide +kernel⟩
  · exact Or.inr ⟨⟨_, rfl⟩, by decide +kernel⟩
  · exact Or.inl (by decide +kernel)
example : Dict.get? nvKwargs "contents".toList = none := by decide +kernel
-- the call succeeds (so the theorem's hypothesis is met), with this output
set_option maxRecDepth 10000 in
example : (match nvGen.callTag Tables.current attrChain voidElements staticAttributeOrder "input".toList (some nvBind) nvKwargs with
    | .ok (s, _) => some s
    | .error _ => none) =
    some ("<input type=\"text\" name=\"a&quot;b\" value=\"&quot;&gt;&lt;script&gt;&amp;amp;\" " ++
          "class=\"x&quot; onclick=&quot;y\" id=\"f_a&quot;b\" />").toList := by decide +kernel

end Flatland.C11.Proofs
