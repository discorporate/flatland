/-
C07 on the tree model — everything the constructors and element-level mutators build is deep
positional (`dps`): `schema(parent=…)`, `element.set(raw)`, `schema(value)`, `from_defaults`,
`set_default`.  `dps` is an invariant in the sense of `ElemInv` (Proofs/Lemmas/TreeBuild.lean); the
theorems are its instances.
-/
import Proofs.C07TreeInvBase
import Proofs.Lemmas.TreeBuild
namespace Flatland.C07Tree.Proofs.Inv
open Flatland.Tree Flatland.PyList Flatland.C08 Flatland.C07Tree
open Flatland.C09.Proofs (WellNumbered wn_defaultSlotsWith)
open Flatland.C08.Proofs (freshKids setNode_shape fromDefaults_shape setDefault_shape)
open Flatland.C08.Spec (argElems)

theorem notList_of_map {s : Schema} (h : s.kind = .dict ∨ s.kind = .sparse) : s.kind ≠ .list := by
  rcases h with h | h <;> rw [h] <;> decide

theorem defaultSlotsWith_dps (L : Prop) (mk : Nat → SetR) (hmk : ∀ nx, dps (mk nx).node = true) (lst : Nat) :
    ∀ (k idx next : Nat), KidsDP L (defaultSlotsWith mk lst k idx next).1 :=
  defaultSlotsWith_forall mk lst (fun _ _ _ => item_mkSlot _ _ _ _ _ (hmk _))

theorem dpsElem : ElemInv (fun n => dps n = true) where
  scalar _ _ h := (dps_ni _ _ _ _).trans h
  leaf i s := dps_mk_nil i s
  append next _ hn hw := appendEl_dps _ _ hn hw next
  fields hk h := (dps_mk_notList _ _ _ (notList_of_map hk)).mpr (fun k hk' => (h k hk').2)
  dictDefault := fun {i s ks} next hk h ih => by
    have hm : s.kind ≠ .list := by rw [hk]; decide
    rw [dps_mk_notList _ _ _ hm] at h ⊢
    exact setDefaultKids_forall _ ih next h
  withParent p h := (dps_withParent _ p).trans h
  slots mk _ _ _ _ h :=
    (dps_mk_iff _ _ _).mpr ⟨fun _ => wn_defaultSlotsWith _ _ _ _, defaultSlotsWith_dps _ mk (fun nx => (h nx).2) _ _ _ _⟩

theorem blank_dps : ∀ (s : Schema) (parent : Option Nat) (key : Str) (next : Nat),
    dps (blank s parent key next).1 = true :=
  dpsElem.blank

theorem blankFields_dps (subs : List Schema) (pid : Nat) (b : Bool) (next : Nat) :
    ∀ k ∈ (blankFields subs pid b next).1, dps k = true :=
  blankFields_forall subs pid b (fun f _ n1 => blank_dps f (some pid) f.key n1) next

theorem setNode_dps : ∀ (raw : Raw) (n : Node) (pol : Option Policy) (next : Nat), dps n = true →
    dps (setNode n raw pol next).node = true :=
  dpsElem.setNode

theorem buildItems_dps (xs : List Raw) (m : Schema) (next : Nat) : ∀ v ∈ (buildItems m xs next).1, dps v = true :=
  buildItems_forall m xs (fun x _ nx => setNode_dps x _ none _ (blank_dps m none [] nx)) next

theorem setPairs_dps : ∀ (kvs : List (Str × Raw)) (pid : Nat) (subs : List Schema) (kids : List Node) (next : Nat),
    (∀ k ∈ kids, dps k = true) → ∀ k ∈ (setPairs pid subs kids kvs next).1, dps k = true :=
  fun kvs pid subs => setPairs_forall pid subs kvs (fun p _ c nx hc => setNode_dps p.2 c none nx hc)
    (fun p _ f nx => setNode_dps p.2 _ none _ (by rw [dps_withParent]; exact blank_dps f none p.1 nx))

theorem construct_dps (s : Schema) (raw : Raw) (parent : Option Nat) (key : Str) (next : Nat) (e : Node) (n1 : Nat)
    (h : construct s raw parent key next = (.ok e, n1)) : dps e = true :=
  dpsElem.construct s raw parent key next e n1 h

def ArgDP : Arg → Prop
  | .plain _ => True
  | .elem e => dps e = true

theorem argElems_dps {a : Arg} (h : ArgDP a) : ∀ e ∈ argElems a, dps e = true := by
  cases a with
  | plain r => intro e he; cases he
  | elem e' => intro e he; rw [List.mem_singleton.mp he]; exact h

theorem fromDefaults_dps : ∀ (s : Schema) (parent : Option Nat) (key : Str) (next : Nat),
    dps (fromDefaults s parent key next).node = true :=
  dpsElem.fromDefaults

theorem defaultFields_dps (subs : List Schema) (pid : Nat) (b : Bool) (next : Nat) :
    ∀ k ∈ (defaultFields subs pid b next).1, dps k = true :=
  defaultFields_forall subs pid b (fun f _ _ => fromDefaults_dps f _ _ _) (fun _ _ _ => blank_dps _ _ _ _) next

theorem setDefault_dps : ∀ (n : Node) (next : Nat), dps n = true → dps (setDefault n next).node = true :=
  dpsElem.setDefault

theorem setDefaultKids_dps : ∀ (kids : List Node) (next : Nat), (∀ k ∈ kids, dps k = true) →
    ∀ k ∈ (setDefaultKids kids next).1, dps k = true :=
  fun kids => setDefaultKids_forall kids (fun k _ nx hk => setDefault_dps k nx hk)

end Flatland.C07Tree.Proofs.Inv
