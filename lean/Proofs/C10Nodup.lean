/-
C10, third part — a mapping never holds two members under one key.

The model keeps the underlying `dict` of a Mapping as an insertion-ordered LIST of children; that
two children never share a key is therefore not by construction (as it is for a Python dict) but an
invariant of the calls: `__setitem__` / `update` / `|=` / `set` / `setdefault` append a member only
after `dict.__contains__` answered False, and replace in place otherwise; `_reset()` builds one
child per (distinct) field name; `del` / `pop` only remove (`KidsEdit.nodup`).
-/
import Proofs.C10Keys
namespace Flatland.C10.Proofs
open Flatland.Tree Flatland.PyList Flatland.C10 Flatland.C10.Spec
open Flatland.C08.Proofs (mapStep_shape)

def KeysNodup (n : Node) : Prop := (keys n).Nodup

abbrev ND (kids : List Node) : Prop := (kids.map Node.key).Nodup

theorem nodup_snoc {α : Type} {l : List α} {a : α} (h : l.Nodup) (ha : a ∉ l) : (l ++ [a]).Nodup := by
  refine List.nodup_append.2 ⟨h, List.nodup_cons.2 ⟨List.not_mem_nil, List.nodup_nil⟩, fun x hx y hy e => ?_⟩
  rw [List.mem_singleton.1 hy] at e; exact ha (e ▸ hx)

theorem ND.append {kids : List Node} {new : Node} (h : ND kids) (hn : new.key ∉ kids.map Node.key) :
    ND (kids ++ [new]) := by
  unfold ND; rw [List.map_append]; exact nodup_snoc h hn

theorem ND.replace {kids : List Node} {k : Str} {new : Node} (h : ND kids) (hn : new.key = k) :
    ND (replaceKid kids k new) := by
  unfold ND; rw [replaceKid_keys kids k new hn]; exact h

theorem ND.erase {kids : List Node} (h : ND kids) (k : Str) : ND (eraseKey kids k) := by
  unfold ND eraseKey
  exact List.Nodup.sublist (List.Sublist.map _ List.filter_sublist) h

theorem nodup_filter_keys {subs : List Schema} (h : (subs.map Schema.key).Nodup) (p : Schema → Bool) :
    ((subs.filter p).map Schema.key).Nodup :=
  List.Nodup.sublist (List.Sublist.map _ List.filter_sublist) h

theorem IsReset.nodup {pid : Nat} {s : Schema} {ks : List Node} (h : IsReset pid s ks)
    (hf : (s.subs.map Schema.key).Nodup) : ND ks := by
  rcases h with ⟨b, _, hfr⟩ | ⟨rfl, _⟩
  · unfold ND; rw [hfr.2]; exact nodup_filter_keys hf _
  · exact List.nodup_nil

theorem KidsEdit.nodup {pid : Nat} {s : Schema} {E : Str → Node → Prop} {ks ks' : List Node}
    (h : KidsEdit pid s E ks ks') (hf : (s.subs.map Schema.key).Nodup) : ND ks → ND ks' := by
  induction h with
  | refl => exact id
  | hdrs h => intro hnd; unfold ND; rw [keys_of_map_hdr h]; exact hnd
  | reset h => exact fun _ => h.nodup hf
  | add hk _ hx => intro hnd; exact hnd.append (by rw [hx.key]; exact hk)
  | put hc hx =>
    intro hnd
    refine hnd.replace ?_
    rcases hx with hx | ⟨f, _, hx⟩
    · rw [key_of_hdr hx]; exact (findKid_some hc).2
    · exact hx.key
  | erase => intro hnd; exact hnd.erase _
  | trans _ _ ih1 ih2 => exact fun hnd => ih2 (ih1 hnd)

/-- no hypothesis on the arguments: the key under which an Element is stored is the key of the call -/
theorem opE_true (op : MapOp) : OpE (fun _ _ => True) op := by
  cases op with
  | setitem k a => cases a <;> trivial
  | updateArgs kvs => intro p _; cases p.2 <;> trivial
  | _ => trivial

theorem mapStep_nodup (n : Node) (hk : MapKind n) (hnd : FieldsNodup n) (h : ND n.kids) (op : MapOp) (next : Nat) :
    (mapStep n op next).node.sch = n.sch ∧ ND (mapStep n op next).node.kids :=
  ⟨sch_of_hdr (mapStep_shape n op next).hdr, (mapStep_edit n hk hnd op (opE_true op) next).nodup hnd h⟩

/-- A freshly constructed Dict / SparseDict (`schema()`: `_reset()` has run) holds at
    most one member per key. -/
theorem nodup_init (s : Schema) (hk : s.kind = .dict ∨ s.kind = .sparse) (hnd : (s.subs.map Schema.key).Nodup)
    (parent : Option Nat) (key : Str) (next : Nat) : KeysNodup (blank s parent key next).1 :=
  (blank_isReset s hk parent key next).nodup (by rw [(blank_ni s parent key next).2]; exact hnd)

/-- Every dict-protocol call — item assignment of a plain value or of ANY Element,
    del, pop, popitem, clear, update in every form, `|=`, setdefault, get, set under every policy,
    set_default; accepted or raising — leaves at most one member per key.  No hypothesis on the
    arguments. -/
theorem nodup_step {n : Node} (h : KeysNodup n) (hk : MapKind n) (hnd : FieldsNodup n) (op : MapOp) (next : Nat) :
    KeysNodup (mapStep n op next).node :=
  (mapStep_nodup n hk hnd h op next).2

theorem nodup_run (ops : List MapOp) :
    ∀ (n : Node) (next : Nat), KeysNodup n → MapKind n → FieldsNodup n →
      (run ⟨n, next⟩ ops).node.sch = n.sch ∧ KeysNodup (run ⟨n, next⟩ ops).node :=
  fun n next h hk hnd =>
    ⟨sch_of_hdr (run_hdr ops n next), (run_edit ops n next hk hnd (fun op _ => opE_true op)).nodup hnd h⟩

theorem blank_run_nodup (ops : List MapOp) (s : Schema) (hk : s.kind = .dict ∨ s.kind = .sparse)
    (hnd : (s.subs.map Schema.key).Nodup) (parent : Option Nat) (key : Str) (next next' : Nat) :
    (keys (run ⟨(blank s parent key next).1, next'⟩ ops).node).Nodup := by
  have hs : (blank s parent key next).1.sch = s := (blank_ni s parent key next).2
  exact (nodup_run ops _ next' (nodup_init s hk hnd parent key next)
    (by unfold MapKind Node.kind; rw [hs]; exact hk) (by unfold FieldsNodup; rw [hs]; exact hnd)).2

/-- Along every history of calls — whatever their arguments — a SparseDict
    never holds two members under one key.  (With `sparse_keys`: its key list is a duplicate-free
    sub-multiset of the declared names that contains the required ones.) -/
theorem sparse_keys_nodup (ops : List MapOp) (s : Schema) (hsp : s.kind = .sparse)
    (hnd : (s.subs.map Schema.key).Nodup) (parent : Option Nat) (key : Str) (next next' : Nat) :
    (keys (run ⟨(blank s parent key next).1, next'⟩ ops).node).Nodup :=
  blank_run_nodup ops s (Or.inr hsp) hnd parent key next next'

/-- the same for a Dict, without `ArgExact` (`keys_exact_nodup` needs it because it goes through `keys_exact`) -/
theorem dict_keys_nodup (ops : List MapOp) (s : Schema) (hd : s.kind = .dict)
    (hnd : (s.subs.map Schema.key).Nodup) (parent : Option Nat) (key : Str) (next next' : Nat) :
    (keys (run ⟨(blank s parent key next).1, next'⟩ ops).node).Nodup :=
  blank_run_nodup ops s (Or.inl hd) hnd parent key next next'

/-- The clause of C08's `kok` that speaks about the node itself ("a mapping node
    has unique keys", `kok_iff` in Proofs/Lemmas/C08Ids.lean) holds at the root of every state a
    history reaches from a fresh mapping: on reachable trees this part of `hstep_idinv`'s `IdInv.keys`
    hypothesis is a consequence of the calls, not an assumption. -/
theorem kok_root_clause (ops : List MapOp) (s : Schema) (hk : s.kind = .dict ∨ s.kind = .sparse)
    (hnd : (s.subs.map Schema.key).Nodup) (next next' : Nat) :
    let r := (run ⟨(blank s none [] next).1, next'⟩ ops).node
    (r.kind = .dict ∨ r.kind = .sparse) → (r.kids.map Node.key).Nodup :=
  fun _ => blank_run_nodup ops s hk hnd none [] next next'

/-! ### `FieldsNodup` is exactly the hypothesis

`keys_exact`, `keys_exact_nodup`, `sparse_keys`, `nodup_*`, `compound_keys_exact` all assume `FieldsNodup`
("the class declares every field name once").  `Dict.of` enforces it; the declarative route
(`class X(Schema)` with multiple inheritance) is supposed to produce it ("each name appearing once").  It
cannot be dropped: a class declaring a name twice has, in the model, a fresh instance with two members under
that key (`nodup_init_iff`) — where a Python dict silently keeps the last one, so that the instance holds
fewer members than declared fields and a member of the wrong field class.  The runner reports
`fieldsNodupB` of the declaration it was given next to every trace, the harness reports the same of the real
class: a class with duplicate names is a correspondence failure even before any member is looked at. -/

theorem fieldsNodupB_iff (n : Node) : fieldsNodupB n.sch = true ↔ FieldsNodup n := by
  simp [fieldsNodupB, FieldsNodup]

/-- For a Dict class the fresh instance has pairwise distinct keys IF AND ONLY IF the
    class declares every name once: `FieldsNodup` is necessary, not only sufficient. -/
theorem nodup_init_iff (s : Schema) (hd : s.kind = .dict) (parent : Option Nat) (key : Str) (next : Nat) :
    KeysNodup (blank s parent key next).1 ↔ (s.subs.map Schema.key).Nodup := by
  have hs : (blank s parent key next).1.sch = s := (blank_ni s parent key next).2
  have hkind : (blank s parent key next).1.kind = .dict := by unfold Node.kind; rw [hs]; exact hd
  have hk := (mapinv_init s (Or.inl hd) parent key next).dense hkind
  rw [hs] at hk
  unfold KeysNodup
  rw [hk]

/-- `field_schema = [label, ident:Integer, ident:String, extra]`: the name `ident` declared twice -/
def exDupClass : Schema :=
  .mk { cid := 1, kind := .dict } .none
    [.mk { cid := 4, kind := .string, name := some ['l'] } .none [],
     .mk { cid := 3, kind := .integer, name := some ['i'] } .none [],
     .mk { cid := 2, kind := .string, name := some ['i'] } .none [],
     .mk { cid := 5, kind := .string, name := some ['e'] } .none []]

example : fieldsNodupB exDupClass = false := by decide
example : ¬ KeysNodup (blank exDupClass none [] 1).1 :=
  fun h => absurd ((nodup_init_iff exDupClass rfl none [] 1).mp h) (by decide)

/-- the SparseDict history of `C10Keys` (`s['b'] = 5; s.update({'a': 'v'}, c=1); del s['b']; …; s |= [...]; s.set(...)`)
    followed by the same key again through every adding route -/
def exDupHist : List MapOp :=
  exSparseHist ++ [.setitem ['b'] (.plain (.int 1)), .setitem ['b'] (.elem exOwned),
    .updateArgs [(['b'], .plain (.int 2)), (['a'], .elem exOwned), (['a'], .elem exRenamed)],
    .ior (.pairs [(['b'], .int 1), (['b'], .int 2)]), .setdefault ['b'] (.int 9),
    .set (.pairs [(['b'], .int 1), (['a'], .str ['x']), (['b'], .int 3)]) (some (some .duck))]

example : (keys (run ⟨exSparse2, 10⟩ exDupHist).node).Nodup :=
  sparse_keys_nodup exDupHist exSR2 rfl (by decide) none [] 1 10

/-- … and the keys are really there (the history is not a chain of rejections) -/
example : keys (run ⟨exSparse2, 10⟩ exDupHist).node = [['a'], ['b']] := by decide +kernel

/-- why this is not by construction: the children are a LIST; a `__setitem__` that appended without
    looking would give two members under 'b' -/
example : ¬ ND ((run ⟨exSparse2, 10⟩ [.setitem ['b'] (.plain (.int 1))]).node.kids ++
    [(blank (exSR2.subs.getD 1 default) (some 1) ['b'] 50).1]) := by decide +kernel

end Flatland.C10.Proofs
