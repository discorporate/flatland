/-
C16 — validation messages expand completely under every lookup source and locale: the model of
`flatland.validation.base` (`Flatland/C16.lean`) against the documented expansion (`Flatland/Spec/C16.lean`),
and the catalogue facts evaluated on the tables `harness/extractors/c16.py` regenerates.
`harness/props/c16.py` audits the theorems of this file by name.
-/
import Flatland.C16
import Flatland.C16.Tables
import Flatland.Spec.C16
import Flatland.Generated.C16Catalogues
import Proofs.Lemmas.ExceptBasic
namespace Flatland.C16.Proofs
open Flatland.C16 Flatland.C16.Spec Flatland.Generated.C16

/-- the lookup targets `expand_message` hands to `as_format_mapping`
    (`extra_format_args, state, self, element`, `None` dropped) -/
def targetsOf (kw : List (Str × Val)) (state : Option Target) (validator element : Target) :
    List Target :=
  [kwTarget kw] ++ state.toList ++ [validator, element]

def sourcesOf (kw : List (Str × Val)) (state : Option Target) (validator element : Target) :
    Sources :=
  { kwargs := fun k => kw.lookup k
    stateItems := fun k => match state with | some s => s.item k | none => none
    stateAttrs := fun k => match state with | some s => s.attr k | none => none
    validatorAttrs := validator.attr
    elementAttrs := element.attr }

theorem get_eq_or (t : Target) (k : Str) : t.get k = (t.item k).or (t.attr k) := by
  unfold Target.get; cases t.item k <;> rfl

theorem kwTarget_get (kw : List (Str × Val)) (k : Str) (hk : (kwTarget kw).attr k = none) :
    (kwTarget kw).get k = kw.lookup k := by
  rw [get_eq_or, hk, Option.or_none]; rfl

theorem lookup_methodAttrs_none (owner : Str) (names : List Str) (k : Str) (h : k ∉ names) :
    (methodAttrs owner names).lookup k = none :=
  List.lookup_eq_none_iff.2 fun p hp => by
    obtain ⟨n, hn, rfl⟩ := List.mem_map.1 hp
    exact bne_iff_ne.2 fun e => h (e ▸ hn)

theorem kwTarget_attr_none (kw : List (Str × Val)) (k : Str) (h : k ∉ dictMethodNames) :
    (kwTarget kw).attr k = none :=
  lookup_methodAttrs_none _ _ k h

theorem rawLookup_isSome {targets : List Target} {t : Target} {k : Str} (ht : t ∈ targets)
    (h : (t.get k).isSome = true) : (rawLookup targets k).isSome = true :=
  List.findSome?_isSome_iff.2 ⟨t, ht, h⟩

theorem findSome?_cons_or {α β} (f : α → Option β) (a : α) (l : List α) :
    (a :: l).findSome? f = (f a).or (l.findSome? f) := by
  rw [List.findSome?_cons]; cases f a <;> rfl

theorem findSome_first {α β} (l : List α) (f : α → Option β) (i : Nat) (a : α) (b : β)
    (hi : l[i]? = some a) (hb : f a = some b)
    (hbefore : ∀ j x, j < i → l[j]? = some x → f x = none) :
    l.findSome? f = some b := by
  obtain ⟨h, rfl⟩ := List.getElem?_eq_some_iff.1 hi
  refine List.findSome?_eq_some_iff.2 ⟨l.take i, l[i], l.drop (i + 1),
    by rw [← List.drop_eq_getElem_cons h, List.take_append_drop], hb, fun x hx => ?_⟩
  obtain ⟨j, hj, rfl⟩ := List.mem_take_iff_getElem.1 hx
  exact hbefore j _ (by omega) (List.getElem?_eq_getElem _)

/-- the model's target loop (item-then-attribute on each of kwargs, state,
    validator, element) returns the value of the first of the five documented sources that
    defines the key — provided the validator and the element do not answer `[key]` themselves
    (KF-C16-a) and the key is not an attribute of the keyword dict itself (KF-C16-d). -/
theorem priority_partial (kw : List (Str × Val)) (state : Option Target)
    (validator element : Target) (k : Str)
    (hk : (kwTarget kw).attr k = none)
    (hv : validator.item k = none) (he : element.item k = none) :
    rawLookup (targetsOf kw state validator element) k =
      Spec.lookup (sourcesOf kw state validator element) k := by
  have hkw : (kwTarget kw).item k = kw.lookup k := rfl
  -- both sides are "first defined", an `or`-chain over the eight slots item/attribute of each
  -- target, resp. over the five sources: the same chain once the three empty slots are dropped
  cases state <;>
    simp only [rawLookup, targetsOf, Spec.lookup, Sources.ordered, sourcesOf, Option.toList,
      List.cons_append, List.nil_append, List.append_nil, findSome?_cons_or, List.findSome?_nil,
      get_eq_or, hk, hv, he, hkw, Option.or_none, Option.none_or, Option.or_assoc]

/-- non-vacuity: a state that defines the key both ways, a validator and an element that define
    it too — the state *item* wins over everything but the keywords -/
example :
    let k := "k".toList
    let st : Target := { subscriptable := true, items := [(k, .int 2)], attrs := [(k, .int 3)] }
    let v : Target := { subscriptable := false, items := [], attrs := [(k, .int 4)] }
    let el : Target := { subscriptable := false, items := [], attrs := [(k, .int 5)] }
    rawLookup (targetsOf [] (some st) v el) k = some (.int 2) ∧
    Spec.lookup (sourcesOf [] (some st) v el) k = some (.int 2) := by decide +kernel

theorem priority_first_defined (s : Sources) (k : Str) (i : Nat) (src : Str → Option Val)
    (v : Val) (hi : s.ordered[i]? = some src) (hv : src k = some v)
    (hbefore : ∀ j src', j < i → s.ordered[j]? = some src' → src' k = none) :
    Spec.lookup s k = some v :=
  findSome_first s.ordered (fun src => src k) i src v hi hv hbefore

theorem priority_none_defined (s : Sources) (k : Str)
    (h : ∀ src ∈ s.ordered, src k = none) : Spec.lookup s k = none :=
  List.findSome?_eq_none_iff.2 h

/-- all 2⁵ definedness patterns of the five sources at once: the target loop of
    `as_format_mapping` returns the value of whichever documented source is the first to define
    the key -/
theorem priority_patterns (kw : List (Str × Val)) (state : Option Target)
    (validator element : Target) (k : Str)
    (hk : (kwTarget kw).attr k = none)
    (hv : validator.item k = none) (he : element.item k = none)
    (i : Nat) (src : Str → Option Val) (v : Val)
    (hi : (sourcesOf kw state validator element).ordered[i]? = some src) (hsrc : src k = some v)
    (hbefore : ∀ j src', j < i →
      (sourcesOf kw state validator element).ordered[j]? = some src' → src' k = none) :
    rawLookup (targetsOf kw state validator element) k = some v := by
  rw [priority_partial kw state validator element k hk hv he]
  exact priority_first_defined _ k i src v hi hsrc hbefore

/-- the full statement of the property's priority clause: no side condition on the element or
    on the key -/
def C16_Full : Prop :=
  ∀ (kw : List (Str × Val)) (state : Option Target) (validator element : Target) (k : Str),
    validator.item k = none →
    rawLookup (targetsOf kw state validator element) k =
      Spec.lookup (sourcesOf kw state validator element) k

/-- KF-C16-a: a Mapping element answers `element[key]` with a child element before its own
    attribute is looked at -/
theorem C16_full_fails : ¬ C16_Full := by
  intro h
  have := h [] none { subscriptable := false, items := [], attrs := [] }
    { subscriptable := true, items := [("label".toList, .elem "child".toList)],
      attrs := [("label".toList, .str "d".toList)] }
    "label".toList rfl
  revert this
  decide +kernel

/-- KF-C16-d: the keyword dict's own attributes (`items`, `keys`, `get` …) outrank the state,
    the validator and the element: a validator attribute called `items` is never seen -/
theorem C16_full_fails_kwargs : ¬ C16_Full := by
  intro h
  have := h [] none
    { subscriptable := false, items := [], attrs := [("items".toList, .str "VALIDATOR".toList)] }
    { subscriptable := false, items := [], attrs := [] }
    "items".toList rfl
  revert this
  decide +kernel

def trText (u : Option UTr) (t : Str) : Str := match u with | some f => f t | none => t
def trVal (u : Option UTr) (v : Val) : Val := match u with | some f => applyTr f v | none => v

theorem fmLookup_eq (targets : List Target) (u : Option UTr) (k : Str) :
    fmLookup targets u k =
      match rawLookup targets k with
      | none => .error .keyError
      | some v => .ok (trVal u v) := by
  unfold fmLookup trVal
  cases rawLookup targets k <;> cases u <;> rfl

def fmOf (u : Option UTr) (look : Str → Option Val) (k : Str) : Except Raise Val :=
  match look k with
  | none => .error .keyError
  | some v => .ok (trVal u v)

theorem fmLookup_fmOf (targets : List Target) (u : Option UTr) :
    fmLookup targets u = fmOf u (rawLookup targets) := funext (fmLookup_eq targets u)

/-- a format mapping fails with KeyError only, so resolving the count never raises -/
theorem resolveCount_eq (targets : List Target) (u : Option UTr) (nkey : Str) :
    resolveCount targets u nkey =
      .ok (match rawLookup targets nkey with
        | none => .str nkey
        | some v => coerceCount (trVal u v)) := by
  rw [resolveCount, fmLookup_eq]; cases rawLookup targets nkey <;> rfl

theorem isOne_int (i : Int) : isOne (.int i) = (some i == some (1 : Int)) := by
  by_cases hi : i = 1
  · subst hi; rfl
  · have : isOne (.int i) = false := by
      unfold isOne
      split
      · rename_i h1; cases h1; exact absurd rfl hi
      · rename_i h1; cases h1
      · rfl
    rw [this]
    symm
    simp [hi]

theorem isOne_coerce (v : Val) : isOne (coerceCount v) = (countOf v == some 1) := by
  cases v with
  | none => rfl
  | elem u => rfl
  | method o n => rfl
  | int i => exact isOne_int i
  | bool b => cases b <;> rfl
  | str s =>
    simp only [coerceCount, countOf]
    cases hp : parseInt s with
    | none => rfl
    | some i => exact isOne_int i

theorem chooseMessage_plural (e : Env) (u : Option UTr) (single plural nkey : Str)
    (hn : findTransformer e.nState e.nAnc e.nBuiltin = .ok none) :
    chooseMessage e u (.plural single plural nkey) =
      .ok (trText u (if useSingular ((rawLookup e.targets nkey).map (trVal u)) then single
        else plural)) := by
  simp only [chooseMessage, hn, resolveCount_eq, bind, Except.bind, pure, Except.pure]
  cases rawLookup e.targets nkey with
  | none => cases u <;> rfl
  | some v =>
    simp only [useSingular, Option.map, isOne_coerce]
    cases u <;> (simp only [trText]; split <;> simp_all)

/-- without an `ungettext`, the singular form is used exactly when the
    resolved (translated, `int()`-coerced) count equals 1 -/
theorem plural_choice (e : Env) (u : Option UTr) (single plural nkey : Str) (v : Val)
    (hn : findTransformer e.nState e.nAnc e.nBuiltin = .ok none)
    (hv : rawLookup e.targets nkey = some v) :
    chooseMessage e u (.plural single plural nkey) =
      .ok (trText u (if useSingular (some (trVal u v)) then single else plural)) := by
  rw [chooseMessage_plural e u single plural nkey hn, hv]; rfl

/-- a count key that no source defines: the key name itself is the count, so the plural form -/
theorem plural_missing_count (e : Env) (u : Option UTr) (single plural nkey : Str)
    (hn : findTransformer e.nState e.nAnc e.nBuiltin = .ok none)
    (hv : rawLookup e.targets nkey = none) :
    chooseMessage e u (.plural single plural nkey) = .ok (trText u plural) := by
  rw [chooseMessage_plural e u single plural nkey hn, hv]; rfl

theorem chooseMessage_ungettext (e : Env) (u : Option UTr) (g : NTr) (single plural nkey : Str)
    (hn : findTransformer e.nState e.nAnc e.nBuiltin = .ok (some g)) :
    chooseMessage e u (.plural single plural nkey) =
      g single plural (match rawLookup e.targets nkey with
        | none => .str nkey
        | some v => coerceCount (trVal u v)) := by
  simp only [chooseMessage, hn, resolveCount_eq, bind, Except.bind]

/-- with an `ungettext` the choice is delegated: it receives both forms and the coerced count -/
theorem ungettext_receives_count (e : Env) (u : Option UTr) (g : NTr)
    (single plural nkey : Str) (v : Val)
    (hn : findTransformer e.nState e.nAnc e.nBuiltin = .ok (some g))
    (hv : rawLookup e.targets nkey = some v) :
    chooseMessage e u (.plural single plural nkey) = g single plural (coerceCount (trVal u v)) := by
  rw [chooseMessage_ungettext e u g single plural nkey hn, hv]

example : coerceCount (.str " 1 ".toList) = .int 1 := by decide +kernel
example : coerceCount (.str "abc".toList) = .str "abc".toList ∧
    useSingular (some (.str "abc".toList)) = false := by decide +kernel
example : useSingular (some (.str "01".toList)) = true := by decide +kernel
example : useSingular (some (.bool true)) = true ∧ useSingular (some (.int 2)) = false := by decide +kernel

def slotOpt {α} : Slot α → Option (Option α)
  | .absent => none
  | .present v => some v

def itemOpt {α} : ItemSlot α → Option (Option α)
  | .found v => some v
  | _ => none

theorem searchAncestry_eq {α} (anc : List (AncSlots α)) :
    searchAncestry anc = (anc.map AncSlots.resolved).findSome? id := by
  induction anc with
  | nil => rfl
  | cons a rest ih =>
    simp only [searchAncestry, List.map_cons, List.findSome?, id]
    cases a.resolved with
    | none => simpa using ih
    | some f => rfl

/-- `find_transformer` returns the documented choice — state attribute,
    state item, element, nearest ancestor, builtins — for every kind of state (a state whose
    `[type]` raises TypeError/IndexError simply has no such item, since 3d5403b) -/
theorem findTransformer_eq_spec {α} (st : StateSlots α) (anc : List (AncSlots α))
    (b : Slot α) :
    findTransformer st anc b =
      .ok (Spec.transformer (slotOpt st.attr) (itemOpt st.item) (anc.map AncSlots.resolved)
        (slotOpt b)) := by
  unfold findTransformer Spec.transformer findI18n
  rw [searchAncestry_eq]
  cases hattr : st.attr with
  | present v => rfl
  | absent =>
    cases hitem : st.item with
    | found v => rfl
    | typeError | keyError | notSubscriptable =>
      simp only [slotOpt, itemOpt]
      cases (anc.map AncSlots.resolved).findSome? id <;> cases b <;> rfl

/-- the documented promise "any state that supports [index]": the search never raises -/
def C16_Transformer_Full : Prop :=
  ∀ (st : StateSlots UTr) (anc : List (AncSlots UTr)) (b : Slot UTr),
    ∃ t, findTransformer st anc b = .ok t

/-- it holds, in particular for a list / tuple / str state (D-C16-1, fixed in the library by 3d5403b) -/
theorem transformer_full : C16_Transformer_Full :=
  fun st anc b => ⟨_, findTransformer_eq_spec st anc b⟩

example : findTransformer (α := UTr) ⟨.absent, .typeError⟩ [] .absent = .ok none := rfl

/-- the nearest ancestor wins; an instance attribute (even `None`) shadows the class's -/
example :
    let f : UTr := fun s => 'A' :: s
    let g : UTr := fun s => 'B' :: s
    (searchAncestry [⟨.present none, some f⟩, ⟨.absent, some g⟩, ⟨.absent, some f⟩]).map
      (fun t => t []) = some ['B'] := by decide +kernel

theorem chooseMessage_plain (e : Env) (u : Option UTr) (t : Str) :
    chooseMessage e u (.plain t) = .ok (trText u t) := by
  cases u <;> rfl

theorem expandMessage_ok (e : Env) (m : Msg) (s : Str) :
    expandMessage e m = .ok s ↔
      ∃ u text, findTransformer e.uState e.uAnc e.uBuiltin = .ok u ∧
        chooseMessage e u m = .ok text ∧ pyFormat text (fmLookup e.targets u) = .ok s := by
  unfold expandMessage
  simp only [Flatland.Ex.bind_eq_ok_iff]
  exact ⟨fun ⟨u, hu, text, hc, h⟩ => ⟨u, text, hu, hc, h⟩,
    fun ⟨u, text, hu, hc, h⟩ => ⟨u, hu, text, hc, h⟩⟩

theorem expandMessage_plain (e : Env) (u : Option UTr) (t : Str)
    (hu : findTransformer e.uState e.uAnc e.uBuiltin = .ok u) :
    expandMessage e (.plain t) = pyFormat (trText u t) (fmLookup e.targets u) := by
  simp only [expandMessage, hu, bind, Except.bind, chooseMessage_plain]

theorem expandMessage_plural (e : Env) (u : Option UTr) (single plural nkey : Str)
    (hu : findTransformer e.uState e.uAnc e.uBuiltin = .ok u)
    (hn : findTransformer e.nState e.nAnc e.nBuiltin = .ok none) :
    expandMessage e (.plural single plural nkey) =
      expandMessage e (.plain (if useSingular ((rawLookup e.targets nkey).map (trVal u)) then single
        else plural)) := by
  simp only [expandMessage, hu, bind, Except.bind, chooseMessage_plural e u single plural nkey hn,
    chooseMessage_plain]

def Msg.forms : Msg → List Str
  | .plain t => [t]
  | .plural s p _ => [s, p]

theorem expandMessage_total (e : Env) (u : Option UTr) (m : Msg)
    (hu : findTransformer e.uState e.uAnc e.uBuiltin = .ok u)
    (hn : findTransformer e.nState e.nAnc e.nBuiltin = .ok none)
    (h : ∀ f ∈ Msg.forms m, ∃ s, pyFormat (trText u f) (fmLookup e.targets u) = .ok s) :
    ∃ s, expandMessage e m = .ok s := by
  cases m with
  | plain t => rw [expandMessage_plain e u t hu]; exact h t List.mem_cons_self
  | plural s p k =>
    rw [expandMessage_plural e u s p k hu hn, expandMessage_plain e u _ hu]
    split
    · exact h s List.mem_cons_self
    · exact h p (.tail _ List.mem_cons_self)

theorem noteError_eq (e : Env) (errors : List Str) (m : Msg) :
    noteError e errors m =
      if m.truthy then addError errors <$> expandMessage e m else .ok errors := by
  unfold noteError
  cases m.truthy
  · rfl
  · cases expandMessage e m <;> rfl

/-- for every message (plain or plural triple, with or without an
    `ungettext`) the text chosen by `chooseMessage` under the translator `u` that
    `find_transformer` returned is what gets formatted, and every substituted value passes
    through that same `u`; for a plain message the chosen text is `u` applied to the message. -/
theorem translator_applied (e : Env) (m : Msg) (s : Str) (h : expandMessage e m = .ok s) :
    ∃ u text, findTransformer e.uState e.uAnc e.uBuiltin = .ok u ∧
      chooseMessage e u m = .ok text ∧
      (∀ t, m = .plain t → text = trText u t) ∧
      pyFormat text (fun k => match rawLookup e.targets k with
        | none => .error .keyError
        | some v => .ok (trVal u v)) = .ok s := by
  obtain ⟨u, text, hu, hc, h⟩ := (expandMessage_ok e m s).1 h
  refine ⟨u, text, hu, hc, ?_, ?_⟩
  · intro t ht
    subst ht
    rw [chooseMessage_plain] at hc
    cases hc; rfl
  · rw [fmLookup_fmOf] at h; exact h

def expansion (val : Str → Val) : List Seg → Str
  | [] => []
  | .ch c :: r => c :: expansion val r
  | .ph k :: r => pyStr (val k) ++ expansion val r

/-- `look'` is any lookup that agrees with `look` on the placeholders: the documented one, in
    `render_ok_iff_substitute`. -/
theorem render_fm (u : Option UTr) (look look' : Str → Option Val) (segs : List Seg)
    (hl : ∀ k ∈ placeholdersOf segs, look k = look' k) :
    render (fmOf u look) segs =
      if (placeholdersOf segs).all (fun k => (look' k).isSome) then
        .ok (expansion (fun k => trVal u ((look' k).getD .none)) segs)
      else .error .keyError := by
  induction segs with
  | nil => rfl
  | cons seg rest ih =>
    cases seg with
    | ch c =>
      simp only [render, placeholdersOf, expansion, ih hl]
      by_cases h : (placeholdersOf rest).all (fun k => (look' k).isSome) = true
      · simp only [h, if_true]; rfl
      · simp only [h]; rfl
    | ph k =>
      have ih := ih fun k' hk' => hl k' (List.mem_cons_of_mem _ hk')
      cases hk : look' k <;>
        simp only [render, placeholdersOf, expansion, List.all_cons, fmOf, hl k List.mem_cons_self,
          hk, ih, Option.isSome_none, Option.isSome_some, Bool.false_and, Bool.true_and,
          Option.getD_some, Bool.false_eq_true, if_false]
      · rfl
      · by_cases h : (placeholdersOf rest).all (fun k => (look' k).isSome) = true
        · simp only [h, if_true]; rfl
        · simp only [h]; rfl

theorem substitute_eq (u : Option UTr) (src : Sources) (segs : List Seg) :
    Spec.substitute u src segs = (render (fmOf u (Spec.lookup src)) segs).toOption := by
  induction segs with
  | nil => rfl
  | cons seg rest ih =>
    cases seg with
    | ch c =>
      simp only [Spec.substitute, render, ih]
      cases render (fmOf u (Spec.lookup src)) rest <;> rfl
    | ph k =>
      simp only [Spec.substitute, render, ih, fmOf]
      cases Spec.lookup src k with
      | none => rfl
      | some v => cases render (fmOf u (Spec.lookup src)) rest <;> cases u <;> rfl

theorem render_ok_iff_substitute (targets : List Target) (u : Option UTr) (src : Sources)
    (segs : List Seg)
    (hl : ∀ k ∈ placeholdersOf segs, rawLookup targets k = Spec.lookup src k) (s : Str) :
    render (fmLookup targets u) segs = .ok s ↔ Spec.substitute u src segs = some s := by
  rw [substitute_eq, fmLookup_fmOf, render_fm u _ _ segs hl, render_fm u _ _ segs fun _ _ => rfl]
  split <;> simp [Except.toOption]

theorem render_ok_expansion (targets : List Target) (u : Option UTr) (segs : List Seg) (s : Str) :
    render (fmLookup targets u) segs = .ok s ↔
      (∀ k ∈ placeholdersOf segs, (rawLookup targets k).isSome = true) ∧
      s = expansion (fun k => trVal u ((rawLookup targets k).getD .none)) segs := by
  rw [fmLookup_fmOf, render_fm u _ _ segs fun _ _ => rfl, ← List.all_eq_true]
  split <;> simp [*, eq_comm]

theorem pyFormat_ok (tmpl : Str) (m : Str → Except Raise Val) (s : Str) :
    pyFormat tmpl m = .ok s ↔ ∃ segs, parseFmt tmpl = .ok segs ∧ render m segs = .ok s := by
  unfold pyFormat parseFmt
  cases scanFmt tmpl with
  | mk segs err =>
    cases err with
    | none => cases hr : render m segs <;> simp [hr]
    | some r => cases hr : render m segs <;> simp [hr]

theorem placeholders_of_parse {f : Str} {segs : List Seg} (h : parseFmt f = .ok segs) :
    placeholders f = placeholdersOf segs := by
  simp only [placeholders, h]

theorem pyFormat_ok_iff_substitute (targets : List Target) (u : Option UTr) (src : Sources)
    (text : Str) (hl : ∀ k ∈ placeholders text, rawLookup targets k = Spec.lookup src k)
    (s : Str) :
    pyFormat text (fmLookup targets u) = .ok s ↔
      (match parseFmt text with
       | .ok segs => Spec.substitute u src segs
       | .error _ => none) = some s := by
  rw [pyFormat_ok]
  cases hp : parseFmt text with
  | error r => simp
  | ok segs =>
    rw [placeholders_of_parse hp] at hl
    simp only [Except.ok.injEq, exists_eq_left', render_ok_iff_substitute targets u src segs hl]

/-- a key for which the model's lookup is the documented one: not an attribute of the keyword
    dict (KF-C16-d), not answered by `validator[key]` or `element[key]` (KF-C16-a) -/
def KeyInScope (kw : List (Str × Val)) (validator element : Target) (k : Str) : Prop :=
  (kwTarget kw).attr k = none ∧ validator.item k = none ∧ element.item k = none

/-- model against specification, plain messages: with the documented translator `u`, the model's
    `expand_message` produces exactly the documented expansion (every key the translated
    message uses being in scope) -/
theorem expand_plain_refines (e : Env) (kw : List (Str × Val)) (state : Option Target)
    (validator element : Target) (u : Option UTr) (t s : Str)
    (ht : e.targets = targetsOf kw state validator element)
    (hkeys : ∀ k ∈ placeholders (trText u t), KeyInScope kw validator element k)
    (hu : findTransformer e.uState e.uAnc e.uBuiltin = .ok u) :
    expandMessage e (.plain t) = .ok s ↔
      Spec.expandPlain u (sourcesOf kw state validator element) t = some s := by
  rw [expandMessage_plain e u t hu]
  exact pyFormat_ok_iff_substitute e.targets u (sourcesOf kw state validator element) (trText u t)
    (fun k hk => by
      rw [ht]
      exact priority_partial kw state validator element k (hkeys k hk).1 (hkeys k hk).2.1
        (hkeys k hk).2.2) s

/-- model against specification, plural triples (no `ungettext`; any count, number or not) -/
theorem expand_plural_refines (e : Env) (kw : List (Str × Val)) (state : Option Target)
    (validator element : Target) (u : Option UTr) (single plural nkey s : Str)
    (ht : e.targets = targetsOf kw state validator element)
    (hcount : KeyInScope kw validator element nkey)
    (hkeysS : ∀ k ∈ placeholders (trText u single), KeyInScope kw validator element k)
    (hkeysP : ∀ k ∈ placeholders (trText u plural), KeyInScope kw validator element k)
    (hu : findTransformer e.uState e.uAnc e.uBuiltin = .ok u)
    (hn : findTransformer e.nState e.nAnc e.nBuiltin = .ok none) :
    expandMessage e (.plural single plural nkey) = .ok s ↔
      Spec.expandPlural u (sourcesOf kw state validator element) single plural nkey = some s := by
  rw [expandMessage_plural e u single plural nkey hu hn, ht,
    priority_partial kw state validator element nkey hcount.1 hcount.2.1 hcount.2.2]
  refine expand_plain_refines e kw state validator element u _ s ht (fun k hk => ?_) hu
  split at hk
  · exact hkeysS k hk
  · exact hkeysP k hk

/-- a well-formed template all of whose placeholders are available expands
    without error, and the result is the template with every `%(key)s` replaced by the text of
    its (translated) value and every `%%` by `%` — no placeholder is left -/
theorem expand_total (tmpl : Str) (segs : List Seg) (targets : List Target) (u : Option UTr)
    (hp : parseFmt tmpl = .ok segs)
    (h : ∀ k ∈ placeholdersOf segs, (rawLookup targets k).isSome = true) :
    pyFormat tmpl (fmLookup targets u) =
      .ok (expansion (fun k => trVal u ((rawLookup targets k).getD .none)) segs) :=
  (pyFormat_ok _ _ _).2 ⟨segs, hp, (render_ok_expansion targets u segs _).2 ⟨h, rfl⟩⟩

theorem pyFormat_ok_expansion (tmpl : Str) (targets : List Target) (u : Option UTr) (s : Str)
    (h : pyFormat tmpl (fmLookup targets u) = .ok s) :
    ∃ segs, parseFmt tmpl = .ok segs ∧
      (∀ k ∈ placeholdersOf segs, (rawLookup targets k).isSome = true) ∧
      s = expansion (fun k => trVal u ((rawLookup targets k).getD .none)) segs := by
  obtain ⟨segs, hp, hr⟩ := (pyFormat_ok _ _ _).1 h
  exact ⟨segs, hp, (render_ok_expansion targets u segs s).1 hr⟩

/-- no message is ever recorded half-expanded: whatever `expand_message` returns is the
    complete expansion of *the text `chooseMessage` chose for this message under the translator
    `find_transformer` returned* — that text is well-formed, and every one of its placeholders
    has been replaced by the (translated) value the lookup yields -/
theorem expandMessage_ok_expansion (e : Env) (m : Msg) (s : Str)
    (h : expandMessage e m = .ok s) :
    ∃ u text segs, findTransformer e.uState e.uAnc e.uBuiltin = .ok u ∧
      chooseMessage e u m = .ok text ∧ parseFmt text = .ok segs ∧
      (∀ k ∈ placeholdersOf segs, (rawLookup e.targets k).isSome = true) ∧
      s = expansion (fun k => trVal u ((rawLookup e.targets k).getD .none)) segs := by
  obtain ⟨u, text, hu, hc, h⟩ := (expandMessage_ok e m s).1 h
  obtain ⟨segs, hp, hdef, hs⟩ := pyFormat_ok_expansion text e.targets u s h
  exact ⟨u, text, segs, hu, hc, hp, hdef, hs⟩

example : (parseFmt "%(a)s: 100%%".toList).toOption =
    some [.ph ['a'], .ch ':', .ch ' ', .ch '1', .ch '0', .ch '0', .ch '%'] := by decide +kernel

/-- nothing of the template syntax survives: when the template has no `%%` escape and no value
    text contains `%`, the result contains no `%` at all (in particular no `%(`) -/
theorem no_percent_left (val : Str → Val) (segs : List Seg)
    (hlit : ∀ c, Seg.ch c ∈ segs → c ≠ '%')
    (hval : ∀ k ∈ placeholdersOf segs, '%' ∉ pyStr (val k)) :
    '%' ∉ expansion val segs := by
  induction segs with
  | nil => simp [expansion]
  | cons seg rest ih =>
    have ih' := ih (fun c hc => hlit c (by simp [hc]))
    cases seg with
    | ch c =>
      have hc := hlit c (by simp)
      simp only [expansion, List.mem_cons, not_or]
      exact ⟨fun h => hc h.symm, ih' (fun k hk => hval k (by simpa [placeholdersOf] using hk))⟩
    | ph k =>
      simp only [expansion, List.mem_append, not_or]
      exact ⟨hval k (by simp [placeholdersOf]),
        ih' (fun k' hk' => hval k' (by simp [placeholdersOf, hk']))⟩

theorem catalogues_listed : catalogues = [de, es, fr] := rfl

theorem catalogue_placeholders : ∀ c ∈ catalogues, c.placeholdersOK = true :=
  List.all_eq_true.1 (by decide +kernel)

theorem catalogue_complete : ∀ c ∈ catalogues, c.complete builtinMessages = true :=
  List.all_eq_true.1 (by decide +kernel)

theorem builtin_keys_supplied :
    ∀ m ∈ builtinMessages, m.keysSupplied elementAttrs = true :=
  List.all_eq_true.1 (by decide +kernel)

def noEscape (f : Str) : Bool :=
  match parseFmt f with
  | .ok segs => segs.all (fun s => s != .ch '%')
  | .error _ => false

/-- no built-in message and no translation uses the `%%` escape, so (values aside) an
    expanded message contains no `%` -/
theorem builtin_no_escape :
    (builtinMessages.all (fun m => m.forms.all noEscape) &&
     catalogues.all (fun c => c.entries.all (fun e => e.msgstr.all noEscape))) = true := by
  decide +kernel

theorem subset_mem {a b : List Str} (h : subset a b = true) : ∀ k ∈ a, k ∈ b := by
  intro k hk
  unfold subset at h
  rw [List.all_eq_true] at h
  have := h k hk
  simpa using this

theorem formKeysIn_segs (avail : List Str) (f : Str) (h : formKeysIn avail f = true) :
    ∃ segs, parseFmt f = .ok segs ∧ ∀ k ∈ placeholdersOf segs, k ∈ avail := by
  unfold formKeysIn at h
  cases hp : parseFmt f with
  | error r => rw [hp] at h; cases h
  | ok segs => rw [hp] at h; exact ⟨segs, rfl, subset_mem h⟩

theorem formKeysIn_expands (avail : List Str) (f : Str) (h : formKeysIn avail f = true)
    (targets : List Target) (u : Option UTr)
    (hd : ∀ k ∈ avail, (rawLookup targets k).isSome = true) :
    ∃ s, pyFormat f (fmLookup targets u) = .ok s := by
  obtain ⟨segs, hp, hk⟩ := formKeysIn_segs avail f h
  exact ⟨_, expand_total f segs targets u hp (fun k hk' => hd k (hk k hk'))⟩

/-- the placeholders of a built-in message are all supplied: each is a keyword of *every*
    `note_error` call site that can emit the message, a data attribute of the validator, or a
    data attribute of the element (regenerated from the source on every run) -/
theorem builtin_placeholders_in_scope (m : BuiltinMsg) (hm : m ∈ builtinMessages) (f : Str)
    (hf : f ∈ m.forms) : ∀ k ∈ placeholders f, k ∈ m.supplied ++ m.vattrs ++ elementAttrs := by
  have h := builtin_keys_supplied m hm
  rw [BuiltinMsg.keysSupplied, Bool.and_eq_true, List.all_eq_true] at h
  obtain ⟨segs, hp, hk⟩ := formKeysIn_segs _ f (h.1 f hf)
  rw [placeholders_of_parse hp]; exact hk

/-- every form of every built-in message is a well-formed template,
    and it expands without error in any lookup environment that resolves *its own
    placeholders* — whatever the translator -/
theorem builtin_expand_total (m : BuiltinMsg) (hm : m ∈ builtinMessages) (f : Str)
    (hf : f ∈ m.forms) (targets : List Target) (u : Option UTr)
    (hd : ∀ k ∈ placeholders f, (rawLookup targets k).isSome = true) :
    ∃ s, pyFormat f (fmLookup targets u) = .ok s := by
  have h := builtin_keys_supplied m hm
  rw [BuiltinMsg.keysSupplied, Bool.and_eq_true, List.all_eq_true] at h
  obtain ⟨segs, hp, _⟩ := formKeysIn_segs _ f (h.1 f hf)
  exact ⟨_, expand_total f segs targets u hp (fun k hk => hd k (placeholders_of_parse hp ▸ hk))⟩

theorem formOK_formKeysIn {s src : Str} {may : List Str} (h : formOK s src may = true) :
    formKeysIn may s = true := by
  unfold formOK at h
  unfold formKeysIn
  cases hp : parseFmt s <;> cases hq : parseFmt src <;> simp_all

theorem formOK_expands (s src : Str) (may : List Str) (h : formOK s src may = true)
    (targets : List Target) (u : Option UTr)
    (hd : ∀ k ∈ may, (rawLookup targets k).isSome = true) :
    ∃ out, pyFormat s (fmLookup targets u) = .ok out :=
  formKeysIn_expands may s (formOK_formKeysIn h) targets u hd

theorem entryFormsOK_get (e : PoEntry) (l : List Str) (j i : Nat) (s : Str)
    (h : entryFormsOK e j l = true) (hs : l[i]? = some s) :
    formOK s (e.sourceForm (j + i)) (e.mayKeys (j + i)) = true := by
  induction l generalizing j i with
  | nil => simp at hs
  | cons x xs ih =>
    simp only [entryFormsOK, Bool.and_eq_true] at h
    cases i with
    | zero => simp at hs; subst hs; simpa using h.1
    | succ i =>
      have := ih (j + 1) i h.2 (by simpa using hs)
      have e1 : j + 1 + i = j + (i + 1) := by omega
      rw [e1] at this
      exact this

/-- in every shipped catalogue, every msgstr[i] expands without
    error in any environment that resolves the keys it may use (those of the source form it
    translates; for the singular msgstr of a plural entry also those of the plural source
    form), under any translator -/
theorem catalogue_expand_total (c : Catalogue) (hc : c ∈ catalogues) (e : PoEntry)
    (he : e ∈ c.entries) (i : Nat) (s : Str) (hs : e.msgstr[i]? = some s)
    (targets : List Target) (u : Option UTr)
    (hd : ∀ k ∈ e.mayKeys i, (rawLookup targets k).isSome = true) :
    ∃ out, pyFormat s (fmLookup targets u) = .ok out := by
  have h := catalogue_placeholders c hc
  unfold Catalogue.placeholdersOK at h
  rw [List.all_eq_true] at h
  have h2 := h e he
  unfold PoEntry.placeholdersOK at h2
  have h3 := entryFormsOK_get e e.msgstr 0 i s h2 hs
  rw [Nat.zero_add] at h3
  exact formOK_expands s _ _ h3 targets u hd

theorem noEscape_no_percent (f : Str) (h : noEscape f = true) (targets : List Target)
    (u : Option UTr) (out : Str) (hout : pyFormat f (fmLookup targets u) = .ok out)
    (hval : ∀ k ∈ placeholders f, '%' ∉ pyStr (trVal u ((rawLookup targets k).getD .none))) :
    '%' ∉ out := by
  obtain ⟨segs, hp, _, hexp⟩ := pyFormat_ok_expansion f targets u out hout
  simp only [noEscape, hp] at h
  rw [hexp]
  refine no_percent_left _ segs (fun c hc hcp => ?_)
    (fun k hk => hval k (placeholders_of_parse hp ▸ hk))
  subst hcp
  simpa using List.all_eq_true.1 h _ hc

/-- the property's sentence, composed: every msgstr of every entry
    of every shipped catalogue, in any environment that resolves the keys it may use, *its own
    placeholders* resolving to values whose text carries no `%`, under any translator, expands
    without error and the result contains no `%` at all (so no `%(` is left over) -/
theorem catalogue_no_leftover (c : Catalogue) (hc : c ∈ catalogues) (e : PoEntry)
    (he : e ∈ c.entries) (i : Nat) (s : Str) (hs : e.msgstr[i]? = some s)
    (targets : List Target) (u : Option UTr)
    (hd : ∀ k ∈ e.mayKeys i, (rawLookup targets k).isSome = true)
    (hval : ∀ k ∈ placeholders s, '%' ∉ pyStr (trVal u ((rawLookup targets k).getD .none))) :
    ∃ out, pyFormat s (fmLookup targets u) = .ok out ∧ '%' ∉ out := by
  obtain ⟨out, hout⟩ := catalogue_expand_total c hc e he i s hs targets u hd
  have h := builtin_no_escape
  rw [Bool.and_eq_true] at h
  have hne := List.all_eq_true.1 (List.all_eq_true.1 (List.all_eq_true.1 h.2 c hc) e he) s
    (List.mem_of_getElem? hs)
  exact ⟨out, hout, noEscape_no_percent s hne targets u out hout hval⟩

/-- the same for the source-language templates themselves -/
theorem builtin_no_leftover (m : BuiltinMsg) (hm : m ∈ builtinMessages) (f : Str)
    (hf : f ∈ m.forms) (targets : List Target) (u : Option UTr)
    (hd : ∀ k ∈ placeholders f, (rawLookup targets k).isSome = true)
    (hval : ∀ k ∈ placeholders f, '%' ∉ pyStr (trVal u ((rawLookup targets k).getD .none))) :
    ∃ out, pyFormat f (fmLookup targets u) = .ok out ∧ '%' ∉ out := by
  obtain ⟨out, hout⟩ := builtin_expand_total m hm f hf targets u hd
  have h := builtin_no_escape
  rw [Bool.and_eq_true] at h
  have hne := List.all_eq_true.1 (List.all_eq_true.1 h.1 m hm) f hf
  exact ⟨out, hout, noEscape_no_percent f hne targets u out hout hval⟩

/-- with the rule `plural=(n != 1)` gettext selects msgstr[0] exactly for the count 1 -/
theorem pluralIndex_ne1 (c : Catalogue) (h : c.pluralGt1 = false) (n : Int) :
    c.pluralIndex n = 0 ↔ n = 1 := by
  unfold Catalogue.pluralIndex
  simp only [h, Bool.false_eq_true, if_false]
  by_cases hn : n = 1 <;> simp [hn]

theorem de_singular_iff_one (n : Int) : de.pluralIndex n = 0 ↔ n = 1 := pluralIndex_ne1 de rfl n
theorem es_singular_iff_one (n : Int) : es.pluralIndex n = 0 ↔ n = 1 := pluralIndex_ne1 es rfl n

/-- the property's plural clause for the shipped catalogues: the singular msgstr is selected
    exactly for the count 1 -/
def C16_PluralLocale_Full : Prop :=
  ∀ c ∈ catalogues, ∀ n : Int, c.pluralIndex n = 0 ↔ n = 1

/-- does the singular msgstr of a plural entry spell the count out instead of substituting it? -/
def singularDropsCount (e : PoEntry) : Bool :=
  match e.msgidPlural, e.msgstr with
  | some p, s0 :: _ => !(subset (placeholders p) (placeholders s0))
  | _, _ => false

/-- KF-C16-c: the French catalogue (`plural=(n > 1)`) selects msgstr[0] for the count 0 too,
    and its msgstr[0] of HasAtLeast / HasAtMost / HasBetween.exact spell "un(e)" instead of
    substituting the count — "at most one" is recorded for a limit of 0 -/
theorem plural_locale_full_fails : ¬ C16_PluralLocale_Full := by
  intro h
  have := (h fr (by rw [catalogues_listed]; simp) 0).1 (by decide)
  cases this

theorem fr_singular_drops_count : (fr.entries.filter singularDropsCount).length = 3 := by
  decide +kernel

/-- non-vacuity: the German plural entry of HasAtLeast, looked up the way gettext does -/
example : de.ngettext "%(label)s must contain at least one %(child_label)s".toList
    "%(label)s must contain at least %(minimum)s %(child_label)ss".toList (.int 3) =
    some "%(label)s muss mindestens %(minimum)s %(child_label)s enthalten".toList := by
  decide +kernel

end Flatland.C16.Proofs
