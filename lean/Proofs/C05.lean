/-
C05 — validate() follows the documented two-phase, all-elements algorithm.

`validate_refines : validate t = specValidate t` for every tree `t` and every assignment of
outcomes — return value, final `.valid` of every visited element, and the exact call log; the
other theorems are the clauses of the property read off it.
-/
import Flatland.C05
import Flatland.Spec.C05
import Proofs.Lemmas.Fifo
namespace Flatland.C05.Proofs
open Flatland.C05 Flatland.C05.Spec

theorem runValidators_eq (vs : List Outcome) :
    runValidators vs = (listVerdict vs, invoked vs) := by
  induction vs with
  | nil => rfl
  | cons o rest ih => cases o <;> simp [runValidators, listVerdict, invoked, ih]

theorem validateElement_eq (i : Info) (vs : List Outcome) :
    validateElement i vs = elementVerdict i vs := by
  unfold validateElement elementVerdict
  split
  · rfl
  · cases vs with
    | nil => simp
    | cons o rest => simp [runValidators_eq]

theorem validateDown_eq (i : Info) : validateDown i = downVerdict i := by
  unfold validateDown downVerdict
  split
  · cases h : i.down <;> simp [validateElement_eq]
  · simp [validateElement_eq]

theorem validateUp_eq (i : Info) : validateUp i = upVerdict i := by
  unfold validateUp upVerdict
  split <;> simp [validateElement_eq]

theorem pruneL_eq_map (q : List VTree) : pruneL q = q.map prune := by
  induction q with
  | nil => rfl
  | cons t ts ih => rw [pruneL, ih]; rfl

mutual
theorem size_prune_le : ∀ t : VTree, (prune t).size ≤ t.size
  | .node i kids => by
    simp only [prune, VTree.size]
    split
    · simp [sizeL]
    · have := sizeL_pruneL_le kids; omega
theorem sizeL_pruneL_le : ∀ q : List VTree, sizeL (pruneL q) ≤ sizeL q
  | [] => by simp [pruneL, sizeL]
  | t :: ts => by
    have h1 := size_prune_le t
    have h2 := sizeL_pruneL_le ts
    simp [pruneL, sizeL]; omega
end

def mkVisit (i : Info) : Visit := ⟨i, (downVerdict i).1⟩

def pushed (t : VTree) : List VTree := if cutsBelow t.info then [] else t.kids

theorem descend_isLoop : Fifo.IsLoop (fun t => [mkVisit t.info]) pushed descend :=
  ⟨by rw [descend], fun t q => by
    cases t with
    | node i kids =>
      rw [descend]
      simp only [mkVisit, pushed, cutsBelow, validateDown_eq, VTree.info, VTree.kids, List.singleton_append]
      split <;> simp [*]⟩

theorem sizeL_steps : Fifo.Steps pushed sizeL := fun t q => by
  cases t with
  | node i kids =>
    simp only [pushed, VTree.info, VTree.kids, sizeL, VTree.size]
    by_cases h : cutsBelow i = true <;> simp [h, sizeL_append] <;> omega

theorem kids_prune (t : VTree) : (prune t).kids = (pushed t).map prune := by
  cases t with
  | node i kids =>
    simp only [prune, pushed, VTree.kids, VTree.info, pruneL_eq_map]
    by_cases h : cutsBelow i = true <;> simp [h]

/-- the loop emits the pruned trees in level order: `levelOrder` after pruning solves the loop's level equation -/
theorem descend_eq_levelOrder (q : List VTree) : descend q = (levelOrder (q.map prune)).map mkVisit :=
  descend_isLoop.eq_of_level (F := fun q => (levelOrder (q.map prune)).map mkVisit) sizeL_steps.levels
    (by rw [List.map_nil, levelOrder]; rfl) (fun t q => by
    show (levelOrder ((t :: q).map prune)).map mkVisit = _
    rw [List.map_cons, levelOrder, ← List.map_cons, List.map_append, List.map_map, List.map_map,
      Lists.flatMap_singleton_map, List.flatMap_map, List.map_flatMap]
    simp only [kids_prune]
    congr 1
    exact List.map_congr_left (fun t _ => by cases t; rfl)) q

/-- Visit order: the elements the loop visits, in order, are exactly the documented ones:
    breadth-first over the tree with everything beneath SkipAll/SkipAllFalse removed. -/
theorem descend_visits (t : VTree) :
    descend [t] = (visited t).map mkVisit :=
  descend_eq_levelOrder [t]

theorem validAfter_eq (i : Info) :
    validAfterUp (validAfterDown (downVerdict i).1) (upVerdict i).1 = verdict i := by
  unfold verdict
  generalize (downVerdict i).1 = d
  generalize (upVerdict i).1 = u
  cases d <;> cases u <;> rfl

theorem accDown_eq (a : Bool) (r : Ret) : accDown a r = (a && (validAfterDown r).truthy) := by
  cases r <;> simp [accDown, validAfterDown, Ret.truthy, Valid.truthy, Valid.ofBool]

theorem truthy_ofBool (b : Bool) : (Valid.ofBool b).truthy = b := by cases b <;> rfl

theorem accUp_eq (a : Bool) (v : Valid) (u : Ret) :
    accUp a v u = (a && (!v.truthy || (validAfterUp v u).truthy)) := by
  cases u <;> cases h : v.truthy <;> simp [accUp, validAfterUp, h, truthy_ofBool]

/-- an element that went down invalid stays invalid: its final verdict alone decides -/
theorem truthy_validAfterUp (v : Valid) (u : Ret) :
    (v.truthy && (!v.truthy || (validAfterUp v u).truthy)) = (validAfterUp v u).truthy := by
  cases u <;> cases h : v.truthy <;> simp [validAfterUp, h, truthy_ofBool]

theorem foldl_and {α : Type} (p : α → Bool) (l : List α) (a : Bool) :
    l.foldl (fun a x => a && p x) a = (a && l.all p) := by
  induction l generalizing a with
  | nil => simp
  | cons x l ih => simp only [List.foldl_cons, ih, List.all_cons, Bool.and_assoc]

theorem all_and {α : Type} (p q : α → Bool) (l : List α) :
    (l.all p && l.all q) = l.all (fun x => p x && q x) := by
  induction l with
  | nil => rfl
  | cons x l ih => simp only [List.all_cons, ← ih]; cases p x <;> cases q x <;> simp

/-- For every tree and every outcome assignment, the implementation's
    algorithm produces exactly the documented result: same return value, same final `.valid`
    for each visited element (and nothing else is written), same validator invocations in the
    same order. -/
theorem validate_refines (t : VTree) : validate t = specValidate t := by
  unfold validate specValidate
  simp only [descend_visits]
  congr 1
  · simp only [← List.map_reverse, List.foldl_map, accDown_eq, accUp_eq, foldl_and, mkVisit, validateUp_eq,
      List.all_reverse, Bool.true_and, all_and, truthy_validAfterUp]
    simp only [validAfter_eq]
    rfl
  · simp only [List.map_map, expectedValids]
    apply List.map_congr_left
    intro i _
    simp [mkVisit, validateUp_eq, validAfter_eq]
  · simp only [expectedLog, ← List.map_reverse, List.flatMap_map, mkVisit, validateDown_eq,
      validateUp_eq]

/-- False exactly when some visited element ended invalid. -/
theorem result_false_iff (t : VTree) :
    (validate t).ret = false ↔ ∃ i ∈ visited t, verdict i = .fls := by
  rw [validate_refines]
  simp only [specValidate, expectedRet]
  constructor
  · intro h
    obtain ⟨i, hi, hv⟩ := List.all_eq_false.mp h
    refine ⟨i, hi, ?_⟩
    cases hvv : verdict i <;> simp_all [Valid.truthy]
  · rintro ⟨i, hi, hv⟩
    apply Bool.eq_false_iff.mpr
    intro hall
    have := List.all_eq_true.mp hall i hi
    simp [hv, Valid.truthy] at this

/-- `.valid` is written for visited elements only, each with its own verdict. -/
theorem valids_are_visited (t : VTree) :
    (validate t).valids = (visited t).map (fun i => (i.id, verdict i)) := by
  rw [validate_refines]; rfl

/-- An element's verdict is a function of that element alone: invalid siblings (or any other
    element) never change it. -/
theorem siblings_independent (i : Info) :
    verdict i = validAfterUp (validAfterDown (validateDown i).1) (validateUp i).1 := by
  rw [validateDown_eq, validateUp_eq, validAfter_eq]

/-- Validators of empty optional elements are never invoked. -/
theorem optional_empty_skipped (i : Info) (h : i.empty = true) (ho : i.optional = true) :
    (validateDown i).2 = 0 ∧ (validateUp i).2 = 0 := by
  have he : ∀ vs, validateElement i vs = (.tru, 0) := fun vs => by simp only [validateElement, h, ho]; rfl
  simp only [validateDown, validateUp, he, apply_ite Prod.snd, ite_self, and_self]

/-- Each element's list stops at its first failure or Skip: the number of validators invoked is
    the position of the first non-True outcome (plus one). -/
theorem stops_at_first (vs : List Outcome) : (runValidators vs).2 = invoked vs := by
  rw [runValidators_eq]

/-- Nothing below a SkipAll / SkipAllFalse element is visited: the visited list is computed
    from the pruned tree, in which such an element has no children. -/
theorem never_below_skipall (i : Info) (kids : List VTree) (h : cutsBelow i = true) :
    prune (.node i kids) = .node i [] := by
  simp [prune, h]

/-- `all_valid` after the call; unvisited elements read as Unevaluated, which is true. -/
def allValidAfter (t : VTree) : Bool := ((validate t).valids.all (fun p => p.2.truthy))

/-- On a fresh tree (every `.valid` is Unevaluated) `all_valid` after the call is the conjunction
    over visited elements of their verdict's truth — i.e. the return value. -/
theorem fresh_result_eq_all_valid (t : VTree) : (validate t).ret = allValidAfter t := by
  unfold allValidAfter
  rw [validate_refines]
  simp [specValidate, expectedRet, expectedValids, List.all_map, Function.comp_def]

/-! ### non-vacuity: a concrete tree exercising SkipAll, a failing sibling, an optional empty -/

def exTree : VTree :=
  .node ⟨0, true, false, false, [.tru], [.tru, .fls]⟩
    [ .node ⟨1, true, false, false, [.skipAll], []⟩ [ .node ⟨3, false, false, false, [.fls], []⟩ [] ],
      .node ⟨2, false, true, true, [.fls], []⟩ [],
      .node ⟨4, false, false, false, [.tru, .none, .tru], []⟩ [] ]

example : (validate exTree).log =
    [(0, true, 0), (1, true, 0), (4, true, 0), (4, true, 1), (0, false, 0), (0, false, 1)] := by
  decide +kernel
example : (validate exTree).ret = false := by
  decide +kernel
example : (validate exTree).valids = [(0, .fls), (1, .tru), (2, .tru), (4, .fls)] := by
  decide +kernel

end Flatland.C05.Proofs
