/-
C05 — the `.valid` store: visited elements get their own verdict, unvisited ones are left untouched,
and on a fresh tree the return value is `all_valid` over the WHOLE tree.
-/
import Proofs.C05
namespace Flatland.C05.Proofs
open Flatland.C05 Flatland.C05.Spec

theorem lookupValid_map {α} (f : α → Nat) (g : α → Valid) (l : List α) (id : Nat) :
    lookupValid id (l.map (fun x => (f x, g x))) = (l.find? (fun x => f x == id)).map g := by
  induction l with
  | nil => rfl
  | cons a l ih =>
    rw [List.map_cons, lookupValid, List.find?_cons, ih]
    by_cases h : f a = id
    · rw [if_pos h, beq_iff_eq.2 h]; rfl
    · rw [if_neg h, beq_eq_false_iff_ne.2 h]

theorem validNow_eq (prev : Nat → Valid) (t : VTree) (id : Nat) :
    validNow prev t id = (((visited t).find? (fun i => i.id == id)).map verdict).getD (prev id) := by
  unfold validNow
  rw [valids_are_visited, lookupValid_map]
  cases (visited t).find? (fun i => i.id == id) <;> rfl

/-- Unvisited elements are left untouched: whatever an earlier call left in `.valid` stays. -/
theorem unvisited_untouched (prev : Nat → Valid) (t : VTree) (id : Nat)
    (h : id ∉ (visited t).map (·.id)) : validNow prev t id = prev id := by
  rw [validNow_eq, List.find?_eq_none.2 (fun i hi e => h (List.mem_map.2 ⟨i, hi, beq_iff_eq.1 e⟩))]
  rfl

/-- Visited elements end with their own verdict, whatever was there before. -/
theorem visited_own_verdict (prev : Nat → Valid) (t : VTree)
    (hnd : ((visited t).map (·.id)).Nodup) (i : Info) (hi : i ∈ visited t) :
    validNow prev t i.id = verdict i := by
  rw [validNow_eq, show (fun j : Info => j.id == i.id) = (fun j => decide (j.id = i.id)) from rfl,
    Lists.find?_key_of_mem (·.id) hnd hi rfl]
  rfl

theorem idsL_append (a b : List VTree) : idsL (a ++ b) = idsL a ++ idsL b := by
  induction a with
  | nil => simp [idsL]
  | cons t ts ih => simp [idsL, ih, List.append_assoc]

theorem idsL_perm_level (q : List VTree) :
    (idsL q).Perm (q.map (fun t => t.info.id) ++ idsL (q.flatMap VTree.kids)) := by
  induction q with
  | nil => simp [idsL]
  | cons t ts ih =>
    cases t with
    | node i k =>
      simp only [idsL, VTree.ids, List.map_cons, VTree.info, List.flatMap_cons, VTree.kids, idsL_append,
        List.cons_append]
      apply List.Perm.cons
      -- idsL k ++ idsL ts  ~  ts.map .. ++ (idsL k ++ idsL (ts.flatMap kids))
      refine (List.Perm.append_left _ ih).trans ?_
      rw [← List.append_assoc, ← List.append_assoc]
      exact List.Perm.append_right _ List.perm_append_comm

theorem levels_kids : Fifo.Levels VTree.kids sizeL := fun t ts => by
  have := sizeL_flatMap_kids (t :: ts)
  simp only [List.length_cons] at this
  omega

theorem levelOrder_ids_perm (q : List VTree) : ((levelOrder q).map (·.id)).Perm (idsL q) := by
  induction q using Fifo.level_ind levels_kids with
  | nil => simp [levelOrder, idsL]
  | level t ts ih =>
    rw [levelOrder]
    simp only [List.map_append, List.map_map]
    exact (List.Perm.append_left _ ih).trans (idsL_perm_level (t :: ts)).symm

mutual
theorem prune_ids_sublist : ∀ t : VTree, (prune t).ids.Sublist t.ids
  | .node i kids => by
    simp only [prune, VTree.ids]
    apply List.Sublist.cons_cons
    split
    · simp [idsL]
    · exact pruneL_ids_sublist kids
theorem pruneL_ids_sublist : ∀ ts : List VTree, (idsL (pruneL ts)).Sublist (idsL ts)
  | [] => by simp [pruneL, idsL]
  | t :: ts => by
    simp only [pruneL, idsL]
    exact List.Sublist.append (prune_ids_sublist t) (pruneL_ids_sublist ts)
end

theorem levelOrder_single_perm (t : VTree) : ((levelOrder [t]).map (·.id)).Perm t.ids := by
  have := levelOrder_ids_perm [t]
  rwa [idsL, idsL, List.append_nil] at this

theorem visited_ids_nodup (t : VTree) (hnd : t.ids.Nodup) : ((visited t).map (·.id)).Nodup :=
  (levelOrder_single_perm (prune t)).nodup_iff.2 (hnd.sublist (prune_ids_sublist t))

theorem visited_ids_subset (t : VTree) : ∀ i ∈ visited t, i.id ∈ t.ids := fun _ hi =>
  (prune_ids_sublist t).subset ((levelOrder_single_perm (prune t)).subset (List.mem_map_of_mem hi))

/-- Return value = `all_valid` for every history that leaves the unvisited elements truthy: fresh trees,
    and trees on which `all_valid = True` (or `Unevaluated`) was assigned before validating -/
theorem ret_eq_all_valid_of_store (prev : Nat → Valid) (t : VTree) (hnd : t.ids.Nodup)
    (hp : ∀ id ∈ t.ids, id ∉ (visited t).map (·.id) → (prev id).truthy = true) :
    (validate t).ret = allValidNow prev t := by
  have hv := visited_ids_nodup t hnd
  rw [validate_refines]
  show expectedRet t = _
  unfold expectedRet allValidNow
  apply Bool.eq_iff_iff.mpr
  simp only [List.all_eq_true]
  constructor
  · intro h id hid
    by_cases hin : id ∈ (visited t).map (·.id)
    · obtain ⟨i, hi, rfl⟩ := List.mem_map.mp hin
      rw [visited_own_verdict _ t hv i hi]
      exact h i hi
    · rw [unvisited_untouched _ t id hin]; exact hp id hid hin
  · intro h i hi
    have := h i.id (visited_ids_subset t i hi)
    rwa [visited_own_verdict _ t hv i hi] at this

/-- On a fresh tree the return value equals `all_valid` — over every element of the tree, visited or
    not (unvisited ones are Unevaluated, which counts as valid). -/
theorem fresh_ret_eq_all_valid (t : VTree) (hnd : t.ids.Nodup) :
    (validate t).ret = allValidNow (fun _ => .uneval) t :=
  ret_eq_all_valid_of_store _ t hnd (fun _ _ _ => rfl)

/-- a second `validate()` on the same tree overwrites exactly the elements it visits -/
theorem revalidate_store (prev : Nat → Valid) (t : VTree) (hnd : t.ids.Nodup) (id : Nat) :
    validNow prev t id =
      match (visited t).find? (fun i => i.id == id) with
      | some i => verdict i
      | none => prev id := by
  rw [validNow_eq]
  cases (visited t).find? (fun i => i.id == id) <;> rfl

example : validNow (fun _ => .fls) exTree 3 = .fls ∧ validNow (fun _ => .fls) exTree 1 = .tru := by
  decide +kernel

end Flatland.C05.Proofs
