/-
C13 — fq_name() is the inverse of find().

Model A = Flatland/Path.lean (`fqName`, `find`), spec B = Flatland/Spec/C13.lean (`Inverse`).

`fq_name()` emits one step per element on the way (`segs`), `find` reads each step back as one NAME
op (`tokenize_fqName_empty`, under the spelling condition `SpellOK'`) and evaluates the ops as one
context from the root (`find_top`); the context ends on the element exactly when every lookup on the
way hits its own child (`runCtx_segs`).  Hence `find_fq_iff_pathOK`:
`find(start, fq_name(pos)) = [pos]` iff `PathOK'`.  `PathOK'`/`SpellOK'` admit empty names (05c4adc:
an unnamed child of a mapping, stored under the key `None`, is spelled by the empty step, which `find`
looks up under `None`); `PathOK`/`SpellOK` demand non-empty names in addition (`pathOK_eq`), and their
theorems are the special cases.

The unrestricted law (`C13_Full`) is false of the code as it is: KF-C13-a, -b, -c, each with its witness.
-/
import Flatland.Path
import Flatland.Spec.C13
import Proofs.Lemmas.PathInt
import Proofs.Lemmas.PathScan
import Proofs.Lemmas.PathScanEmpty   -- `tokenize_segs` is audited through this module (harness/props/c13.py)
import Proofs.Lemmas.PathEscape
import Proofs.Lemmas.C14Work
import Proofs.Lemmas.C13Aux
import Proofs.Lemmas.PathTree
namespace Flatland.C13.Proofs
open Flatland.Path Flatland.C13.Spec Flatland.Path.Lemmas Flatland.Generated.C14 Flatland.C14.Proofs

/-- the text `fq_name` emits for the step from a container of kind `k` to its `i`-th child `c` -/
def segText (k : Kind) (i : Nat) (c : Node) : Str :=
  if k == .list || k == .array then natStr i else escapeName c.name

def segs : Node → Pos → List Str
  | _, [] => []
  | .mk k _ _ kids, i :: p =>
    match kids[i]? with
    | none => []
    | some c => segText k i c :: segs c p

/-- one round of the `parts, mask` loop: a slot's name masks the member's own segment -/
theorem fqParts_step (k : Kind) (i : Nat) (c : Node) (r : List ChainEl) :
    fqParts none ((if k == .list then [ChainEl.slot (natStr i)] else []) ++ (ChainEl.el k i c.name :: r))
      = segText k i c :: fqParts none r := by
  cases k with
  | list =>
    have hne : (!(natStr i).isEmpty) = true := by
      cases h : natStr i with
      | nil => exact absurd h (natStr_ne_nil i)
      | cons _ _ => rfl
    show (if (!(natStr i).isEmpty) = true then _ else _) = _
    rw [if_pos hne]
    rfl
  | array => rfl
  | map => rfl
  | scalar => rfl

theorem fqParts_chain : ∀ (n : Node) (pos : Pos), fqParts none (chain n pos) = segs n pos
  | _, [] => rfl
  | .mk k ky nm kids, i :: p => by
    rw [chain, segs]
    cases kids[i]? with
    | none => rfl
    | some c => exact (fqParts_step k i c _).trans (congrArg _ (fqParts_chain c p))

theorem fqName_eq (root : Node) (pos : Pos) : fqName root pos = '/' :: sufJoin (segs root pos) := by
  cases pos with
  | nil => rfl
  | cons i p =>
    simp only [fqName, List.isEmpty_cons, Bool.false_eq_true, if_false, fqParts_chain]
    rw [List.cons_append, joinSlash_sufJoin]

def stepOK (k : Kind) (kids : List Node) (i : Nat) (c : Node) (lastStep : Bool) : Bool :=
  match k with
  | .scalar => false
  | .map =>
    findName (some c.name) kids == some i && !c.name.isEmpty && (lastStep || !endsWithBackslash c.name)
  | _ => decide ((natStr i).length ≤ intMaxDigits ∨ intMaxDigits = 0)

def PathOK : Node → Pos → Bool
  | _, [] => true
  | .mk k _ _ kids, i :: p =>
    match kids[i]? with
    | none => false
    | some c => stepOK k kids i c p.isEmpty && PathOK c p

/-- the part of `stepOK` that is about SPELLING only (what `tokenize` needs): a Dict child's name is
    non-empty and only the last one may end in a backslash; sequence indexes fit `int()`'s digit limit.
    The other part of `stepOK` — the key lookup hits the child — is what `find` adds. -/
def stepSpell (k : Kind) (i : Nat) (c : Node) (lastStep : Bool) : Bool :=
  match k with
  | .scalar => false
  | .map => !c.name.isEmpty && (lastStep || !endsWithBackslash c.name)
  | _ => decide ((natStr i).length ≤ intMaxDigits ∨ intMaxDigits = 0)

def SpellOK : Node → Pos → Bool
  | _, [] => true
  | .mk k _ _ kids, i :: p =>
    match kids[i]? with
    | none => false
    | some c => stepSpell k i c p.isEmpty && SpellOK c p

/-- the `_index` argument of the step `fq_name` emits for a mapping child named `nm`: the empty step
    is `None` -/
def nameKey (nm : Str) : Option Str := if nm.isEmpty then none else some nm

def stepOK' (k : Kind) (kids : List Node) (i : Nat) (c : Node) (lastStep : Bool) : Bool :=
  match k with
  | .scalar => false
  | .map => findName (nameKey c.name) kids == some i && (lastStep || !endsWithBackslash c.name)
  | _ => decide ((natStr i).length ≤ intMaxDigits ∨ intMaxDigits = 0)

def PathOK' : Node → Pos → Bool
  | _, [] => true
  | .mk k _ _ kids, i :: p =>
    match kids[i]? with
    | none => false
    | some c => stepOK' k kids i c p.isEmpty && PathOK' c p

def stepSpell' (k : Kind) (i : Nat) (c : Node) (lastStep : Bool) : Bool :=
  match k with
  | .scalar => false
  | .map => lastStep || !endsWithBackslash c.name
  | _ => decide ((natStr i).length ≤ intMaxDigits ∨ intMaxDigits = 0)

def SpellOK' : Node → Pos → Bool
  | _, [] => true
  | .mk k _ _ kids, i :: p =>
    match kids[i]? with
    | none => false
    | some c => stepSpell' k i c p.isEmpty && SpellOK' c p

/-- `step k kids i c last` holds of every step on the way from `n` down `pos`: from a container of kind `k`
    with children `kids` to its `i`-th child `c`; `last` = it is the final step.  `PathOK'`, `SpellOK`,
    `SpellOK'` and spec B's `addressableFrom`, `spellableFrom` are this recursion with a different condition
    on the single step; what holds step by step holds along the way (`Along.mono`). -/
def Along (step : Kind → List Node → Nat → Node → Bool → Prop) : Node → Pos → Prop
  | _, [] => True
  | .mk k _ _ kids, i :: p => ∃ c, kids[i]? = some c ∧ step k kids i c p.isEmpty ∧ Along step c p

/-- a Bool predicate defined by that recursion -/
theorem along_iff {F : Node → Pos → Bool} {stepF : Kind → List Node → Nat → Node → Bool → Bool}
    (h0 : ∀ n, F n [] = true)
    (hc : ∀ k ky nm kids i p, F (.mk k ky nm kids) (i :: p) =
      match kids[i]? with
      | none => false
      | some c => stepF k kids i c p.isEmpty && F c p) :
    ∀ (pos : Pos) (n : Node), F n pos = true ↔ Along (fun k kids i c l => stepF k kids i c l = true) n pos
  | [], n => by simp [h0, Along]
  | i :: p, .mk k ky nm kids => by
    rw [hc, Along]
    cases kids[i]? with
    | none => simp
    | some c => simp only [Bool.and_eq_true, Option.some.injEq, exists_eq_left', along_iff h0 hc p c]

section
variable {s s1 s2 : Kind → List Node → Nat → Node → Bool → Prop}

/-- the first step of a predicate that is an `Along` -/
theorem cons_iff {F : Node → Pos → Bool} (hF : ∀ pos n, F n pos = true ↔ Along s n pos)
    {k : Kind} {ky : Option Str} {nm : Str} {kids : List Node} {i : Nat} {p : Pos} :
    F (.mk k ky nm kids) (i :: p) = true ↔ ∃ c, kids[i]? = some c ∧ s k kids i c p.isEmpty ∧ F c p = true :=
  (hF _ _).trans (exists_congr fun _ => and_congr_right fun _ => and_congr_right fun _ => (hF _ _).symm)

theorem Along.mono (I : Node → Prop)
    (hI : ∀ {k : Kind} {ky : Option Str} {nm : Str} {kids : List Node} {i : Nat} {c : Node},
      I (.mk k ky nm kids) → kids[i]? = some c → I c)
    (h : ∀ {k : Kind} {ky : Option Str} {nm : Str} {kids : List Node} {i : Nat} {c : Node} {l : Bool},
      I (.mk k ky nm kids) → kids[i]? = some c → s1 k kids i c l → s2 k kids i c l) :
    ∀ (pos : Pos) (n : Node), I n → Along s1 n pos → Along s2 n pos
  | [], _, _, _ => trivial
  | _ :: p, .mk _ _ _ _, hn, ⟨c, hk, hs, hr⟩ => ⟨c, hk, h hn hk hs, Along.mono I hI h p c (hI hn hk) hr⟩

theorem Along.imp
    (h : ∀ {k : Kind} {kids : List Node} {i : Nat} {c : Node} {l : Bool},
      kids[i]? = some c → s1 k kids i c l → s2 k kids i c l) (pos : Pos) (n : Node) :
    Along s1 n pos → Along s2 n pos :=
  Along.mono (fun _ => True) (fun _ _ => trivial) (fun _ hk hs => h hk hs) pos n trivial

end

theorem spellOK_along : ∀ pos n, SpellOK n pos = true ↔ Along (fun k _ i c l => stepSpell k i c l = true) n pos :=
  along_iff (fun _ => rfl) (fun _ _ _ _ _ _ => rfl)

theorem pathOK'_along : ∀ pos n, PathOK' n pos = true ↔ Along (stepOK' · · · · · = true) n pos :=
  along_iff (fun _ => rfl) (fun _ _ _ _ _ _ => rfl)

theorem spellOK'_along : ∀ pos n, SpellOK' n pos = true ↔ Along (fun k _ i c l => stepSpell' k i c l = true) n pos :=
  along_iff (fun _ => rfl) (fun _ _ _ _ _ _ => rfl)

theorem stepSpell'_of_stepOK' (k : Kind) (kids : List Node) (i : Nat) (c : Node) (lastStep : Bool)
    (h : stepOK' k kids i c lastStep = true) : stepSpell' k i c lastStep = true := by
  cases k with
  | scalar => cases h
  | list => exact h
  | array => exact h
  | map =>
    simp only [stepOK', Bool.and_eq_true] at h
    exact h.2

theorem spellOK'_of_pathOK' (pos : Pos) (n : Node) (h : PathOK' n pos = true) : SpellOK' n pos = true :=
  (spellOK'_along pos n).2
    (Along.imp (fun _ hs => stepSpell'_of_stepOK' _ _ _ _ _ hs) pos n ((pathOK'_along pos n).1 h))

theorem stepSpell'_of_stepSpell (k : Kind) (i : Nat) (c : Node) (lastStep : Bool)
    (h : stepSpell k i c lastStep = true) : stepSpell' k i c lastStep = true := by
  cases k with
  | scalar => cases h
  | list => exact h
  | array => exact h
  | map =>
    simp only [stepSpell, Bool.and_eq_true] at h
    exact h.2

theorem spellOK'_of_spellOK (pos : Pos) (n : Node) (h : SpellOK n pos = true) : SpellOK' n pos = true :=
  (spellOK'_along pos n).2
    (Along.imp (fun _ hs => stepSpell'_of_stepSpell _ _ _ _ hs) pos n ((spellOK_along pos n).1 h))

/-- with a non-empty name the step looks up the name itself -/
theorem stepOK_eq (k : Kind) (kids : List Node) (i : Nat) (c : Node) (lastStep : Bool) :
    stepOK k kids i c lastStep = (stepOK' k kids i c lastStep && stepSpell k i c lastStep) := by
  cases k with
  | map => cases hn : c.name <;> simp [stepOK, stepOK', stepSpell, nameKey, hn]
  | _ => simp [stepOK, stepOK', stepSpell]

theorem pathOK_eq : ∀ (pos : Pos) (n : Node), PathOK n pos = (PathOK' n pos && SpellOK n pos)
  | [], _ => rfl
  | i :: p, .mk k ky nm kids => by
    simp only [PathOK, PathOK', SpellOK]
    cases kids[i]? with
    | none => rfl
    | some c =>
      simp only [pathOK_eq p c, stepOK_eq]
      ac_rfl

theorem pathOK'_of_pathOK (pos : Pos) (n : Node) (h : PathOK n pos = true) : PathOK' n pos = true := by
  rw [pathOK_eq, Bool.and_eq_true] at h
  exact h.1

theorem natStr_step (last : Bool) (i : Nat) :
    cleanB last (natStr i) = true ∧ (natStr i = [] ∨ PlainSeg (natStr i)) ∧
      stepData (natStr i) = some (natStr i) := by
  obtain ⟨hne, hc, hp, hu⟩ := natStr_facts last i
  refine ⟨hc, Or.inr hp, ?_⟩
  rw [stepData, hu, if_neg (by simpa using hne)]

theorem escapeName_step (last : Bool) (s : Str) (he : last = true ∨ endsWithBackslash s = false) :
    cleanB last (escapeName s) = true ∧ (escapeName s = [] ∨ PlainSeg (escapeName s)) ∧
      stepData (escapeName s) = nameKey s := by
  cases s with
  | nil => exact ⟨cleanB_nil last, Or.inl rfl, rfl⟩
  | cons a r =>
    obtain ⟨hne, hc, hp, hu⟩ := escapeName_facts last (a :: r) (by simp) he
    refine ⟨hc, Or.inr hp, ?_⟩
    rw [stepData, hu, if_neg (by simpa using hne)]
    rfl

theorem segText_facts (k : Kind) (i : Nat) (c : Node) (lastStep : Bool)
    (h : stepSpell' k i c lastStep = true) :
    cleanB lastStep (segText k i c) = true ∧ (segText k i c = [] ∨ PlainSeg (segText k i c)) ∧
      stepData (segText k i c) = (if k == .list || k == .array then some (natStr i) else nameKey c.name) := by
  cases k with
  | scalar => cases h
  | list => exact natStr_step lastStep i
  | array => exact natStr_step lastStep i
  | map => exact escapeName_step lastStep c.name (by simpa [stepSpell'] using h)

theorem segs_sufOK : ∀ (pos : Pos) (n : Node), SpellOK' n pos = true →
    SufOK (segs n pos) ∧ ∀ x ∈ segs n pos, x = [] ∨ PlainSeg x
  | [], _, _ => by simp [segs, SufOK]
  | i :: p, .mk k ky nm kids, hok => by
    obtain ⟨c, hk, hstep, hrest⟩ := (cons_iff spellOK'_along).1 hok
    have hf := segText_facts k i c p.isEmpty hstep
    have ih := segs_sufOK p c hrest
    simp only [segs, hk, List.mem_cons, forall_eq_or_imp]
    refine ⟨?_, hf.2.1, ih.2⟩
    cases p with
    | nil => exact hf.1
    | cons j p' =>
      cases c with | mk k' ky' nm' kids' =>
      obtain ⟨c', hk', _⟩ := (cons_iff spellOK'_along).1 hrest
      simp only [segs, hk'] at ih ⊢
      exact ⟨hf.1, ih.1⟩

theorem segText_ne_nil (k : Kind) (i : Nat) (c : Node) (lastStep : Bool)
    (h : stepSpell k i c lastStep = true) : segText k i c ≠ [] := by
  cases k with
  | scalar => cases h
  | list => exact natStr_ne_nil i
  | array => exact natStr_ne_nil i
  | map =>
    simp only [stepSpell, Bool.and_eq_true, Bool.not_eq_true', Bool.or_eq_true] at h
    exact (escapeName_facts lastStep c.name (by simpa using h.1) h.2).1

theorem stepOp_segs : ∀ (pos : Pos) (n : Node), SpellOK n pos = true →
    ∀ s ∈ segs n pos, stepOp s = .name (some (unescape s))
  | [], _, _ => by simp [segs]
  | i :: p, .mk k ky nm kids, hok => by
    obtain ⟨c, hk, hstep, hrest⟩ := (cons_iff spellOK_along).1 hok
    simp only [segs, hk, List.mem_cons, forall_eq_or_imp]
    exact ⟨stepOp_of_ne_nil (segText_ne_nil k i c _ hstep), stepOp_segs p c hrest⟩

/-- **`tokenize(fq_name(pos))` with empty steps at any depth**: TOP and one op per step — `NAME None` for
    an empty segment (an unnamed mapping child), `NAME unescape(seg)` otherwise -/
theorem tokenize_fqName_empty (root : Node) (pos : Pos) (hok : SpellOK' root pos = true) :
    tokenize (fqName root pos) = .ok (Op.top :: (segs root pos).map stepOp) := by
  have hso := segs_sufOK pos root hok
  rw [fqName_eq]
  exact tokenize_sufJoin _ hso.1 hso.2

/-- **`tokenize(fq_name(pos))`**: TOP and one NAME per step, carrying the unescaped segment -/
theorem tokenize_fqName (root : Node) (pos : Pos) (hok : SpellOK root pos = true) :
    tokenize (fqName root pos)
      = .ok (Op.top :: (segs root pos).map (fun s => Op.name (some (unescape s)))) := by
  rw [tokenize_fqName_empty root pos (spellOK'_of_spellOK pos root hok),
    List.map_congr_left (stepOp_segs pos root hok)]

theorem index_segText (k : Kind) (ky : Option Str) (nm : Str) (kids : List Node) (i : Nat) (c : Node) (lastStep : Bool)
    (hk : kids[i]? = some c) (h : stepSpell' k i c lastStep = true) :
    (Node.mk k ky nm kids).index (stepData (segText k i c)) = some i ↔ stepOK' k kids i c lastStep = true := by
  rw [(segText_facts k i c lastStep h).2.2]
  have hi : i < kids.length := (List.getElem?_eq_some_iff.1 hk).1
  cases k with
  | scalar => cases h
  | map =>
    simp only [stepSpell'] at h
    simp [Node.index, Node.kind, Node.kids, stepOK', h]
  | list =>
    have h' := of_decide_eq_true h
    simp [Node.index, Node.kind, Node.kids, stepOK', pyInt_natStr i h', pyListIndex_nat _ _ hi, h']
  | array =>
    have h' := of_decide_eq_true h
    simp [Node.index, Node.kind, Node.kids, stepOK', pyInt_natStr i h', pyListIndex_nat _ _ hi, h']

theorem runCtx_segs (root : Node) (strict : Bool) : ∀ (pos : Pos) (n : Node) (el : Pos),
    SpellOK' n pos = true → root.get? el = some n →
    (runCtx root strict ((segs n pos).map stepOp) el = .ok (.found (el ++ pos)) ↔ PathOK' n pos = true)
  | [], n, el, _, _ => by simp [segs, runCtx, PathOK']
  | i :: p, .mk k ky nm kids, el, hs, hg => by
    obtain ⟨c, hk, hstep, hrest⟩ := (cons_iff spellOK'_along).1 hs
    have hg' : root.get? (el ++ [i]) = some c := by
      rw [get?_append, hg]
      simp [Node.get?, hk]
    have ih := runCtx_segs root strict p c (el ++ [i]) hrest hg'
    rw [List.append_assoc, List.singleton_append] at ih
    have hidx := index_segText k ky nm kids i c p.isEmpty hk hstep
    simp only [segs, hk, List.map_cons, stepOp, runCtx, indexAt, hg, cons_iff pathOK'_along, Option.some.injEq,
      exists_eq_left']
    cases hi : (Node.mk k ky nm kids).index (stepData (segText k i c)) with
    | none =>
      have hno : ¬ stepOK' k kids i c p.isEmpty = true := fun h => by rw [hidx.2 h] at hi; cases hi
      cases strict <;> simp [hno]
    | some j =>
      simp only []
      constructor
      · intro hr
        -- the rest of the run stays below `el ++ [j]`: it can end on `el ++ i :: p` only if `j = i`
        have hp := runCtx_steps_prefix root strict _ _ _ hr
        rw [List.prefix_append_right_inj, List.cons_prefix_cons] at hp
        rw [hp.1] at hi hr
        exact ⟨hidx.1 hi, ih.1 hr⟩
      · intro h
        rw [hidx.2 h.1, Option.some.injEq] at hi
        rw [← hi]
        exact ih.2 h.2

/-- **the law is equivalent to `PathOK'` wherever the emitted path can be tokenized** (`SpellOK'`: no
    hypothesis on the tree, a field named `''` and unnamed fields included) -/
theorem find_fq_iff_pathOK (root : Node) (start pos : Pos) (strict : Bool) (hs : SpellOK' root pos = true) :
    find root start (fqName root pos) false strict = .many [pos] ↔ PathOK' root pos = true := by
  rw [find_top_iff root start _ _ strict (tokenize_fqName_empty root pos hs) (afterSlice_steps _)]
  exact runCtx_segs root strict pos root [] hs rfl

/-- **the inverse law at one position, empty steps included**, from any start element, strict or not -/
theorem find_fq_empty (root : Node) (start pos : Pos) (strict : Bool) (hok : PathOK' root pos = true) :
    find root start (fqName root pos) false strict = .many [pos] :=
  (find_fq_iff_pathOK root start pos strict (spellOK'_of_pathOK' pos root hok)).2 hok

/-- **the inverse law at one position**, from any start element, strict or not -/
theorem find_fq (root : Node) (start pos : Pos) (strict : Bool) (hok : PathOK root pos = true) :
    find root start (fqName root pos) false strict = .many [pos] :=
  find_fq_empty root start pos strict (pathOK'_of_pathOK pos root hok)

/-- the same through `find_one` / `single=True`: the element itself -/
theorem find_one_fq (root : Node) (start pos : Pos) (strict : Bool) (hok : PathOK root pos = true) :
    find root start (fqName root pos) true strict = .one (some pos) :=
  find_single root start _ strict pos (find_fq root start pos strict hok)

/-- **`fq_name()` names its element uniquely**: two addressable positions with the same
    `fq_name()` are the same position -/
theorem fqName_injective (root : Node) (p q : Pos) (hp : PathOK root p = true) (hq : PathOK root q = true)
    (h : fqName root p = fqName root q) : p = q := by
  have h1 := find_fq root [] p true hp
  have h2 := find_fq root [] q true hq
  rw [h, h2] at h1
  simp only [FindRes.many.injEq, List.cons.injEq, and_true] at h1
  exact h1.symm

theorem fqName_root (root : Node) : fqName root [] = ['/'] := rfl

theorem isInverseAt_iff (root : Node) (start pos : Pos) :
    isInverseAt root start pos = true ↔ find root start (fqName root pos) false true = .many [pos] := by
  unfold isInverseAt
  cases find root start (fqName root pos) false true with
  | many l =>
    match l with
    | [] => simp
    | [p] => simp
    | _ :: _ :: _ => simp
  | one _ => simp
  | err _ => simp

/-- **C13 on every tree whose positions are all `PathOK`** -/
theorem C13_partial (root : Node)
    (h : ∀ pos, (root.get? pos).isSome = true → PathOK root pos = true) : Inverse root :=
  ⟨fqName_root root, fun start pos _ hp => (isInverseAt_iff root start pos).2 (find_fq root start pos true (h pos hp))⟩

/-- non-vacuity: Dict{"a/b": List[String, String], "..": String}; the position `[0, 1]` is PathOK -/
example : PathOK (.mk .map (some []) [] [.mk .list (some ['a', '/', 'b']) ['a', '/', 'b'] [.mk .scalar (some []) [] [], .mk .scalar (some []) [] []],
      .mk .scalar (some ['.', '.']) ['.', '.'] []]) [0, 1] = true := by
  simp [PathOK, stepOK, findName, Node.name, Node.key, endsWithBackslash, intMaxDigits, natStr]

theorem pathOK_of_find_fq (root : Node) (start pos : Pos) (strict : Bool) (hs : SpellOK root pos = true)
    (hf : find root start (fqName root pos) false strict = .many [pos]) : PathOK root pos = true := by
  rw [pathOK_eq, Bool.and_eq_true]
  exact ⟨(find_fq_iff_pathOK root start pos strict (spellOK'_of_spellOK pos root hs)).1 hf, hs⟩

/-- what the library guarantees of every element tree: scalars have no children, a mapping's
    keys address their own child (dict keys are unique), sequence indexes fit `int()`'s digit
    limit.  That a child's key equals its *name* is NOT among them (KF-C13-c); it is the
    explicit hypothesis [KeyIsName] inside spec B's `addressable`. -/
def TreeInv (root : Node) : Prop :=
  ∀ (p : Pos) (k : Kind) (ky : Option Str) (nm : Str) (kids : List Node), root.get? p = some (.mk k ky nm kids) →
    (k = .scalar → kids = []) ∧
    (k = .map → ∀ i c, kids[i]? = some c → findName c.key kids = some i) ∧
    ((k = .list ∨ k = .array) → ∀ i, i < kids.length →
      ((natStr i).length ≤ intMaxDigits ∨ intMaxDigits = 0))

/-- no Dict child on the way is an UNNAMED field (stored under the key `None`): what `SpellOK`/`PathOK`
    need beyond spec B's `spellable`/`addressable`.  The theorems of `Proofs/C13Empty.lean`
    (`find_fq_addressable`, `find_fq_iff`, `C13_key_mismatch_fails`) hold without it. -/
def namedFrom : Node → Pos → Bool
  | _, [] => true
  | .mk k _ _ kids, i :: p =>
    match kids[i]? with
    | none => true
    | some c => (k != .map || c.key != none) && namedFrom c p

/-- what spec B's `addressableFrom` / `spellableFrom` demand of one step -/
def addressableStep (k : Kind) (c : Node) (lastStep : Bool) : Bool :=
  k != .map || (c.key == some c.name && !c.name.isEmpty && (lastStep || !endsWithBackslash c.name))
    || (c.key == none && c.name.isEmpty)

def spellableStep (k : Kind) (c : Node) (lastStep : Bool) : Bool :=
  k != .map || (!c.name.isEmpty && (lastStep || !endsWithBackslash c.name)) || (c.key == none && c.name.isEmpty)

theorem addressable_along : ∀ pos n, addressableFrom n pos = true ↔
    Along (fun k _ _ c l => addressableStep k c l = true) n pos :=
  along_iff (fun _ => rfl) (fun _ _ _ _ _ _ => rfl)

theorem spellable_along : ∀ pos n, spellableFrom n pos = true ↔
    Along (fun k _ _ c l => spellableStep k c l = true) n pos :=
  along_iff (fun _ => rfl) (fun _ _ _ _ _ _ => rfl)

theorem treeInv_sub {root n : Node} {el : Pos} (hinv : TreeInv root) (hg : root.get? el = some n) : TreeInv n :=
  fun p k ky nm kids h => hinv (el ++ p) k ky nm kids (by rw [get?_append, hg]; exact h)

section
variable {k : Kind} {ky : Option Str} {nm : Str} {kids : List Node} {i : Nat} {p : Pos} {c : Node} {lastStep : Bool}

theorem treeInv_child (hinv : TreeInv (.mk k ky nm kids)) (hk : kids[i]? = some c) : TreeInv c :=
  treeInv_sub (el := [i]) hinv (by simp [Node.get?, hk])

theorem stepSpell'_of_inv (hinv : TreeInv (.mk k ky nm kids)) (hk : kids[i]? = some c)
    (hm : k = .map → (lastStep || !endsWithBackslash c.name) = true) : stepSpell' k i c lastStep = true := by
  obtain ⟨h1, _, h3⟩ := hinv [] k ky nm kids rfl
  have hi : i < kids.length := (List.getElem?_eq_some_iff.1 hk).1
  cases k with
  | scalar => rw [h1 rfl] at hk; simp at hk
  | list => exact decide_eq_true (h3 (Or.inl rfl) i hi)
  | array => exact decide_eq_true (h3 (Or.inr rfl) i hi)
  | map => exact hm rfl

theorem stepSpell'_of_spellable (hinv : TreeInv (.mk k ky nm kids)) (hk : kids[i]? = some c)
    (hs : spellableStep k c lastStep = true) : stepSpell' k i c lastStep = true := by
  refine stepSpell'_of_inv hinv hk (fun hm => ?_)
  subst hm
  simp only [spellableStep, bne_self_eq_false, Bool.false_or, Bool.or_eq_true, Bool.and_eq_true, beq_iff_eq] at hs
  rcases hs with h | h
  · simpa using h.2
  · have hnil : c.name = [] := by simpa using h.2
    simp [hnil, endsWithBackslash]

theorem stepSpell_of_spellable (hinv : TreeInv (.mk k ky nm kids)) (hk : kids[i]? = some c)
    (hn : (k != .map || c.key != none) = true)
    (hs : spellableStep k c lastStep = true) : stepSpell k i c lastStep = true := by
  cases k with
  | map =>
    have hkn : c.key ≠ none := by simpa using hn
    simp only [spellableStep, bne_self_eq_false, Bool.false_or, Bool.or_eq_true, Bool.and_eq_true, beq_iff_eq] at hs
    rcases hs with h | h
    · simpa [stepSpell] using h
    · exact absurd h.1 hkn
  | _ => exact stepSpell'_of_inv (lastStep := lastStep) hinv hk (fun h => by cases h)

/-- the child's key is the key the emitted step looks up, and dict keys are unique -/
theorem stepOK'_of_addressable (hinv : TreeInv (.mk k ky nm kids)) (hk : kids[i]? = some c)
    (ha : addressableStep k c lastStep = true) : stepOK' k kids i c lastStep = true := by
  cases k with
  | map =>
    have hf := (hinv [] .map ky nm kids rfl).2.1 rfl i c hk
    simp only [addressableStep, bne_self_eq_false, Bool.false_or, Bool.or_eq_true, Bool.and_eq_true, beq_iff_eq,
      Bool.not_eq_true'] at ha
    simp only [stepOK', Bool.and_eq_true, beq_iff_eq, Bool.or_eq_true, Bool.not_eq_true']
    rcases ha with h | h
    · have e : nameKey c.name = c.key := by simp [nameKey, h.1.2, h.1.1]
      exact ⟨e ▸ hf, h.2⟩
    · have hnil : c.name = [] := by simpa using h.2
      have e : nameKey c.name = c.key := by simp [nameKey, hnil, h.1]
      exact ⟨e ▸ hf, Or.inr (by simp [hnil, endsWithBackslash])⟩
  | _ => exact stepSpell'_of_inv (lastStep := lastStep) hinv hk (fun h => by cases h)

end

theorem pathOK'_of_addressable (pos : Pos) (n : Node) (hinv : TreeInv n) (ha : addressableFrom n pos = true) :
    PathOK' n pos = true :=
  (pathOK'_along pos n).2 (Along.mono TreeInv treeInv_child
    (fun hinv hk hs => stepOK'_of_addressable hinv hk hs) pos n hinv ((addressable_along pos n).1 ha))

theorem spellOK'_of_spellable (pos : Pos) (n : Node) (hinv : TreeInv n) (ha : spellableFrom n pos = true) :
    SpellOK' n pos = true :=
  (spellOK'_along pos n).2 (Along.mono TreeInv treeInv_child
    (fun hinv hk hs => stepSpell'_of_spellable hinv hk hs) pos n hinv ((spellable_along pos n).1 ha))

theorem spellOK_of_spellable : ∀ (pos : Pos) (n : Node), TreeInv n → namedFrom n pos = true →
    spellableFrom n pos = true → SpellOK n pos = true
  | [], _, _, _, _ => rfl
  | i :: p, .mk k ky nm kids, hinv, hnm, ha => by
    obtain ⟨c, hk, hstep, hrest⟩ := (cons_iff spellable_along).1 ha
    simp only [namedFrom, hk, Bool.and_eq_true] at hnm
    exact (cons_iff spellOK_along).2 ⟨c, hk, stepSpell_of_spellable hinv hk hnm.1 hstep,
      spellOK_of_spellable p c (treeInv_child hinv hk) hnm.2 hrest⟩

theorem spellOK_of_spellableFrom (root : Node) (hinv : TreeInv root) : ∀ (pos : Pos) (n : Node) (el : Pos),
    root.get? el = some n → namedFrom n pos = true → spellableFrom n pos = true → SpellOK n pos = true :=
  fun pos n _ hg => spellOK_of_spellable pos n (treeInv_sub hinv hg)

theorem spellableStep_of_addressableStep {k : Kind} {c : Node} {lastStep : Bool}
    (h : addressableStep k c lastStep = true) : spellableStep k c lastStep = true := by
  simp only [addressableStep, spellableStep, Bool.or_eq_true, Bool.and_eq_true] at h ⊢
  rcases h with (h | h) | h
  · exact Or.inl (Or.inl h)
  · exact Or.inl (Or.inr ⟨h.1.2, h.2⟩)
  · exact Or.inr h

theorem spellableFrom_of_addressableFrom (pos : Pos) (n : Node) (h : addressableFrom n pos = true) :
    spellableFrom n pos = true :=
  (spellable_along pos n).2
    (Along.imp (fun _ hs => spellableStep_of_addressableStep hs) pos n ((addressable_along pos n).1 h))

theorem pathOK_of_addressableFrom (root : Node) (hinv : TreeInv root) : ∀ (pos : Pos) (n : Node) (el : Pos),
    root.get? el = some n → namedFrom n pos = true → addressableFrom n pos = true → PathOK n pos = true := by
  intro pos n el hg hnm ha
  have hinv' := treeInv_sub hinv hg
  rw [pathOK_eq, Bool.and_eq_true]
  exact ⟨pathOK'_of_addressable pos n hinv' ha,
    spellOK_of_spellable pos n hinv' hnm (spellableFrom_of_addressableFrom pos n ha)⟩

/-- a lookup that hits the child found it under the child's key -/
theorem addressable_of_stepOK' {k : Kind} {kids : List Node} {i : Nat} {c : Node} {lastStep : Bool}
    (hk : kids[i]? = some c) (h : stepOK' k kids i c lastStep = true) :
    addressableStep k c lastStep = true := by
  cases k with
  | map =>
    simp only [stepOK', Bool.and_eq_true, beq_iff_eq] at h
    obtain ⟨c', hc', hkey⟩ := findName_some_key (nameKey c.name) kids i h.1
    rw [hk, Option.some.injEq] at hc'
    subst hc'
    rw [addressableStep, hkey, h.2]
    cases c.name <;> simp [nameKey]
  | _ => rfl

theorem addressableFrom_of_pathOK' (pos : Pos) (n : Node) (h : PathOK' n pos = true) :
    addressableFrom n pos = true :=
  (addressable_along pos n).2
    (Along.imp (fun hk hs => addressable_of_stepOK' hk hs) pos n ((pathOK'_along pos n).1 h))

theorem addressableFrom_of_pathOK : ∀ (pos : Pos) (n : Node), PathOK n pos = true → addressableFrom n pos = true :=
  fun pos n h => addressableFrom_of_pathOK' pos n (pathOK'_of_pathOK pos n h)

/-- sufficient for the invariant at one element: a sequence of at most `intMaxDigits` members has
    no index longer than that -/
def nodeInvB (k : Kind) (kids : List Node) : Bool :=
  match k with
  | .scalar => kids.isEmpty
  | .map => decide (∀ i, (h : i < kids.length) → findName kids[i].key kids = some i)
  | _ => decide (kids.length ≤ intMaxDigits)

mutual
def treeInvB : Node → Bool
  | .mk k _ _ kids => nodeInvB k kids && treeInvBL kids
def treeInvBL : List Node → Bool
  | [] => true
  | c :: r => treeInvB c && treeInvBL r
end

theorem treeInvBL_getElem? : ∀ (l : List Node) (i : Nat) (c : Node), treeInvBL l = true → l[i]? = some c →
    treeInvB c = true
  | [], _, _, _, h => by cases h
  | a :: r, 0, c, hl, h => by
    rw [treeInvBL, Bool.and_eq_true] at hl
    cases h
    exact hl.1
  | a :: r, i + 1, c, hl, h => by
    rw [treeInvBL, Bool.and_eq_true] at hl
    exact treeInvBL_getElem? r i c hl.2 h

theorem treeInv_of_treeInvB (n : Node) (hn : treeInvB n = true) : TreeInv n := by
  intro p
  induction p generalizing n with
  | nil =>
    intro k ky nm kids hg
    cases hg
    rw [treeInvB, Bool.and_eq_true] at hn
    have hb := hn.1
    refine ⟨?_, ?_, ?_⟩
    · rintro rfl
      exact List.isEmpty_iff.1 hb
    · rintro rfl i c hc
      obtain ⟨hi, rfl⟩ := List.getElem?_eq_some_iff.1 hc
      exact of_decide_eq_true hb i hi
    · intro hk i hi
      have hlen : kids.length ≤ intMaxDigits := by
        rcases hk with rfl | rfl <;> exact of_decide_eq_true hb
      have := natStr_length_le i
      exact Or.inl (by omega)
  | cons i p ih =>
    intro k ky nm kids hg
    cases n with | mk k' ky' nm' kids' =>
    rw [treeInvB, Bool.and_eq_true] at hn
    rw [Node.get?] at hg
    cases hk : kids'[i]? with
    | none => rw [hk] at hg; cases hg
    | some c =>
      rw [hk] at hg
      exact ih c (treeInvBL_getElem? kids' i c hn.2 hk) k ky nm kids hg

/-- the property as stated: every tree the library can build, every element, every start -/
def C13_Full : Prop := ∀ root : Node, TreeInv root → Inverse root

/-- Dict{"": String} -/
def witnessEmpty : Node := .mk .map (some ['r']) ['r'] [.mk .scalar (some []) [] []]

theorem witnessEmpty_inv : TreeInv witnessEmpty := treeInv_of_treeInvB _ (by decide)

theorem tokenize_slash2 : tokenize ['/', '/'] = .ok [.top, .name none] :=
  tokenize_sufJoin [[]] (cleanB_nil true) (by simp)

/-- KF-C13-b: the field named `""` has `fq_name()` `//` (since 05c4adc; `/` before), and the empty step
    looks up the key `None`, not the key `''`: LookupError -/
theorem C13_full_fails : ¬ C13_Full := by
  intro h
  have hf := (isInverseAt_iff _ _ _).1 ((h witnessEmpty witnessEmpty_inv).2 [] [0] rfl rfl)
  exact absurd ((find_fq_iff_pathOK witnessEmpty [] [0] true (by decide)).1 hf) (by decide)

/-- Dict{"a\\.b": String} -/
def witnessBackslash : Node := .mk .map (some ['r']) ['r'] [.mk .scalar (some ['a', '\\', '.', 'b']) ['a', '\\', '.', 'b'] []]

/-- the half of KF-C13-a fixed by b49b3eb: a field named `a\.b` is found by its `fq_name()`
    (`/a\\.b`) -/
theorem C13_backslash_dot_ok : Inverse witnessBackslash := by
  apply C13_partial
  intro pos hp
  match pos, hp with
  | [], _ => rfl
  | [0], _ => decide
  | 0 :: j :: q, hp => simp [witnessBackslash, Node.get?] at hp
  | (i + 1) :: q, hp => simp [witnessBackslash, Node.get?] at hp

/-- Dict{"y\\": Dict{"z": String}} -/
def witnessTrailing : Node := .mk .map (some ['r']) ['r'] [.mk .map (some ['y', '\\']) ['y', '\\'] [.mk .scalar (some ['z']) ['z'] []]]

theorem witnessTrailing_inv : TreeInv witnessTrailing := treeInv_of_treeInvB _ (by decide)

/-- KF-C13-a: the field `z` below the Dict named `y\` has `fq_name()`
    `/y\/z`, which `find` reads as the single name `y/z` and, strictly, raises LookupError -/
theorem C13_full_fails_backslash : ¬ Inverse witnessTrailing := by
  intro h
  have hinv := h.2 [] [0, 0] rfl rfl
  have hfq : fqName witnessTrailing [0, 0] = '/' :: sufJoin [['y', '\\', '/', 'z']] := by decide
  have htok := tokenize_sufJoin [['y', '\\', '/', 'z']]
    (by simp [SufOK, cleanB_cons, isEscapable, cleanB_nil])
    (by intro x hx; simp at hx; subst hx; exact Or.inr ⟨by decide, by decide, by decide, by decide⟩)
  have hop : stepOp ['y', '\\', '/', 'z'] = .name (some ['y', '/', 'z']) := by
    simp [stepOp, stepData, unescape_cons, isUnescapable, unescape_nil]
  rw [← hfq, List.map_cons, List.map_nil, hop] at htok
  unfold isInverseAt at hinv
  rw [find_top witnessTrailing [] _ _ true htok rfl] at hinv
  revert hinv
  decide

/-- SparseDict{key "x" ↦ an element *named* "y"} (what `sd['x'] = X.named('y')(v)` leaves) -/
def witnessKey : Node := .mk .map (some ['r']) ['r'] [.mk .scalar (some ['x']) ['y'] []]

theorem witnessKey_inv : TreeInv witnessKey := treeInv_of_treeInvB _ (by decide)

/-- KF-C13-c: an element stored under the key `x` but named `y` has `fq_name()` `/y`; `find`
    looks `y` up among the keys and, strictly, raises LookupError.  The tree satisfies every
    library invariant (`witnessKey_inv`), so this refutes `C13_Full` as well. -/
theorem C13_full_fails_key : ¬ Inverse witnessKey := by
  intro h
  have hf := (isInverseAt_iff _ _ _).1 (h.2 [] [0] rfl rfl)
  exact absurd ((find_fq_iff_pathOK witnessKey [] [0] true (by decide)).1 hf) (by decide)

/-- a larger tree of the same class: Dict r { a Dict stored under key "a" but named "b" { List l [ String, String ] } };
    the mismatch sits two levels above the list members -/
def witnessKeyDeep : Node :=
  .mk .map (some ['r']) ['r'] [.mk .map (some ['a']) ['b'] [.mk .list (some ['l']) ['l'] [.mk .scalar (some []) [] [], .mk .scalar (some []) [] []]]]

theorem witnessKeyDeep_inv : TreeInv witnessKeyDeep := treeInv_of_treeInvB _ (by decide)

end Flatland.C13.Proofs
