/-
C01 — "… after which a second round trip changes nothing", with SparseDicts.

`roundtrip_sparse` says which tree `from_flat(flatten(e))` rebuilds from ANY conforming state: `prS e`.
Here: that tree conforms again, is in normal order and is stable (`prS` has nothing visible left to do on
it), so a second trip does not change the flat output.  The tree may still change on the second trip, as
in the dense case (`exNP_tree_changes`) and additionally: a non-minimum member whose rebuilt value emits
nothing is dropped (`sparse_tree_changes_second`).
-/
import Proofs.Lemmas.C01SparseSecondPr
import Proofs.Lemmas.C01SparseSecondNormal
import Proofs.C01SparseSecondWitness
namespace Flatland.Flat.Proofs
open Flatland.Flat Flatland.Flat.Spec

theorem prS_okS_root (env : Env) (sep : Str) (s : Schema) (e : Elem) (hw : wf s = true)
    (hbs : blankSettled env s = true) (has : arraysScalar s = true) (hok : OkS env s e) :
    OkS env s (prS env sep false s e) :=
  prS_okS s hw hbs has false e hok

theorem compoundsFull_of_compoundFree : ∀ s : Schema, compoundFree s = true →
    ∀ e : Elem, compoundsFull s e = true := by
  intro s
  induction s using schema_ind with
  | hleaf nm o k => intro _ e; cases e <;> simp [compoundsFull]
  | hjoined nm o k mem => intro _ e; cases e <;> simp [compoundsFull]
  | harray nm o p member ih => intro _ e; cases e <;> simp [compoundsFull]
  | hcompound nm o k fields ih => intro hcf; simp [compoundFree] at hcf
  | hdict nm o mode fields ih =>
    intro hcf e
    simp only [compoundFree] at hcf
    cases e with
    | dict ms =>
      simp only [compoundsFull]
      exact (compoundsFullMs_iff _ _).mpr (fun f hf e _ => ih f hf (compoundFree_of_mem hcf f hf) e)
    | _ => simp [compoundsFull]
  | hlist nm o p mx member ih =>
    intro hcf e
    simp only [compoundFree] at hcf
    cases e with
    | list ms =>
      simp only [compoundsFull, List.all_eq_true]
      exact fun m _ => ih hcf m
    | _ => simp [compoundsFull]

theorem blankFields_keys : ∀ fs : List Schema,
    (blankFields fs).map (·.1) = fs.map (fun f => f.name.getD [])
  | [] => rfl
  | f :: fs => by simp [blankFields, blankFields_keys fs]

theorem compoundsFull_blank : ∀ s : Schema, wf s = true → compoundsFull s (blank s) = true := by
  intro s
  induction s using schema_ind with
  | hleaf nm o k => intro _; simp [compoundsFull]
  | hjoined nm o k mem => intro _; simp [compoundsFull]
  | harray nm o p member ih => intro _; simp [compoundsFull]
  | hlist nm o p mx member ih => intro _; simp [blank, compoundsFull]
  | hdict nm o mode fields ih =>
    intro hw
    obtain ⟨hnd, hsome, hwf⟩ := wf_dict hw
    rw [blank_dict_members]
    simp only [compoundsFull]
    apply (compoundsFullMs_iff _ _).mpr
    intro f hf e hl
    rw [blankSel_eq_pick (isReq mode) (fun f => blank f) fields] at hl
    have he : e = blank f := by simpa using (lookup_pick fields hnd hsome _ _ _ hf hl).2
    rw [he]
    exact ih f hf (hwf f hf)
  | hcompound nm o k fields ih =>
    intro hw
    obtain ⟨hnd, hsome, hwf⟩ := wf_compound hw
    simp only [blank, compoundsFull, Bool.and_eq_true, decide_eq_true_eq]
    refine ⟨blankFields_keys fields, (compoundsFullMs_iff _ _).mpr ?_⟩
    intro f hf e hl
    rw [lookup_blankFields fields hnd hsome f hf] at hl
    injection hl with hl
    rw [← hl]
    exact ih f hf (hwf f hf)

/-- whatever subset of its fields a Compound state held, the rebuilt one holds all of them, in
    declaration order: `compoundsFull` holds of EVERY rebuilt tree (in particular it is preserved) -/
theorem compoundsFull_prS (env : Env) (sep : Str) : ∀ s : Schema, wf s = true →
    ∀ (u : Bool) (e : Elem), OkS env s e → compoundsFull s (prS env sep u s e) = true := by
  intro s
  induction s using schema_ind_mapping with
  | hleaf nm o k => intro _ u e _; cases e <;> simp [compoundsFull]
  | hjoined nm o k mem =>
    intro _ u e hok
    obtain ⟨t, ms, rfl, _⟩ := okS_joined_inv hok
    rw [prS_joined]
    rfl
  | harray nm o p member ih =>
    intro _ u e hok
    obtain ⟨ms, rfl, _⟩ := okS_array_inv hok
    simp [compoundsFull]
  | hlist nm o p mx member ih =>
    intro hw u e hok
    obtain ⟨ms, rfl, _, _, hmem⟩ := okS_list_inv hok
    simp only [wf] at hw
    rw [prS_list u nm o p mx member ms hmem]
    simp only [compoundsFull, List.all_eq_true]
    intro x hx
    obtain ⟨m, hm, rfl⟩ := mem_prList hx
    exact ih hw _ m (hmem m hm)
  | hdict nm o mode fields ih =>
    intro hw u e hok
    obtain ⟨ms, rfl, _, hmem⟩ := okS_dict_inv hok
    obtain ⟨hnd, hsome, hwf⟩ := wf_dict hw
    rw [prS_dict]
    simp only [compoundsFull]
    apply (compoundsFullMs_iff _ _).mpr
    intro f hf e hl
    rw [(lookup_pick fields hnd hsome _ _ _ hf hl).2]
    split
    · exact valS_cases (P := fun x => compoundsFull f x = true) (compoundsFull_blank f (hwf f hf)) fun x hlm =>
        ih f hf (hwf f hf) u x (okS_member_lookup hnd hmem hf (name_eq_nmOf hsome hf) hlm)
    · exact compoundsFull_blank f (hwf f hf)
  | hcompound nm o k fields ih =>
    intro hw u e hok
    have h := ih hw u e ((okS_compound nm o k fields e).mp hok)
    obtain ⟨ms, rfl, _⟩ := okS_dict_inv ((okS_compound nm o k fields e).mp hok)
    rw [prS_compound]
    rw [prS_dict] at h ⊢
    simp only [compoundsFull, Bool.and_eq_true, decide_eq_true_eq] at h ⊢
    refine ⟨?_, h⟩
    rw [List.map_append, pickV_keys, pickV_keys]
    show pickKeys (fun _ => true) _ true fields ++ pickKeys (fun _ => true) _ false fields = _
    rw [(pickKeys_all _ fields).1, (pickKeys_all _ fields).2, List.append_nil]

theorem flatten_prS_prS_full (env : Env) (sep sep' : Str) (s : Schema) (u : Bool) (e : Elem)
    (hw : wf s = true) (hbs : blankSettled env s = true) (hpf : prefixFree s = true)
    (hcf : compoundsFull s e = true) (has : arraysScalar s = true) (hok : OkS env s e) :
    flatten env sep' s (prS env sep u s (prS env sep u s e)) = flatten env sep' s (prS env sep u s e) :=
  flatten_prS_of_stable env sep sep' s u _ hw (prS_okS s hw hbs has u e hok)
    (stableS_prS s ⟨hw, hpf, hbs, has⟩ u e hok hcf)

theorem flatten_prS_prS (env : Env) (sep sep' : Str) (s : Schema) (u : Bool) (e : Elem)
    (hw : wf s = true) (hbs : blankSettled env s = true) (hpf : prefixFree s = true)
    (hcf : compoundFree s = true) (has : arraysScalar s = true) (hok : OkS env s e) :
    flatten env sep' s (prS env sep u s (prS env sep u s e)) = flatten env sep' s (prS env sep u s e) :=
  flatten_prS_prS_full env sep sep' s u e hw hbs hpf (compoundsFull_of_compoundFree s hcf e) has hok

/-- the statement without `compoundsFull`, kept visible; it is not proved (DESIGN.md: false for a contrived
    `compose`, the witness is not formalised) -/
def C01_Sparse_Second_Full : Prop :=
  ∀ (env : Env) (sep : Str) (s : Schema) (e : Elem),
    SepSafe env sep (Tok s) → EnvOK env → wf s = true → rootOK s = true →
    blankSettled env s = true → prefixFree s = true → arraysScalar s = true → OkS env s e →
    flatten env sep s (fromFlat env sep s (flatten env sep s (fromFlat env sep s (flatten env sep s e))))
      = flatten env sep s (fromFlat env sep s (flatten env sep s e))

/-- **C01, second round trip, SparseDicts AND Compounds.**  After one round trip through `flatten` /
    `from_flat`, a second round trip changes nothing in the flattened output: for every well-formed schema —
    Compounds and SparseDicts mixed at any depth — and every conforming state whose Compound states
    hold all their declared fields in order (`compoundsFull`, decidable; true of every real Compound:
    `Compound.__init__` creates every field and nothing removes one).  `OkS` alone lets a Compound
    state hold a subset of its fields; then trip 1 adds the missing ones blank and the Compound's own
    text `env.compose k …` is composed from a different list.  `blankSettled` and `prefixFree` are both
    needed (`second_trip_needs_blankSettled`, `second_trip_needs_prefixFree`).  `_partial`: `compoundsFull`
    and `arraysScalar` (an Array holds scalars — what `OkS` demands of every Array *state* anyway). -/
theorem roundtrip_sparse_second_flat_compound_partial (env : Env) (sep : Str) (s : Schema) (e : Elem)
    (hs : SepSafe env sep (Tok s)) (henv : EnvOK env) (hw : wf s = true) (hroot : rootOK s = true)
    (hbs : blankSettled env s = true) (hpf : prefixFree s = true)
    (hcf : compoundsFull s e = true) (has : arraysScalar s = true) (hok : OkS env s e) :
    flatten env sep s (fromFlat env sep s (flatten env sep s (fromFlat env sep s (flatten env sep s e))))
      = flatten env sep s (fromFlat env sep s (flatten env sep s e)) := by
  rw [roundtrip_sparse env sep s e hs henv hw hroot hok,
    roundtrip_sparse env sep s _ hs henv hw hroot (prS_okS s hw hbs has false e hok)]
  exact flatten_prS_prS_full env sep sep s false e hw hbs hpf hcf has hok

/-- **C01, second round trip, SparseDicts included.**  After one round trip through `flatten` /
    `from_flat`, a second round trip changes nothing in the flattened output.  The Compound-free case
    of the theorem above: there is no Compound state to be incomplete.  (Schemas with Compounds but
    without SparseDicts: `roundtrip_second_flatten`.) -/
theorem roundtrip_sparse_second_flat_partial (env : Env) (sep : Str) (s : Schema) (e : Elem)
    (hs : SepSafe env sep (Tok s)) (henv : EnvOK env) (hw : wf s = true) (hroot : rootOK s = true)
    (hbs : blankSettled env s = true) (hpf : prefixFree s = true)
    (hcf : compoundFree s = true) (has : arraysScalar s = true) (hok : OkS env s e) :
    flatten env sep s (fromFlat env sep s (flatten env sep s (fromFlat env sep s (flatten env sep s e))))
      = flatten env sep s (fromFlat env sep s (flatten env sep s e)) :=
  roundtrip_sparse_second_flat_compound_partial env sep s e hs henv hw hroot hbs hpf
    (compoundsFull_of_compoundFree s hcf e) has hok

/-- the rebuilt tree is conforming, normal and stable: the second-trip theorem applies to it again, so
    the third, fourth, … trips rebuild the flat output of the first as well -/
theorem roundtrip_sparse_rebuilt (env : Env) (sep : Str) (s : Schema) (e : Elem)
    (hs : SepSafe env sep (Tok s)) (henv : EnvOK env) (hw : wf s = true) (hroot : rootOK s = true)
    (hbs : blankSettled env s = true) (hpf : prefixFree s = true)
    (hcf : compoundFree s = true) (has : arraysScalar s = true) (hok : OkS env s e) :
    OkS env s (fromFlat env sep s (flatten env sep s e)) ∧
    sparseNormal s (fromFlat env sep s (flatten env sep s e)) = true ∧
    StableS env sep false s (fromFlat env sep s (flatten env sep s e)) := by
  rw [roundtrip_sparse env sep s e hs henv hw hroot hok]
  exact ⟨prS_okS s hw hbs has false e hok, prS_sparseNormal s hw false e hok,
    stableS_prS s ⟨hw, hpf, hbs, has⟩ false e hok (compoundsFull_of_compoundFree s hcf e)⟩

/-! ### non-vacuity: a `sparseReq` SparseDict in a pruning List of Dicts — trip 1 prunes a member,
    drops an empty optional member and reorders; trip 2 is the identity -/

example :
    flatten exEnv01 "_".toList exSecSchema (fromFlat exEnv01 "_".toList exSecSchema
      (flatten exEnv01 "_".toList exSecSchema (fromFlat exEnv01 "_".toList exSecSchema
        (flatten exEnv01 "_".toList exSecSchema exSecElem))))
    = flatten exEnv01 "_".toList exSecSchema (fromFlat exEnv01 "_".toList exSecSchema
      (flatten exEnv01 "_".toList exSecSchema exSecElem)) :=
  roundtrip_sparse_second_flat_partial exEnv01 "_".toList exSecSchema exSecElem exSec_sepSafe
    exSec_envOK exSec_wf exSec_rootOK exSec_blankSettled exSec_prefixFree (by decide +kernel) (by decide +kernel) exSec_ok

example : prS exEnv01 "_".toList false exSecSchema exSecElem ≠ exSecElem := exSec_trip1_changes

example : prS exEnv01 "_".toList false exSecSchema (prS exEnv01 "_".toList false exSecSchema exSecElem)
    = prS exEnv01 "_".toList false exSecSchema exSecElem := exSec_trip2_identity

/-- SparseDict{l?: List(prune) of scalars} holding {l: ['']} -/
def exTCSchema : Schema :=
  .dict none false .sparse [.list (some "l".toList) true true 1024 (.leaf none false 0)]
def exTCElem : Elem := .dict [("l".toList, .list [.leaf []])]

/-- trip 1 prunes the list but keeps the member (its key `l_0` was seen), trip 2 drops the member
    that no longer emits anything: `{l: ['']} -> {l: []} -> {}`; both rebuilt trees flatten to `[]` -/
theorem sparse_tree_changes_second :
    prS exEnv01 "_".toList false exTCSchema exTCElem = .dict [("l".toList, .list [])] ∧
    prS exEnv01 "_".toList false exTCSchema (.dict [("l".toList, .list [])]) = .dict [] := by
  constructor <;> (simp only [exTCSchema, exTCElem]; simp [flat_eval, prS_eval])

end Flatland.Flat.Proofs
