/-
C02 — "confined": a pair whose key addresses nothing has no effect on the tree `from_flat` builds.

`confined_filter` (all stray pairs at once: only the pairs that address something matter) is proved for every
well-formed schema without SparseDicts and every pair list; at a scalar, a List, an Array it is `reach_filter`, the
first layer alone, which holds of every schema and state.  `confined_fromFlat` is the case of one stray pair at any position.
For SparseDicts the full statement is false of the code (KF-C02-b): see `confined_full_fails`.
-/
import Flatland.Flat
import Flatland.Spec.C02
import Proofs.C02
namespace Flatland.Flat.Proofs
open Flatland.Flat Flatland.Flat.Spec

theorem denseL_iff (fs : List Schema) : denseL fs = true ↔ ∀ f ∈ fs, dense f = true :=
  andL_iff rfl (fun _ _ => rfl) fs

theorem dense_of_mem {fs : List Schema} (h : denseL fs = true) : ∀ f ∈ fs, dense f = true := (denseL_iff fs).mp h

theorem schema_ind_wf {Q : Schema → Prop}
    (hleaf : ∀ nm o k, Q (.leaf nm o k))
    (hjoined : ∀ nm o k m, Q (.joined nm o k m))
    (hdict : ∀ nm o fields, (namesOf fields).Nodup → (∀ g ∈ fields, g.name.isSome) →
      (∀ f ∈ fields, wf f = true ∧ dense f = true ∧ Q f) → Q (.dict nm o .dense fields))
    (hcompound : ∀ nm o k fields, (namesOf fields).Nodup → (∀ g ∈ fields, g.name.isSome) →
      (∀ f ∈ fields, wf f = true ∧ dense f = true ∧ Q f) → Q (.dict nm o .dense fields) →
      Q (.compound nm o k fields))
    (hlist : ∀ nm o p mx member, wf member = true → dense member = true → Q member →
      Q (.list nm o p mx member))
    (harray : ∀ nm o p member, wf member = true → dense member = true → Q member →
      Q (.array nm o p member)) :
    ∀ s : Schema, wf s = true → dense s = true → Q s := by
  intro s
  induction s using schema_ind with
  | hleaf nm o k => intro _ _; exact hleaf nm o k
  | hjoined nm o k m => intro _ _; exact hjoined nm o k m
  | hdict nm o mode fields ih =>
    intro hw hd
    obtain ⟨hn, hs, hwf⟩ := wf_dict hw
    simp only [dense, Bool.and_eq_true, decide_eq_true_eq, denseL_iff] at hd
    obtain ⟨rfl, hdl⟩ := hd
    exact hdict nm o fields hn hs (fun f hf => ⟨hwf f hf, hdl f hf, ih f hf (hwf f hf) (hdl f hf)⟩)
  | hcompound nm o k fields ih =>
    intro hw hd
    obtain ⟨hn, hs, hwf⟩ := wf_compound hw
    simp only [dense, denseL_iff] at hd
    have hf : ∀ f ∈ fields, wf f = true ∧ dense f = true ∧ Q f := fun f hf =>
      ⟨hwf f hf, hd f hf, ih f hf (hwf f hf) (hd f hf)⟩
    exact hcompound nm o k fields hn hs hf (hdict nm o fields hn hs hf)
  | hlist nm o p mx member ih =>
    intro hw hd
    simp only [wf] at hw
    simp only [dense] at hd
    exact hlist nm o p mx member hw hd (ih hw hd)
  | harray nm o p member ih =>
    intro hw hd
    simp only [wf] at hw
    simp only [dense] at hd
    exact harray nm o p member hw hd (ih hw hd)

theorem addr_compound (env : Env) (sep : Str) (nm : Option Str) (o : Bool) (k : Nat) (fs : List Schema)
    (key : Key) : addr env sep (.compound nm o k fs) key = addr env sep (.dict nm o .dense fs) key := by
  simp only [addr]

theorem dense_compound (nm : Option Str) (o : Bool) (k : Nat) (fs : List Schema) :
    dense (.compound nm o k fs) = dense (.dict nm o .dense fs) := by
  simp [dense]

/-- what a mapping named `name` makes of one pair: the key without `name ++ sep`, if it lies under it -/
def stripPair (sep : Str) (name : Option Str) (p : Key × Str) : Option (Str × Str) :=
  p.1.bind fun k => (stripName sep name k).map fun rest => (rest, p.2)

/-- the first step of `Mapping._set_flat` is one `filterMap` (as `groupOf` and `indexesOf` are by definition):
    what `filterMap` carries over — concatenation, permutation — it carries over -/
theorem possibles_eq_filterMap (sep : Str) (name : Option Str) (ps : Pairs) :
    possibles sep name ps = ps.filterMap (stripPair sep name) := by
  unfold possibles
  cases name with
  | none =>
    simp only
    congr 1; funext p
    cases h : p.1 <;> simp [stripPair, stripName, h]
  | some n =>
    simp only [List.filterMap_filterMap]
    congr 1; funext p
    cases h : p.1 with
    | none => simp [stripPair, h]
    | some k => simp only [stripPair, stripName, h, Option.map_some, Option.bind_some]; split <;> simp_all

theorem wrap_append (a b : List (Str × Str)) : wrap (a ++ b) = wrap a ++ wrap b := by
  simp [wrap]

theorem wrap_cons (x : Str × Str) (b : List (Str × Str)) : wrap (x :: b) = (some x.1, x.2) :: wrap b := by
  simp [wrap]

theorem setFields_nil (env : Env) (sep : Str) (fs : List Schema) (members : List (Str × Elem)) :
    setFields env sep fs members [] = members := by
  induction fs generalizing members with
  | nil => simp [setFields]
  | cons f fs ih => simp [setFields, ih]

/-- a fresh dense Dict: the emptiness test of `Mapping._set_flat` is idle -/
theorem setFlat_dense_blank (env : Env) (sep : Str) (nm : Option Str) (o : Bool) (fields : List Schema) (ps : Pairs) :
    setFlat env sep (.dict nm o .dense fields) (blank (.dict nm o .dense fields)) ps
      = .dict (setFields env sep fields (blankFields fields) (possibles sep nm ps)) := by
  simp only [setFlat, blank, membersOf]
  split
  · rename_i he
    rw [List.isEmpty_iff.mp he, setFields_nil]
  · rfl

theorem anonPass_eq_none (prune : Bool) (cn : Option Str) (p : Key × Str)
    (h : arrayAddrAnon cn p.1 = false) : anonPass prune cn p = none := by
  obtain ⟨key, v⟩ := p
  unfold arrayAddrAnon at h
  unfold anonPass
  simp only
  generalize (if (key == some []) = true then none else key) = key' at h ⊢
  cases ht : truthy cn with
  | true =>
    have h2 : (key' != cn) = true := by simpa [ht, bne] using h
    simp [h2]
  | false =>
    have h3 : key'.isSome = true := by simpa [ht] using h
    simp [h3]

theorem namedPass_eq_none (sep : Str) (prune : Bool) (name : Str) (cn : Option Str) (p : Key × Str)
    (h : arrayAddrNamed sep name cn p.1 = false) : namedPass sep prune name cn p = none := by
  obtain ⟨key, v⟩ := p
  unfold arrayAddrNamed at h
  unfold namedPass
  cases key with
  | none => rfl
  | some k =>
    simp only at h ⊢
    cases hr : arrayRemainder sep name k with
    | none => rfl
    | some rem =>
      have h2 : (rem != cn) = true := by simpa [hr, bne] using h
      simp [h2]

theorem arrayPass_stray (env : Env) (sep : Str) (name : Option Str) (o prune : Bool) (member : Schema)
    (p : Key × Str) (h : addr env sep (.array name o prune member) p.1 = false) :
    arrayPass sep name prune member.name p = none := by
  simp only [addr] at h
  unfold arrayPass
  split at h
  · rename_i hn; rw [if_pos hn]; exact anonPass_eq_none prune _ p h
  · rename_i hn; rw [if_neg hn]; exact namedPass_eq_none sep prune _ _ p h

theorem filterMap_filter_none {α β} (p : α → Bool) (f : α → Option β) (l : List α)
    (h : ∀ x ∈ l, p x = false → f x = none) : (l.filter p).filterMap f = l.filterMap f := by
  induction l with
  | nil => rfl
  | cons a as ih =>
    have iha := ih (fun x hx => h x (List.mem_cons_of_mem _ hx))
    by_cases hp : p a = true
    · simp only [List.filter_cons, hp, if_true, List.filterMap_cons, iha]
    · have hp' : p a = false := by simpa using hp
      simp only [List.filter_cons, hp', Bool.false_eq_true, if_false, List.filterMap_cons,
        h a (by simp) hp', iha]

/-- does `key` pass the first test `_set_flat` of an element of schema `s` applies? -/
def reach (env : Env) (sep : Str) : Schema → Key → Bool
  | .leaf name _ _, key => key == name
  | .joined name _ _ _, key => key == name
  | .dict name _ _ _, key =>
    match key with
    | none => false
    | some k => (stripName sep name k).isSome
  | .compound name _ _ _, key =>
    match key with
    | none => false
    | some k => (stripName sep name k).isSome
  | .list name _ _ _ _, key => (listAddr env sep name key).isSome
  | .array name _ _ member, key =>
    if !truthy name then arrayAddrAnon member.name key
    else arrayAddrNamed sep (name.getD []) member.name key

theorem find?_filter_self {α} (p : α → Bool) (l : List α) : (l.filter p).find? p = l.find? p := by
  simp [List.find?_filter]

theorem possibles_nil (sep : Str) (name : Option Str) : possibles sep name [] = [] := by
  cases name <;> simp [possibles]

theorem possibles_filter (sep : Str) (name : Option Str) (ps : Pairs) :
    possibles sep name (ps.filter (fun p => match p.1 with
      | none => false
      | some k => (stripName sep name k).isSome)) = possibles sep name ps := by
  rw [possibles_eq_filterMap, possibles_eq_filterMap]
  refine filterMap_filter_none _ _ ps fun p _ hp => ?_
  obtain ⟨key, v⟩ := p
  cases key with
  | none => rfl
  | some k => simp only [Option.isSome_eq_false_iff, Option.isNone_iff_eq_none] at hp; simp [stripPair, hp]

theorem indexesOf_filter (env : Env) (sep : Str) (name : Option Str) (prune : Bool) (ps : Pairs) :
    indexesOf env sep name prune (ps.filter (fun p => (listAddr env sep name p.1).isSome))
      = indexesOf env sep name prune ps := by
  unfold indexesOf
  apply filterMap_filter_none
  intro x _ hx
  have : listAddr env sep name x.1 = none := by simpa using hx
  simp [this]

theorem groupOf_filter (env : Env) (sep : Str) (name : Option Str) (prune : Bool) (i : Nat) (ps : Pairs) :
    groupOf env sep name prune i (ps.filter (fun p => (listAddr env sep name p.1).isSome))
      = groupOf env sep name prune i ps := by
  unfold groupOf
  apply filterMap_filter_none
  intro x _ hx
  have : listAddr env sep name x.1 = none := by simpa using hx
  simp [this]

theorem arrayPass_reach (env : Env) (sep : Str) (name : Option Str) (o prune : Bool) (member : Schema) (X : Pairs) :
    (X.filter (fun p => reach env sep (.array name o prune member) p.1)).filterMap
        (arrayPass sep name prune member.name) = X.filterMap (arrayPass sep name prune member.name) :=
  filterMap_filter_none _ _ X (fun x _ hx => arrayPass_stray env sep name o prune member x hx)

/-- First-layer confinement, for every schema (SparseDicts included) and every state: pairs whose
    key does not pass the element's own first test have no effect. -/
theorem reach_filter (env : Env) (sep : Str) (s : Schema) (e : Elem) (ps : Pairs) :
    setFlat env sep s e ps = setFlat env sep s e (ps.filter (fun p => reach env sep s p.1)) := by
  cases s with
  | leaf name o k =>
    simp only [setFlat, reach]
    rw [find?_filter_self (fun p : Key × Str => p.1 == name)]
  | joined name o k m =>
    simp only [setFlat, reach]
    rw [find?_filter_self (fun p : Key × Str => p.1 == name)]
  | dict name o mode fields =>
    simp only [setFlat, reach, possibles_filter]
  | compound name o k fields =>
    simp only [setFlat, reach, possibles_filter]
  | list name o prune mx member => simp only [setFlat_list, reach, indexesOf_filter, groupOf_filter]
  | array name o prune member =>
    rw [setFlat_array, setFlat_array, arrayPass_reach]

theorem lookup_blankFields (fs : List Schema) (hn : (namesOf fs).Nodup)
    (hs : ∀ g ∈ fs, g.name.isSome) :
    ∀ f ∈ fs, lookup (f.name.getD []) (blankFields fs) = some (blank f) := by
  intro f hf
  rw [lookup_eq, blankFields_sel, blankSel_eq, List.filter_eq_self.mpr (fun _ _ => rfl)]
  refine (Assoc.mem_iff_get ?_).mp (List.mem_map_of_mem (f := fun f => (nmOf f, blank f)) hf)
  rw [Assoc.keys, List.map_map]
  exact nmOf_nodup fs hn hs

/-- on a member that is still blank the emptiness test changes nothing -/
theorem stepM_blank {env : Env} {sep : Str} {f : Schema} {ms : List (Str × Elem)}
    (h : lookup (f.name.getD []) ms = some (blank f)) (acc : List (Str × Str)) :
    stepM env sep f ms acc = Assoc.set ms (f.name.getD []) (setFlat env sep f (blank f) (wrap acc)) := by
  rw [stepM_eq, h, Option.getD_some]
  split
  · rename_i he
    rw [List.isEmpty_iff.mp he]
    exact (Assoc.set_of_get (by rw [← lookup_eq, h]; exact congrArg some (setFlat_blank_nil env sep f).symm)).symm
  · rfl

/-- while every field's member is still blank, the field loop depends on the pairs only through what `set_flat` makes
    of each field's share on a blank member -/
theorem setFields_blank_congr (env : Env) (sep : Str) {poss poss' : List (Str × Str)} : ∀ (fs : List Schema),
    (namesOf fs).Nodup → (∀ g ∈ fs, g.name.isSome) → ∀ members : List (Str × Elem),
    (∀ f ∈ fs, lookup (f.name.getD []) members = some (blank f)) →
    (∀ f ∈ fs, setFlat env sep f (blank f) (wrap (poss.filter fun p => isPrefix (f.name.getD []) p.1))
      = setFlat env sep f (blank f) (wrap (poss'.filter fun p => isPrefix (f.name.getD []) p.1))) →
    setFields env sep fs members poss = setFields env sep fs members poss' := by
  intro fs
  induction fs with
  | nil => intros; simp [setFields]
  | cons f fs ih =>
    intro hn hs members hinv h
    simp only [namesOf, List.nodup_cons] at hn
    have hlook := hinv f (by simp)
    rw [setFields_cons, setFields_cons, stepM_blank hlook, stepM_blank hlook, h f (by simp), ← stepM_blank hlook]
    refine ih hn.2 (fun g hg => hs g (List.mem_cons_of_mem _ hg)) _ (fun g hg => ?_)
      (fun g hg => h g (List.mem_cons_of_mem _ hg))
    -- the members of the fields still to come are untouched
    rw [lookup_stepM_ne]
    · exact hinv g (List.mem_cons_of_mem _ hg)
    · intro heq
      exact hn.1 (getD_inj (hs f (by simp)) (hs g (List.mem_cons_of_mem _ hg)) heq ▸ mem_namesOf hg)

theorem addrFields_iff (env : Env) (sep : Str) (fs : List Schema) (rest : Str) :
    addrFields env sep fs rest = true ↔
      ∃ f ∈ fs, isPrefix (f.name.getD []) rest = true ∧ addr env sep f (some rest) = true := by
  induction fs with
  | nil => simp [addrFields]
  | cons g gs ih => simp only [addrFields, Bool.or_eq_true, Bool.and_eq_true, ih, List.mem_cons, exists_eq_or_imp]

theorem possibles_filter_addr (env : Env) (sep : Str) (nm : Option Str) (o : Bool) (mode : DictMode)
    (fields : List Schema) (ps : Pairs) :
    possibles sep nm (ps.filter (fun p => addr env sep (.dict nm o mode fields) p.1))
      = (possibles sep nm ps).filter (fun q => addrFields env sep fields q.1) := by
  rw [possibles_eq_filterMap, possibles_eq_filterMap, List.filterMap_filter, List.filter_filterMap]
  congr 1; funext p
  obtain ⟨key, v⟩ := p
  cases key with
  | none => simp [addr, stripPair]
  | some k => cases h : stripName sep nm k <;> simp [addr, stripPair, h, Option.filter]

/-- Confined, all stray pairs at once: only the pairs that address something in the schema matter.  At a scalar,
    a List, an Array the address test is the element's own first test (`reach_filter`). -/
theorem confined_filter (env : Env) (sep : Str) (s : Schema) (hw : wf s = true)
    (hd : dense s = true) (ps : Pairs) :
    setFlat env sep s (blank s) ps
      = setFlat env sep s (blank s) (ps.filter (fun p => addr env sep s p.1)) := by
  refine schema_ind_wf (Q := fun s => ∀ ps : Pairs, setFlat env sep s (blank s) ps
      = setFlat env sep s (blank s) (ps.filter (fun p => addr env sep s p.1))) ?_ ?_ ?_ ?_ ?_ ?_ s hw hd ps
  · intro nm o k ps; simpa only [reach, addr] using reach_filter env sep (.leaf nm o k) _ ps
  · intro nm o k m ps; simpa only [reach, addr] using reach_filter env sep (.joined nm o k m) _ ps
  · intro nm o fields hnd hsome ih ps
    rw [setFlat_dense_blank, setFlat_dense_blank, possibles_filter_addr]
    congr 1
    refine setFields_blank_congr env sep fields hnd hsome _ (lookup_blankFields fields hnd hsome) fun f hf => ?_
    -- a field is handed the pairs that start with its name; of those, the ones that address something in it address a field
    rw [(ih f hf).2.2, (ih f hf).2.2 (wrap _)]
    congr 1
    simp only [wrap, List.filter_map, List.filter_filter]
    congr 1
    refine List.filter_congr fun p _ => ?_
    cases hp : isPrefix (f.name.getD []) p.1 <;> cases ha : addr env sep f (some p.1) <;> simp [Function.comp, ha]
    exact (addrFields_iff env sep fields p.1).mpr ⟨f, hf, hp, ha⟩
  · intro nm o k fields _ _ _ hdict
    simpa only [setFlat_compound, blank_compound, addr_compound] using hdict
  · intro nm o p mx member _ _ _ ps
    simpa only [reach, addr] using reach_filter env sep (.list nm o p mx member) _ ps
  · intro nm o p member _ _ _ ps
    simpa only [reach, addr] using reach_filter env sep (.array nm o p member) _ ps

theorem confined_setFlat (env : Env) (sep : Str) (s : Schema) (hw : wf s = true) (hd : dense s = true)
    (a b : Pairs) (key : Key) (v : Str) (h : addr env sep s key = false) :
    setFlat env sep s (blank s) (a ++ (key, v) :: b) = setFlat env sep s (blank s) (a ++ b) := by
  rw [confined_filter env sep s hw hd, confined_filter env sep s hw hd (a ++ b)]
  simp only [List.filter_append, List.filter_cons, h, Bool.false_eq_true, if_false]

theorem confined_setFields (env : Env) (sep : Str) : ∀ (fs : List Schema), wfL fs = true →
    denseL fs = true → ∀ (members : List (Str × Elem)) (A B : List (Str × Str)) (rest v : Str),
    addrFields env sep fs rest = false →
    (∀ f ∈ fs, lookup (f.name.getD []) members = some (blank f)) →
    (namesOf fs).Nodup → (∀ g ∈ fs, g.name.isSome) →
    setFields env sep fs members (A ++ (rest, v) :: B) = setFields env sep fs members (A ++ B) := by
  intro fs hw hd members A B rest v h hinv hn hs
  refine setFields_blank_congr env sep fs hn hs members hinv fun f hf => ?_
  -- the field is handed the stray pair only if the pair starts with its name, and then drops it
  simp only [List.filter_append, List.filter_cons]
  split
  · rename_i hp
    have ha : addr env sep f (some rest) = false := Bool.eq_false_iff.mpr fun ha =>
      Bool.eq_false_iff.mp h ((addrFields_iff env sep fs rest).mpr ⟨f, hf, hp, ha⟩)
    rw [wrap_append, wrap_cons, confined_setFlat env sep f (wf_of_mem hw f hf) (dense_of_mem hd f hf) _ _ _ _ ha,
      wrap_append]
  · rfl

/-- C02, confined: for every well-formed schema without SparseDicts, every separator, every pair
    list and every position in it: a pair whose key does not follow declared field names down to a
    leaf or to an index of a declared list has no effect on the tree `from_flat` builds. -/
theorem confined_fromFlat (env : Env) (sep : Str) (s : Schema) (hw : wf s = true)
    (hd : dense s = true) (ps₁ ps₂ : List (Str × Str)) (k v : Str)
    (h : addr env sep s (some k) = false) :
    fromFlat env sep s (ps₁ ++ (k, v) :: ps₂) = fromFlat env sep s (ps₁ ++ ps₂) := by
  unfold fromFlat
  rw [wrap_append, wrap_cons, wrap_append]
  exact confined_setFlat env sep s hw hd (wrap ps₁) (wrap ps₂) (some k) v h

/-- the full statement, for every well-formed schema (SparseDicts included) -/
def C02_confined_Full : Prop :=
  ∀ (env : Env) (sep : Str) (s : Schema), wf s = true →
    ∀ (ps₁ ps₂ : List (Str × Str)) (k v : Str), addr env sep s (some k) = false →
      fromFlat env sep s (ps₁ ++ (k, v) :: ps₂) = fromFlat env sep s (ps₁ ++ ps₂)

def exEnv : Env := { norm := fun _ s => s, compose := fun _ _ => [], joinedMembers := fun _ _ => [],
                     ndZeros := [48], maxDigits := 4300 }

/-- KF-C02-b: a SparseDict materialises field `a` for the stray key `abc`. -/
theorem confined_full_fails : ¬ C02_confined_Full := by
  intro h
  have := h exEnv "_".toList
    (.dict none false .sparse [.leaf (some "a".toList) false 0, .leaf (some "b".toList) false 0])
    (by decide +kernel) [] [] "abc".toList "x".toList (by decide +kernel)
  simp [fromFlat, setFlat, setFields, blank, wrap, possibles, membersOf, lookup, isPrefix,
    Schema.name] at this

/-- non-vacuity: a dense schema and a stray key the theorem applies to -/
example : wf (.dict none false .dense [.leaf (some "a".toList) false 0]) = true ∧
    dense (.dict none false .dense [.leaf (some "a".toList) false 0]) = true ∧
    addr exEnv "_".toList (.dict none false .dense [.leaf (some "a".toList) false 0]) (some "abc".toList) = false := by
  decide +kernel

end Flatland.Flat.Proofs
