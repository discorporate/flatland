/-
C20, failure and recovery paths: what `slice` / `update_object` / `set_by_object` leave behind
when something raises on the way.  With a key function that never raises, usable arguments, an object that
accepts every `setattr` and whose reads do not raise, the `…P` functions are the functions of
`Flatland/C20.lean` (`sliceP_refines`, `updateObjectP_refines`, `setByObjectP_refines`), so every theorem of
`Proofs/C20.lean` speaks about them.
-/
import Flatland.C20
import Flatland.Spec.C20
import Proofs.Lemmas.C20Dict
import Proofs.C20
namespace Flatland.C20.Proofs
open Flatland.C20 Flatland.C20.Spec

variable {V : Type}

theorem keysliceOne_key (a : Args) (f : Str → Str) (k : Str) :
    keysliceOne { a with key := some f } k = keysliceOne { a with key := none } (f k) := rfl

/-- the exception a key function raises on a name, if it raises -/
def keyErr (pk : PKey) (k : Str) : Option Err :=
  match pk k with
  | .error x => some x
  | .ok _ => none

/-- destination of a name under a key function that may raise (nothing when it raises) -/
def outKeyP (a : Args) (pk : PKey) (k : Str) : Option Str :=
  match pk k with
  | .ok k1 => keysliceOne { a with key := none } k1
  | .error _ => none

/-- the pairs a loop over `ps` emits -/
def selP (a : Args) (pk : PKey) (ps : List (Str × V)) : List (Str × V) :=
  ps.filterMap fun p => (outKeyP a pk p.1).map (·, p.2)

theorem keyErr_none {pk : PKey} {k : Str} : keyErr pk k = none ↔ ∃ k1, pk k = .ok k1 := by
  unfold keyErr; cases pk k <;> simp

theorem keyErr_some {pk : PKey} {k : Str} {x : Err} : keyErr pk k = some x ↔ pk k = .error x := by
  unfold keyErr; cases pk k <;> simp

theorem keyErr_outKeyP (a : Args) (pk : PKey) (k : Str) (r : Except Err Str) :
    pk k = r → keyErr pk k = (match r with | .error x => some x | .ok _ => none) ∧
      outKeyP a pk k = (match r with | .ok k1 => keysliceOne { a with key := none } k1 | .error _ => none) := by
  rintro rfl; exact ⟨rfl, rfl⟩

theorem keysliceLoopP_eq (a : Args) (pk : PKey) (ps : List (Str × V)) :
    keysliceLoopP a pk ps =
      match ps.findSome? (fun p => keyErr pk p.1) with
      | some x => .error x
      | none => .ok (selP a pk ps) := by
  induction ps with
  | nil => rfl
  | cons p rest ih =>
    obtain ⟨k, v⟩ := p
    simp only [keysliceLoopP, ih, List.findSome?_cons, selP, List.filterMap_cons]
    cases hk : pk k with
    | error x => simp only [(keyErr_outKeyP a pk k _ hk).1]
    | ok k1 =>
      simp only [(keyErr_outKeyP a pk k _ hk).1, (keyErr_outKeyP a pk k _ hk).2]
      cases List.findSome? (fun p => keyErr pk p.1) rest with
      | some x => rfl
      | none => simp only []; cases keysliceOne { a with key := none } k1 <;> rfl

theorem keysliceLoopP_ok_iff (a : Args) (pk : PKey) (ps sel : List (Str × V)) :
    keysliceLoopP a pk ps = .ok sel ↔ (∀ p ∈ ps, keyErr pk p.1 = none) ∧ sel = selP a pk ps := by
  rw [keysliceLoopP_eq, ← List.findSome?_eq_none_iff]
  cases List.findSome? (fun p => keyErr pk p.1) ps <;> simp [eq_comm]

theorem keysliceLoopP_total (a : Args) (f : Str → Str) (pk : PKey) (h : ∀ k, pk k = .ok (f k))
    (ps : List (Str × V)) :
    keysliceLoopP a pk ps =
      .ok (ps.filterMap fun p => (keysliceOne { a with key := some f } p.1).map (·, p.2)) := by
  rw [keysliceLoopP_eq, List.findSome?_eq_none_iff.mpr fun p _ => keyErr_none.mpr ⟨_, h p.1⟩]
  simp only [selP, outKeyP, h, keysliceOne_key]

theorem sliceP_refines (a : Args) (f : Str → Str) (pk : PKey) (h : ∀ k, pk k = .ok (f k))
    (e : Elem V) : sliceP {} a pk e = slice e { a with key := some f } := by
  unfold sliceP keyslicePairsP slice keyslicePairs
  simp only [Bool.or_false, keysliceLoopP_total a f pk h]
  by_cases hc : (!a.inc.isEmpty && !a.om.isEmpty) = true
  · simp [hc]
  · simp [hc]

theorem takeWhile_all {α : Type} {p : α → Bool} {l : List α} (h : ∀ x ∈ l, p x = true) : l.takeWhile p = l := by
  simpa using List.takeWhile_append_of_pos (l₂ := []) h

theorem writeAll_eq (rej : Str → Option Err) (o : Obj V) (m : List (Str × V)) :
    writeAll rej o m = ⟨m.findSome? fun p => rej p.1,
      (m.takeWhile fun p => (rej p.1).isNone).foldl (fun o p => o.set p.1 p.2) o⟩ := by
  induction m generalizing o with
  | nil => rfl
  | cons p rest ih =>
    simp only [writeAll, List.findSome?_cons, List.takeWhile_cons]
    cases rej p.1 with
    | some x => rfl
    | none => exact ih _

theorem writeAll_ok (rej : Str → Option Err) (o : Obj V) (m : List (Str × V)) (h : ∀ p ∈ m, rej p.1 = none) :
    writeAll rej o m = ⟨none, m.foldl (fun o p => o.set p.1 p.2) o⟩ := by
  rw [writeAll_eq, List.findSome?_eq_none_iff.mpr h, takeWhile_all fun p hp => by rw [h p hp]; rfl]

theorem updateObjectP_refines (a : Args) (f : Str → Str) (pk : PKey) (h : ∀ k, pk k = .ok (f k))
    (e : Elem V) (o : Obj V) :
    updateObjectP {} a pk (fun _ => none) e o =
      (match updateObject e o { a with key := some f } with
       | .ok o' => ⟨none, o'⟩
       | .error x => ⟨some x, o⟩) := by
  unfold updateObjectP updateObject
  rw [sliceP_refines a f pk h e]
  cases slice e { a with key := some f } with
  | error x => rfl
  | ok m => exact writeAll_ok _ o m (fun _ _ => rfl)

example :
    updateObjectP (V := Nat) {} { inc := ["a".toList] } (fun k => .ok k) (fun _ => none)
      [("a".toList, 1), ("b".toList, 2)] [("q".toList, some 9)] =
      ⟨none, [("q".toList, some 9), ("a".toList, some 1)]⟩ := by rfl

/-- usable arguments: nothing malformed, not both `include` and `omit` -/
def SetupOk (su : Setup) (a : Args) : Prop :=
  su.badInc = false ∧ su.badOm = false ∧ su.badRen = none ∧ Exclusive a

theorem exclusive_of_not (a : Args) (h : ¬ (!a.inc.isEmpty && !a.om.isEmpty) = true) : Exclusive a :=
  Decidable.of_not_not fun hx => h ((not_exclusive_iff a).mp hx)

theorem keyslicePairsP_setup (su : Setup) (a : Args) (pk : PKey) (ps : List (Str × V))
    (h : SetupOk su a) : keyslicePairsP su a pk ps = keysliceLoopP a pk ps := by
  obtain ⟨h1, h2, h3, h4⟩ := h
  simp [keyslicePairsP, h1, h2, h3, not_both_of_exclusive h4]

/-- unusable arguments end the preparation, with an exception that depends on nothing else -/
theorem keyslicePairsP_bad (su : Setup) (a : Args) (h : ¬ SetupOk su a) :
    ∃ x, ∀ (W : Type) (pk : PKey) (ps : List (Str × W)), keyslicePairsP su a pk ps = .error x := by
  unfold keyslicePairsP
  by_cases hc : ((!a.inc.isEmpty || su.badInc) && (!a.om.isEmpty || su.badOm)) = true
  · exact ⟨.typeError, fun _ _ _ => if_pos hc⟩
  simp only [if_neg hc]
  by_cases h1 : su.badInc = true
  · exact ⟨.typeError, fun _ _ _ => if_pos h1⟩
  simp only [if_neg h1]
  by_cases h2 : su.badOm = true
  · exact ⟨.typeError, fun _ _ _ => if_pos h2⟩
  simp only [if_neg h2]
  cases h3 : su.badRen with
  | some x => exact ⟨x, fun _ _ _ => rfl⟩
  | none =>
    refine absurd ⟨eq_false_of_ne_true h1, eq_false_of_ne_true h2, h3, exclusive_of_not a ?_⟩ h
    rwa [eq_false_of_ne_true h1, eq_false_of_ne_true h2, Bool.or_false, Bool.or_false] at hc

theorem sliceP_setup (su : Setup) (a : Args) (pk : PKey) (e : Elem V) (hok : SetupOk su a) :
    sliceP su a pk e = match (sortByKey e).findSome? (fun p => keyErr pk p.1) with
      | some x => .error x
      | none => .ok (dictOf (selP a pk (sortByKey e))) := by
  unfold sliceP
  rw [keyslicePairsP_setup su a pk _ hok, keysliceLoopP_eq]
  cases List.findSome? (fun p => keyErr pk p.1) (sortByKey e) <;> rfl

theorem sliceP_eq_ok_iff (su : Setup) (a : Args) (pk : PKey) (e : Elem V) (sl : List (Str × V)) :
    sliceP su a pk e = .ok sl ↔
      SetupOk su a ∧ (∀ p ∈ sortByKey e, keyErr pk p.1 = none) ∧ sl = dictOf (selP a pk (sortByKey e)) := by
  by_cases hs : SetupOk su a
  · rw [sliceP_setup su a pk e hs, ← List.findSome?_eq_none_iff]
    cases List.findSome? (fun p => keyErr pk p.1) (sortByKey e) <;> simp [hs, eq_comm]
  · obtain ⟨x, hx⟩ := keyslicePairsP_bad su a hs
    simp [sliceP, hx, hs]

/-- a slice is produced exactly when the arguments are usable and the key
    function returns a (hashable) key for every field of the element — selected or not, because
    the key function is applied first -/
theorem sliceP_ok_iff (su : Setup) (a : Args) (pk : PKey) (e : Elem V) :
    (∃ m, sliceP su a pk e = .ok m) ↔ SetupOk su a ∧ ∀ p ∈ e, ∃ k, pk p.1 = .ok k := by
  simp only [sliceP_eq_ok_iff, keyErr_none, mem_sortByKey]
  exact ⟨fun ⟨_, h1, h2, _⟩ => ⟨h1, h2⟩, fun ⟨h1, h2⟩ => ⟨_, h1, h2, rfl⟩⟩

/-- when the selection cannot be computed (the key
    function raises for some field, an argument is unusable, include and omit are both given)
    `update_object` raises that exception and the object is exactly what it was: the slice is
    produced completely before the first `setattr`. -/
theorem update_object_atomic_on_selection_error (su : Setup) (a : Args) (pk : PKey)
    (rej : Str → Option Err) (e : Elem V) (o : Obj V) (x : Err)
    (h : sliceP su a pk e = .error x) : updateObjectP su a pk rej e o = ⟨some x, o⟩ := by
  simp [updateObjectP, h]

/-- the same, from the cause: one field the key function rejects (wherever it sorts), or unusable
    arguments, is enough for the object to stay untouched -/
theorem update_object_atomic (su : Setup) (a : Args) (pk : PKey) (rej : Str → Option Err)
    (e : Elem V) (o : Obj V)
    (h : ¬ SetupOk su a ∨ ∃ p ∈ e, ∃ x, pk p.1 = .error x) :
    (updateObjectP su a pk rej e o).obj = o ∧ (updateObjectP su a pk rej e o).exc ≠ none := by
  cases hs : sliceP su a pk e with
  | error x => simp [update_object_atomic_on_selection_error su a pk rej e o x hs]
  | ok m =>
    exfalso
    obtain ⟨hok, hall⟩ := (sliceP_ok_iff su a pk e).mp ⟨m, hs⟩
    rcases h with h | ⟨p, hp, x, hx⟩
    · exact h hok
    · obtain ⟨k, hk⟩ := hall p hp
      rw [hx] at hk; cases hk

/-- the statement as a property of an implementation of update_object -/
def AtomicOnSelectionError
    (upd : Setup → Args → PKey → (Str → Option Err) → Elem Nat → Obj Nat → UpdResult Nat) : Prop :=
  ∀ su a pk rej e o x, sliceP su a pk e = .error x → (upd su a pk rej e o).obj = o

theorem updateObjectP_atomic : AtomicOnSelectionError updateObjectP := by
  intro su a pk rej e o x h
  rw [update_object_atomic_on_selection_error su a pk rej e o x h]

/-- a lookup table used as key function with no entry for the field that sorts last -/
def tableKey : PKey := fun k => if k = "city".toList then .ok "town".toList else .error .keyError

-- non-vacuity: the hypothesis holds for a concrete element (the slice fails on the LAST field)
example : sliceP (V := Nat) {} {} tableKey [("city".toList, 1), ("zip".toList, 2)] = .error .keyError := by rfl

/-- iterating the pairs lazily (select one, write one) is not atomic on a
    selection error: the attributes of the fields sorting before the offending one are already
    written when the exception comes out. -/
theorem lazyUpdate_fails : ¬ AtomicOnSelectionError lazyUpdate := by
  intro h
  have := h {} {} tableKey (fun _ => none) [("city".toList, 1), ("zip".toList, 2)]
    [("town".toList, some 7)] .keyError rfl
  revert this
  decide +kernel

example :
    lazyUpdate (V := Nat) {} {} tableKey (fun _ => none) [("city".toList, 1), ("zip".toList, 2)]
      [("town".toList, some 7)] = ⟨some .keyError, [("town".toList, some 1)]⟩ := by rfl

theorem writeAll_split (rej : Str → Option Err) (o : Obj V) (m : List (Str × V)) :
    (match (writeAll rej o m).exc with
     | none => (∀ p ∈ m, rej p.1 = none) ∧ (writeAll rej o m).obj = m.foldl (fun o p => o.set p.1 p.2) o
     | some err => ∃ pre k v post, m = pre ++ (k, v) :: post ∧ rej k = some err ∧
         (∀ p ∈ pre, rej p.1 = none) ∧ (writeAll rej o m).obj = pre.foldl (fun o p => o.set p.1 p.2) o) := by
  rw [writeAll_eq]
  cases hf : m.findSome? (fun p => rej p.1) with
  | none =>
    have h := List.findSome?_eq_none_iff.mp hf
    exact ⟨h, by rw [takeWhile_all fun p hp => by rw [h p hp]; rfl]⟩
  | some err =>
    obtain ⟨pre, ⟨k, v⟩, post, rfl, hk, hpre⟩ := List.findSome?_eq_some_iff.mp hf
    refine ⟨pre, k, v, post, rfl, hk, hpre, ?_⟩
    rw [List.takeWhile_append_of_pos fun p hp => by rw [hpre p hp]; rfl, List.takeWhile_cons_of_neg (by simp [hk]),
      List.append_nil]

theorem writeAll_prefix (rej : Str → Option Err) (o : Obj V) (m : List (Str × V)) :
    ∃ pre, pre <+: m ∧ (∀ p ∈ pre, rej p.1 = none) ∧
      (writeAll rej o m).obj = pre.foldl (fun o p => o.set p.1 p.2) o :=
  ⟨_, List.takeWhile_prefix _, fun p hp => Option.isNone_iff_eq_none.mp (List.all_eq_true.mp List.all_takeWhile p hp),
    by rw [writeAll_eq]⟩

/-- whatever `setattr` the object rejects, and whether or not the
    call completes: attributes outside the slice are untouched, a rejecting attribute keeps what it
    had, every attribute of the slice holds either what it had or the slice's value; and the call
    raises exactly when the slice names a rejecting attribute. -/
theorem update_object_setattr_error (su : Setup) (a : Args) (pk : PKey) (rej : Str → Option Err)
    (e : Elem V) (o : Obj V) (m : List (Str × V)) (hs : sliceP su a pk e = .ok m) :
    let r := updateObjectP su a pk rej e o
    (∀ x, x ∉ keys m → r.obj.get x = o.get x) ∧
    (∀ x, rej x ≠ none → r.obj.get x = o.get x) ∧
    (∀ x, r.obj.get x = o.get x ∨ ∃ v, lookup m x = some v ∧ r.obj.get x = some v) ∧
    (r.exc = none ↔ ∀ p ∈ m, rej p.1 = none) := by
  have hn : (keys m).Nodup := by
    obtain ⟨_, _, rfl⟩ := (sliceP_eq_ok_iff su a pk e m).mp hs
    exact keys_dictOf_nodup _
  have hr : updateObjectP su a pk rej e o = writeAll rej o m := by simp [updateObjectP, hs]
  simp only [hr]
  -- an attribute reads what the written prefix of the slice holds for it, else what it held
  obtain ⟨pre, hpm, hacc, hobj⟩ := writeAll_prefix rej o m
  have hget : ∀ x, (writeAll rej o m).obj.get x = (match dictGet pre x with | some v => some v | none => o.get x) :=
    fun x => by rw [hobj, get_foldl_set]; rfl
  have hnone : ∀ x, (∀ v, (x, v) ∈ pre → False) → (writeAll rej o m).obj.get x = o.get x :=
    fun x h => by rw [hget, (dictGet_none_iff pre x).mpr h]
  refine ⟨fun x hx => hnone x fun v hv => hx (List.mem_map_of_mem (f := (·.1)) (hpm.subset hv)),
    fun x hx => hnone x fun v hv => hx (hacc _ hv), ?_, by rw [writeAll_eq]; exact List.findSome?_eq_none_iff⟩
  intro x
  cases hd : dictGet pre x with
  | none => exact Or.inl (by rw [hget, hd])
  | some v =>
    refine Or.inr ⟨v, ?_, by rw [hget, hd]⟩
    rw [lookup_eq_dictGet_of_nodup m hn]
    exact dictGet_of_nodup m hn x v (hpm.subset (dictGet_mem pre x v hd))

-- the middle attribute is rejected: the first is written, the rejected one and the last are not
example :
    updateObjectP (V := Nat) {} {} (fun k => .ok k)
      (fun x => if x = "b".toList then some .attributeError else none)
      [("a".toList, 1), ("b".toList, 2), ("c".toList, 3)] [("b".toList, some 0)] =
      ⟨some .attributeError, [("b".toList, some 0), ("a".toList, some 1)]⟩ := by rfl

/-- the reads in closed form: the names up to and including the first one whose read raises -/
theorem scanReads_eq (bad : Str → Option Err) (l : List Str) :
    scanReads bad l = (l.take ((l.takeWhile fun x => (bad x).isNone).length + 1), l.findSome? bad) := by
  induction l with
  | nil => rfl
  | cons x rest ih =>
    simp only [scanReads, List.takeWhile_cons, List.findSome?_cons]
    cases bad x with
    | some err => simp
    | none => simp [ih]

theorem setByObjectP_ok (S : Schema V) (su : Setup) (bad : Str → Option Err) (e : Elem V) (o : Obj V) (a : Args)
    (hs : SetupOk su a) :
    setByObjectP S su bad e o a =
      match (scanReads bad (candidates S.fields a)).2 with
      | some err => ⟨(scanReads bad (candidates S.fields a)).1, some err, e⟩
      | none => setByObject S e o a := by
  obtain ⟨h1, h2, h3, h4⟩ := hs
  have hc : ¬ ((!a.inc.isEmpty || su.badInc) && !a.om.isEmpty) = true := by
    rw [h1, Bool.or_false]; exact fun hc => (not_exclusive_iff a).mpr hc h4
  unfold setByObjectP
  rw [h3]
  dsimp only
  rw [if_neg (by simp [h2]), if_neg hc, if_neg (by simp [h1])]
  rfl

theorem setByObjectP_bad (S : Schema V) (su : Setup) (bad : Str → Option Err) (e : Elem V) (o : Obj V) (a : Args)
    (hs : ¬ SetupOk su a) : ∃ x, setByObjectP S su bad e o a = ⟨[], some x, e⟩ := by
  unfold setByObjectP
  cases h3 : su.badRen with
  | some x => exact ⟨x, rfl⟩
  | none =>
    dsimp only
    by_cases h2 : su.badOm = true
    · exact ⟨.typeError, if_pos h2⟩
    rw [if_neg h2]
    by_cases hc : ((!a.inc.isEmpty || su.badInc) && !a.om.isEmpty) = true
    · exact ⟨.typeError, if_pos hc⟩
    rw [if_neg hc]
    by_cases h1 : su.badInc = true
    · exact ⟨.typeError, if_pos h1⟩
    refine absurd ⟨eq_false_of_ne_true h1, eq_false_of_ne_true h2, h3, exclusive_of_not a ?_⟩ hs
    rwa [eq_false_of_ne_true h1, Bool.or_false] at hc

/-- if reading one of the attributes that map to
    declared fields raises (something `hasattr` does not swallow), `set_by_object` raises an
    exception of one of those reads, the element is exactly what it was (`self.set(final)` is never
    reached), and only attributes of the read set — a prefix of the sorted candidates — were looked at. -/
theorem set_by_object_read_error_keeps_element (S : Schema V) (su : Setup) (bad : Str → Option Err)
    (e : Elem V) (o : Obj V) (a : Args) (h : ∃ x ∈ candidates S.fields a, bad x ≠ none) :
    let r := setByObjectP S su bad e o a
    r.elem = e ∧ r.exc ≠ none ∧ r.reads <+: candidates S.fields a ∧
    (SetupOk su a → ∃ x ∈ candidates S.fields a, r.exc = bad x) := by
  by_cases hok : SetupOk su a
  · simp only [setByObjectP_ok S su bad e o a hok, scanReads_eq]
    cases hf : (candidates S.fields a).findSome? bad with
    | none => obtain ⟨x, hx, hb⟩ := h; exact absurd (List.findSome?_eq_none_iff.mp hf x hx) hb
    | some err =>
      obtain ⟨z, hz, hbz⟩ := List.exists_of_findSome?_eq_some hf
      exact ⟨rfl, nofun, List.take_prefix _ _, fun _ => ⟨z, hz, hbz.symm⟩⟩
  · obtain ⟨x, hx⟩ := setByObjectP_bad S su bad e o a hok
    simp only [hx]
    exact ⟨trivial, nofun, List.nil_prefix, fun h => absurd h hok⟩

theorem setByObjectP_refines (S : Schema V) (su : Setup) (bad : Str → Option Err) (e : Elem V)
    (o : Obj V) (a : Args) (hs : SetupOk su a) (hb : ∀ x ∈ candidates S.fields a, bad x = none) :
    setByObjectP S su bad e o a = setByObject S e o a := by
  rw [setByObjectP_ok S su bad e o a hs, scanReads_eq, List.findSome?_eq_none_iff.mpr hb]

theorem set_by_object_setup_error (S : Schema V) (su : Setup) (bad : Str → Option Err) (e : Elem V)
    (o : Obj V) (a : Args) (hs : ¬ SetupOk su a) :
    let r := setByObjectP S su bad e o a
    r.elem = e ∧ r.exc ≠ none ∧ r.reads = [] := by
  obtain ⟨x, hx⟩ := setByObjectP_bad S su bad e o a hs
  simp only [hx]
  exact ⟨trivial, nofun, trivial⟩

-- the getter of `b` raises ValueError: `a` and `b` are looked at, the element keeps its values
example :
    let S : Schema Nat := { fields := ["a".toList, "b".toList, "c".toList], blank := 0, setF := fun _ x => x }
    let r := setByObjectP S {} (fun x => if x = "b".toList then some .valueError else none)
      [("a".toList, 5), ("b".toList, 6), ("c".toList, 7)] [("a".toList, some 1), ("c".toList, some 3)] {}
    r.elem = [("a".toList, 5), ("b".toList, 6), ("c".toList, 7)] ∧ r.exc = some .valueError ∧
      r.reads = ["a".toList, "b".toList] := by decide +kernel

theorem set_set_same (o : Obj V) (k : Str) (v w : V) : (o.set k v).set k w = o.set k w := by
  simp only [set_eq_dictSet, dictSet_eq, Assoc.set_set]

/-- writes to different attributes commute once one of them exists on the object (a NEW attribute
    is appended, so two new ones do not commute as lists) -/
theorem set_comm_of_mem (o : Obj V) (k a : Str) (v x : V) (hk : k ∈ keys o) (hne : a ≠ k) :
    (o.set a x).set k v = (o.set k v).set a x := by
  induction o with
  | nil => cases hk
  | cons p rest ih =>
    obtain ⟨b, u⟩ := p
    by_cases hb : b = k
    · subst hb
      have : ¬ b = a := fun e => hne e.symm
      simp [Obj.set, this]
    · have hk' : k ∈ keys rest := (List.mem_cons.mp hk).resolve_left fun h => hb h.symm
      by_cases ha : b = a
      · subst ha; simp [Obj.set, hb]
      · simp [Obj.set, hb, ha, ih hk']

theorem foldl_set_comm (m : List (Str × V)) (o : Obj V) (k : Str) (v : V) (hk : k ∈ keys o)
    (hm : k ∉ keys m) :
    (m.foldl (fun o p => o.set p.1 p.2) o).set k v = m.foldl (fun o p => o.set p.1 p.2) (o.set k v) := by
  induction m generalizing o with
  | nil => rfl
  | cons p rest ih =>
    obtain ⟨a, x⟩ := p
    simp only [keys, List.map_cons, List.mem_cons, not_or] at hm
    simp only [List.foldl_cons]
    rw [ih (o.set a x) ((keys_set o a x k).mpr (Or.inr hk)) (by simpa [keys] using hm.2),
      set_comm_of_mem o k a v x hk (fun e => hm.1 e.symm)]

theorem foldl_set_dictSet (d : List (Str × V)) (hd : (keys d).Nodup) (o : Obj V) (k : Str) (v : V) :
    (dictSet d k v).foldl (fun o p => o.set p.1 p.2) o = (d.foldl (fun o p => o.set p.1 p.2) o).set k v := by
  induction d generalizing o with
  | nil => rfl
  | cons p rest ih =>
    obtain ⟨a, x⟩ := p
    simp only [keys, List.map_cons, List.nodup_cons] at hd
    by_cases h : a = k
    · subst h
      simp only [dictSet, if_true, List.foldl_cons]
      rw [foldl_set_comm rest (o.set a x) a v ((keys_set o a x a).mpr (Or.inl rfl)) hd.1, set_set_same]
    · simp only [dictSet, h, if_false, List.foldl_cons]
      exact ih hd.2 _

theorem foldl_set_foldl_dictSet (ps d : List (Str × V)) (hd : (keys d).Nodup) (o : Obj V) :
    (ps.foldl (fun d p => dictSet d p.1 p.2) d).foldl (fun o p => o.set p.1 p.2) o =
      ps.foldl (fun o p => o.set p.1 p.2) (d.foldl (fun o p => o.set p.1 p.2) o) := by
  induction ps generalizing d with
  | nil => rfl
  | cons p rest ih =>
    simp only [List.foldl_cons]
    rw [ih _ (keys_dictSet_nodup d p.1 p.2 hd), foldl_set_dictSet d hd]

/-- `dict(sliced)` keeps the FIRST position
    and the LAST value of a repeated key, and so does a sequence of `setattr` calls -/
theorem foldl_set_dictOf (ps : List (Str × V)) (o : Obj V) :
    (dictOf ps).foldl (fun o p => o.set p.1 p.2) o = ps.foldl (fun o p => o.set p.1 p.2) o :=
  foldl_set_foldl_dictSet ps [] (by simp [keys]) o

/-- the interleaved loop in closed form: it writes the selection of the pairs BEFORE the first one that
    cannot be keyed (stopping at a rejected `setattr`, like `writeAll`), then that key error comes out -/
theorem lazyLoop_eq (a : Args) (pk : PKey) (rej : Str → Option Err) (o : Obj V) (ps : List (Str × V)) :
    lazyLoop a pk rej o ps =
      ⟨(writeAll rej o (selP a pk (ps.takeWhile fun p => (keyErr pk p.1).isNone))).exc.or
          (ps.findSome? fun p => keyErr pk p.1),
        (writeAll rej o (selP a pk (ps.takeWhile fun p => (keyErr pk p.1).isNone))).obj⟩ := by
  induction ps generalizing o with
  | nil => rfl
  | cons p rest ih =>
    obtain ⟨k, v⟩ := p
    simp only [lazyLoop, List.takeWhile_cons, List.findSome?_cons]
    cases hk : pk k with
    | error x => simp only [(keyErr_outKeyP a pk k _ hk).1]; rfl
    | ok k1 =>
      simp only [(keyErr_outKeyP a pk k _ hk).1, Option.isNone_none, if_true, selP, List.filterMap_cons,
        (keyErr_outKeyP a pk k _ hk).2]
      cases keysliceOne { a with key := none } k1 with
      | none => exact ih o
      | some k2 =>
        simp only [Option.map_some, writeAll]
        cases rej k2 with
        | some x => rfl
        | none => exact ih _

theorem keys_dictOf_mem (ps : List (Str × V)) (x : Str) : x ∈ keys (dictOf ps) ↔ x ∈ keys ps := by
  rw [mem_keys_iff_lookup, lookup_dictOf, dictGet_eq, Assoc.isSome_get_iff, Assoc.keys, List.map_reverse,
    List.mem_reverse]; rfl

theorem lazy_setup_ok (su : Setup) (a : Args) (h : SetupOk su a) :
    keyslicePairsP su a (fun k => .ok k) ([] : List (Str × V)) = .ok [] := by
  rw [keyslicePairsP_setup su a _ _ h]; rfl

theorem lazyUpdate_setup (su : Setup) (a : Args) (pk : PKey) (rej : Str → Option Err) (e : Elem V) (o : Obj V)
    (hok : SetupOk su a) : lazyUpdate su a pk rej e o = lazyLoop a pk rej o (sortByKey e) := by
  unfold lazyUpdate
  rw [lazy_setup_ok su a hok]

/-- whenever the selection can be computed in full and the object
    accepts every selected name, the interleaved variant and `update_object` as written end in the
    SAME object (attribute order included) and both return normally: the seeded mutation is
    invisible on every successful call.  With `lazyUpdate_fails`: it shows on selection errors. -/
theorem lazyUpdate_eq_on_success (su : Setup) (a : Args) (pk : PKey) (rej : Str → Option Err)
    (e : Elem V) (o : Obj V) (sl : List (Str × V)) (hs : sliceP su a pk e = .ok sl)
    (hrej : ∀ p ∈ sl, rej p.1 = none) :
    lazyUpdate su a pk rej e o = updateObjectP su a pk rej e o ∧
      (updateObjectP su a pk rej e o).exc = none ∧
      (updateObjectP su a pk rej e o).obj = sl.foldl (fun o p => o.set p.1 p.2) o := by
  have hupd : updateObjectP su a pk rej e o = ⟨none, sl.foldl (fun o p => o.set p.1 p.2) o⟩ := by
    simp only [updateObjectP, hs, writeAll_ok rej o sl hrej]
  obtain ⟨hok, hkeys, rfl⟩ := (sliceP_eq_ok_iff su a pk e sl).mp hs
  refine ⟨?_, by rw [hupd], by rw [hupd]⟩
  -- every selected pair carries a key of the dict, so the object accepts it
  have hrej' : ∀ p ∈ selP a pk (sortByKey e), rej p.1 = none := by
    intro p hp
    obtain ⟨q, hq, hqk⟩ := List.mem_map.mp ((keys_dictOf_mem _ p.1).mpr (List.mem_map.mpr ⟨p, hp, rfl⟩))
    rw [← hqk]; exact hrej q hq
  rw [hupd, lazyUpdate_setup su a pk rej e o hok, lazyLoop_eq, List.findSome?_eq_none_iff.mpr hkeys,
    takeWhile_all (fun p hp => by simp [hkeys p hp]), writeAll_ok rej o _ hrej', foldl_set_dictOf]
  rfl

theorem lazyLoop_selection_error (a : Args) (pk : PKey) (rej : Str → Option Err) (pre post sel : List (Str × V))
    (k : Str) (v : V) (x : Err) (o : Obj V)
    (hpre : keysliceLoopP a pk pre = .ok sel) (hk : pk k = .error x) (hrej : ∀ p ∈ sel, rej p.1 = none) :
    lazyLoop a pk rej o (pre ++ (k, v) :: post) = ⟨some x, sel.foldl (fun o p => o.set p.1 p.2) o⟩ := by
  obtain ⟨hnone, rfl⟩ := (keysliceLoopP_ok_iff a pk pre sel).mp hpre
  have htw : (pre ++ (k, v) :: post).takeWhile (fun p => (keyErr pk p.1).isNone) = pre := by
    rw [List.takeWhile_append_of_pos (fun p hp => by simp [hnone p hp]),
      List.takeWhile_cons_of_neg (by simp [keyErr_some.mpr hk]), List.append_nil]
  rw [lazyLoop_eq, htw, writeAll_ok rej o _ hrej, List.findSome?_append,
    List.findSome?_eq_none_iff.mpr hnone, List.findSome?_cons, keyErr_some.mpr hk]
  rfl

theorem lazyUpdate_accepting (su : Setup) (a : Args) (pk : PKey) (e : Elem V) (o : Obj V) (hok : SetupOk su a) :
    lazyUpdate su a pk (fun _ => none) e o =
      ⟨(sortByKey e).findSome? (fun p => keyErr pk p.1),
       (selP a pk ((sortByKey e).takeWhile fun p => (keyErr pk p.1).isNone)).foldl (fun o p => o.set p.1 p.2) o⟩ := by
  rw [lazyUpdate_setup su a pk _ e o hok, lazyLoop_eq, writeAll_ok _ o _ (fun _ _ => rfl)]
  rfl

/-- on an object that accepts every `setattr`, the interleaved variant
    and `update_object` differ in what they leave behind EXACTLY when the arguments are usable, the
    key function rejects a field, and the writes of the pairs selected BEFORE the first rejected
    field (in sorted order) change the object — in particular at least one pair has been emitted
    (`lazyUpdate_differs_emitted`); the exception is the same in both. -/
theorem lazyUpdate_differs_iff (su : Setup) (a : Args) (pk : PKey) (e : Elem V) (o : Obj V) :
    lazyUpdate su a pk (fun _ => none) e o ≠ updateObjectP su a pk (fun _ => none) e o ↔
      SetupOk su a ∧ ∃ pre k v post sel x, sortByKey e = pre ++ (k, v) :: post ∧
        keysliceLoopP a pk pre = .ok sel ∧ pk k = .error x ∧
        sel.foldl (fun o p => o.set p.1 p.2) o ≠ o ∧
        lazyUpdate su a pk (fun _ => none) e o = ⟨some x, sel.foldl (fun o p => o.set p.1 p.2) o⟩ ∧
        updateObjectP su a pk (fun _ => none) e o = ⟨some x, o⟩ := by
  constructor
  · intro hne
    by_cases hok : SetupOk su a
    · refine ⟨hok, ?_⟩
      have hlazy := lazyUpdate_accepting su a pk e o hok
      have hsl := sliceP_setup su a pk e hok
      cases hF : (sortByKey e).findSome? (fun p => keyErr pk p.1) with
      | none =>
        -- every field is keyed: the call succeeds and the two agree
        rw [hF] at hsl
        exact absurd (lazyUpdate_eq_on_success su a pk _ e o _ hsl (fun _ _ => rfl)).1 hne
      | some x =>
        rw [hF] at hsl hlazy
        obtain ⟨pre, ⟨k, v⟩, post, hps, hk, hpre⟩ := List.findSome?_eq_some_iff.mp hF
        have htw : (sortByKey e).takeWhile (fun p => (keyErr pk p.1).isNone) = pre := by
          rw [hps, List.takeWhile_append_of_pos (fun p hp => by simp [hpre p hp]),
            List.takeWhile_cons_of_neg (by simp [hk]), List.append_nil]
        rw [htw] at hlazy
        have hupd := update_object_atomic_on_selection_error su a pk (fun _ => none) e o x hsl
        refine ⟨pre, k, v, post, selP a pk pre, x, hps, (keysliceLoopP_ok_iff a pk pre _).mpr ⟨hpre, rfl⟩,
          keyErr_some.mp hk, ?_, hlazy, hupd⟩
        intro heq
        exact hne (by rw [hlazy, hupd, heq])
    · exfalso
      apply hne
      obtain ⟨y, hy⟩ := keyslicePairsP_bad su a hok
      simp only [lazyUpdate, updateObjectP, sliceP, hy]
  · rintro ⟨_, pre, k, v, post, sel, x, _, _, _, hch, h1, h2⟩
    rw [h1, h2]
    intro heq
    injection heq with _ ho
    exact hch ho

theorem lazyUpdate_differs_emitted (su : Setup) (a : Args) (pk : PKey) (e : Elem V) (o : Obj V)
    (h : lazyUpdate su a pk (fun _ => none) e o ≠ updateObjectP su a pk (fun _ => none) e o) :
    ∃ pre k v post sel x, sortByKey e = pre ++ (k, v) :: post ∧ keysliceLoopP a pk pre = .ok sel ∧
      pk k = .error x ∧ sel ≠ [] := by
  obtain ⟨_, pre, k, v, post, sel, x, h1, h2, h3, h4, _, _⟩ := (lazyUpdate_differs_iff su a pk e o).mp h
  exact ⟨pre, k, v, post, sel, x, h1, h2, h3, fun e => h4 (by rw [e]; rfl)⟩

-- non-vacuity: the witness of `lazyUpdate_fails` is such a case; a successful call with a renamed,
-- repeated target key and an object that already has one of the attributes agrees
example : (lazyUpdate (V := Nat) {} {} tableKey (fun _ => none) [("city".toList, 1), ("zip".toList, 2)]
    [("town".toList, some 7)]).obj ≠ (updateObjectP {} {} tableKey (fun _ => none) [("city".toList, 1), ("zip".toList, 2)]
    [("town".toList, some 7)]).obj := by decide +kernel
def renTwice : Args := { ren := [("a".toList, "z".toList), ("c".toList, "z".toList)] }
example :
    sliceP (V := Nat) {} renTwice (fun k => .ok k) [("a".toList, 1), ("b".toList, 2), ("c".toList, 3)] =
      .ok [("z".toList, 3), ("b".toList, 2)] ∧
    lazyUpdate (V := Nat) {} renTwice (fun k => .ok k) (fun _ => none) [("a".toList, 1), ("b".toList, 2), ("c".toList, 3)]
      [("b".toList, some 0)] = ⟨none, [("b".toList, some 2), ("z".toList, some 3)]⟩ ∧
    updateObjectP (V := Nat) {} renTwice (fun k => .ok k) (fun _ => none) [("a".toList, 1), ("b".toList, 2), ("c".toList, 3)]
      [("b".toList, some 0)] = ⟨none, [("b".toList, some 2), ("z".toList, some 3)]⟩ := ⟨rfl, rfl, rfl⟩

end Flatland.C20.Proofs
