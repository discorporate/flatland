/-
END TO END with Arrays / MultiValues of ANY size (checkbox groups, `<select multiple>`): `end_to_end_arrays_partial`.

`hypsA` = `hypsN` minus `narrowB` (and minus `boolsCanonical` / `dropSafe`: the form has no unchecked box), plus the
executable `keySameB (flatten e) (formPairs t)`: document order and `flatten()` order agree per key (on canonical keys
only the members of one Array share a key).  The two hereditary conditions of C02's `order_free_stable` hold of every
canonical `flatten` output: no scalar's key twice (`hnodupA_flatten`, Lemmas/EndToEndHNodup.lean), and every list with
the same pairs and the same per-KEY order hands every Array its pairs in the same order (`asame_flatten`,
Lemmas/EndToEndASame.lean).  So on canonical keys the plain per-key reading of stability IS enough
(`order_free_canonical`), which it is not on arbitrary pair lists (`order_free_stable_full_fails`).

Scope: a `FormTree` can only be linked to schemas without a Compound that holds a member (`linked_formLike`,
`compound_not_linked`, `exDate_not_linked`).
-/
import Proofs.EndToEnd
import Proofs.Lemmas.EndToEndASame
namespace Flatland.Flat.Proofs
open Flatland.Flat Flatland.Flat.Spec Flatland.EndToEnd

/-- C02 on canonical keys: against the flat pairs of a conforming element, `from_flat` builds the
    same tree from every reordering that keeps the relative order of the pairs of every KEY.
    (False for arbitrary pair lists: `order_free_stable_full_fails`.) -/
theorem order_free_canonical (env : Env) (sep : Str) (s : Schema) (e : Elem)
    (hs : SepSafe env sep (Tok s)) (henv : EnvOK env) (hw : wf s = true)
    (hroot : rootOK s = true) (hok : OkS env s e) (ps' : List (Str × Str))
    (hR : KRel (flatten env sep s e) ps') :
    fromFlat env sep s (flatten env sep s e) = fromFlat env sep s ps' :=
  order_free_stable env sep s _ _ (hnodupA_flatten env sep s e hs henv hw hroot hok) hR.1
    (asame_flatten env sep s e hs henv hw hroot hok ps' hR)

theorem keySameB_sound {ps ps' : List (Str × Str)} (hp : ps.Perm ps') (h : keySameB ps ps' = true) :
    KRel ps ps' := by
  refine ⟨hp, fun k => ?_⟩
  by_cases hk : k ∈ ps.map (·.1)
  · simp only [keySameB, List.all_eq_true] at h
    exact eq_of_beq (h k hk)
  · have hn : ∀ X : List (Str × Str), (∀ x ∈ X, x ∈ ps) → X.filter (fun p => p.1 == k) = [] := by
      intro X hX
      apply List.filter_eq_nil_iff.mpr
      intro x hx hc
      exact hk (List.mem_map.mpr ⟨x, hX x hx, eq_of_beq hc⟩)
    rw [hn ps (fun _ h => h), hn ps' (fun x hx => hp.mem_iff.mpr hx)]

end Flatland.Flat.Proofs

namespace Flatland.EndToEnd.Proofs
open Flatland.Flat Flatland.Flat.Spec Flatland.Flat.Proofs Flatland.EndToEnd
open Flatland.C12 Flatland.C12.Proofs
open Flatland.Markup (Tables Ctx PyErr)

theorem fromFlat_formPairs_arrays (env : Env) (s : Schema) (e : Elem) (t : FormTree)
    (henv : EnvOK env) (hs : SepSafe env usep (Tok s)) (hw : wf s = true) (hroot : rootOK s = true)
    (hok : OkS env s e) (hlink : embed t = resolve env s e) (hun : uncheckedPairs [] t = [])
    (hks : keySameB (flatten env usep s e) (formPairs [] t) = true) :
    fromFlat env usep s (formPairs [] t) = prS env usep false s e := by
  have hperm := flatten_perm_formPairs hlink
  rw [hun, List.append_nil] at hperm
  exact fromFlat_formPairs_stable env s e t henv hs hw hroot hok hlink
    (hnodupA_flatten env usep s e hs henv hw hroot hok)
    (asame_flatten env usep s e hs henv hw hroot hok _ (keySameB_sound hperm hks)) hun

theorem hypsA_iff {T : Tables} {env : Env} {s : Schema} {e : Elem} {t : FormTree} :
    hypsA T env s e t = true ↔ baseHyps T env s e t = true ∧ uncheckedPairs [] t = [] ∧
      keySameB (flatten env usep s e) (formPairs [] t) = true := by
  simp only [hypsA, baseHyps, Bool.and_eq_true, List.isEmpty_iff, and_assoc]

theorem hypsA_unpack {T : Tables} {env : Env} {s : Schema} {e : Elem} {t : FormTree}
    (h : hypsA T env s e t = true) :
    embed t = resolve env s e ∧ formOk T [] t = true ∧ oneSubmitter t = true ∧
    wf s = true ∧ rootOK s = true ∧ OkS env s e ∧ EnvOK env ∧ SepSafe env usep (Tok s) ∧
    uncheckedPairs [] t = [] ∧ keySameB (flatten env usep s e) (formPairs [] t) = true := by
  obtain ⟨hb, hun, hks⟩ := hypsA_iff.mp h
  obtain ⟨hl, hf, hsub, hw, hroot, hok, henv, hs⟩ := baseHyps_unpack hb
  exact ⟨hl, hf, hsub, hw, hroot, hok, henv, hs, hun, hks⟩

theorem hypsA_rebuilds {T : Tables} {env : Env} {s : Schema} {e : Elem} {t : FormTree}
    (h : hypsA T env s e t = true) : baseHyps T env s e t = true ∧ Rebuilds env s e t := by
  obtain ⟨hl, _, _, hw, hroot, hok, henv, hs, hun, hks⟩ := hypsA_unpack h
  exact ⟨(hypsA_iff.mp h).1, fromFlat_formPairs_arrays env s e t henv hs hw hroot hok hl hun hks⟩

theorem end_to_end_arrays_at (T : Tables) (ctx : Ctx) (hT : TablesOK T)
    (hL : Live T ctx) (env : Env) (s : Schema) (e : Elem) (t : FormTree)
    (h : hypsA T env s e t = true) (ps : List Pair)
    (hpost : browserSubmit (seenOf T ctx) (some 0) (renderForm [] t) = .ok ps) :
    fromFlat env usep s ps = prS env usep false s e :=
  rebuilds_at (hypsA_rebuilds h) ctx hT hL ps hpost

/-- End to end with Arrays / MultiValues of any size (checkbox groups, `<select multiple>`, next to
    anything else a `FormTree` can hold): on `Generator()` with the tables of the current source, for
    every form tree `t` that renders the element state `e` of schema `s` and meets `hypsA` — no
    `narrowB`, no `hnodupB`; the form has no unchecked Boolean box; pairs sharing a key come in the same
    order in `flatten()` and in the form —, what a browser posts for the unchanged form, read back with
    `from_flat`, is `prS e`.
    NOT "for every schema": a `FormTree` has no constructor for a Compound (`DateYYYYMMDD`) rendered as its
    parts' inputs (`compound_not_linked`); Arrays hold string-like scalars only.  Unchecked boxes and
    Arrays do not combine (`dropSafe_array_false`): that case stays with `end_to_end_partial` when
    `hnodupB` holds, and with the oracle otherwise. -/
theorem end_to_end_arrays_partial (env : Env) (s : Schema) (e : Elem) (t : FormTree)
    (h : hypsA Tables.current env s e t = true) (ps : List Pair)
    (hpost : browserSubmit (seenOf Tables.current freshGen.ctx) (some 0) (renderForm [] t) = .ok ps) :
    fromFlat env usep s ps = prS env usep false s e :=
  end_to_end_arrays_at _ _ tablesOK_current fresh_live env s e t h ps hpost

theorem end_to_end_arrays_total (env : Env) (s : Schema) (e : Elem) (t : FormTree)
    (h : hypsA Tables.current env s e t = true) :
    ∃ ps, browserSubmit (seenOf Tables.current freshGen.ctx) (some 0) (renderForm [] t) = .ok ps ∧
      fromFlat env usep s ps = prS env usep false s e :=
  rebuilds_total (hypsA_rebuilds h)

theorem end_to_end_arrays_generator (env : Env) (s : Schema) (e : Elem) (t : FormTree)
    (h : hypsA Tables.current env s e t = true) :
    ∃ ps, browserSubmit (seenVia Tables.current Flatland.Generated.C11.staticAttributeOrder freshGen) (some 0)
        (renderForm [] t) = .ok ps ∧ fromFlat env usep s ps = prS env usep false s e :=
  rebuilds_generator (hypsA_rebuilds h)

/-- `dropSafe` — what lets the pair of an unchecked box be dropped — is false of an Array / MultiValue,
    hence (`dropSafeL_array_false`) of every Dict that declares one -/
theorem dropSafe_array_false (env : Env) (n : Option Str) (o p : Bool) (m : Schema) :
    dropSafe env (.array n o p m) = false := rfl

theorem dropSafeL_array_false (env : Env) (fs gs : List Schema) (n : Option Str) (o p : Bool) (m : Schema) :
    dropSafeL env (fs ++ .array n o p m :: gs) = false := by
  induction fs with
  | nil => simp [dropSafeL, dropSafe]
  | cons f fs ih => simp [dropSafeL, ih]

theorem formLikeL_members : ∀ ms : List Str, formLikeL (ms.map memberNode) = true
  | [] => rfl
  | m :: ms => by simp [formLikeL, formLike, memberNode, formLikeL_members ms]

mutual
theorem embed_formLike : ∀ t : FormTree, formLike (embed t) = true
  | .text .. => by simp [embed, formLike, formLikeL]
  | .bool .. => by simp [embed, formLike, formLikeL]
  | .array n st ms w ex => by simp [embed, formLike, formLikeL_members]
  | .joined n u ms ty ex => by simp [embed, formLike, formLikeL_members]
  | .dict n fields => by simp [embed, formLike, embedAll_formLike fields]
  | .list n members => by simp [embed, formLike, embedAll_formLike members]
theorem embedAll_formLike : ∀ ts : List FormTree, formLikeL (embedAll ts) = true
  | [] => rfl
  | t :: ts => by simp [embedAll, formLikeL, embed_formLike t, embedAll_formLike ts]
end

theorem linked_formLike (env : Env) (s : Schema) (e : Elem) (t : FormTree)
    (h : linked env s e t = true) : formLike (resolve env s e) = true := by
  rw [← fnodeBeq_sound _ _ h]; exact embed_formLike t

/-- A Compound (`DateYYYYMMDD`, …) of which the state holds at least one
    member is linked to NO form tree: `FormTree` has no constructor that renders a Compound as its
    parts' inputs.  (At any depth: `formLike` is hereditary and `linked` compares whole trees.) -/
theorem compound_not_linked (env : Env) (n : Option Str) (o : Bool) (k : Nat) (fields : List Schema)
    (e : Elem) (t : FormTree) (h : linked env (.compound n o k fields) e t = true) :
    resolveMembers env fields (membersOf e) (membersOf e) = [] := by
  have := linked_formLike env _ e t h
  unfold resolve at this
  simp only [formLike, Bool.and_self, Bool.not_true, Bool.false_or, Bool.and_eq_true,
    List.isEmpty_iff] at this
  exact this.1

end Flatland.EndToEnd.Proofs
