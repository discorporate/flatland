/-
C01, string level: how the filters of `_set_flat` act on the keys of token paths (under SepSafe).
-/
import Proofs.Lemmas.C01Basics
namespace Flatland.Flat.Proofs
open Flatland.Flat Flatland.Flat.Spec

variable {env : Env} {sep : Str} {T : Str → Prop}

theorem tokKey_cons (sep t : Str) (π : List Str) : tokKey sep (t :: π) = some (joinSep sep (t :: π)) := rfl

theorem truthy_some {c : Str} (hc : c ≠ []) : truthy (some c) = true := by
  cases c with
  | nil => exact absurd rfl hc
  | cons a as => rfl

theorem isPrefix_longer (a b : Str) (h : b.length < a.length) : isPrefix a b = false := by
  apply Bool.eq_false_iff.mpr
  intro hp
  obtain ⟨r, hr⟩ := (isPrefix_iff _ _).mp hp
  rw [hr] at h
  simp at h
  omega

theorem possibles_named (x : Str) (l : List PPair)
    (hl : ∀ p ∈ l, p.1 ≠ []) :
    possibles sep (some x) (toKeys sep (l.map (pre [x]))) = l.map (joinPair sep) := by
  induction l with
  | nil => simp [possibles, toKeys]
  | cons p l ih =>
    have hp := hl p (by simp)
    have ih' := ih (fun q hq => hl q (List.mem_cons_of_mem _ hq))
    obtain ⟨π, v⟩ := p
    cases π with
    | nil => exact absurd rfl hp
    | cons t π =>
      simp only [List.map_cons, toKeys, pre, List.singleton_append, tokKey_cons] at ih' ⊢
      unfold possibles at ih' ⊢
      simp only [List.filterMap_cons, Option.map_some, isPrefix_tok_sep_self, if_true,
        joinSep_strip] at ih' ⊢
      rw [ih']
      rfl

theorem possibles_anon (l : List PPair) (hl : ∀ p ∈ l, p.1 ≠ []) :
    possibles sep none (toKeys sep l) = l.map (joinPair sep) := by
  induction l with
  | nil => simp [possibles, toKeys]
  | cons p l ih =>
    have hp := hl p (by simp)
    have ih' := ih (fun q hq => hl q (List.mem_cons_of_mem _ hq))
    obtain ⟨π, v⟩ := p
    cases π with
    | nil => exact absurd rfl hp
    | cons t π =>
      simp only [List.map_cons, toKeys, tokKey_cons] at ih' ⊢
      unfold possibles at ih' ⊢
      simp only [List.filterMap_cons, Option.map_some] at ih' ⊢
      rw [ih']
      rfl

theorem toKeys_eq_wrap (sep : Str) (l : List PPair) (hl : ∀ p ∈ l, p.1 ≠ []) :
    toKeys sep l = wrap (l.map (joinPair sep)) := by
  induction l with
  | nil => simp [toKeys, wrap]
  | cons p l ih =>
    have hp := hl p (by simp)
    have ih' := ih (fun q hq => hl q (List.mem_cons_of_mem _ hq))
    obtain ⟨π, v⟩ := p
    cases π with
    | nil => exact absurd rfl hp
    | cons t π =>
      simp only [toKeys, wrap, List.map_cons, tokKey_cons, joinPair] at ih' ⊢
      rw [ih']

theorem joinSep_ne_nil (sep u : Str) (π : List Str) (hu : u ≠ []) : joinSep sep (u :: π) ≠ [] := by
  cases π with
  | nil => rw [joinSep_single]; exact hu
  | cons w π =>
    rw [joinSep_cons_cons]
    intro h
    exact hu (List.append_eq_nil_iff.mp (List.append_eq_nil_iff.mp h).1).1

/-- the left side is what remains of `listAddr` once the List's own name is stripped from the key -/
theorem listBody_index (hs : SepSafe env sep T) (henv : EnvOK env)
    (i : Nat) (hi : (natStr i).length ≤ env.maxDigits) (π : List Str) (hπ : ∀ t ∈ π, t ≠ []) :
    (match matchIndex env sep (joinSep sep (natStr i :: π)) with
      | none => none
      | some (ds, rest) =>
        if ds.length > env.maxDigits then none
        else some (digitsVal env ds, if rest.isEmpty then none else some rest))
      = some (i, tokKey sep π) := by
  cases π with
  | nil =>
    rw [joinSep_single, matchIndex_natStr hs henv i]
    simp only [tokKey]
    rw [if_neg (by omega), digitsVal_natStr henv]
    simp
  | cons u π =>
    rw [joinSep_cons_cons, matchIndex_natStr_sep hs henv i]
    simp only [tokKey]
    rw [if_neg (by omega), digitsVal_natStr henv]
    have hne := joinSep_ne_nil sep u π (hπ u (by simp))
    have he : (joinSep sep (u :: π)).isEmpty = false := by
      cases hj : joinSep sep (u :: π) with
      | nil => exact absurd hj hne
      | cons c cs => rfl
    simp [he]

theorem listAddr_anon (hs : SepSafe env sep T) (henv : EnvOK env)
    (i : Nat) (hi : (natStr i).length ≤ env.maxDigits) (π : List Str) (hπ : ∀ t ∈ π, t ≠ []) :
    listAddr env sep none (tokKey sep (natStr i :: π)) = some (i, tokKey sep π) := by
  simp only [tokKey_cons, listAddr, truthy]
  exact listBody_index hs henv i hi π hπ

theorem listAddr_named (hs : SepSafe env sep T) (henv : EnvOK env) (x : Str) (hx : x ≠ [])
    (i : Nat) (hi : (natStr i).length ≤ env.maxDigits) (π : List Str) (hπ : ∀ t ∈ π, t ≠ []) :
    listAddr env sep (some x) (tokKey sep (x :: natStr i :: π)) = some (i, tokKey sep π) := by
  have htr := truthy_some hx
  simp only [tokKey_cons, listAddr, htr, if_true, Option.getD_some, isPrefix_tok_sep_self,
    joinSep_strip]
  exact listBody_index hs henv i hi π hπ

end Flatland.Flat.Proofs
