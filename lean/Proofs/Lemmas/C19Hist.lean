/-
What one Generator call does, said once: it makes one of four moves (`Move`), which fixes the frame stack
afterwards and the levels of the specification afterwards (`step_moves`).  The frame stack of the model (flat
copies) always equals the levels replayed on top of each other: `Matches`, preserved by every move.  A tag call
writes at most the tabindex counter: the transforms before `transform_tabindex` (`transformUpToFor`) leave the context alone.
-/
import Proofs.Lemmas.C19Ctx
import Proofs.Lemmas.MarkupTransforms
namespace Flatland.C19.Proofs
open Flatland.Markup Flatland.C19 Flatland.C19.Spec

/- The tabindex counter of a generator and the values handed out along a history of tag calls. -/

/-- `generator["tabindex"]` when it is an int -/
def counter (g : Gen) : Option Int :=
  match g.ctx.getItem sTabindex with
  | .ok (.int n) => some n
  | _ => none

/-- the automatic tabindex values handed out along a history OF TAG CALLS: a tag call hands out the
    counter value exactly when it writes the counter back.  (On other ops the function also emits
    the counter whenever the context changes: it is only used under `isTag` everywhere; mixed
    histories are handled by `scopeHanded`, `Proofs/Lemmas/C19Scope.lean`.) -/
def handed (T : Tables) (R : RenderCfg) : Gen → List Op → List Int
  | _, [] => []
  | g, op :: rest =>
    (if (step T R g op).1.ctx = g.ctx then []
     else match counter g with
       | some n => [n]
       | none => []) ++ handed T R (step T R g op).1 rest

def isTag : Op → Bool
  | .tag _ _ _ => true
  | _ => false

/-- leaves of an unfolded transform: every `ok` result has the wanted shape -/
macro "close_leaves" h:ident : tactic =>
  `(tactic| (repeat' split at $h:ident) <;> first
      | (simp at $h:ident; done)
      | (simp only [pure, Except.pure, Except.ok.injEq] at $h:ident; subst $h:ident; rfl)
      | (simp only [pure, Except.pure, Except.ok.injEq] at $h:ident; subst $h:ident; simp; done))

/-- what one Generator call does to the settings -/
inductive Move
  | keep
  | write (xs : List (Str × CVal))
  | push (xs : List (Str × CVal))
  | pop

def Move.ctx : Move → Ctx → Ctx
  | .keep, c => c
  | .write xs, c => { c with top := frameUpdate c.top xs }
  | .push xs, c => ⟨frameUpdate c.top xs, c.top :: c.below⟩
  | .pop, c => match c.below with
    | f :: rest => ⟨f, rest⟩
    | [] => c

def Move.hist : Move → Hist → Hist
  | .keep, h => h
  | .write xs, h => addLog h xs
  | .push xs, h => ⟨xs⟩ :: h
  | .pop, h => h.tail

/-- the moves an operation can make from `g`: any call may keep everything (it is rejected, or it is a tag
    call that hands out no counter value) -/
inductive Moves (T : Tables) (g : Gen) : Op → Move → Prop
  | keep (op : Op) : Moves T g op .keep
  | begin (s : List (Str × CVal)) : Moves T g (.begin s) (.push s)
  | end_ (f : Frame) (rest : List Frame) : g.ctx.below = f :: rest → g.ctx.depth ≠ 2 → Moves T g .end_ .pop
  | set (s ups : List (Str × CVal)) : setUpdates T g.ctx s = .ok ups → Moves T g (.set s) (.write ups)
  | setItem (k : Str) (v : CVal) : Moves T g (.setItem k v) (.write [(k, v)])
  | update (s : List (Str × CVal)) : Moves T g (.update s) (.write s)
  | tag (name : Str) (bnd : Option Bind) (kw : List (Str × Val)) (n : Int) : n > 0 →
      g.ctx.getItem sTabindex = .ok (.int n) → Moves T g (.tag name bnd kw) (.write [(sTabindex, .int (n + 1))])

def transformUpToFor (T : Tables) (tag : Str) (bnd : Option Bind) (st : TState) : Except PyErr TState := do
  let st ← transformName T tag bnd st
  let st ← transformValue T tag bnd st
  let st ← transformDomid T tag bnd st
  transformFor T tag bnd st

theorem transformPrefix_eq (T : Tables) (tag : Str) (bnd : Option Bind) (st : TState) :
    transformPrefix T tag bnd st = (transformUpToFor T tag bnd st).bind (transformTabindex T tag bnd) := by
  show _ = transformUpToFor T tag bnd st >>= transformTabindex T tag bnd
  simp only [transformPrefix, transformUpToFor, bind_assoc]

theorem transformUpToFor_ctx {T : Tables} {tag : Str} {bnd : Option Bind} {st s4 : TState}
    (h : transformUpToFor T tag bnd st = .ok s4) : s4.ctx = st.ctx := by
  simp only [transformUpToFor, bind_eq_ok] at h
  obtain ⟨s1, h1, s2, h2, s3, h3, h4⟩ := h
  rw [(transformFor_ok _ _ _ _ _ h4).2.2, (transformDomid_ok _ _ _ _ _ h3).2.2, (transformValue_ok _ _ _ _ _ h2).2.2,
    (transformName_ok _ _ _ _ _ h1).2.2]

theorem transformPrefix_tab {T : Tables} {tag : Str} {bnd : Option Bind} {st st5 : TState}
    (h : transformPrefix T tag bnd st = .ok st5) : TabStep st.ctx st5.ctx st5.attrs := by
  rw [transformPrefix_eq] at h
  obtain ⟨s4, h4, h5⟩ := bind_eq_ok.mp h
  exact transformUpToFor_ctx h4 ▸ (transformTabindex_ok _ _ _ _ _ h5).2.2

theorem advance_ne {c : Ctx} {n : Int} (h : Dict.get? c.top sTabindex = some (.int n)) :
    ({ c with top := Dict.set c.top sTabindex (.int (n + 1)) } : Ctx) ≠ c := fun hc => by
  have h1 := congrArg (fun c : Ctx => Dict.get? c.top sTabindex) hc
  simp only [Dict.get?_set_self, h, Option.some.injEq, CVal.int.injEq] at h1
  omega

theorem prepareTag_gen {T : Tables} {order : List Str} {g : Gen} {tag : Str} {bnd : Option Bind}
    {kwargs : List (Str × Val)} {r : TagResult} (h : prepareTag T order g tag bnd kwargs = .ok r) :
    ({ g with ctx := r.ctx } : Gen) = g.afterFailedTag T tag bnd kwargs := by
  obtain ⟨st6, _, ht, _, _, hc⟩ := prepareTag_steps h
  obtain ⟨s5, hp, hf⟩ := transform_prefix ht
  simp only [Gen.afterFailedTag, hp, hc, (transformFilters_ok _ _ _ _ _ hf).2.2]

/-- the generator after a tag call is the one `afterFailedTag` describes — whether the call
    returned or raised -/
theorem step_tag_gen (T : Tables) (R : RenderCfg) (g : Gen) (name : Str) (bnd : Option Bind) (kwargs : List (Str × Val)) :
    (step T R g (.tag name bnd kwargs)).1 = g.afterFailedTag T name bnd kwargs := by
  simp only [step]
  cases hc : g.callTag T R.attrChain R.voids R.order name bnd kwargs with
  | error e => rfl
  | ok r =>
    obtain ⟨s, g'⟩ := r
    simp only
    simp only [Gen.callTag, bind_eq_ok, pure_eq_ok, Prod.mk.injEq] at hc
    obtain ⟨r, hp, _, _, _, rfl⟩ := hc
    exact prepareTag_gen hp

theorem afterFailedTag_tab (T : Tables) (g : Gen) (tag : Str) (bnd : Option Bind) (kwargs : List (Str × Val)) :
    ∃ c attrs, g.afterFailedTag T tag bnd kwargs = { g with ctx := c } ∧ TabStep g.ctx c attrs := by
  unfold Gen.afterFailedTag
  cases hp : transformPrefix T tag bnd ⟨Flatland.C11.transformKeys (Dict.erase kwargs "contents".toList),
      Dict.get? kwargs "contents".toList, g.ctx⟩ with
  | error e => exact ⟨g.ctx, [], rfl, .refl ..⟩
  | ok st5 => exact ⟨_, _, rfl, transformPrefix_tab hp⟩

theorem afterFailedTag_ctx (T : Tables) (g : Gen) (tag : Str) (bnd : Option Bind) (kwargs : List (Str × Val)) :
    (g.afterFailedTag T tag bnd kwargs).xml = g.xml ∧
    ((g.afterFailedTag T tag bnd kwargs).ctx = g.ctx ∨ ∃ n : Int, n > 0 ∧ g.ctx.getItem sTabindex = .ok (.int n) ∧
      g.ctx.setItem sTabindex (.int (n + 1)) = .ok (g.afterFailedTag T tag bnd kwargs).ctx) := by
  obtain ⟨c, attrs, hg, ht⟩ := afterFailedTag_tab T g tag bnd kwargs
  rw [hg]
  exact ⟨rfl, ht.imp id fun ⟨n, hn, hget, hs, _⟩ => ⟨n, hn, hget, hs⟩⟩

theorem step_tag (T : Tables) (R : RenderCfg) (g : Gen) (name : Str) (bnd : Option Bind) (kwargs : List (Str × Val)) :
    ∃ c attrs, (step T R g (.tag name bnd kwargs)).1 = { g with ctx := c } ∧ TabStep g.ctx c attrs :=
  step_tag_gen T R g name bnd kwargs ▸ afterFailedTag_tab T g name bnd kwargs

theorem step_moves (T : Tables) (R : RenderCfg) (g : Gen) (op : Op) :
    ∃ m, Moves T g op m ∧ (step T R g op).1 = { g with ctx := m.ctx g.ctx } ∧
      (∀ h, histStep T R g h op = m.hist h) ∧
      (isTag op = false → ((step T R g op).2.err ≠ none ↔ m = .keep)) := by
  cases op with
  | begin s =>
    cases hk : known g.ctx s with
    | false => exact ⟨.keep, .keep _, by simp [step, begin_eq, hk, Move.ctx], fun h => by simp [histStep, step, begin_eq, hk, Move.hist],
        fun _ => by simp [step, begin_eq, hk]⟩
    | true => exact ⟨.push s, .begin s, by simp [step, begin_eq, hk, Move.ctx], fun h => by simp [histStep, step, begin_eq, hk, Move.hist],
        fun _ => by simp [step, begin_eq, hk]⟩
  | end_ =>
    rcases hb : g.ctx.below with _ | ⟨f, _ | ⟨f', rest⟩⟩
    · exact ⟨.keep, .keep _, by simp [step, end_eq, hb, Move.ctx], fun h => by simp [histStep, step, end_eq, hb, Move.hist],
        fun _ => by simp [step, end_eq, hb]⟩
    · exact ⟨.keep, .keep _, by simp [step, end_eq, hb, Move.ctx], fun h => by simp [histStep, step, end_eq, hb, Move.hist],
        fun _ => by simp [step, end_eq, hb]⟩
    · exact ⟨.pop, .end_ f (f' :: rest) hb (by simp [Ctx.depth, hb]), by simp [step, end_eq, hb, Move.ctx],
        fun h => by simp [histStep, step, end_eq, hb, Move.hist], fun _ => by simp [step, end_eq, hb]⟩
  | set s =>
    cases hs : setUpdates T g.ctx s with
    | error e => exact ⟨.keep, .keep _, by simp [step, set_eq, hs, Move.ctx], fun h => by simp [histStep, step, set_eq, hs, Move.hist],
        fun _ => by simp [step, set_eq, hs]⟩
    | ok ups => exact ⟨.write ups, .set s ups hs, by simp [step, set_eq, hs, Move.ctx], fun h => by simp [histStep, step, set_eq, hs, Move.hist],
        fun _ => by simp [step, set_eq, hs]⟩
  | setItem k v =>
    cases hk : g.ctx.has k with
    | false => exact ⟨.keep, .keep _, by simp [step, setItem_eq, hk, Move.ctx], fun h => by simp [histStep, step, setItem_eq, hk, Move.hist],
        fun _ => by simp [step, setItem_eq, hk]⟩
    | true => exact ⟨.write [(k, v)], .setItem k v, by simp [step, setItem_eq, hk, Move.ctx, frameUpdate],
        fun h => by simp [histStep, step, setItem_eq, hk, Move.hist], fun _ => by simp [step, setItem_eq, hk]⟩
  | update s =>
    cases hk : known g.ctx s with
    | false => exact ⟨.keep, .keep _, by simp [step, gen_update_eq, hk, Move.ctx], fun h => by simp [histStep, step, gen_update_eq, hk, Move.hist],
        fun _ => by simp [step, gen_update_eq, hk]⟩
    | true => exact ⟨.write s, .update s, by simp [step, gen_update_eq, hk, Move.ctx], fun h => by simp [histStep, step, gen_update_eq, hk, Move.hist],
        fun _ => by simp [step, gen_update_eq, hk]⟩
  | tag name bnd kwargs =>
    obtain ⟨c, attrs, hst, rfl | ⟨n, hn, hget, hs, _⟩⟩ := step_tag T R g name bnd kwargs
    · exact ⟨.keep, .keep _, hst, fun h => by simp [histStep, hst, Move.hist], fun h => by simp [isTag] at h⟩
    · obtain ⟨rfl, _⟩ := setItem_ok hs
      -- the counter moved, so `histStep` sees a changed context
      have hne := advance_ne (getItem_eq_ok.mp hget)
      refine ⟨.write [(sTabindex, .int (n + 1))], .tag name bnd kwargs n hn hget, hst, fun h => ?_, fun h => by simp [isTag] at h⟩
      simp only [histStep, hst, hne, if_false, Ctx.getItem, Dict.get?_set_self, pure, Except.pure, Move.hist]

def frames (c : Ctx) : List Frame := c.top :: c.below

/-- every frame is the one below it with the level's writes replayed on top -/
def Matches : List Frame → Hist → Prop
  | [_], [] => True
  | f :: g :: rest, lv :: lvs => f = frameUpdate g lv.log ∧ Matches (g :: rest) lvs
  | _, _ => False

theorem matches_addLog {top : Frame} {below : List Frame} {h : Hist} (xs : List (Str × CVal))
    (hm : Matches (top :: below) h) : Matches (frameUpdate top xs :: below) (addLog h xs) := by
  cases below with
  | nil =>
    cases h with
    | nil => simp [addLog, Matches]
    | cons lv lvs => simp [Matches] at hm
  | cons g rest =>
    cases h with
    | nil => simp [Matches] at hm
    | cons lv lvs =>
      simp only [Matches] at hm
      simp only [addLog, Matches]
      exact ⟨by rw [frameUpdate_append, ← hm.1], hm.2⟩

theorem Moves.matches {T : Tables} {g : Gen} {op : Op} {m : Move} (hm : Moves T g op m) {h : Hist}
    (h0 : Matches (frames g.ctx) h) : Matches (frames (m.ctx g.ctx)) (m.hist h) := by
  cases m with
  | keep => exact h0
  | write xs => exact matches_addLog xs h0
  | push xs => exact ⟨rfl, h0⟩
  | pop =>
    cases hm with
    | end_ f rest hb _ =>
      simp only [frames, hb, Move.ctx, Move.hist] at h0 ⊢
      cases h with
      | nil => simp [Matches] at h0
      | cons lv lvs => exact h0.2

theorem matches_step (T : Tables) (R : RenderCfg) (g : Gen) (h : Hist) (op : Op)
    (hm : Matches (frames g.ctx) h) :
    Matches (frames (step T R g op).1.ctx) (histStep T R g h op) := by
  obtain ⟨m, hmv, hg, hh, _⟩ := step_moves T R g op
  rw [hg, hh]
  exact hmv.matches hm

theorem matches_run (T : Tables) (R : RenderCfg) (ops : List Op) (g : Gen) (h : Hist)
    (hm : Matches (frames g.ctx) h) :
    Matches (frames (runS T R g h ops).1.ctx) (runS T R g h ops).2 := by
  induction ops generalizing g h with
  | nil => exact hm
  | cons op rest ih => exact ih _ _ (matches_step T R g h op hm)

theorem runS_fst (T : Tables) (R : RenderCfg) (ops : List Op) (g : Gen) (h : Hist) :
    (runS T R g h ops).1 = runGen T R g ops := by
  induction ops generalizing g h with
  | nil => rfl
  | cons op rest ih =>
    simp only [runS, runGen, run]
    rw [ih]; rfl

end Flatland.C19.Proofs
