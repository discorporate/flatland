/-
C14, one step of the AST against its compiled operation: a name step looks up the child spec B names,
a bracket step compiles to a SLICE op that selects the same children; hence what one compiled step does
under the depth-first readings `denOps` and `denOrd`.
-/
import Flatland.Path
import Flatland.Spec.C14
import Proofs.Lemmas.C14Work
import Proofs.Lemmas.C14Slice
import Proofs.Lemmas.PathTree
namespace Flatland.C14.Proofs
open Flatland.Path Flatland.C14.Spec

theorem kidsAt_length (root : Node) (el : Pos) :
    (kidsAt root el).length = (nodeAt root el).kids.length := by
  unfold kidsAt nodeAt
  cases root.get? el <;> rfl

theorem indexAt_eq_childNamed (root : Node) (el : Pos) (s : Str) :
    indexAt root el (some s) = childNamed (nodeAt root el) s := by
  unfold indexAt nodeAt
  cases hg : root.get? el with
  | none => simp [childNamed, Node.kind]
  | some n =>
    simp only [Option.getD_some]
    unfold Node.index childNamed
    cases hk : n.kind with
    | scalar => rfl
    | map => simp only [Lemmas.findName_eq]
    | list =>
      show (match pyInt s with | none => none | some i => pyListIndex n.kids.length i)
        = (pyInt s).bind (pyListIndex n.kids.length)
      cases pyInt s <;> rfl
    | array =>
      show (match pyInt s with | none => none | some i => pyListIndex n.kids.length i)
        = (pyInt s).bind (pyListIndex n.kids.length)
      cases pyInt s <;> rfl

theorem stepOk_slice (a b c : Option Int) : Op.stepOk (.slice a b c) = !(c == some 0) := by
  cases c <;> simp [Op.stepOk, bne]

def sliceKids (root : Node) (el : Pos) (a b c : Option Int) : List Pos :=
  (pySlice (kidsAt root el).length a b c).map (fun i => el ++ [i])

theorem stepDen_slice (root : Node) (strict : Bool) (a b : Option Int) (c : Option (Option Int)) (el : Pos) :
    stepDen root strict (.slice a b c) el =
      if Step.stride c == some 0 then .error .value else .ok (sliceKids root el a b (Step.stride c)) := by
  simp only [stepDen, sliceKids, kidsAt_length]

theorem pySlice_stride_default (n : Nat) (a b c : Option Int) :
    pySlice n a b (some (c.getD 1)) = pySlice n a b c := by
  cases c with
  | none => exact pySlice_stride_one n a b
  | some _ => rfl

/-- `[:]`, `[::]`; `[a:b]` with the start defaulted to 0; `[a:b:c]` with the stride defaulted to 1: the
    compiled slice selects what the slice as written selects, and its stride is 0 iff the written one is -/
theorem compileStep_slice_eq (a b : Option Int) (c : Option (Option Int)) :
    ∃ a' c', compileStep (.slice a b c) = .slice a' b c' ∧ (c' == some 0) = (Step.stride c == some 0) ∧
      ∀ n, pySlice n a' b c' = pySlice n a b (Step.stride c) := by
  have hz : ∀ c : Option Int, (some (c.getD 1) == some (0 : Int)) = (Step.stride (some c) == some (0 : Int)) := by
    intro c; cases c <;> rfl
  match a, b, c with
  | none, none, none => exact ⟨none, none, rfl, rfl, fun _ => rfl⟩
  | none, none, some none => exact ⟨none, none, rfl, rfl, fun _ => rfl⟩
  | some x, none, none => exact ⟨some x, none, rfl, rfl, fun _ => rfl⟩
  | none, some y, none => exact ⟨some 0, none, rfl, rfl, fun n => pySlice_start_zero n _⟩
  | some x, some y, none => exact ⟨some x, none, rfl, rfl, fun _ => rfl⟩
  | none, none, some (some v) => exact ⟨none, some v, rfl, rfl, fun _ => rfl⟩
  | some x, none, some c => exact ⟨some x, some (c.getD 1), rfl, hz c, fun n => pySlice_stride_default n _ _ c⟩
  | none, some y, some c => exact ⟨none, some (c.getD 1), rfl, hz c, fun n => pySlice_stride_default n _ _ c⟩
  | some x, some y, some c => exact ⟨some x, some (c.getD 1), rfl, hz c, fun n => pySlice_stride_default n _ _ c⟩

theorem stride_zero_iff (a b : Option Int) (c : Option (Option Int)) :
    (Step.stride c == some 0) = !(Step.slice a b c).wf := by
  match c with
  | none => rfl
  | some none => rfl
  | some (some v) => simp [Step.stride, Step.wf, bne]

theorem compileStep_slice (s : Step) (hs : s.isSlice = true) :
    ∃ a b c, compileStep s = .slice a b c ∧ (c == some 0) = !s.wf ∧
      ∀ (root : Node) (strict : Bool) (el : Pos), stepDen root strict s el =
        if c == some 0 then .error .value else .ok (sliceKids root el a b c) := by
  cases s with
  | up => cases hs
  | here => cases hs
  | name _ => cases hs
  | negidx k =>
    refine ⟨negA k, negB k, none, ?_, rfl, fun root strict el => ?_⟩
    · simp only [compileStep, negA, negB]
      split
      · next hk => subst hk; rfl
      · rfl
    · simp only [stepDen, sliceKids, kidsAt_length, pySlice_negidx]
      rfl
  | slice a b c =>
    obtain ⟨a', c', hc, hz, hsel⟩ := compileStep_slice_eq a b c
    refine ⟨a', b, c', hc, hz.trans (stride_zero_iff a b c), fun root strict el => ?_⟩
    rw [stepDen_slice, sliceKids, sliceKids, hsel, hz]

theorem compileStep_stepOk (s : Step) (h : s.wf = true) : Op.stepOk (compileStep s) = true := by
  cases s with
  | up => rfl
  | here => rfl
  | name _ => rfl
  | negidx n => obtain ⟨_, _, _, hc, hz, _⟩ := compileStep_slice (.negidx n) rfl; rw [hc, stepOk_slice, hz, h]; rfl
  | slice a b c =>
    obtain ⟨_, _, _, hc, hz, _⟩ := compileStep_slice (.slice a b c) rfl; rw [hc, stepOk_slice, hz, h]; rfl

theorem compile_noZero (steps : List Step) (h : steps.all Step.wf = true) :
    NoZero (steps.map compileStep) = true := by
  rw [NoZero, List.all_map]
  exact List.all_eq_true.mpr (fun s hs => compileStep_stepOk s (List.all_eq_true.mp h s hs))

theorem denOps_step (root : Node) (strict : Bool) (s : Step) (r : List Op) (el : Pos) :
    denOps root strict (compileStep s :: r) el
      = andThen (stepDen root strict s el) (flatMapM (denOps root strict r)) := by
  have hslice : s.isSlice = true → denOps root strict (compileStep s :: r) el
      = andThen (stepDen root strict s el) (flatMapM (denOps root strict r)) := by
    intro hs
    obtain ⟨a, b, c, hc, _, hd⟩ := compileStep_slice s hs
    rw [hc, hd]
    simp only [denOps, sliceKids]
    split <;> rfl
  cases s with
  | up => simp only [compileStep, denOps, stepDen, andThen_ok, flatMapM_singleton]
  | here => simp only [compileStep, denOps, stepDen, andThen_ok, flatMapM_singleton]
  | name nm =>
    simp only [compileStep, denOps, stepDen, indexAt_eq_childNamed]
    cases childNamed (nodeAt root el) nm with
    | some i => simp only [andThen_ok, flatMapM_singleton]
    | none => cases strict <;> rfl
  | negidx k => exact hslice rfl
  | slice a b c => exact hslice rfl

/-- what a compiled step does under `denOrd`: the step's own error at the current depth, otherwise
    the rest on every selected element, one deeper after a bracket step -/
def stepThen (root : Node) (strict : Bool) (s : Step) (d : Nat) (el : Pos) (k : Nat → Pos → Ranked) : Ranked :=
  match stepDen root strict s el with
  | .error e => .err d e
  | .ok next => flatMapR (k (if s.isSlice then d + 1 else d)) next

theorem denOrd_step (root : Node) (strict : Bool) (s : Step) (r : List Op) (d : Nat) (el : Pos) :
    denOrd root strict (compileStep s :: r) d el
      = stepThen root strict s d el (denOrd root strict r) := by
  have hslice : s.isSlice = true → denOrd root strict (compileStep s :: r) d el
      = stepThen root strict s d el (denOrd root strict r) := by
    intro hs
    obtain ⟨a, b, c, hc, _, hd⟩ := compileStep_slice s hs
    rw [hc, stepThen, hd, hs]
    simp only [denOrd, sliceKids]
    split <;> rfl
  unfold stepThen
  cases s with
  | up => simp only [compileStep, denOrd, stepDen, flatMapR_singleton, Step.isSlice]; rfl
  | here => simp only [compileStep, denOrd, stepDen, flatMapR_singleton, Step.isSlice]; rfl
  | name nm =>
    simp only [compileStep, denOrd, stepDen, indexAt_eq_childNamed, Step.isSlice]
    cases childNamed (nodeAt root el) nm with
    | some i => simp only [flatMapR_singleton]; rfl
    | none => cases strict <;> rfl
  | negidx k => exact hslice rfl
  | slice a b c => exact hslice rfl

end Flatland.C14.Proofs
