/-
The pruning of a silent element.

An element that emits no pair (that survives `u`) is pruned to the fresh element of its schema
(`pr_silent`, `prS_silent`).  So on conforming states the two places where the specification puts a
fresh element — for a silent member of a non-pruning List, for an untouched minimum field of a
mapping — agree with pruning the element that was there (`pr_or_blank`, `vOf_valS`), and on
schemas without SparseDicts `prS` is `pr` (`prS_eq_pr_dense`).
-/
import Proofs.Lemmas.C01SparseSecondTouched
import Proofs.Lemmas.C01SparsePick
import Proofs.Lemmas.C01Level
namespace Flatland.Flat.Proofs
open Flatland.Flat Flatland.Flat.Spec

variable {env : Env} {sep : Str}

theorem innerPairs_silent (u : Bool) (nm : Option Str) (o : Bool) (mode : DictMode) (fields : List Schema)
    (ms : List (Str × Elem)) (hem : emitsB env u (.dict nm o mode fields) (.dict ms) = false) :
    innerPairs env sep u fields ms = [] := by
  have h : emitsB env u (.dict none false .sparse fields) (.dict ms) = false := by
    cases h' : emitsB env u (.dict none false .sparse fields) (.dict ms) with
    | false => rfl
    | true =>
      rw [(emitsB_dictS env u nm o mode fields ms).mpr
        ((emitsB_dictS env u none false .sparse fields ms).mp h')] at hem
      cases hem
  rw [innerPairs_eq, ← relFlat_anon_dict env false .sparse fields ms,
    (emitsB_false_iff env u _ _).mp h]
  rfl

/-- No induction: a silent sequence loses all its members, a silent mapping has no touched field. -/
theorem prS_silent (s : Schema) (u : Bool) (e : Elem) (hok : OkS env s e)
    (hem : emitsB env u s e = false) : prS env sep u s e = blank s := by
  have mapping : ∀ (nm : Option Str) (o : Bool) (mode : DictMode) (fields : List Schema)
      (ms : List (Str × Elem)), emitsB env u (.dict nm o mode fields) (.dict ms) = false →
      prS env sep u (.dict nm o mode fields) (.dict ms) = blank (.dict nm o mode fields) := by
    intro nm o mode fields ms h
    rw [prS_dict, innerPairs_silent u nm o mode fields ms h, blank_dict_members,
      pick_untouched _ [] _ fields (fun _ _ => rfl)]
  cases s with
  | leaf nm o k =>
    obtain ⟨t, rfl, _⟩ := okS_leaf_inv hok
    rw [emitsB_leaf] at hem
    obtain ⟨_, rfl⟩ := keepS_false_iff.mp hem
    rw [prS_leaf]; rfl
  | joined nm o k mem =>
    obtain ⟨t, ms, rfl, _⟩ := okS_joined_inv hok
    rw [emitsB_joined] at hem
    obtain ⟨rfl, rfl⟩ := keepS_false_iff.mp hem
    rw [prS_joined]; rfl
  | dict nm o mode fields =>
    obtain ⟨ms, rfl, _⟩ := okS_dict_inv hok
    exact mapping nm o mode fields ms hem
  | compound nm o k fields =>
    obtain ⟨ms, rfl, _⟩ := okS_dict_inv ((okS_compound nm o k fields e).mp hok)
    rw [prS_compound]
    refine mapping nm o .dense fields ms ?_
    cases h : emitsB env u (.dict nm o .dense fields) (.dict ms) with
    | false => rfl
    | true =>
      rw [(emitsB_compoundS env u nm o k fields ms).mpr
        (Or.inr ((emitsB_dictS env u nm o .dense fields ms).mp h))] at hem
      cases hem
  | list nm o p mx member =>
    obtain ⟨ms, rfl, _⟩ := okS_list_inv hok
    rw [emitsB_list] at hem
    have hall : ∀ m ∈ ms, emitsB env u member m = false := fun m hm =>
      Bool.eq_false_iff.mpr (List.any_eq_false.mp hem m hm)
    simp only [prS, blank]
    split
    · rw [List.filter_eq_nil_iff.mpr (fun m hm => by
        have := emitsB_mono true (hall m hm); simpa using this)]
      rfl
    · rw [dropTrailing_none _ _ hall]; rfl
  | array nm o p member =>
    obtain ⟨ms, rfl, _⟩ := okS_array_inv hok
    rw [emitsB_array] at hem
    rw [prS_array]
    simp only [blank]
    rw [List.filter_eq_nil_iff.mpr (fun m hm => by
      have := emitsB_mono (arrayPrunes nm p member)
        (Bool.eq_false_iff.mpr (List.any_eq_false.mp hem m hm))
      simp [this])]

theorem prS_or_blank (member : Schema) (u : Bool) (m : Elem) (hok : OkS env member m) :
    (if emitsB env u member m then prS env sep u member m else blank member) = prS env sep u member m := by
  cases hem : emitsB env u member m with
  | true => rfl
  | false => simp only [Bool.false_eq_true, if_false]; exact (prS_silent member u m hok hem).symm

/-- An absent field is blank either way, a present silent one is pruned to the blank element, one that
    emits is touched (no `prefixFree` needed). -/
theorem vOf_valS (fields : List Schema) (hnd : (namesOf fields).Nodup) (hsome : ∀ g ∈ fields, g.name.isSome)
    (ms : List (Str × Elem)) (hmem : ∀ p ∈ ms, OkSAny env fields p.1 p.2) (u : Bool) (f : Schema)
    (hf : f ∈ fields) :
    (if touched (innerPairs env sep u fields ms) f then valS env sep u ms f else blank f)
      = valS env sep u ms f := by
  unfold valS
  cases hl : lookup (f.name.getD []) ms with
  | none => simp
  | some e =>
    simp only
    cases hem : emitsB env u f e with
    | true => rw [touched_of_emits fields hnd hsome ms f hf u e hl hem]; rfl
    | false =>
      rw [prS_silent f u e (okS_member_lookup hnd hmem hf (name_eq_nmOf hsome hf) hl) hem]; simp

theorem map_eq_prFields (u : Bool) (F : Schema → Elem) : ∀ (fs : List Schema) (ms : List (Str × Elem)),
    OkPFields env fs ms → (∀ f k e, (f, (k, e)) ∈ fs.zip ms → F f = pr env u f e) →
    fs.map (fun f => (f.name.getD [], F f)) = prFields env u fs ms
  | [], [], _, _ => rfl
  | [], _ :: _, h, _ => by simp [OkPFields] at h
  | _ :: _, [], h, _ => by simp [OkPFields] at h
  | f :: fs, (k, e) :: ms, h, hF => by
    simp only [OkPFields] at h
    simp only [List.map_cons, prFields, h.1, Option.getD_some, hF f k e (by simp),
      map_eq_prFields u F fs ms h.2.2 (fun g k' e' hg => hF g k' e' (by simp [hg]))]

/-- In a dense mapping all fields are minimum members held in declaration order; a touched one is rebuilt
    to its `prS`, an untouched one is silent (`prS_silent`). -/
theorem prS_eq_pr_dense : ∀ s : Schema, wf s = true → dense s = true → ∀ e : Elem, OkP env s e →
    ∀ u : Bool, prS env sep u s e = pr env u s e := by
  have mapping : ∀ (nm : Option Str) (o : Bool) (fields : List Schema) (ms : List (Str × Elem)),
      (namesOf fields).Nodup → (∀ g ∈ fields, g.name.isSome) → OkPFields env fields ms →
      (∀ f k e, (f, (k, e)) ∈ fields.zip ms → wf f = true ∧ dense f = true ∧ OkP env f e ∧
        ∀ u, prS env sep u f e = pr env u f e) →
      ∀ u, prS env sep u (.dict nm o .dense fields) (.dict ms) = .dict (prFields env u fields ms) := by
    intro nm o fields ms hnd hsome hok hQ u
    rw [prS_dict, pickV_all (isReq .dense) (fun _ => rfl)]
    congr 1
    apply map_eq_prFields u _ fields ms hok
    intro f k e hz
    obtain ⟨hw, hd, hoke, hP⟩ := hQ f k e hz
    obtain ⟨hname, hl⟩ := lookup_of_zip fields ms (okFields_keysP env fields ms hok) hnd f k e hz
    have hl' : lookup (f.name.getD []) ms = some e := by rw [hname]; exact hl
    cases ht : touched (innerPairs env sep u fields ms) f with
    | true => simp only [if_true, valS, hl', hP u]
    | false =>
      simp only [Bool.false_eq_true, if_false]
      rw [← hP u]
      refine (prS_silent f u e (okS_of_okP env f hw e hoke) ?_).symm
      cases hem : emitsB env u f e with
      | false => rfl
      | true =>
        rw [touched_of_emits fields hnd hsome ms f (List.of_mem_zip hz).1 u e hl' hem] at ht
        cases ht
  refine okP_ind
    (Q := fun fs ms => ∀ f k e, (f, (k, e)) ∈ fs.zip ms → wf f = true ∧ dense f = true ∧
      OkP env f e ∧ ∀ u, prS env sep u f e = pr env u f e) ?_ ?_ ?_ ?_ ?_ ?_ ?_ ?_
  · intro nm o k t _ u; rw [prS]
  · intro nm o k mem t ms _ _ u; rw [prS]
  · intro nm o fields ms _ _ hnd hsome hok hQ u
    rw [mapping nm o fields ms hnd hsome hok hQ u, pr]
  · intro nm o k fields ms _ _ hnd hsome hok hQ u
    rw [prS_compound, mapping nm o fields ms hnd hsome hok hQ u, pr]
  · intro nm o p mx member ms _ _ _ _ _ ih u
    simp only [prS, pr]
    split
    · congr 1
      exact List.map_congr_left (fun m hm => ih m (List.mem_filter.mp hm).1 true)
    · congr 1
      apply List.map_congr_left
      intro m hm
      rw [ih m (mem_of_mem_dropTrailing _ _ _ hm) u]
  · intro nm o p member ms _ _ _ _ _ u; rw [prS]
  · intro f k e h; simp at h
  · intro f fs k e ms hw hd _ hoke _ hP hQ g k' e' hz
    simp only [List.zip_cons_cons, List.mem_cons, Prod.mk.injEq] at hz
    rcases hz with ⟨rfl, rfl, rfl⟩ | hz
    · exact ⟨hw, hd, hoke, hP⟩
    · exact hQ g k' e' hz

theorem pr_silent (s : Schema) (hw : wf s = true) (hd : dense s = true) (e : Elem) (hok : OkP env s e)
    (u : Bool) (hem : emitsB env u s e = false) : pr env u s e = blank s :=
  (prS_eq_pr_dense (sep := []) s hw hd e hok u).symm.trans
    (prS_silent s u e (okS_of_okP env s hw e hok) hem)

theorem pr_or_blank (member : Schema) (hw : wf member = true) (hd : dense member = true)
    (u : Bool) (m : Elem) (hok : OkP env member m) :
    (if emitsB env u member m then pr env u member m else blank member) = pr env u member m := by
  cases hem : emitsB env u member m with
  | true => rfl
  | false => simp only [Bool.false_eq_true, if_false]; exact (pr_silent member hw hd m hok u hem).symm

end Flatland.Flat.Proofs
