/-
The scanner (`scan` = `_tokenize_re.findall`) and one iteration of the token loop (`tokStep`),
equation by equation: at a `/`, at a clean name run (`cleanB`), at a bracket token.  Everything about
paths written as `/`-separated segments (C13's `fq_name` output, C14's printer) is derived from these.
-/
import Flatland.Path
namespace Flatland.Path.Lemmas
open Flatland.Path

-- `nameRunLen` and `unescape` are defined by overlapping patterns: one unconditional equation each

theorem nameRunLen_cons (c : Char) (r : Str) :
    nameRunLen (c :: r) =
      if c = '\\' then
        (match r with
          | [] => 1
          | c2 :: r2 => if isEscapable c2 then 2 + nameRunLen r2 else 1 + nameRunLen (c2 :: r2))
      else if c == '/' || c == '[' then 0 else 1 + nameRunLen r := by
  by_cases hc : c = '\\'
  · subst hc; cases r <;> rfl
  · rw [if_neg hc, nameRunLen.eq_3 c r (fun _ _ h _ => hc h)]

def isUnescapable (c : Char) : Bool := c == '/' || c == '[' || c == ']' || c == '.'

theorem unescape_cons (c : Char) (r : Str) :
    unescape (c :: r) =
      if c = '\\' then
        (match r with
          | [] => ['\\']
          | c2 :: r2 => if isUnescapable c2 then c2 :: unescape r2 else '\\' :: unescape (c2 :: r2))
      else c :: unescape r := by
  by_cases hc : c = '\\'
  · subst hc; cases r <;> rfl
  · rw [if_neg hc, unescape.eq_3 c r (fun _ _ h _ => hc h)]

theorem unescape_nil : unescape [] = [] := by simp [unescape]

/-- the string is consumed as one name run; `last = false`: and cannot swallow a following `/`
    (no lone trailing backslash) -/
def cleanB (last : Bool) : Str → Bool
  | [] => true
  | c :: r =>
    if c = '\\' then
      (match r with
        | [] => last
        | c2 :: r2 => if isEscapable c2 then cleanB last r2 else cleanB last (c2 :: r2))
    else !(c == '/' || c == '[') && cleanB last r
termination_by s => s.length
decreasing_by all_goals simp_wf <;> omega

theorem cleanB_cons (last : Bool) (c : Char) (r : Str) :
    cleanB last (c :: r) =
      if c = '\\' then
        (match r with
          | [] => last
          | c2 :: r2 => if isEscapable c2 then cleanB last r2 else cleanB last (c2 :: r2))
      else !(c == '/' || c == '[') && cleanB last r := by
  rw [cleanB.eq_def]
  by_cases hc : c = '\\'
  · subst hc; cases r <;> rfl
  · simp only [hc, if_false]

theorem cleanB_nil (last : Bool) : cleanB last [] = true := by rw [cleanB.eq_def]

/-- what may follow a name run or a bracket token -/
def SlashOrEnd (t : Str) : Prop := t = [] ∨ ∃ t', t = '/' :: t' ∨ t = '[' :: t'

theorem nameRunLen_slashOrEnd (t : Str) (h : SlashOrEnd t) : nameRunLen t = 0 := by
  rcases h with h | ⟨t', h | h⟩ <;> (subst h; rfl)

theorem nameRunLen_clean (last : Bool) (s t : Str) (hc : cleanB last s = true)
    (ht : nameRunLen t = 0) (hl : last = true → t = []) : nameRunLen (s ++ t) = s.length := by
  fun_induction cleanB last s with
  | case1 => exact ht
  | case2 => rw [hl hc]; rfl
  | case3 c2 r2 he ih =>
    rw [List.cons_append, List.cons_append, nameRunLen.eq_2, if_pos he, ih hc, List.length_cons,
      List.length_cons]
    omega
  | case4 c2 r2 he ih =>
    rw [List.cons_append, List.cons_append, nameRunLen.eq_2, if_neg he, ← List.cons_append, ih hc,
      List.length_cons, List.length_cons, List.length_cons]
    omega
  | case5 c r hb ih =>
    rw [Bool.and_eq_true, Bool.not_eq_true'] at hc
    rw [List.cons_append, nameRunLen_cons, if_neg hb, hc.1, ih hc.2, List.length_cons]
    simp only [Bool.false_eq_true, if_false]
    omega

theorem getLast?_cons_ne {x c : Char} {r : Str} (hc : c ≠ x) (hr : r.getLast? ≠ some x) :
    (c :: r).getLast? ≠ some x := by
  cases r with
  | nil => exact fun h => hc (Option.some.inj h)
  | cons d r' => rw [List.getLast?_cons_cons]; exact hr

theorem clean_getLast (s : Str) (hc : cleanB false s = true) : s.getLast? ≠ some '\\' := by
  fun_induction cleanB false s with
  | case1 => nofun
  | case2 => cases hc
  | case3 c2 r2 he ih =>
    rw [List.getLast?_cons_cons]
    exact getLast?_cons_ne (fun h => by subst h; exact absurd he (by decide)) (ih hc)
  | case4 c2 r2 he ih => rw [List.getLast?_cons_cons]; exact ih hc
  | case5 c r hb ih =>
    rw [Bool.and_eq_true] at hc
    exact getLast?_cons_ne hb (ih hc.2)

theorem clean_of_chars (last : Bool) (s : Str) (h : ∀ c ∈ s, c ≠ '\\' ∧ c ≠ '/' ∧ c ≠ '[') :
    cleanB last s = true := by
  induction s with
  | nil => exact cleanB_nil last
  | cons c r ih =>
    obtain ⟨h1, h2, h3⟩ := h c List.mem_cons_self
    rw [cleanB_cons, if_neg h1, beq_eq_false_iff_ne.2 h2, beq_eq_false_iff_ne.2 h3,
      ih (fun x hx => h x (List.mem_cons_of_mem _ hx))]
    rfl

theorem unescape_of_chars (s : Str) (h : ∀ c ∈ s, c ≠ '\\') : unescape s = s := by
  induction s with
  | nil => rfl
  | cons c r ih =>
    rw [unescape_cons, if_neg (h c List.mem_cons_self), ih (fun x hx => h x (List.mem_cons_of_mem _ hx))]

theorem scan_nil (prev : Option Char) : scan prev [] = [] := by simp [scan]

theorem scan_cons (prev : Option Char) (c : Char) (r : Str) :
    scan prev (c :: r) =
      (scanStep prev c r).1.toList
        ++ scan (some ((c :: r).getD (scanStep prev c r).2 c)) (r.drop (scanStep prev c r).2) := by
  rw [scan]
  cases (scanStep prev c r).1 <;> rfl

theorem scanStep_slash (prev : Option Char) (r : Str) (hp : prev ≠ some '\\') :
    scanStep prev '/' r = (some (['/'], []), 0) := by
  have h0 : nameRunLen ('/' :: r) = 0 := rfl
  unfold scanStep
  simp only [h0, ne_eq, not_true_eq_false, if_false, beq_self_eq_true, if_true,
    beq_eq_false_iff_ne.2 hp, Bool.false_eq_true]

theorem scan_slash (prev : Option Char) (r : Str) (hp : prev ≠ some '\\') :
    scan prev ('/' :: r) = (['/'], []) :: scan (some '/') r := by
  rw [scan_cons, scanStep_slash prev r hp]
  rfl

theorem getD_last (t r : Str) (c x : Char) :
    some ((c :: (r ++ t)).getD r.length x) = (c :: r).getLast? := by
  induction r generalizing c with
  | nil => rfl
  | cons d r ih =>
    rw [List.cons_append, List.length_cons, List.getD_cons_succ, List.getLast?_cons_cons]
    exact ih d

theorem scan_run (last : Bool) (prev : Option Char) (s t : Str) (hne : s ≠ [])
    (hc : cleanB last s = true) (ht : SlashOrEnd t) (hl : last = true → t = []) :
    scan prev (s ++ t) = (s, []) :: scan s.getLast? t := by
  cases s with
  | nil => exact absurd rfl hne
  | cons c r =>
    have hn : nameRunLen (c :: (r ++ t)) = r.length + 1 :=
      nameRunLen_clean last (c :: r) t hc (nameRunLen_slashOrEnd t ht) hl
    have hs : scanStep prev c (r ++ t) = (some (c :: r, []), r.length) := by
      unfold scanStep
      simp only [hn, ne_eq, Nat.add_one_ne_zero, not_false_eq_true, if_true, Nat.add_sub_cancel,
        List.take_succ_cons, List.take_left']
    rw [List.cons_append, scan_cons, hs]
    simp only [List.drop_left', getD_last]
    rfl

/-- a name token that the token loop turns into a plain NAME -/
def PlainSeg (s : Str) : Prop :=
  s ≠ ['/'] ∧ s ≠ ['.'] ∧ s ≠ ['.', '.'] ∧ s.head? ≠ some '['

theorem tokStep_slash_first (st : TState) (h : st.last = none) :
    tokStep st (['/'], []) = .ok { st with toks := .top :: st.toks, last := some ['/'] } := by
  simp [tokStep, h]

theorem tokStep_slash_after (st : TState) (l : Str) (h : st.last = some l) (hl : l ≠ ['/']) :
    tokStep st (['/'], []) = .ok { st with last := some ['/'] } := by
  simp [tokStep, h, hl]

theorem tokStep_slash_slash (st : TState) (h : st.last = some ['/']) :
    tokStep st (['/'], []) = .ok { st with toks := .name none :: st.toks, last := some ['/'] } := by
  simp [tokStep, h]

theorem tokStep_seg (st : TState) (s : Str) (hs : PlainSeg s) :
    tokStep st (s, []) = .ok { st with toks := .name (some (unescape s)) :: st.toks, last := some s } := by
  obtain ⟨h1, h2, h3, h4⟩ := hs
  unfold tokStep
  simp only [h1, h2, h3, beq_eq_false_iff_ne.2 h4, beq_iff_eq, if_false, List.isEmpty_nil, Bool.not_true,
    Bool.false_eq_true, Bool.false_and]

theorem tokStep_br (st : TState) (b : Str) (op : Op) (hne : b ≠ []) (hp : parseSlice b = some op) :
    tokStep st ('[' :: b ++ [']'], b)
      = .ok { st with toks := op :: st.toks, last := some ('[' :: b ++ [']']) } := by
  have h1 : (('[' :: b ++ [']']) == ['/']) = false := rfl
  have h2 : (('[' :: b ++ [']']) == ['.']) = false := rfl
  have h3 : (('[' :: b ++ [']']) == ['.', '.']) = false := rfl
  have h4 : b.isEmpty = false := by cases b with | nil => exact absurd rfl hne | cons _ _ => rfl
  unfold tokStep
  simp only [h1, h2, h3, h4, Bool.false_eq_true, if_false, Bool.not_false, if_true, hp]

theorem tokLoop_append (a b : List RawTok) (st : TState) :
    tokLoop st (a ++ b) = (match tokLoop st a with | .error e => .error e | .ok st' => tokLoop st' b) := by
  induction a generalizing st with
  | nil => rfl
  | cons t a ih =>
    simp only [List.cons_append, tokLoop]
    cases tokStep st t with
    | error e => rfl
    | ok st1 => exact ih st1

end Flatland.Path.Lemmas
