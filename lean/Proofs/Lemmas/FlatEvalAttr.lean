/-
Registers the simp sets `flat_eval` and `prS_eval`; Proofs/Lemmas/FlatEval.lean fills them (an attribute
cannot be used in the module that registers it).
-/
import Lean.Meta.Tactic.Simp.RegisterCommand

/-- what `simp` unfolds to evaluate `flatten` on a concrete state (`bfsFlat` and `resolve` are
    well-founded recursions, which `rfl` does not see through) -/
register_simp_attr flat_eval

/-- with `flat_eval`: what `simp` unfolds to evaluate `prS` on a concrete state -/
register_simp_attr prS_eval
