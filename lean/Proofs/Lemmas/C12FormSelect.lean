/-
The binds of a rendered form are the binds the runner's `select` computes from the case tree
(`Flatland/C12.lean`): flat name, text and kind of the element a selector leads to.
-/
import Flatland.C12.Form
import Proofs.Lemmas.C12FormControls
import Proofs.Lemmas.SepSafe
namespace Flatland.C12.Proofs
open Flatland.Markup Flatland.C12

/-- the slot names of the form model are the slot names of the runner's `select` -/
theorem natRepr_eq_slotName (i : Nat) : natRepr i = slotName i :=
  (Flatland.Flat.natStr_toString i).symm

theorem checkGroup_bind (b : Bind) (ty : Str) (lits : List Str) (es : List Attrs) :
    ∀ c ∈ checkGroup b ty lits es, c.bind = b := by
  rw [checkGroup_eq_map]
  exact List.forall_mem_map.mpr fun _ _ => rfl

theorem scalarControls_bind (b : Bind) (w : ScalarWidget) (ex : List Attrs) :
    ∀ c ∈ scalarControls b w ex, c.bind = b := by
  intro c hc
  cases w with
  | input ty => simp only [scalarControls, List.mem_singleton] at hc; subst hc; rfl
  | textarea => simp only [scalarControls, List.mem_singleton] at hc; subst hc; rfl
  | button => simp only [scalarControls, List.mem_singleton] at hc; subst hc; rfl
  | radios ty lits => exact checkGroup_bind b ty lits ex c hc
  | select lits => simp only [scalarControls, List.mem_singleton] at hc; subst hc; rfl

theorem arrayControls_bind (b : Bind) (ms : List Str) (w : ArrayWidget) (ex : List Attrs) :
    ∀ c ∈ arrayControls b ms w ex, c.bind = b := by
  intro c hc
  cases w with
  | checkboxes => exact checkGroup_bind b sCheckbox ms ex c hc
  | selectMultiple => simp only [arrayControls, List.mem_singleton] at hc; subst hc; rfl

mutual
/-- every control of the rendered form is bound to the element some selector
    leads to in the case tree — flat name, text and kind as the runner computes them (and as the
    correspondence check compares them with `flattened_name()` / `.u` of the real element) -/
theorem renderForm_binds : ∀ (t : FormTree) (pre : List (Option Str)) (c : Control), c ∈ renderForm pre t →
    ∃ sel shown, select shown t.tree pre sel = some c.bind
  | .text n u w ex, pre, c, hc => by
    simp only [renderForm] at hc
    rw [scalarControls_bind _ w ex c hc]
    exact ⟨[], [], rfl⟩
  | .bool n tru u ex, pre, c, hc => by
    simp only [renderForm, List.mem_singleton] at hc
    subst hc
    exact ⟨[], [], rfl⟩
  | .array n strip ms w ex, pre, c, hc => by
    simp only [renderForm] at hc
    rw [arrayControls_bind _ ms w ex c hc]
    exact ⟨[], [], rfl⟩
  | .joined n u ms ty ex, pre, c, hc => by
    simp only [renderForm, List.mem_singleton] at hc
    subst hc
    exact ⟨[], u, rfl⟩
  | .dict n fields, pre, c, hc => by
    simp only [renderForm] at hc
    obtain ⟨i, rest, shown, h⟩ := renderFields_binds fields (pre ++ [n]) c hc
    exact ⟨i :: rest, shown, by simp only [FormTree.tree, select]; exact h⟩
  | .list n members, pre, c, hc => by
    simp only [renderForm] at hc
    obtain ⟨j, rest, shown, h⟩ := renderSlots_binds members (pre ++ [n]) 0 c hc
    refine ⟨j :: rest, shown, ?_⟩
    simp only [FormTree.tree, select]
    have := h (pre ++ [n, some (natRepr j)]) (by simp [natRepr_eq_slotName, List.append_assoc])
    exact this
theorem renderFields_binds : ∀ (ts : List FormTree) (pre : List (Option Str)) (c : Control), c ∈ renderFields pre ts →
    ∃ i rest shown, selectL shown (treesOf ts) pre i rest = some c.bind
  | [], _, c, hc => by simp [renderFields] at hc
  | t :: ts, pre, c, hc => by
    simp only [renderFields, List.mem_append] at hc
    rcases hc with h | h
    · obtain ⟨sel, shown, hs⟩ := renderForm_binds t pre c h
      exact ⟨0, sel, shown, by simp only [treesOf, selectL]; exact hs⟩
    · obtain ⟨i, rest, shown, hs⟩ := renderFields_binds ts pre c h
      exact ⟨i + 1, rest, shown, by simp only [treesOf, selectL]; exact hs⟩
/-- member `k` of the slots rendered from index `i` on sits in slot `i + k`: `select` is handed the
    path with that slot's name -/
theorem renderSlots_binds : ∀ (ts : List FormTree) (pre : List (Option Str)) (i : Nat) (c : Control),
    c ∈ renderSlots pre i ts →
    ∃ k rest shown, ∀ p, p = pre ++ [some (slotName (i + k))] → selectL shown (treesOf ts) p k rest = some c.bind
  | [], _, _, c, hc => by simp [renderSlots] at hc
  | t :: ts, pre, i, c, hc => by
    simp only [renderSlots, List.mem_append] at hc
    rcases hc with h | h
    · obtain ⟨sel, shown, hs⟩ := renderForm_binds t (pre ++ [some (slotName i)]) c h
      refine ⟨0, sel, shown, ?_⟩
      intro p hp
      subst hp
      simp only [treesOf, selectL, Nat.add_zero]
      exact hs
    · obtain ⟨k, rest, shown, hs⟩ := renderSlots_binds ts pre (i + 1) c h
      refine ⟨k + 1, rest, shown, ?_⟩
      intro p hp
      simp only [treesOf, selectL]
      exact hs p (by rw [hp]; congr 4; omega)
end

end Flatland.C12.Proofs
