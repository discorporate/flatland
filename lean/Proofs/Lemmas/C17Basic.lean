import Flatland.C17
import Flatland.Spec.C17
import Proofs.Lemmas.Assoc
/-!
The model's `AList.get?`, `set`, `update` are `Assoc.get`, `Assoc.set` and a fold of `Assoc.set` (`get?_eq`, `set_eq`,
`update_eq`), so their lemmas are transfers.  Reading a list of frames (`lookupFrames`, `itemsGo`) and overlaying their
layers (`overlayAll`) are both functions of the concatenated frames, where the first pair with the key decides.
-/
namespace Flatland.C17.Proofs
open Flatland.C17 Flatland.C17.Spec

section AL
variable {κ β : Type} [DecidableEq κ]

@[simp] theorem get?_nil (k : κ) : AList.get? ([] : AList κ β) k = none := rfl

theorem get?_eq (d : AList κ β) (k : κ) : AList.get? d k = Assoc.get d k :=
  Assoc.get_unique AList.get? (fun _ => rfl) (fun _ _ _ _ => rfl) d k

theorem set_eq (d : AList κ β) (k : κ) (b : β) : AList.set d k b = Assoc.set d k b := by
  induction d with
  | nil => rfl
  | cons p r ih => simp only [AList.set, Assoc.set, ih]; split <;> simp_all

theorem update_eq (d : AList κ β) (ps : List (κ × β)) :
    AList.update d ps = ps.foldl (fun d p => Assoc.set d p.1 p.2) d := by
  simp only [AList.update, set_eq]

theorem get?_set (d : AList κ β) (k k' : κ) (b : β) :
    AList.get? (AList.set d k b) k' = if k = k' then some b else AList.get? d k' := by
  rw [get?_eq, set_eq, get?_eq]; exact Assoc.get_set d k b k'

theorem get?_append (a b : AList κ β) (k : κ) :
    AList.get? (a ++ b) k = (AList.get? a k).or (AList.get? b k) := by
  rw [get?_eq, get?_eq, get?_eq]; exact Assoc.get_append a b k

theorem get?_eq_none_iff (a : AList κ β) (k : κ) : AList.get? a k = none ↔ k ∉ a.map (·.1) := by
  rw [get?_eq]; exact Assoc.get_eq_none_iff

theorem mem_of_get? (a : AList κ β) (k : κ) (b : β) (h : AList.get? a k = some b) : (k, b) ∈ a :=
  Assoc.mem_of_get ((get?_eq a k).symm.trans h)

theorem mem_keys_iff (a : AList κ β) (k : κ) : k ∈ a.map (·.1) ↔ (AList.get? a k).isSome = true := by
  rw [get?_eq]; exact Assoc.isSome_get_iff.symm

theorem get?_of_mem_nodup (a : AList κ β) (k : κ) (b : β) (hn : (a.map (·.1)).Nodup) (h : (k, b) ∈ a) :
    AList.get? a k = some b :=
  (get?_eq a k).trans ((Assoc.mem_iff_get hn).1 h)

theorem get?_update (d : AList κ β) (ps : List (κ × β)) (k : κ) :
    AList.get? (AList.update d ps) k = (Assoc.get ps.reverse k).or (AList.get? d k) := by
  rw [get?_eq, update_eq, Assoc.get_foldl_set, Assoc.get_append, get?_eq]

theorem get?_ofPairs (ps : List (κ × β)) (k : κ) : AList.get? (AList.ofPairs ps) k = Assoc.get ps.reverse k := by
  rw [AList.ofPairs, get?_update]; exact Option.or_none

theorem mem_keys_set (d : AList κ β) (k x : κ) (b : β) :
    x ∈ (AList.set d k b).map (·.1) ↔ x = k ∨ x ∈ d.map (·.1) := by
  rw [set_eq]; exact Assoc.mem_keys_set

theorem nodup_set (d : AList κ β) (k : κ) (b : β) (h : (d.map (·.1)).Nodup) :
    ((AList.set d k b).map (·.1)).Nodup := by
  rw [set_eq]; exact Assoc.nodup_set h k b

theorem nodup_update (d : AList κ β) (ps : List (κ × β)) (h : (d.map (·.1)).Nodup) :
    ((AList.update d ps).map (·.1)).Nodup := by
  rw [update_eq]; exact Assoc.nodup_foldl_set ps h

theorem nodup_ofPairs (ps : List (κ × β)) : ((AList.ofPairs ps : AList κ β).map (·.1)).Nodup :=
  nodup_update [] ps List.nodup_nil

theorem set_of_not_mem (d : AList κ β) (k : κ) (b : β) (h : k ∉ d.map (·.1)) :
    AList.set d k b = d ++ [(k, b)] := by
  rw [set_eq]; exact Assoc.set_of_not_mem h b

theorem update_of_nodup (d l : AList κ β) (hn : (l.map (·.1)).Nodup)
    (hd : ∀ k ∈ l.map (·.1), k ∉ d.map (·.1)) : AList.update d l = d ++ l := by
  rw [update_eq]; exact Assoc.foldl_set_of_nodup hn hd

theorem ofPairs_of_nodup (l : AList κ β) (hn : (l.map (·.1)).Nodup) : AList.ofPairs l = l := by
  rw [AList.ofPairs, update_of_nodup [] l hn (fun _ _ => List.not_mem_nil)]; rfl

theorem get?_map_val {γ : Type} (d : AList κ β) (g : β → γ) (k : κ) :
    AList.get? (d.map (fun kv => (kv.1, g kv.2))) k = (AList.get? d k).map g := by
  rw [get?_eq, get?_eq]; exact Assoc.get_map_val d (fun _ => g) k

theorem set_set (d : AList κ β) (k : κ) (a b : β) :
    AList.set (AList.set d k a) k b = AList.set d k b := by
  rw [set_eq, set_eq, set_eq]; exact Assoc.set_set d k a b

theorem set_of_get? (d : AList κ β) (k : κ) (b : β) (h : AList.get? d k = some b) :
    AList.set d k b = d := by
  rw [set_eq]; exact Assoc.set_of_get ((get?_eq d k).symm.trans h)

theorem mem_set (d : AList κ β) (k : κ) (b : β) (p : κ × β) (h : p ∈ AList.set d k b) : p = (k, b) ∨ p ∈ d :=
  Assoc.mem_set ((set_eq d k b) ▸ h)

end AL

def slotVal : Option Slot → Option Val
  | some (.val v) => some v
  | _ => none

def ofOpt : Option Val → Except Err Val
  | some v => .ok v
  | none => .error .keyError

theorem toOption_ofOpt (x : Option Val) : (ofOpt x).toOption = x := by cases x <;> rfl

theorem overlayAll_flat (fs : List Frame) (k : Key) :
    overlayAll (fs.map frameLayer) k = slotVal (AList.get? fs.flatten k) := by
  induction fs with
  | nil => rfl
  | cons f rest ih =>
    simp only [List.map_cons, overlayAll, overlay, frameLayer, List.flatten_cons, get?_append, ih]
    cases AList.get? f k with
    | none => rfl
    | some s => cases s <;> rfl

theorem lookupFrames_flat (fs : List Frame) (k : Key) :
    lookupFrames fs k = ofOpt (slotVal (AList.get? fs.flatten k)) := by
  induction fs with
  | nil => rfl
  | cons f rest ih =>
    simp only [lookupFrames, List.flatten_cons, get?_append]
    cases AList.get? f k with
    | none => exact ih
    | some s => cases s <;> rfl

theorem lookupFrames_show (fs : List Frame) (k : Key) :
    lookupFrames fs k = ofOpt (overlayAll (fs.map frameLayer) k) := by
  rw [lookupFrames_flat, overlayAll_flat]

theorem lookupFrames_overlay (fs : List Frame) (k : Key) :
    (lookupFrames fs k).toOption = overlayAll (fs.map frameLayer) k := by
  rw [lookupFrames_show, toOption_ofOpt]

theorem get?_itemsGo (l : List (Key × Slot)) (seen : List Key) (k : Key) :
    AList.get? (itemsGo l seen) k = if k ∈ seen then none else slotVal (AList.get? l k) := by
  induction l generalizing seen with
  | nil => simp [itemsGo, slotVal]
  | cons p r ih =>
    obtain ⟨k0, s0⟩ := p
    by_cases h0 : k0 ∈ seen
    · have hne : k ∉ seen → k0 ≠ k := fun hk e => hk (e ▸ h0)
      simp only [itemsGo, if_pos h0, ih, AList.get?]
      split
      · rfl
      · rw [if_neg (hne ‹_›)]
    · by_cases e : k0 = k
      · subst e
        cases s0 <;> simp [itemsGo, h0, ih, AList.get?, slotVal]
      · have : k ∈ k0 :: seen ↔ k ∈ seen := by simp [Ne.symm e]
        cases s0 <;> simp only [itemsGo, if_neg h0, ih, AList.get?, if_neg e, this]

theorem not_seen_of_mem_itemsGo (l : List (Key × Slot)) (seen : List Key) (k : Key)
    (h : k ∈ (itemsGo l seen).map (·.1)) : k ∉ seen := by
  rw [mem_keys_iff, get?_itemsGo] at h
  intro hk
  rw [if_pos hk] at h
  exact nomatch h

theorem nodup_itemsGo (l : List (Key × Slot)) (seen : List Key) : ((itemsGo l seen).map (·.1)).Nodup := by
  induction l generalizing seen with
  | nil => exact List.nodup_nil
  | cons p r ih =>
    obtain ⟨k0, s0⟩ := p
    simp only [itemsGo]
    split
    · exact ih seen
    · cases s0 with
      | deleted => exact ih _
      | val v =>
        simp only [List.map_cons, List.nodup_cons]
        exact ⟨fun h => not_seen_of_mem_itemsGo r (k0 :: seen) k0 h (List.mem_cons_self ..), ih _⟩

theorem itemsGo_filter (l : List (Key × Slot)) (seen : List Key) :
    itemsGo l seen = (itemsGo l []).filter (fun kv => decide (kv.1 ∉ seen)) := by
  induction l generalizing seen with
  | nil => rfl
  | cons p r ih =>
    obtain ⟨k, s⟩ := p
    have h1 : itemsGo r [k] = (itemsGo r []).filter (fun kv => decide (kv.1 ∉ [k])) := ih [k]
    by_cases hk : k ∈ seen
    · cases s <;> simp [itemsGo, hk, ih seen, h1, List.filter_filter] <;>
      exact List.filter_congr (fun (kv : Key × Val) _ => by
        by_cases h : kv.1 ∈ seen
        · simp [h]
        · have : kv.1 ≠ k := fun e => h (e ▸ hk)
          simp [h, this])
    · cases s <;> simp [itemsGo, hk, ih (k :: seen), h1, List.filter_filter] <;>
      exact List.filter_congr (fun (kv : Key × Val) _ => Bool.and_comm _ _)

theorem itemsGo_append (f : Frame) (hn : (f.map (·.1)).Nodup) (rest : List (Key × Slot)) (seen : List Key)
    (hs : ∀ k ∈ f.map (·.1), k ∉ seen) :
    itemsGo (f ++ rest) seen = localItems f ++ itemsGo rest ((f.map (·.1)).reverse ++ seen) := by
  induction f generalizing seen with
  | nil => rfl
  | cons p r ih =>
    obtain ⟨k, s⟩ := p
    simp only [List.map_cons, List.nodup_cons] at hn
    have hk : k ∉ seen := hs k (by simp)
    have ih' := ih hn.2 (k :: seen) (fun x hx => by
      intro h; rcases List.mem_cons.1 h with e | h
      · exact hn.1 (e ▸ hx)
      · exact hs x (by simp [hx]) h)
    cases s <;> simp [itemsGo, hk, ih', localItems]

end Flatland.C17.Proofs
