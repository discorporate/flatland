/-
Key sets of the SetWith… validators and the sibling loop of NotDuplicated.
-/
import Flatland.C15
import Flatland.Spec.C15
import Proofs.Lemmas.PyListMem
namespace Flatland.C15.Proofs
open Flatland.C16 Flatland.C15 Flatland.C15.Spec

theorem insertSorted_eq (x : Str) (l : List Str) :
    insertSorted x l = PyList.insertSorted (fun a b => !strLt b a) x l := by
  induction l with
  | nil => rfl
  | cons y ys ih =>
    simp only [insertSorted, PyList.insertSorted, ih]
    by_cases h : strLt y x = true <;> simp [h]

/-- `sorted()` on texts is the list model's insertion sort -/
theorem sortOnly_eq (l : List Str) : sortOnly l = PyList.sortBy (fun a b => !strLt b a) l := by
  induction l with
  | nil => rfl
  | cons x xs ih => rw [sortOnly, List.foldr_cons, ← sortOnly, ih, insertSorted_eq]; rfl

theorem sortOnly_isEmpty (l : List Str) : (sortOnly l).isEmpty = l.isEmpty := by
  rw [sortOnly_eq]; exact (PyList.sortBy_perm _ l).isEmpty_eq

theorem dedupGo_nil_isEmpty (l : List Val) : (dedupGo [] l).isEmpty = l.isEmpty := by
  cases l with
  | nil => rfl
  | cons x xs => simp [dedupGo]

theorem diffKeys_isEmpty (a b : List Val) :
    (diffKeys a b).isEmpty = a.all (fun k => memKey k b) := by
  unfold diffKeys
  rw [sortOnly_isEmpty]
  have hmap : ∀ l : List Val, (l.map pyStr).isEmpty = l.isEmpty := by
    intro l; cases l <;> rfl
  rw [hmap, dedupGo_nil_isEmpty]
  induction a with
  | nil => rfl
  | cons k ks ih =>
    simp only [List.filter, List.all_cons]
    cases h : memKey k b with
    | true => simpa using ih
    | false => simp

theorem dupLoop_cons (me : Val × Str) (pos : Option Nat) (s : Val × Str) (rest : List (Val × Str))
    (idx : Nat) (valid : Bool) (h : pos ≠ some idx) :
    dupLoop me pos (s :: rest) idx valid =
      dupLoop me pos rest (idx + 1) (valid && !(pyEq me.1 s.1 && me.2 == s.2)) := by
  have : (pos == some idx) = false := by simpa using h
  simp only [dupLoop, this, Bool.false_eq_true, if_false]
  cases valid <;> cases (pyEq me.1 s.1 && me.2 == s.2) <;> rfl

theorem dupLoop_valid (me : Val × Str) (p : Nat) (sibs : List (Val × Str)) (idx : Nat)
    (valid : Bool) (h : idx ≤ p) :
    (dupLoop me (some p) sibs idx valid).1 =
      (valid && !((sibs.take (p - idx)).any (fun s => pyEq me.1 s.1 && me.2 == s.2))) := by
  induction sibs generalizing idx valid with
  | nil => simp [dupLoop]
  | cons s rest ih =>
    by_cases hp : p = idx
    · subst hp; simp [dupLoop]
    · rw [dupLoop_cons _ _ _ _ _ _ (by simpa using hp), ih _ _ (by omega),
        show p - idx = (p - (idx + 1)) + 1 by omega, List.take_succ_cons, List.any_cons,
        Bool.not_or, Bool.and_assoc]

end Flatland.C15.Proofs
