import Proofs.Lemmas.C17Basic
/-!
Model A's state: the side conditions as propositions (`NoShared`, `WF`), what `setFrame` leaves alone, and `walk_flatten`:
the walk along the MRO reads the specification's `cut` of it, each class contributing the dict written through it.
-/
namespace Flatland.C17.Proofs
open Flatland.C17 Flatland.C17.Spec

/-- no `Properties` object sits in the `__dict__` of two classes -/
def NoShared (σ : State) : Prop :=
  ∀ c c' d, σ.ownOf c = some d → σ.ownOf c' = some d → c = c'

/-- ids are in range; every MRO starts with the class itself and lists no class twice -/
structure WF (σ : State) : Prop where
  mro_lt : ∀ c x, x ∈ σ.mroOf c → x < σ.classes.length
  mro_head : ∀ c, c < σ.classes.length → ∃ tail, σ.mroOf c = c :: tail
  mro_nodup : ∀ c, (σ.mroOf c).Nodup
  own_lt : ∀ c d, σ.ownOf c = some d → d < σ.ndesc
  key_lt : ∀ key f, (key, f) ∈ σ.frames →
    match key with
    | .init d => d < σ.ndesc
    | .cls d c => d < σ.ndesc ∧ c < σ.classes.length
  inst_lt : ∀ (i : Nat) (x : Inst), σ.insts[i]? = some x → x.cls < σ.classes.length

@[simp] theorem mroOf_setFrame (σ : State) (key : FrameKey) (f : Frame) (c : ClassId) :
    (σ.setFrame key f).mroOf c = σ.mroOf c := rfl
@[simp] theorem ownOf_setFrame (σ : State) (key : FrameKey) (f : Frame) (c : ClassId) :
    (σ.setFrame key f).ownOf c = σ.ownOf c := rfl
@[simp] theorem owns_setFrame (σ : State) (key : FrameKey) (f : Frame) (c : ClassId) (d : DescId) :
    (σ.setFrame key f).owns c d = σ.owns c d := rfl
@[simp] theorem descOf_setFrame (σ : State) (key : FrameKey) (f : Frame) (c : ClassId) :
    (σ.setFrame key f).descOf c = σ.descOf c := rfl
@[simp] theorem insts_setFrame (σ : State) (key : FrameKey) (f : Frame) :
    (σ.setFrame key f).insts = σ.insts := rfl
@[simp] theorem classes_setFrame (σ : State) (key : FrameKey) (f : Frame) :
    (σ.setFrame key f).classes = σ.classes := rfl

theorem frames_setFrame (σ : State) (key key' : FrameKey) (f : Frame) :
    AList.get? (σ.setFrame key f).frames key' = if key = key' then some f else AList.get? σ.frames key' := by
  simp [State.setFrame, get?_set]

theorem frameD_setFrame (σ : State) (key key' : FrameKey) (f : Frame) :
    (σ.setFrame key f).frameD key' = if key = key' then f else σ.frameD key' := by
  simp only [State.frameD, frames_setFrame]; split <;> simp

theorem ownOf_congr {σ σ' : State} (hc : σ'.classes = σ.classes) (c : ClassId) :
    σ'.ownOf c = σ.ownOf c := by simp [State.ownOf, hc]
theorem owns_congr {σ σ' : State} (hc : σ'.classes = σ.classes) (c : ClassId) (d : DescId) :
    σ'.owns c d = σ.owns c d := by simp [State.owns, ownOf_congr hc]
theorem mroOf_congr {σ σ' : State} (hc : σ'.classes = σ.classes) (c : ClassId) :
    σ'.mroOf c = σ.mroOf c := by simp [State.mroOf, hc]
theorem descOf_congr {σ σ' : State} (hc : σ'.classes = σ.classes) (c : ClassId) :
    σ'.descOf c = σ.descOf c := by
  have : σ'.ownOf = σ.ownOf := funext (ownOf_congr hc)
  simp [State.descOf, mroOf_congr hc, this]
theorem baseKey_congr {σ σ' : State} (hc : σ'.classes = σ.classes) (c : ClassId) (d : DescId) :
    σ'.baseKey c d = σ.baseKey c d := by simp [State.baseKey, owns_congr hc]

theorem frameD_setSelf (σ : State) (key : FrameKey) : (σ.setFrame key (σ.frameD key)).frameD = σ.frameD := by
  funext key'
  rw [frameD_setFrame]
  split
  · rename_i e; rw [e]
  · rfl

theorem mem_cut {fr : ClassId → Bool} {l : List ClassId} {x : ClassId} (h : x ∈ cut fr l) : x ∈ l := by
  induction l with
  | nil => simp [cut] at h
  | cons a r ih =>
    simp only [cut] at h
    split at h
    · simp only [List.mem_singleton] at h; rw [h]; exact List.mem_cons_self ..
    · rcases List.mem_cons.1 h with h | h
      · rw [h]; exact List.mem_cons_self ..
      · exact List.mem_cons_of_mem _ (ih h)

theorem cut_congr (fr fr' : ClassId → Bool) (l : List ClassId) (h : ∀ x ∈ l, fr x = fr' x) :
    cut fr l = cut fr' l := by
  induction l with
  | nil => rfl
  | cons a r ih =>
    simp only [cut, h a (List.mem_cons_self ..), ih (fun x hx => h x (List.mem_cons_of_mem _ hx))]

/-- the dicts a `_TypeLookup` for descriptor `d` reads along `l`: the one each class writes to, up to the owner of `d` -/
def chainFrames (σ : State) (d : DescId) (l : List ClassId) : List Frame :=
  (cut (σ.owns · d) l).map (σ.baseFrame · d)

/-- the walk skips the classes that have no dict yet; the chain lists an empty dict for them -/
theorem walk_flatten (σ : State) (d : DescId) (l : List ClassId) :
    (σ.walk d l).flatten = (chainFrames σ d l).flatten := by
  induction l with
  | nil => rfl
  | cons c rest ih =>
    simp only [State.walk, chainFrames, cut, State.baseFrame, State.baseKey]
    by_cases ho : σ.owns c d = true
    · simp only [ho, if_true, List.map_cons, List.map_nil]
    · simp only [ho, Bool.false_eq_true, if_false, List.map_cons, List.flatten_cons, State.frameD]
      cases AList.get? σ.frames (.cls d c) with
      | none => exact ih
      | some f => simp only [List.flatten_cons, Option.getD_some, ih]; rfl

theorem chainFrames_cons (σ : State) (d : DescId) (c : ClassId) (rest : List ClassId) :
    chainFrames σ d (c :: rest) = σ.baseFrame c d :: if σ.owns c d then [] else chainFrames σ d rest := by
  simp only [chainFrames, cut]; split <;> rfl

theorem chainFrames_ext (σ σ' : State) (d : DescId) (l : List ClassId)
    (ho : ∀ x ∈ l, σ'.ownOf x = σ.ownOf x)
    (hf : ∀ x ∈ l, AList.get? σ'.frames (σ.baseKey x d) = AList.get? σ.frames (σ.baseKey x d)) :
    chainFrames σ' d l = chainFrames σ d l := by
  have howns : ∀ x ∈ l, σ'.owns x d = σ.owns x d := fun x hx => by simp only [State.owns, ho x hx]
  unfold chainFrames
  rw [cut_congr _ _ l howns]
  refine List.map_congr_left (fun x hx => ?_)
  simp only [State.baseFrame, State.frameD, State.baseKey, howns x (mem_cut hx)]
  exact congrArg (·.getD []) (hf x (mem_cut hx))

theorem chainFrames_setFrame (σ : State) (d : DescId) (v : ClassId) (f : Frame) (l : List ClassId)
    (ho : σ.owns v d = false) (hv : v ∉ l) :
    chainFrames (σ.setFrame (σ.baseKey v d) f) d l = chainFrames σ d l := by
  refine List.map_congr_left (fun x hx => ?_)
  have hne : x ≠ v := fun e => hv (e ▸ mem_cut hx)
  simp only [State.baseFrame, baseKey_congr (σ := σ) (σ' := σ.setFrame (σ.baseKey v d) f) rfl, frameD_setFrame]
  rw [if_neg]
  unfold State.baseKey
  simp only [ho, Bool.false_eq_true, if_false]
  split <;> simp [hne.symm]

/-- `σ.frameD key` is `[]` for an absent key, so this covers `_base_frame` creating `{}` -/
theorem walk_flatten_setSelf (σ : State) (key : FrameKey) (d : DescId) (l : List ClassId) :
    ((σ.setFrame key (σ.frameD key)).walk d l).flatten = (σ.walk d l).flatten := by
  rw [walk_flatten, walk_flatten]
  simp only [chainFrames, State.baseFrame, frameD_setSelf]
  rfl

theorem tGet_congr {σ σ' : State} (hc : σ'.classes = σ.classes) (hf : σ'.frames = σ.frames)
    (c : ClassId) (d : DescId) (k : Key) : tGet σ' c d k = tGet σ c d k := by
  simp only [tGet, tFrames, lookupFrames_flat, walk_flatten, mroOf_congr hc,
    chainFrames_ext σ σ' d _ (fun x _ => ownOf_congr hc x) (fun _ _ => by rw [hf])]

theorem tItems_congr {σ σ' : State} (hc : σ'.classes = σ.classes) (hf : σ'.frames = σ.frames)
    (c : ClassId) (d : DescId) : tItems σ' c d = tItems σ c d := by
  simp only [tItems, tFrames, walk_flatten, mroOf_congr hc,
    chainFrames_ext σ σ' d _ (fun x _ => ownOf_congr hc x) (fun _ _ => by rw [hf])]

theorem baseKey_ne (σ : State) (hs : NoShared σ) (c v : ClassId) (d d' : DescId) (hne : c ≠ v) :
    σ.baseKey c d' ≠ σ.baseKey v d := by
  unfold State.baseKey State.owns
  intro h
  split at h <;> split at h
  · rename_i h1 h2
    simp only [FrameKey.init.injEq] at h
    subst h
    simp only [beq_iff_eq] at h1 h2
    exact hne (hs c v _ h1 h2)
  · simp at h
  · simp at h
  · simp only [FrameKey.cls.injEq] at h; exact hne h.2

end Flatland.C17.Proofs
