/-
Stack discipline theorems of C19: unknown options are rejected without disturbing anything,
unbalanced end() raises, end() restores exactly the settings before the matching begin().
-/
import Proofs.Lemmas.C19Resolve
namespace Flatland.C19.Proofs
open Flatland.Markup Flatland.C19 Flatland.C19.Spec

def hasUnknown (g : Gen) (settings : List (Str × CVal)) : Prop := ∃ kv ∈ settings, g.ctx.has kv.1 = false

/-- `begin(**settings)` with an unknown option raises KeyError and leaves every frame as it was -/
theorem begin_unknown_rejected (g : Gen) (s : List (Str × CVal)) (h : hasUnknown g s) :
    g.begin s = ⟨g, some .keyError⟩ := by
  rw [begin_eq, not_known h]; rfl

/-- `update(**settings)` likewise: nothing is applied first -/
theorem update_unknown_rejected (g : Gen) (s : List (Str × CVal)) (h : hasUnknown g s) :
    g.update s = ⟨g, some .keyError⟩ := by
  rw [gen_update_eq, not_known h]; rfl

/-- `generator[key] = value` with an unknown key -/
theorem setItem_unknown_rejected (g : Gen) (k : Str) (v : CVal) (h : g.ctx.has k = false) :
    g.setItem k v = ⟨g, some .keyError⟩ := by
  rw [setItem_eq, h]; rfl

theorem setUpdates_unknown (T : Tables) (c : Ctx) (s : List (Str × CVal))
    (h : ∃ kv ∈ s, c.has kv.1 = false) : ∃ e, setUpdates T c s = .error e := by
  cases hs : setUpdates T c s with
  | error e => exact ⟨e, rfl⟩
  | ok ups => exact absurd ((not_known h).symm.trans (setUpdates_ok T c hs).2) Bool.false_ne_true

/-- `set(**settings)` with an unknown option raises and applies NONE of the settings -/
theorem set_unknown_rejected (T : Tables) (g : Gen) (s : List (Str × CVal)) (h : hasUnknown g s) :
    ∃ e, g.set T s = ⟨g, some e⟩ := by
  obtain ⟨e, he⟩ := setUpdates_unknown T g.ctx s h
  exact ⟨e, by rw [set_eq, he]⟩

/-- `set()` of a single unknown option raises TypeError and changes nothing -/
theorem set_unknown_typeError (T : Tables) (g : Gen) (k : Str) (v : CVal) (h : g.ctx.has k = false) :
    g.set T [(k, v)] = ⟨g, some .typeError⟩ := by
  simp [Gen.set, setUpdates, h, bind, Except.bind, throw, throwThe, MonadExceptOf.throw]

/-- `end()` without an open block raises RuntimeError and changes nothing -/
theorem unbalanced_end_raises (g : Gen) (h : g.ctx.depth = 2) : g.end_ = ⟨g, some .runtimeError⟩ := by
  simp [Gen.end_, h]

/-- every intermediate generator of the run stays at depth ≥ `d` -/
def staysAbove (T : Tables) (R : RenderCfg) (d : Nat) : Gen → List Op → Bool
  | _, [] => true
  | g, op :: rest =>
    decide (d ≤ (step T R g op).1.ctx.depth) && staysAbove T R d (step T R g op).1 rest

theorem runGen_cons (T : Tables) (R : RenderCfg) (g : Gen) (op : Op) (rest : List Op) :
    runGen T R g (op :: rest) = runGen T R (step T R g op).1 rest := by
  simp [runGen, run]

theorem below_suffix (T : Tables) (R : RenderCfg) (B : List Frame) :
    ∀ (ops : List Op) (g : Gen) (pre : List Frame), g.ctx.below = pre ++ B →
      staysAbove T R (B.length + 1) g ops = true →
      ∃ pre', (runGen T R g ops).ctx.below = pre' ++ B ∧ (runGen T R g ops).xml = g.xml
  | [], g, pre, hb, _ => ⟨pre, hb, rfl⟩
  | op :: rest, g, pre, hb, hs => by
    simp only [staysAbove, Bool.and_eq_true, decide_eq_true_eq] at hs
    obtain ⟨p, hp, hx⟩ := step_below T R g op
    rw [runGen_cons, ← hx]
    rw [hb, ← List.append_assoc] at hp
    cases hpp : p ++ pre with
    | nil =>
      -- nothing left above `B`: the call went below the starting depth
      have h1 := congrArg List.length hp
      simp only [hpp, frames, List.nil_append, List.length_cons] at h1
      have := hs.1
      simp only [Ctx.depth] at this
      omega
    | cons x xs =>
      rw [hpp] at hp
      exact below_suffix T R B rest _ xs (List.cons.inj hp).2 hs.2

/-- if `begin(**s)` is accepted, the body never closes more blocks than it opened
    and ends at the depth it started from (i.e. the next `end()` is the matching one), then that
    `end()` is accepted and the generator is EXACTLY the one before the `begin()` — every
    setting of every frame, including the tabindex counter. -/
theorem end_restores (T : Tables) (R : RenderCfg) (g g1 : Gen) (s : List (Str × CVal)) (body : List Op)
    (hdepth : 2 ≤ g.ctx.depth)
    (hbegin : g.begin s = ⟨g1, none⟩)
    (hstay : staysAbove T R g1.ctx.depth g1 body = true)
    (hfin : (runGen T R g1 body).ctx.depth = g1.ctx.depth) :
    (runGen T R g1 body).end_ = ⟨g, none⟩ := by
  rw [begin_eq] at hbegin
  split at hbegin
  · cases hbegin
    obtain ⟨pre, hpre, hxml⟩ := below_suffix T R (g.ctx.top :: g.ctx.below) body _ [] rfl hstay
    -- back at the depth just after `begin`: nothing is left above the frames of `g`
    cases pre with
    | cons a as => simp [Ctx.depth, hpre] at hfin; omega
    | nil =>
      -- `g` has at least two frames, so this `end()` is accepted
      obtain ⟨f, rest, hb⟩ : ∃ f rest, g.ctx.below = f :: rest := by
        cases hb : g.ctx.below with
        | nil => simp [Ctx.depth, hb] at hdepth
        | cons f rest => exact ⟨f, rest, rfl⟩
      rw [end_eq, hpre, hxml, hb]
      simp only [List.nil_append]
      rw [← hb]
  · cases hbegin

end Flatland.C19.Proofs
