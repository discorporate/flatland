/-
C01 with SparseDicts, second clause groundwork: what `from_flat(flatten(e))` rebuilds (`prS`) is again a
conforming state (`OkS`), and so is a fresh element — provided a blank scalar is settled
(`blankSettled`) and every Array / MultiValue has scalar members (`arraysScalar`, which `OkS`
demands of any Array state anyway).
-/
import Proofs.Lemmas.C01SparsePick
import Proofs.Lemmas.C01LevelPr
namespace Flatland.Flat.Proofs
open Flatland.Flat Flatland.Flat.Spec

variable {env : Env} {sep : Str}

mutual
/-- every Array / MultiValue of the schema has scalar members (what `OkS` demands of an Array state;
    flatland's Array is a sequence of scalars) -/
def arraysScalar : Schema → Bool
  | .leaf .. => true
  | .joined .. => true
  | .array _ _ _ (.leaf ..) => true
  | .array .. => false
  | .list _ _ _ _ member => arraysScalar member
  | .dict _ _ _ fields => arraysScalarL fields
  | .compound _ _ _ fields => arraysScalarL fields
def arraysScalarL : List Schema → Bool
  | [] => true
  | f :: fs => arraysScalar f && arraysScalarL fs
end

theorem arraysScalar_of_mem {fs : List Schema} (h : arraysScalarL fs = true) :
    ∀ f ∈ fs, arraysScalar f = true :=
  (andL_iff rfl (fun _ _ => rfl) _).mp h

theorem blankSettled_of_mem {fs : List Schema} (h : blankSettledL env fs = true) :
    ∀ f ∈ fs, blankSettled env f = true :=
  (andL_iff rfl (fun _ _ => rfl) _).mp h

theorem arraysScalar_array {nm : Option Str} {o p : Bool} {member : Schema}
    (h : arraysScalar (.array nm o p member) = true) : ∃ n o k, member = .leaf n o k := by
  cases member with
  | leaf n o k => exact ⟨n, o, k, rfl⟩
  | _ => simp [arraysScalar] at h

theorem okS_pick (fields : List Schema) (hnd : (namesOf fields).Nodup)
    (hsome : ∀ g ∈ fields, g.name.isSome) (req : Schema → Bool) (keys : List (Str × Str))
    (V : Schema → Elem) (hV : ∀ f ∈ fields, OkS env f (V f)) (hB : ∀ f ∈ fields, OkS env f (blank f)) :
    ((pickV req keys V true fields ++ pickV req keys V false fields).map (·.1)).Nodup ∧
      ∀ p ∈ pickV req keys V true fields ++ pickV req keys V false fields,
        OkSAny env fields p.1 p.2 := by
  refine ⟨pick_keys_nodup fields hnd hsome req keys V, ?_⟩
  intro p hp
  obtain ⟨f, hf, hk, _, hv⟩ := mem_pick hp
  apply (OkSAny_iff env fields p.1 p.2).mpr
  refine ⟨f, hf, by rw [hk]; exact name_eq_nmOf hsome hf, ?_⟩
  rw [hv]
  split
  · exact hV f hf
  · exact hB f hf

theorem okS_blank : ∀ s : Schema, wf s = true → blankSettled env s = true → arraysScalar s = true →
    OkS env s (blank s) := by
  intro s
  induction s using schema_ind_mapping with
  | hleaf nm o k =>
    intro _ hb _
    simp only [blankSettled, beq_iff_eq] at hb
    simp only [blank, OkS, OkP]; exact hb
  | hjoined nm o k m =>
    intro _ hb _
    simp only [blankSettled, beq_iff_eq] at hb
    simp only [blank, OkS, OkP]; exact ⟨hb, Or.inr ⟨trivial, trivial⟩⟩
  | hdict nm o mode fields ih =>
    intro hw hb ha
    obtain ⟨hnd, hsome, hwf⟩ := wf_dict hw
    simp only [blankSettled] at hb
    simp only [arraysScalar] at ha
    have hB : ∀ f ∈ fields, OkS env f (blank f) := fun f hf =>
      ih f hf (hwf f hf) (blankSettled_of_mem hb f hf) (arraysScalar_of_mem ha f hf)
    rw [blank_dict_members, blankSel_eq_pick (isReq mode) blank fields]
    simp only [OkS]
    exact okS_pick fields hnd hsome (isReq mode) [] blank hB hB
  | hcompound nm o k fields ih =>
    intro hw hb ha
    exact (okS_compound nm o k fields _).mpr (ih hw hb ha)
  | hlist nm o p mx member ih =>
    intro _ _ _
    simp [blank, OkS]
  | harray nm o p member ih =>
    intro _ _ ha
    simp only [blank, OkS, OkP]
    exact ⟨arraysScalar_array ha, by simp⟩

theorem prS_okS : ∀ s : Schema, wf s = true → blankSettled env s = true → arraysScalar s = true →
    ∀ (u : Bool) (e : Elem), OkS env s e → OkS env s (prS env sep u s e) := by
  intro s
  induction s using schema_ind_mapping with
  | hleaf nm o k =>
    intro _ _ _ u e hok
    rw [prS_leaf]; exact hok
  | hjoined nm o k m =>
    intro _ _ _ u e hok
    obtain ⟨t, ms, rfl, hn, _⟩ := okS_joined_inv hok
    rw [prS_joined]
    exact okP_joined hn
  | hdict nm o mode fields ih =>
    intro hw hb ha u e hok
    obtain ⟨ms, rfl, _, hmem⟩ := okS_dict_inv hok
    obtain ⟨hnd, hsome, hwf⟩ := wf_dict hw
    simp only [blankSettled] at hb
    simp only [arraysScalar] at ha
    have hB : ∀ f ∈ fields, OkS env f (blank f) := fun f hf =>
      okS_blank f (hwf f hf) (blankSettled_of_mem hb f hf) (arraysScalar_of_mem ha f hf)
    rw [prS_dict]
    exact okS_pick fields hnd hsome _ _ _
      (fun f hf => valS_cases (hB f hf) fun e' hl =>
        ih f hf (hwf f hf) (blankSettled_of_mem hb f hf) (arraysScalar_of_mem ha f hf) u e'
          (okS_member_lookup hnd hmem hf (name_eq_nmOf hsome hf) hl)) hB
  | hcompound nm o k fields ih =>
    intro hw hb ha u e hok
    rw [prS_compound, okS_compound]
    exact ih hw hb ha u e ((okS_compound nm o k fields e).mp hok)
  | hlist nm o p mx member ih =>
    intro hw hb ha u e hok
    obtain ⟨ms, rfl, hlen, hdig, hmem⟩ := okS_list_inv hok
    simp only [wf] at hw
    simp only [blankSettled] at hb
    simp only [arraysScalar] at ha
    rw [prS_list u nm o p mx member ms hmem]
    have hle := length_prList_le (env := env) u p member (fun v => prS env sep v member) ms
    refine ⟨by omega, fun i hi => hdig i (by omega), fun x hx => ?_⟩
    obtain ⟨m, hm, rfl⟩ := mem_prList hx
    exact ih hw hb ha _ m (hmem m hm)
  | harray nm o p member ih =>
    intro _ _ _ u e hok
    obtain ⟨ms, rfl, hleaf, hmem⟩ := okS_array_inv hok
    rw [prS_array]
    exact ⟨hleaf, fun x hx => hmem x (List.mem_filter.mp hx).1⟩

end Flatland.Flat.Proofs
