/-
Running the flat model in the kernel: closed witnesses (`flatten … = [pairs]`, `fromFlat … = tree`) are
checked by evaluation, `by rw [flatten_eq_flattenE]; decide +kernel` and `eq_of_elemBeq _ _ (by decide +kernel)`.

`resolve` and the queue loop `bfsFlat` are well-founded recursions, on which kernel evaluation
sticks: `resolveE` is `resolve` by structural recursion over the schema, and the output of the loop
is the concatenation of the levels `lvl d` (structural in `d`, `bfsPath_eq_levels`).  `Elem` has no
decidable equality (it is nested through `List`): `elemBeq` tests it.
-/
import Proofs.Lemmas.C01Level
namespace Flatland.Flat.Proofs
open Flatland.Flat Flatland.Flat.Spec

mutual
def resolveE (env : Env) : Schema → Elem → FNode
  | .leaf name _ _, e => .mk name true true (match e with | .leaf u => u | _ => []) false []
  | .dict name _ _ fields, e =>
    .mk name false true [] false ((membersOf e).filterMap fun p => resolveOneE env fields p.1 p.2)
  | .compound name o k fields, e =>
    .mk name true true (uOf env (.compound name o k fields) e) false
      ((membersOf e).filterMap fun p => resolveOneE env fields p.1 p.2)
  | .list name _ _ _ member, e =>
    .mk name false true [] true ((match e with | .list m => m | _ => []).map (resolveE env member))
  | .array name _ _ member, e =>
    .mk name false true [] false ((match e with | .array m => m | _ => []).map (resolveE env member))
  | .joined name _ _ member, e =>
    .mk name true false (match e with | .joined u _ => u | _ => []) false
      ((match e with | .joined _ m => m | _ => []).map (resolveE env member))
def resolveOneE (env : Env) : List Schema → Str → Elem → Option FNode
  | [], _, _ => none
  | f :: fs, key, e => if f.name = some key then some (resolveE env f e) else resolveOneE env fs key e
end

def flattenE (env : Env) (sep : Str) (s : Schema) (e : Elem) : List (Str × Str) :=
  ((List.range (resolveE env s e).size).flatMap fun d => lvl d [([], resolveE env s e)]).map
    (joinPair sep)

theorem resolveOneE_eq (env : Env) (key : Str) (e : Elem) : ∀ fields : List Schema,
    (∀ f ∈ fields, ∀ e, resolveE env f e = resolve env f e) →
    resolveOneE env fields key e = resolveOne env fields key e
  | [], _ => by rw [resolveOneE, resolveOne]
  | f :: fs, h => by
    rw [resolveOneE, resolveOne, h f (by simp),
      resolveOneE_eq env key e fs fun g hg => h g (List.mem_cons_of_mem _ hg)]

theorem resolveMembersE_eq (env : Env) (fields : List Schema)
    (h : ∀ f ∈ fields, ∀ e, resolveE env f e = resolve env f e) (all : List (Str × Elem)) :
    ∀ ms : List (Str × Elem),
      (ms.filterMap fun p => resolveOneE env fields p.1 p.2) = resolveMembers env fields all ms
  | [] => by rw [resolveMembers]; rfl
  | (k, e) :: ms => by
    rw [resolveMembers, List.filterMap_cons, resolveOneE_eq env k e fields h,
      resolveMembersE_eq env fields h all ms]
    cases resolveOne env fields k e <;> rfl

theorem resolveE_eq (env : Env) : ∀ (s : Schema) (e : Elem), resolveE env s e = resolve env s e := by
  intro s
  induction s using schema_rec with
  | hleaf nm o k => intro e; unfold resolveE resolve; rfl
  | hjoined nm o k member ih =>
    intro e; unfold resolveE resolve; rw [resolveList_eq_map]
    exact congrArg _ (List.map_congr_left fun m _ => ih m)
  | hdict nm o mode fields ih =>
    intro e; unfold resolveE resolve; rw [resolveMembersE_eq env fields ih]
  | hcompound nm o k fields ih =>
    intro e; unfold resolveE resolve; rw [resolveMembersE_eq env fields ih]
  | hlist nm o p mx member ih =>
    intro e; unfold resolveE resolve; rw [resolveList_eq_map]
    exact congrArg _ (List.map_congr_left fun m _ => ih m)
  | harray nm o p member ih =>
    intro e; unfold resolveE resolve; rw [resolveList_eq_map]
    exact congrArg _ (List.map_congr_left fun m _ => ih m)

theorem flatten_eq_flattenE (env : Env) (sep : Str) (s : Schema) (e : Elem) :
    flatten env sep s e = flattenE env sep s e := by
  unfold flattenE
  rw [flatten_eq_relFlat, resolveE_eq]
  unfold relFlat
  rw [bfsPath_eq_levels (resolve env s e).size _ (by simp [qsize])]

mutual
def elemBeq : Elem → Elem → Bool
  | .leaf u, .leaf v => u == v
  | .dict ms, .dict ns => membersBeq ms ns
  | .list ms, .list ns => elemsBeq ms ns
  | .array ms, .array ns => elemsBeq ms ns
  | .joined u ms, .joined v ns => u == v && elemsBeq ms ns
  | _, _ => false
def membersBeq : List (Str × Elem) → List (Str × Elem) → Bool
  | [], [] => true
  | (k, e) :: ms, (l, f) :: ns => k == l && elemBeq e f && membersBeq ms ns
  | _, _ => false
def elemsBeq : List Elem → List Elem → Bool
  | [], [] => true
  | e :: ms, f :: ns => elemBeq e f && elemsBeq ms ns
  | _, _ => false
end

mutual
theorem eq_of_elemBeq : ∀ a b : Elem, elemBeq a b = true → a = b
  | .leaf u, b, h => by cases b <;> simp_all [elemBeq]
  | .dict ms, b, h => by
    cases b with
    | dict ns => exact congrArg _ (eq_of_membersBeq ms ns (by simpa only [elemBeq] using h))
    | _ => simp [elemBeq] at h
  | .list ms, b, h => by
    cases b with
    | list ns => exact congrArg _ (eq_of_elemsBeq ms ns (by simpa only [elemBeq] using h))
    | _ => simp [elemBeq] at h
  | .array ms, b, h => by
    cases b with
    | array ns => exact congrArg _ (eq_of_elemsBeq ms ns (by simpa only [elemBeq] using h))
    | _ => simp [elemBeq] at h
  | .joined u ms, b, h => by
    cases b with
    | joined v ns =>
      simp only [elemBeq, Bool.and_eq_true, beq_iff_eq] at h
      rw [h.1, eq_of_elemsBeq ms ns h.2]
    | _ => simp [elemBeq] at h
theorem eq_of_membersBeq : ∀ a b : List (Str × Elem), membersBeq a b = true → a = b
  | [], b, h => by cases b <;> simp_all [membersBeq]
  | (k, e) :: ms, b, h => by
    cases b with
    | nil => simp [membersBeq] at h
    | cons p ns =>
      simp only [membersBeq, Bool.and_eq_true, beq_iff_eq] at h
      rw [show p = (p.1, p.2) from rfl, ← h.1.1, ← eq_of_elemBeq e p.2 h.1.2, eq_of_membersBeq ms ns h.2]
theorem eq_of_elemsBeq : ∀ a b : List Elem, elemsBeq a b = true → a = b
  | [], b, h => by cases b <;> simp_all [elemsBeq]
  | e :: ms, b, h => by
    cases b with
    | nil => simp [elemsBeq] at h
    | cons f ns =>
      simp only [elemsBeq, Bool.and_eq_true] at h
      rw [eq_of_elemBeq e f h.1, eq_of_elemsBeq ms ns h.2]
end

end Flatland.Flat.Proofs
