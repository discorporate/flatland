/-
Positions in an element tree (`Node.get?`, `kidsAt` of Flatland/Path.lean) and key lookup among the
children of a mapping (`findName`).
-/
import Flatland.Path
namespace Flatland.Path.Lemmas
open Flatland.Path

theorem get?_append : ∀ (root : Node) (p q : Pos), root.get? (p ++ q) = (root.get? p).bind (·.get? q)
  | root, [], q => by rw [List.nil_append, Node.get?.eq_1]; rfl
  | .mk k ky nm kids, i :: p, q => by
    simp only [List.cons_append, Node.get?]
    cases kids[i]? with
    | none => rfl
    | some c => exact get?_append c p q

theorem get?_child (root : Node) (el : Pos) (i : Nat) : root.get? (el ++ [i]) = (kidsAt root el)[i]? := by
  rw [get?_append, kidsAt]
  cases root.get? el with
  | none => rfl
  | some n =>
    cases n with | mk k ky nm kids =>
    simp only [Option.bind_some, Node.get?, Node.kids]
    cases kids[i]? <;> rfl

theorem findName_eq (s : Option Str) : ∀ kids : List Node,
    findName s kids =
      (let i := kids.findIdx (fun k => k.key == s); if i < kids.length then some i else none)
  | [] => by simp [findName]
  | k :: r => by
    simp only [findName, List.findIdx_cons, List.length_cons]
    by_cases h : (k.key == s) = true
    · simp [h]
    · simp only [h, Bool.false_eq_true, if_false, cond_false, findName_eq s r]
      by_cases h2 : List.findIdx (fun k => k.key == s) r < r.length
      · simp [h2]
      · simp [h2]

theorem findName_some_key (s : Option Str) (kids : List Node) (i : Nat) (h : findName s kids = some i) :
    ∃ c, kids[i]? = some c ∧ c.key = s := by
  rw [findName_eq] at h
  simp only at h
  split at h
  · next hlt =>
    cases h
    exact ⟨_, List.getElem?_eq_getElem hlt, eq_of_beq (List.findIdx_getElem (w := hlt))⟩
  · cases h

end Flatland.Path.Lemmas
