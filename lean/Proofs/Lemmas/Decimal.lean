/-
Decimal numerals.  The models print a natural number by the same recursion several times (`Flat.natStr`, `Path.natStr`,
`Scalar.natDigits`; `C16.natStr` is `Nat.toDigits 10` by definition) and read it back by a fold; core has the theory
of `Nat.toDigits 10` / `Nat.ofDigitChars 10`.  `toDigits_unique` identifies a printer from its recursion equation,
`foldl_eq_ofDigitChars` a reader from what it makes of one character; the facts each model needs (digits only, not
empty, round trip, injective, length) then come from core.
-/
namespace Flatland.Dec

theorem ofNat_eq_digitChar : ∀ d, d < 10 → Char.ofNat (48 + d) = Nat.digitChar d := by decide

/-- the one recursion equation all three model copies are defined by -/
theorem toDigits_unique (f : Nat → List Char)
    (hf : ∀ n, f n = if n < 10 then [Char.ofNat (48 + n)] else f (n / 10) ++ [Char.ofNat (48 + n % 10)])
    (n : Nat) : f n = Nat.toDigits 10 n := by
  induction n using Nat.strongRecOn with
  | _ n ih =>
    rw [hf, Nat.toDigits_eq_if (by decide)]
    split
    · next h => rw [ofNat_eq_digitChar n h]
    · rw [ih (n / 10) (by omega), ofNat_eq_digitChar _ (Nat.mod_lt n (by decide))]

abbrev val (s : List Char) : Nat := Nat.ofDigitChars 10 s 0

theorem val_toDigits (n : Nat) : val (Nat.toDigits 10 n) = n := Nat.ofDigitChars_ten_toDigits

theorem toDigits_inj {i j : Nat} (h : Nat.toDigits 10 i = Nat.toDigits 10 j) : i = j := by
  rw [← val_toDigits i, h, val_toDigits]

theorem isDigit_toDigits (n : Nat) : ∀ c ∈ Nat.toDigits 10 n, c.isDigit = true :=
  fun _ hc => Nat.isDigit_of_mem_toDigits (by decide) (by decide) hc

theorem isDigit_toNat {c : Char} (h : c.isDigit = true) : 48 ≤ c.toNat ∧ c.toNat ≤ 57 :=
  Char.isDigit_iff_toNat.1 h

theorem length_toDigits_le (n : Nat) : (Nat.toDigits 10 n).length ≤ n + 1 :=
  (Nat.length_toDigits_le_iff (by decide) (Nat.succ_pos n)).2
    (Nat.lt_of_lt_of_le (Nat.lt_pow_self (by decide)) (Nat.pow_le_pow_right (by decide) (Nat.le_succ n)))

theorem foldl_eq_ofDigitChars (v : Char → Nat) (s : List Char) (hv : ∀ c ∈ s, v c = c.toNat - 48) (a : Nat) :
    s.foldl (fun acc c => acc * 10 + v c) a = Nat.ofDigitChars 10 s a := by
  induction s generalizing a with
  | nil => rfl
  | cons c r ih =>
    rw [List.foldl_cons, Nat.ofDigitChars_cons, hv c List.mem_cons_self, Nat.mul_comm,
      ih (fun x hx => hv x (List.mem_cons_of_mem _ hx))]
    rfl

theorem foldl_map_eq_val (v : Char → Nat) (s : List Char) (hv : ∀ c ∈ s, v c = c.toNat - 48) :
    (s.map v).foldl (fun acc d => acc * 10 + d) 0 = val s := by
  rw [List.foldl_map]; exact foldl_eq_ofDigitChars v s hv 0

theorem val_pad (k : Nat) (s : List Char) : val (List.replicate k '0' ++ s) = val s := by
  unfold val
  rw [Nat.ofDigitChars_append, Nat.ofDigitChars_replicate_zero, Nat.mul_zero]

/-- what the models' parsers return before folding -/
def vals (s : List Char) : List Nat := s.map (fun c => c.toNat - 48)

theorem foldl_vals (s : List Char) : (vals s).foldl (fun acc d => acc * 10 + d) 0 = val s :=
  foldl_map_eq_val _ s (fun _ _ => rfl)

theorem ofNat_sub {c : Char} (h : c.isDigit = true) : Char.ofNat (48 + (c.toNat - 48)) = c := by
  have := isDigit_toNat h
  rw [show 48 + (c.toNat - 48) = c.toNat by omega]
  exact Char.ofNat_toNat c

end Flatland.Dec
