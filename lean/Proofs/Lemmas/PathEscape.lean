/-
`_path_segment`'s escaping against the scanner.  The code's chain of replaces (`/`, `[` escaped, a
backslash before `.` or `]` doubled) produces exactly the minimal spelling of the C14 printer
(`escapeSeg false`), so the facts proved for the printer carry over.
-/
import Flatland.Path
import Flatland.Spec.C13
import Flatland.Spec.C14
import Proofs.Lemmas.PathScan
import Proofs.Lemmas.PathInt
import Proofs.Lemmas.C14Print
namespace Flatland.Path.Lemmas
open Flatland.Path Flatland.C13.Spec Flatland.C14.Spec Flatland.C14.Proofs

def dotHead (s : Str) : Bool := s.head? == some '.' || s.head? == some ']'

theorem escapeBody_cons (c : Char) (r : Str) :
    escapeBody (c :: r) =
      (if c == '/' then ['\\', '/']
       else if c == '[' then ['\\', '[']
       else if c == '\\' && dotHead r then ['\\', '\\']
       else [c]) ++ escapeBody r := rfl

/-- the code's output = the printer's minimal spelling, up to where the extra backslash is
    attributed (the code doubles the backslash, the printer escapes the dot).  Per character the two
    sides differ only in booleans, so each class of character is settled by evaluation. -/
theorem escapeFrom_eq_body (s : Str) : ∀ p : Bool,
    escapeFrom false p s = (if p && dotHead s then ['\\'] else []) ++ escapeBody s := by
  induction s with
  | nil => intro p; cases p <;> rfl
  | cons c r ih =>
    intro p
    have hd : dotHead (c :: r) = (c == '.' || c == ']') := by simp [dotHead]
    rw [escapeFrom_cons, ih (c == '\\'), escapeBody_cons, hd, Bool.and_comm p]
    generalize dotHead r = dh
    generalize escapeBody r = tl
    by_cases h1 : c = '/'
    · subst h1; rfl
    by_cases h2 : c = '['
    · subst h2; rfl
    by_cases h3 : c = '.'
    · subst h3; cases p <;> rfl
    by_cases h4 : c = ']'
    · subst h4; cases p <;> rfl
    by_cases h5 : c = '\\'
    · subst h5; cases dh <;> rfl
    simp only [escNow, beq_eq_false_iff_ne.2 h1, beq_eq_false_iff_ne.2 h2, beq_eq_false_iff_ne.2 h3,
      beq_eq_false_iff_ne.2 h4, beq_eq_false_iff_ne.2 h5]
    rfl

theorem escapeName_eq_escapeSeg (s : Str) : escapeName s = escapeSeg false s := by
  unfold escapeName escapeSeg
  split
  · rfl
  · split
    · rfl
    · rw [escapeFrom_eq_body]; rfl

theorem escapeName_facts (last : Bool) (s : Str) (hne : s ≠ [])
    (he : last = true ∨ endsWithBackslash s = false) :
    escapeName s ≠ [] ∧ cleanB last (escapeName s) = true ∧ PlainSeg (escapeName s) ∧
      unescape (escapeName s) = s := by
  rw [escapeName_eq_escapeSeg]
  exact escapeSeg_facts last false s hne (he.imp_right (by simp [endsWithBackslash]))

theorem digits_plain (s : Str) (hne : s ≠ []) (h : ∀ c ∈ s, isAsciiDigit c = true) : PlainSeg s := by
  cases s with
  | nil => exact absurd rfl hne
  | cons c r =>
    have hc := h c List.mem_cons_self
    exact ⟨fun e => digit_ne hc (by decide) (List.cons.inj e).1, fun e => digit_ne hc (by decide) (List.cons.inj e).1,
      fun e => digit_ne hc (by decide) (List.cons.inj e).1, fun e => digit_ne hc (by decide) (Option.some.inj e)⟩

theorem natStr_facts (last : Bool) (i : Nat) :
    natStr i ≠ [] ∧ cleanB last (natStr i) = true ∧ PlainSeg (natStr i) ∧ unescape (natStr i) = natStr i :=
  have hd := natStr_all_digits i
  ⟨natStr_ne_nil i,
   clean_of_chars last _ (fun c hc =>
     ⟨digit_ne (hd c hc) (by decide), digit_ne (hd c hc) (by decide), digit_ne (hd c hc) (by decide)⟩),
   digits_plain _ (natStr_ne_nil i) hd, unescape_of_chars _ (fun c hc => digit_ne (hd c hc) (by decide))⟩

end Flatland.Path.Lemmas
