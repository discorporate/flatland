/-
The same tag calls made the way the runner makes them (`prepareTag` on a generator: keyword
arguments re-keyed, attributes sorted for output): a browser reads the same pairs from them.
-/
import Proofs.Lemmas.C12FormTotal
namespace Flatland.C12.Proofs
open Flatland.Markup Flatland.C12 Flatland.C19.Proofs

/-- keyword arguments that reach the transforms as they are: distinct names, none with a trailing
    underscore for `_transform_keys` to strip, no explicit `contents=` -/
def kwStable (kw : Attrs) : Prop :=
  (Dict.keys kw).Nodup ∧ ∀ k ∈ Dict.keys kw, rstripUnderscore k = k ∧ k ≠ "contents".toList

theorem transformKeys_stable (kw : Attrs) (h : kwStable kw) :
    Flatland.C11.transformKeys (Dict.erase kw "contents".toList) = kw ∧ Dict.get? kw "contents".toList = none := by
  have hc : Dict.get? kw "contents".toList = none := by
    rw [Dict.get?_eq_none_iff]
    intro hm
    exact (h.2 _ hm).2 rfl
  refine ⟨?_, hc⟩
  -- no key changes under `rstrip`, so this is a run of `set`s of distinct keys from the empty dict
  have hm : kw.map (fun kv => (rstripUnderscore kv.1, kv.2)) = kw :=
    (List.map_congr_left fun kv hkv => by rw [(h.2 kv.1 (List.mem_map_of_mem hkv)).1]; rfl).trans (List.map_id kw)
  rw [Dict.erase_absent _ _ hc, transformKeys_eq, hm]
  exact (Assoc.foldl_set_of_nodup h.1 fun _ _ hm => absurd hm List.not_mem_nil).trans (List.nil_append kw)

theorem submittedOption_congr (n : Str) (a a' : List (Str × Str)) (text : Str) (h : ∀ k, attr? a k = attr? a' k) :
    submittedOption n a text = submittedOption n a' text := by
  unfold submittedOption
  simp only [h]

theorem seenVia_ok {T : Tables} {order : List Str} {g : Gen} {tag : Str} {b : Bind} {kw : Attrs} (hk : kwStable kw)
    {s : Seen} (h : seenVia T order g tag b kw = .ok s) :
    ∃ s', seenOf T g.ctx tag b kw = .ok s' ∧ s.2 = s'.2 ∧ ∀ k, attr? s.1 k = attr? s'.1 k := by
  obtain ⟨r, hp, h⟩ := bind_ok h
  cases h
  obtain ⟨st6, o, ht, hpairs, hb, _⟩ := prepareTag_steps hp
  rw [(transformKeys_stable kw hk).1, (transformKeys_stable kw hk).2] at ht
  refine ⟨_, seenOf_of_transform ht hb, rfl, fun k => ?_⟩
  rw [hpairs]
  exact attr?_orderPairs order o st6.attrs (transform_nodup (st := ⟨kw, none, g.ctx⟩) hk.1 ht) k

/-- the keyword arguments of every tag of a control group reach the transforms as they are -/
def ControlStable : Control → Prop
  | .single _ _ kw => kwStable kw
  | .select _ kw opts => kwStable kw ∧ ∀ o ∈ opts, kwStable o

theorem postsAll_mono {α} (f f' : α → Except PyErr (List Pair)) (cs : List α)
    (h : ∀ c ∈ cs, ∀ p, f c = .ok p → f' c = .ok p) : ∀ ps, postsAll f cs = .ok ps → postsAll f' cs = .ok ps := by
  intro ps hps
  rw [postsAll_eq] at hps ⊢; exact Ex.flatMapM_congr_ok h hps

theorem posts_via_of (T : Tables) (order : List Str) (g : Gen) (c : Control) (hc : ControlStable c) (ps : List Pair)
    (h : Control.posts (seenVia T order g) c = .ok ps) : Control.posts (seenOf T g.ctx) c = .ok ps := by
  cases c with
  | single tag b kw =>
    obtain ⟨s, hs, rfl⟩ := posts_single h
    obtain ⟨s', hs', ht, ha⟩ := seenVia_ok hc hs
    rw [posts_single_ok hs', submitted_congr tag s.1 s'.1 s.2 ha, ht]
  | select b kw opts =>
    obtain ⟨s, hs, hopts⟩ := posts_select h
    obtain ⟨s', hs', _, ha⟩ := seenVia_ok hc.1 hs
    unfold Control.posts
    simp only [bind, Except.bind, pure, Except.pure, hs']
    rw [ha sName] at hopts
    refine postsAll_mono _ _ opts ?_ ps hopts
    intro okw hokw p hp
    obtain ⟨so, hso, hp⟩ := bind_ok hp
    cases hp
    obtain ⟨so', hso', ht, hao⟩ := seenVia_ok (hc.2 okw hokw) hso
    simp only [hso']
    rw [ht, submittedOption_congr _ so.1 so'.1 so'.2 hao]

theorem browserPost_via_of (T : Tables) (order : List Str) (g : Gen) (cs : List Control) (hcs : ∀ c ∈ cs, ControlStable c)
    (ps : List Pair) (h : browserPost (seenVia T order g) cs = .ok ps) : browserPost (seenOf T g.ctx) cs = .ok ps :=
  postsAll_mono _ _ cs (fun c hc p hp => posts_via_of T order g c (hcs c hc) p hp) ps h

theorem kwStable_extra {extra : Attrs} (hex : extraOk extra = true) : kwStable extra := by
  refine ⟨extraOk_nodup hex, fun k hk => ⟨extraOk_stable hex hk, ?_⟩⟩
  intro hc
  subst hc
  exact not_mem_keys_of_get? (extraOk_get? hex (by decide +kernel)) hk

theorem kwStable_cons (k : Str) (v : Val) (kw : Attrs) (hk : rstripUnderscore k = k) (hc : k ≠ "contents".toList)
    (hnot : Dict.get? kw k = none) (h : kwStable kw) : kwStable ((k, v) :: kw) := by
  refine ⟨?_, ?_⟩
  · simp only [Dict.keys, List.map_cons, List.nodup_cons]
    exact ⟨not_mem_keys_of_get? hnot, h.1⟩
  · intro k' hk'
    simp only [Dict.keys, List.map_cons, List.mem_cons] at hk'
    rcases hk' with rfl | hk'
    · exact ⟨hk, hc⟩
    · exact h.2 k' hk'

theorem kwStable_kwOf (ty lit : Option Str) {extra : Attrs} (hex : extraOk extra = true) : kwStable (kwOf ty lit extra) := by
  have hv : kwStable (kwOf none lit extra) := by
    cases lit with
    | none => exact kwStable_extra hex
    | some l =>
      exact kwStable_cons sValue (.text l) extra (by decide +kernel) (by decide +kernel) (extraOk_get? hex mem_reserved_value)
        (kwStable_extra hex)
  cases ty with
  | none => exact hv
  | some t =>
    exact kwStable_cons sType (.text t) (kwOf none lit extra) (by decide +kernel) (by decide +kernel)
      (get?_kwOf_type none lit hex) hv

/-- keyword arguments as form mode writes them: they reach the transforms as they are, carry no option, and `value=` is
    absent or a string — all that a tag call needs in order to render on a generator with default settings -/
structure KwCallable (kw : Attrs) : Prop where
  stable : kwStable kw
  noName : Dict.get? kw "auto_name".toList = none
  noValue : Dict.get? kw "auto_value".toList = none
  noLater : ∀ k ∈ laterKeys, Dict.get? kw k = none
  textual : TextualValue kw

theorem KwCallable.kwOf (ty lit : Option Str) {extra : Attrs} (hex : extraOk extra = true) : KwCallable (kwOf ty lit extra) :=
  ⟨kwStable_kwOf ty lit hex,
    get?_kwOf_reserved ty lit hex mem_reserved_autoName (by decide +kernel) (by decide +kernel),
    get?_kwOf_reserved ty lit hex mem_reserved_autoValue (by decide +kernel) (by decide +kernel),
    fun k hk => (later_reserved k hk).elim fun hr h => get?_kwOf_reserved ty lit hex hr h.1 h.2,
    fun v hg => by rw [get?_kwOf_value ty lit hex] at hg; cases lit <;> cases hg; exact ⟨_, rfl⟩⟩

/-- every tag of a control group is called with such keyword arguments (and none is a `<label>`) -/
def Callable : Control → Prop
  | .single tag _ kw => tag ≠ sLabel ∧ KwCallable kw
  | .select _ kw opts => KwCallable kw ∧ ∀ o ∈ opts, KwCallable o

theorem Callable.stable : ∀ {c : Control}, Callable c → ControlStable c
  | .single .., h => h.2.stable
  | .select .., h => ⟨h.1.stable, fun o ho => (h.2 o ho).stable⟩

/-- the `ordered_attributes` setting is a plain bool (as `Generator.__init__` leaves it) -/
def OrderedSet (ctx : Ctx) : Prop := ∃ o, ctx.getItem "ordered_attributes".toList = .ok (.bool o)

theorem prepareTag_of_renders {T : Tables} {order : List Str} {g : Gen} {tag : Str} {b : Bind} {kw : Attrs}
    (hk : kwStable kw) (hr : Renders T g.ctx tag b kw) (ho : OrderedSet g.ctx) :
    ∃ r, prepareTag T order g tag (some b) kw = .ok r ∧ r.ctx = g.ctx := by
  obtain ⟨st6, body, ht, hctx, hb⟩ := hr
  obtain ⟨o, ho⟩ := ho
  refine ⟨⟨Flatland.C11.orderPairs order o st6.attrs, body, g.ctx⟩, ?_, rfl⟩
  rw [prepareTag_eq, (transformKeys_stable kw hk).1, (transformKeys_stable kw hk).2, ht]
  simp only [Except.bind, bind, hb, hctx, orderedOf, ho]
  rfl

theorem seenVia_of_renders {T : Tables} {order : List Str} {g : Gen} {tag : Str} {b : Bind} {kw : Attrs}
    (hk : kwStable kw) (hr : Renders T g.ctx tag b kw) (ho : OrderedSet g.ctx) :
    ∃ s, seenVia T order g tag b kw = .ok s := by
  obtain ⟨r, hp, _⟩ := prepareTag_of_renders (order := order) hk hr ho
  unfold seenVia
  simp only [bind, Except.bind, pure, Except.pure, hp]
  exact ⟨_, rfl⟩

theorem fresh_ordered : OrderedSet freshGen.ctx := ⟨true, by decide +kernel⟩

end Flatland.C12.Proofs
