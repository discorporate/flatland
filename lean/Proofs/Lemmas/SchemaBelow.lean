/-
Induction over the well-formed schemas below a root schema: every name met on the way down is a name
of the root, hence one of its tokens (`Tok root`).
-/
import Proofs.Lemmas.C01Basics
namespace Flatland.Flat.Proofs
open Flatland.Flat Flatland.Flat.Spec

theorem tok_fields {root : Schema} {fields : List Schema}
    (hsub : ∀ t ∈ namesL fields, t ∈ names root) (hsome : ∀ g ∈ fields, g.name.isSome) :
    ∀ g ∈ fields, ∃ x, g.name = some x ∧ Tok root x := by
  intro g hg
  obtain ⟨x, hx⟩ := Option.isSome_iff_exists.mp (hsome g hg)
  exact ⟨x, hx, Or.inl (hsub x (names_sub_namesL hg x (name_mem_names g x hx)))⟩

theorem schema_ind_below (root : Schema) {Q : Schema → Prop}
    (hleaf : ∀ nm o k, Q (.leaf nm o k))
    (hjoined : ∀ nm o k m, Q (.joined nm o k m))
    (harray : ∀ nm o p member, (∀ x, nm = some x → Tok root x) → (∀ t ∈ names member, Tok root t) →
      Q (.array nm o p member))
    (hlist : ∀ nm o p mx member, (∀ x, nm = some x → Tok root x) → (∀ t ∈ names member, Tok root t) →
      Q member → Q (.list nm o p mx member))
    (hdict : ∀ nm o mode fields, (∀ x, nm = some x → Tok root x) → (namesOf fields).Nodup →
      (∀ g ∈ fields, ∃ x, g.name = some x ∧ Tok root x) → (∀ f ∈ fields, Q f) →
      Q (.dict nm o mode fields))
    (hcompound : ∀ nm o k fields, (∀ x, nm = some x → Tok root x) → (namesOf fields).Nodup →
      (∀ g ∈ fields, ∃ x, g.name = some x ∧ Tok root x) → (∀ f ∈ fields, Q f) →
      Q (.compound nm o k fields)) :
    ∀ s : Schema, (∀ t ∈ names s, t ∈ names root) → wf s = true → Q s := by
  intro s
  induction s using schema_ind with
  | hleaf nm o k => exact fun _ _ => hleaf nm o k
  | hjoined nm o k m => exact fun _ _ => hjoined nm o k m
  | harray nm o p member _ =>
    intro hsub _
    exact harray nm o p member (fun x hx => Or.inl (hsub x (by simp [names, hx])))
      (fun t ht => Or.inl (hsub t (by simp [names, ht])))
  | hlist nm o p mx member ih =>
    intro hsub hw
    simp only [wf] at hw
    exact hlist nm o p mx member (fun x hx => Or.inl (hsub x (by simp [names, hx])))
      (fun t ht => Or.inl (hsub t (by simp [names, ht])))
      (ih (fun t ht => hsub t (by simp [names, ht])) hw)
  | hdict nm o mode fields ih =>
    intro hsub hw
    obtain ⟨hnd, hsome, hwf⟩ := wf_dict hw
    have hsubf : ∀ t ∈ namesL fields, t ∈ names root := fun t ht => hsub t (by simp [names, ht])
    exact hdict nm o mode fields (fun x hx => Or.inl (hsub x (by simp [names, hx]))) hnd (tok_fields hsubf hsome)
      (fun f hf => ih f hf (fun t ht => hsubf t (names_sub_namesL hf t ht)) (hwf f hf))
  | hcompound nm o k fields ih =>
    intro hsub hw
    obtain ⟨hnd, hsome, hwf⟩ := wf_compound hw
    have hsubf : ∀ t ∈ namesL fields, t ∈ names root := fun t ht => hsub t (by simp [names, ht])
    exact hcompound nm o k fields (fun x hx => Or.inl (hsub x (by simp [names, hx]))) hnd (tok_fields hsubf hsome)
      (fun f hf => ih f hf (fun t ht => hsubf t (names_sub_namesL hf t ht)) (hwf f hf))

end Flatland.Flat.Proofs
