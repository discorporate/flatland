/-
Python's `<`, `<=`, `==` on natives (model) against the three-valued order of the specification.
-/
import Flatland.C15
import Flatland.Spec.C15
namespace Flatland.C15.Proofs
open Flatland.C16 Flatland.C15 Flatland.C15.Spec

/-- `strLt` both ways round and equality, read off the three-valued `textCmp` -/
theorem textCmp_spec (x y : Str) :
    strLt x y = (textCmp x y == .lt) ∧ strLt y x = (textCmp x y == .gt) ∧
      (textCmp x y = .eq ↔ x = y) := by
  induction x generalizing y with
  | nil => cases y <;> simp [strLt, textCmp]
  | cons a as ih =>
    cases y with
    | nil => simp [strLt, textCmp]
    | cons b bs =>
      simp only [strLt, textCmp]
      rcases Nat.lt_trichotomy a.toNat b.toNat with h | h | h
      · have : a ≠ b := by intro hab; subst hab; omega
        have h1 : ¬ b.toNat < a.toNat := by omega
        simp [h, h1, Nat.compare_eq_lt.2 h, this]
      · cases (Char.ext (UInt32.toNat_inj.1 h) : a = b)
        simpa using ih bs
      · have : a ≠ b := by intro hab; subst hab; omega
        have h1 : ¬ a.toNat < b.toNat := by omega
        simp [h, h1, Nat.compare_eq_gt.2 h, this]

theorem strLt_eq (x y : Str) : strLt x y = (textCmp x y == .lt) := (textCmp_spec x y).1
theorem strLt_swap (x y : Str) : strLt y x = (textCmp x y == .gt) := (textCmp_spec x y).2.1
theorem textCmp_eq_iff (x y : Str) : textCmp x y = .eq ↔ x = y := (textCmp_spec x y).2.2

theorem int_cmp_lt (x y : Int) : decide (x < y) = (compare x y == .lt) := by
  rw [Bool.eq_iff_iff]; simp [Int.compare_eq_lt]

theorem int_cmp_gt (x y : Int) : decide (y < x) = (compare x y == .gt) := by
  rw [Bool.eq_iff_iff]; simp [Int.compare_eq_gt]

theorem int_cmp_le (x y : Int) : decide (x ≤ y) = (compare x y != .gt) := by
  rw [Bool.eq_iff_iff]; simp [Int.compare_eq_gt]

theorem int_cmp_ge (x y : Int) : decide (y ≤ x) = (compare x y != .lt) := by
  rw [Bool.eq_iff_iff]; simp [Int.compare_eq_lt]

theorem cmp_cases (a b : Val) (o : Ordering) (h : cmp a b = some o) :
    (∃ x y, numOf a = some x ∧ numOf b = some y ∧ o = compare x y) ∨
    (∃ x y, a = .str x ∧ b = .str y ∧ o = textCmp x y) := by
  unfold cmp at h
  split at h
  · next x y ha hb => cases h; exact .inl ⟨x, y, ha, hb, rfl⟩
  · split at h <;> cases h
    exact .inr ⟨_, _, rfl, rfl, rfl⟩

theorem py_cmp (a b : Val) (o : Ordering) (h : cmp a b = some o) :
    pyLt a b = .ok (o == .lt) ∧ pyLt b a = .ok (o == .gt) ∧
      pyLe a b = .ok (o != .gt) ∧ pyLe b a = .ok (o != .lt) := by
  rcases cmp_cases a b o h with ⟨x, y, ha, hb, rfl⟩ | ⟨x, y, rfl, rfl, rfl⟩
  · simp only [pyLt, pyLe, ha, hb]
    -- one by one: `int_cmp_lt y x` and `int_cmp_gt x y` both rewrite `decide (y < x)`
    exact ⟨by rw [int_cmp_lt], by rw [int_cmp_gt], by rw [int_cmp_le], by rw [int_cmp_ge]⟩
  · simp only [pyLt, pyLe, numOf]
    rw [strLt_eq, strLt_swap]
    cases textCmp x y <;> exact ⟨rfl, rfl, rfl, rfl⟩

theorem pyEq_same (a b : Val) : pyEq a b = same a b := by
  unfold pyEq same
  split
  · next x y ha hb =>
    simp only [cmp, ha, hb]
    rcases Int.lt_trichotomy x y with h | h | h
    · simp [Int.compare_eq_lt.2 h, Int.ne_of_lt h]
    · simp [h]
    · simp [Int.compare_eq_gt.2 h, Int.ne_of_gt h]
  · next hn =>
    split
    · rfl
    · next x y =>
      simp only [cmp, numOf]
      cases hc : textCmp x y <;> simp [← textCmp_eq_iff, hc]
    · next h1 h2 =>
      cases hc : cmp a b with
      | some o =>
        rcases cmp_cases a b o hc with ⟨x, y, ha, hb, _⟩ | ⟨x, y, rfl, rfl, _⟩
        · exact (hn x y ha hb).elim
        · exact (h2 x y rfl rfl).elim
      | none =>
        symm; rw [Bool.and_eq_false_iff]
        by_cases ha : a = .none
        · exact .inr (by simpa using fun hb => h1 ha hb)
        · exact .inl (by simpa using ha)

end Flatland.C15.Proofs
