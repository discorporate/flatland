/-
The form model (`Flatland/C12/Form.lean`) against the flat model (`Flatland/Flat.lean`): the names
the controls carry are the keys `flatten()` emits, and `formPairs` + the pairs of the unchecked
Boolean boxes are (as a multiset) what `flatten()` emits for the same tree.
-/
import Flatland.C12.Form
import Proofs.C12
import Proofs.C07
namespace Flatland.C12.Proofs
open Flatland.Markup Flatland.C12
open Flatland.Flat (FNode joinSep namePath flattenAt flattenNode ownPair pushed childItems kidsFrom bfsFlat)

/-- the separator of `flattened_name()` -/
def usep : Str := ['_']

theorem joinSep_cons (n : Str) (rest : List Str) :
    joinSep usep (n :: rest) = n ++ (rest.map (fun x => '_' :: x)).flatten := by
  induction rest generalizing n with
  | nil => simp [joinSep]
  | cons r rs ih =>
    have e : joinSep usep (n :: r :: rs) = n ++ usep ++ joinSep usep (r :: rs) := rfl
    rw [e, ih r]
    simp [usep, List.append_assoc]

/-- the name a control carries (`flattened_name()` of the path) is the key the flat model's `flatten`
    emits for the same path: the non-`None` names joined by the separator -/
theorem flatName_eq_joinSep (path : List (Option Str)) : flatName path = joinSep usep (path.filterMap id) := by
  rw [flatName_spec]
  unfold Spec.flattenedName
  cases h : path.filterMap id with
  | nil => rfl
  | cons n rest => exact (joinSep_cons n rest).symm

/-- the members of an Array are anonymous: they are named as the Array -/
theorem flatName_member (pre : List (Option Str)) (n : Option Str) : flatName (pre ++ [n, none]) = flatName (pre ++ [n]) := by
  have := flatName_skip_none (pre ++ [n]) []
  simpa using this

theorem filterMap_snoc (pre : List (Option Str)) (n : Option Str) :
    (pre ++ [n]).filterMap id = pre.filterMap id ++ n.toList := by
  cases n <;> simp [List.filterMap_append]

theorem flatName_namePath (pre : List (Option Str)) (nm : Option Str) (fl cfl : Bool) (u : Str) (s : Bool)
    (kids : List FNode) :
    joinSep usep (namePath (pre.filterMap id) (.mk nm fl cfl u s kids)) = flatName (pre ++ [nm]) := by
  rw [flatName_eq_joinSep, filterMap_snoc]
  rfl

theorem flattenAt_leaf (p : List Str) (nm : Option Str) (cfl : Bool) (u : Str) (s : Bool) :
    flattenAt usep p (.mk nm true cfl u s []) = [(joinSep usep (namePath p (.mk nm true cfl u s [])), u)] := by
  unfold flattenAt ownPair pushed
  cases cfl <;> simp [childItems, kidsFrom, Flatland.Flat.bfsFlat_nil, FNode.fl, FNode.cfl, FNode.u, FNode.kids]

theorem perm_interleave {α} (a b as bs : List α) : ((a ++ b) ++ (as ++ bs)).Perm ((a ++ as) ++ (b ++ bs)) := by
  simp only [List.append_assoc]
  apply List.Perm.append_left
  rw [← List.append_assoc, ← List.append_assoc]
  exact List.Perm.append_right _ List.perm_append_comm

/-- members of an Array: anonymous leaves under the Array's own path -/
theorem members_flat (p : List Str) (i : Nat) (ms : List Str) :
    (kidsFrom p false i (ms.map memberNode)).flatMap (fun it => flattenAt usep it.1 it.2) =
      ms.map (fun m => (joinSep usep p, m)) := by
  induction ms generalizing i with
  | nil => rfl
  | cons m ms ih =>
    simp only [List.map_cons, kidsFrom, Bool.false_eq_true, if_false, List.flatMap_cons, ih]
    simp only [memberNode, flattenAt_leaf, namePath, FNode.name, Option.toList_none, List.append_nil,
      List.singleton_append]

/-- a container node: nothing of its own, then what its members emit -/
theorem flattenAt_container (p : List Str) (nm : Option Str) (u : Str) (s : Bool) (kids : List FNode) :
    (flattenAt usep p (.mk nm false true u s kids)).Perm
      ((kidsFrom (p ++ nm.toList) s 0 kids).flatMap (fun it => flattenAt usep it.1 it.2)) := by
  have h := Flatland.Flat.Proofs.flatten_compositional usep p (.mk nm false true u s kids) rfl
  simpa [ownPair, childItems, namePath, FNode.fl, FNode.name, FNode.slots, FNode.kids] using h

mutual
theorem formPairs_flattenAt : ∀ (t : FormTree) (pre : List (Option Str)),
    (flattenAt usep (pre.filterMap id) (embed t)).Perm (formPairs pre t ++ uncheckedPairs pre t)
  | .text n u w ex, pre => by
    simp only [embed, flattenAt_leaf, flatName_namePath, formPairs, uncheckedPairs, List.append_nil]
    exact List.Perm.refl _
  | .bool n tru u ex, pre => by
    simp only [embed, flattenAt_leaf, flatName_namePath, formPairs, uncheckedPairs]
    by_cases h : tru = u <;> simp [h]
  | .array n strip ms w ex, pre => by
    simp only [embed, formPairs, uncheckedPairs, List.append_nil]
    refine (flattenAt_container _ _ _ _ _).trans ?_
    rw [members_flat, ← filterMap_snoc, ← flatName_eq_joinSep, flatName_member]
  | .joined n u ms ty ex, pre => by
    simp only [embed, formPairs, uncheckedPairs, List.append_nil]
    rw [Flatland.Flat.Proofs.joined_opaque usep _ _ rfl]
    simp only [ownPair, FNode.fl, if_true, FNode.u, flatName_namePath]
    exact List.Perm.refl _
  | .dict n fields, pre => by
    simp only [embed, formPairs, uncheckedPairs]
    refine (flattenAt_container _ _ _ _ _).trans ?_
    rw [← filterMap_snoc]
    exact fieldPairs_flat fields (pre ++ [n]) 0
  | .list n members, pre => by
    simp only [embed, formPairs, uncheckedPairs]
    refine (flattenAt_container _ _ _ _ _).trans ?_
    rw [← filterMap_snoc]
    exact slotPairs_flat members (pre ++ [n]) 0
theorem fieldPairs_flat : ∀ (ts : List FormTree) (pre : List (Option Str)) (i : Nat),
    ((kidsFrom (pre.filterMap id) false i (embedAll ts)).flatMap (fun it => flattenAt usep it.1 it.2)).Perm
      (fieldPairs pre ts ++ uncheckedFields pre ts)
  | [], pre, i => by simp [embedAll, kidsFrom, fieldPairs, uncheckedFields]
  | t :: ts, pre, i => by
    simp only [embedAll, kidsFrom, Bool.false_eq_true, if_false, List.flatMap_cons, fieldPairs, uncheckedFields]
    exact ((formPairs_flattenAt t pre).append (fieldPairs_flat ts pre (i + 1))).trans (perm_interleave _ _ _ _)
theorem slotPairs_flat : ∀ (ts : List FormTree) (pre : List (Option Str)) (i : Nat),
    ((kidsFrom (pre.filterMap id) true i (embedAll ts)).flatMap (fun it => flattenAt usep it.1 it.2)).Perm
      (slotPairs pre i ts ++ uncheckedSlots pre i ts)
  | [], pre, i => by simp [embedAll, kidsFrom, slotPairs, uncheckedSlots]
  | t :: ts, pre, i => by
    simp only [embedAll, kidsFrom, if_true, List.flatMap_cons, slotPairs, uncheckedSlots]
    have h1 := formPairs_flattenAt t (pre ++ [some (slotName i)])
    rw [filterMap_snoc] at h1
    exact (h1.append (slotPairs_flat ts pre (i + 1))).trans (perm_interleave _ _ _ _)
end

end Flatland.C12.Proofs
