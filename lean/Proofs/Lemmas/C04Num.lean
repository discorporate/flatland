/- number formatting / parsing and the Temporal recognisers on their own output; the Date recogniser on formatted
   member values (`matchDate_fmt`, for C18) -/
import Proofs.Lemmas.C04Str
namespace Flatland.Scalar
open Flatland.Scalar

/-- `'%0<w>i' % n` for a natural number -/
def padStr (w n : Nat) : Str := List.replicate (w - (Nat.toDigits 10 n).length) '0' ++ Nat.toDigits 10 n

theorem isDigit_padStr (w n : Nat) : ∀ c ∈ padStr w n, c.isDigit = true := by
  intro c hc
  rcases List.mem_append.mp hc with h | h
  · rw [(List.mem_replicate.mp h).2]; rfl
  · exact Dec.isDigit_toDigits n c h

theorem padStr_ne_nil (w n : Nat) : padStr w n ≠ [] :=
  fun h => Nat.toDigits_ne_nil (List.append_eq_nil_iff.mp h).2

theorem val_padStr (w n : Nat) : Dec.val (padStr w n) = n := by
  rw [padStr, Dec.val_pad, Dec.val_toDigits]

theorem length_padStr_le (w n m : Nat) (hm : 1 ≤ m) (hw : w ≤ m) (h : n < 10 ^ m) : (padStr w n).length ≤ m := by
  have := (Nat.length_toDigits_le_iff (by decide) hm).mpr h
  simp [padStr]; omega

theorem length_padStr (w n : Nat) (hw : 1 ≤ w) (h : n < 10 ^ w) : (padStr w n).length = w := by
  have := (Nat.length_toDigits_le_iff (by decide) hw).mpr h
  simp [padStr]; omega

theorem digitChar_zero : digitChar 0 = '0' := rfl

theorem fmtInt_eq (w : Nat) (i : Int) :
    fmtInt w i = (if i < 0 then ['-'] else []) ++ padStr (w - (if i < 0 then 1 else 0)) i.natAbs := by
  unfold fmtInt padStr
  rw [natDigits_eq]
  split <;> simp

theorem fmtInt_nat (w n : Nat) : fmtInt w (n : Int) = padStr w n := by
  rw [fmtInt_eq, if_neg (by omega), if_neg (by omega)]; rfl

theorem head_fmtInt (T : Tables) (hT : T.OK) (w : Nat) (i : Int) (rest : Str) (a : Char)
    (ha : (fmtInt w i ++ rest).head? = some a) : isWs T a = false := by
  rw [fmtInt_eq] at ha
  split at ha
  · cases ha; exact hT.2.2.1
  · cases hp : padStr (w - 0) i.natAbs with
    | nil => exact absurd hp (padStr_ne_nil _ _)
    | cons d t =>
      rw [hp] at ha
      cases ha
      exact isWs_ascii T hT (isDigit_padStr (w - 0) i.natAbs a (by rw [hp]; simp))

theorem last_fmtInt (T : Tables) (hT : T.OK) (w : Nat) (i : Int) (pre : Str) (a : Char)
    (ha : (pre ++ fmtInt w i).getLast? = some a) : isWs T a = false := by
  rw [fmtInt_eq, ← List.append_assoc, List.getLast?_append, List.getLast?_eq_some_getLast (padStr_ne_nil _ _),
    Option.some_or, Option.some.injEq] at ha
  exact ha ▸ isWs_ascii T hT (isDigit_padStr _ _ _ (List.getLast_mem _))

/-- `mid` may hold whitespace: the text of a DateTime has a blank there -/
theorem strip_between (T : Tables) (hT : T.OK) (w : Nat) (i : Int) (w' : Nat) (i' : Int) (mid : Str) :
    strip T (fmtInt w i ++ (mid ++ fmtInt w' i')) = fmtInt w i ++ (mid ++ fmtInt w' i') :=
  strip_of_ends T _ (head_fmtInt T hT w i _)
    (fun a ha => last_fmtInt T hT w' i' (fmtInt w i ++ mid) a (by rwa [List.append_assoc]))

theorem strip_fmtInt (T : Tables) (hT : T.OK) (w : Nat) (i : Int) : strip T (fmtInt w i) = fmtInt w i :=
  strip_of_ends T _ (fun a ha => head_fmtInt T hT w i [] a (by rwa [List.append_nil]))
    (fun a ha => last_fmtInt T hT w i [] a ha)

theorem strip_dateText (T : Tables) (hT : T.OK) (y m d : Nat) : strip T (dateText y m d) = dateText y m d := by
  simpa only [dateText, pad4, pad2, List.append_assoc] using
    strip_between T hT 4 y 2 d (['-'] ++ (fmtInt 2 (m : Int) ++ ['-']))

theorem strip_timeText (T : Tables) (hT : T.OK) (h mi s : Nat) : strip T (timeText h mi s) = timeText h mi s := by
  simpa only [timeText, pad2, List.append_assoc] using
    strip_between T hT 2 h 2 s ([':'] ++ (fmtInt 2 (mi : Int) ++ [':']))

theorem strip_dateTimeText (T : Tables) (hT : T.OK) (y m d h mi s : Nat) :
    strip T (dateText y m d ++ [' '] ++ timeText h mi s) = dateText y m d ++ [' '] ++ timeText h mi s := by
  simpa only [dateText, timeText, pad4, pad2, List.append_assoc] using strip_between T hT 4 y 2 s
    (['-'] ++ (fmtInt 2 (m : Int) ++ (['-'] ++ (fmtInt 2 (d : Int) ++ ([' '] ++ (fmtInt 2 (h : Int) ++
      ([':'] ++ (fmtInt 2 (mi : Int) ++ [':']))))))))

theorem pyIntOfStr_fmtInt (T : Tables) (hT : T.OK) (w : Nat) (i : Int) (hfit : intFits T i = true)
    (hw : w ≤ T.maxDigits) : pyIntOfStr T (fmtInt w i) = some i := by
  have hfit' : i.natAbs < 10 ^ T.maxDigits := by simpa [intFits] using hfit
  have hm : 1 ≤ T.maxDigits := by have := hT.2.2.2.2.1; omega
  have hbody := fun w' => parseDigitBody_ascii T hT _ (padStr_ne_nil w' i.natAbs) (isDigit_padStr w' i.natAbs)
  have hlen := fun w' (h : w' ≤ T.maxDigits) => length_padStr_le w' i.natAbs T.maxDigits hm h hfit'
  rw [fmtInt_eq]
  unfold pyIntOfStr
  by_cases hi : i < 0
  · simp only [hi, if_true, List.singleton_append, splitSign, hbody, digitsVal_vals, val_padStr]
    rw [if_neg (by have := hlen (w - 1) (by omega); rw [Dec.vals, List.length_map]; omega)]
    simp; omega
  · have hs : splitSign (padStr (w - 0) i.natAbs) = (false, padStr (w - 0) i.natAbs) :=
      splitSign_ascii _ (fun a ha => isDigit_padStr _ _ a (List.mem_of_mem_head? ha))
    simp only [hi, if_false, List.nil_append, hs, hbody, digitsVal_vals, val_padStr]
    rw [if_neg (by have := hlen (w - 0) (by omega); rw [Dec.vals, List.length_map]; omega)]
    simp; omega

theorem takeDigits_ascii (T : Tables) (hT : T.OK) (n : Nat) (s : Str) (hs : ∀ c ∈ s, c.isDigit = true)
    (hn : n ≤ s.length) (rest : Str) :
    takeDigits T n (s ++ rest) = some (Dec.vals (s.take n), s.drop n ++ rest) := by
  induction n generalizing s with
  | zero => rfl
  | succ n ih =>
    cases s with
    | nil => simp at hn
    | cons c t =>
      simp only [List.cons_append, takeDigits, digitVal_ascii T hT (hs c List.mem_cons_self)]
      rw [ih t (fun x hx => hs x (List.mem_cons_of_mem _ hx)) (by simpa using hn)]
      rfl

theorem takeDigits_pad (T : Tables) (hT : T.OK) (w n : Nat) (hw : 1 ≤ w) (hn : n < 10 ^ w) (rest : Str) :
    takeDigits T w (fmtInt w (n : Int) ++ rest) = some (Dec.vals (padStr w n), rest) := by
  have hl := length_padStr w n hw hn
  rw [fmtInt_nat, takeDigits_ascii T hT w (padStr w n) (isDigit_padStr w n) (by omega) rest,
    List.take_of_length_le (by omega), List.drop_of_length_le (by omega)]
  rfl

theorem match3_text (T : Tables) (hT : T.OK) (n1 n2 n3 : Nat) (sep : Char) (a b c : Nat)
    (h1 : 1 ≤ n1) (h2 : 1 ≤ n2) (h3 : 1 ≤ n3) (ha : a < 10 ^ n1) (hb : b < 10 ^ n2) (hc : c < 10 ^ n3)
    (rest : Str) :
    match3 T n1 n2 n3 sep (fmtInt n1 (a : Int) ++ [sep] ++ fmtInt n2 (b : Int) ++ [sep] ++ fmtInt n3 (c : Int) ++ rest)
      = some ((a, b, c), rest) := by
  unfold match3
  simp only [List.append_assoc, List.cons_append, List.nil_append]
  rw [takeDigits_pad T hT n1 a h1 ha]
  simp only [Option.bind_eq_bind, Option.bind_some, takeChar, if_true]
  rw [takeDigits_pad T hT n2 b h2 hb]
  simp only [Option.bind_some, if_true]
  rw [takeDigits_pad T hT n3 c h3 hc]
  simp [digitsVal_vals, val_padStr]

theorem validDate_bounds (y m d : Nat) (h : validDate y m d = true) : y < 10 ^ 4 ∧ m < 10 ^ 2 ∧ d < 10 ^ 2 := by
  simp only [validDate, Bool.and_eq_true, decide_eq_true_eq] at h
  obtain ⟨⟨⟨⟨⟨_, hy⟩, _⟩, hm⟩, _⟩, hd⟩ := h
  have : daysInMonth y m ≤ 31 := by
    unfold daysInMonth
    split <;> try omega
    split <;> omega
  omega

theorem validTime_bounds (h mi s : Nat) (hv : validTime h mi s = true) : h < 10 ^ 2 ∧ mi < 10 ^ 2 ∧ s < 10 ^ 2 := by
  simp only [validTime, Bool.and_eq_true, decide_eq_true_eq] at hv
  omega

theorem matchDate_dateText (T : Tables) (hT : T.OK) (y m d : Nat) (h : validDate y m d = true) :
    matchDate T (dateText y m d) = some (y, m, d) := by
  obtain ⟨hy, hm, hd⟩ := validDate_bounds y m d h
  unfold matchDate dateText pad4 pad2
  have := match3_text T hT 4 2 2 '-' y m d (by omega) (by omega) (by omega) hy hm hd []
  simp only [List.append_nil] at this
  rw [this]; rfl

theorem matchTime_timeText (T : Tables) (hT : T.OK) (h mi s : Nat) (hv : validTime h mi s = true) :
    matchTime T (timeText h mi s) = some (h, mi, s) := by
  obtain ⟨hh, hm, hs⟩ := validTime_bounds h mi s hv
  unfold matchTime timeText pad2
  have := match3_text T hT 2 2 2 ':' h mi s (by omega) (by omega) (by omega) hh hm hs []
  simp only [List.append_nil] at this
  rw [this]; rfl

theorem matchDateTime_text (T : Tables) (hT : T.OK) (y m d h mi s : Nat)
    (hd : validDate y m d = true) (hv : validTime h mi s = true) :
    matchDateTime T (dateText y m d ++ [' '] ++ timeText h mi s) = some ((y, m, d), (h, mi, s)) := by
  obtain ⟨hy, hm, hdd⟩ := validDate_bounds y m d hd
  obtain ⟨hh, hmi, hs⟩ := validTime_bounds h mi s hv
  unfold matchDateTime dateText timeText pad4 pad2
  have h1 := match3_text T hT 4 2 2 '-' y m d (by omega) (by omega) (by omega) hy hm hdd
    ([' '] ++ (fmtInt 2 (h : Int) ++ [':'] ++ fmtInt 2 (mi : Int) ++ [':'] ++ fmtInt 2 (s : Int)))
  have h2 := match3_text T hT 2 2 2 ':' h mi s (by omega) (by omega) (by omega) hh hmi hs []
  simp only [List.append_nil] at h2
  simp only [List.append_assoc, List.cons_append, List.nil_append] at h1 h2 ⊢
  rw [h1]
  simp only [takeChar, if_true]
  rw [h2]; rfl

end Flatland.Scalar

/- the Date recogniser on formatted member values (C18) -/
open Flatland.Scalar

namespace Flatland.Scalar

theorem toDigits_length_gt (n w : Nat) (h : 10 ^ w ≤ n) : w < (Nat.toDigits 10 n).length := by
  cases w with
  | zero => exact Nat.length_toDigits_pos
  | succ w =>
    apply Nat.lt_of_not_le
    intro hle
    have := (Nat.length_toDigits_le_iff (by decide) (Nat.succ_pos w)).mp hle
    omega

theorem takeChar_same (c : Char) (rest : Str) : takeChar c (c :: rest) = some rest := by
  simp [takeChar]

theorem takeChar_digit {c : Char} (hc : c.isDigit = true) (rest : Str) : takeChar '-' (c :: rest) = none := by
  simp [takeChar, ascii_ne hc '-' (by decide)]

theorem takeDigits_fmtInt_neg (T : Tables) (hT : T.OK) (w : Nat) (i : Int) (hi : i < 0) (rest : Str) :
    takeDigits T (w + 1) (fmtInt (w + 1) i ++ rest) = none := by
  simp [fmtInt_eq, hi, takeDigits, hT.2.2.2.2.2]

theorem takeDigits_fmtInt_big (T : Tables) (hT : T.OK) (w n : Nat) (h : 10 ^ w ≤ n) (rest : Str) :
    ∃ c, c.isDigit = true ∧ ∃ ds more, takeDigits T w (fmtInt w (n : Int) ++ rest) = some (ds, c :: more) := by
  have hlen := toDigits_length_gt n w h
  have hp : padStr w n = Nat.toDigits 10 n := by rw [padStr, Nat.sub_eq_zero_of_le (by omega)]; rfl
  rw [fmtInt_nat, hp, takeDigits_ascii T hT w _ (Dec.isDigit_toDigits n) (by omega)]
  cases hdrop : (Nat.toDigits 10 n).drop w with
  | nil => have := congrArg List.length hdrop; rw [List.length_drop] at this; simp at this; omega
  | cons c t => exact ⟨c, Dec.isDigit_toDigits n c (List.mem_of_mem_drop (hdrop ▸ List.mem_cons_self)), _, _, rfl⟩

/-- one field printed with `%0<w>i`, read back with `\d{w}` and a continuation that does not go on in front of a
    further digit: the field is read exactly when the number is in `[0, 10^w)`; a sign is no digit, and of a
    longer number a digit is left over -/
theorem takeDigits_fmtInt_bind {β : Type} (T : Tables) (hT : T.OK) (w : Nat) (i : Int) (rest : Str)
    (g : List Nat × Str → Option β) (hg : ∀ ds c more, c.isDigit = true → g (ds, c :: more) = none) :
    (takeDigits T (w + 1) (fmtInt (w + 1) i ++ rest)).bind g =
      if 0 ≤ i ∧ i < ((10 ^ (w + 1) : Nat) : Int) then g (Dec.vals (padStr (w + 1) i.toNat), rest) else none := by
  by_cases hi : i < 0
  · rw [takeDigits_fmtInt_neg T hT w i hi, if_neg (by omega)]
    rfl
  · obtain ⟨n, rfl⟩ := Int.eq_ofNat_of_zero_le (Int.not_lt.mp hi)
    by_cases hb : 10 ^ (w + 1) ≤ n
    · obtain ⟨k, hk, ds, more, hrun⟩ := takeDigits_fmtInt_big T hT (w + 1) n hb rest
      rw [hrun, if_neg (by omega)]
      exact hg ds k more hk
    · rw [takeDigits_pad T hT (w + 1) n (by omega) (by omega), if_pos (by omega)]
      rfl

theorem matchDate_eq_bind (T : Tables) (s : Str) :
    matchDate T s = (match3 T 4 2 2 '-' s).bind fun p => if atEnd p.2 then some p.1 else none := by
  unfold matchDate; cases match3 T 4 2 2 '-' s <;> rfl

theorem matchDate_fmt (T : Tables) (hT : T.OK) (y m d : Int) :
    matchDate T (fmtInt 4 y ++ ['-'] ++ fmtInt 2 m ++ ['-'] ++ fmtInt 2 d) =
      if 0 ≤ y ∧ y < 10000 ∧ 0 ≤ m ∧ m < 100 ∧ 0 ≤ d ∧ d < 100 then some (y.toNat, m.toNat, d.toNat) else none := by
  rw [matchDate_eq_bind]
  unfold match3
  simp only [List.append_assoc, List.cons_append, List.nil_append, Option.bind_eq_bind, Option.bind_assoc]
  rw [takeDigits_fmtInt_bind T hT 3 y _ _ (fun ds c more hc => by simp only [takeChar_digit hc, Option.bind_none])]
  simp only [takeChar_same, Option.bind_some]
  rw [takeDigits_fmtInt_bind T hT 1 m _ _ (fun ds c more hc => by simp only [takeChar_digit hc, Option.bind_none])]
  simp only [takeChar_same, Option.bind_some]
  -- the last field is followed by `$`, which a leftover digit does not match either
  rw [← List.append_nil (fmtInt 2 d), takeDigits_fmtInt_bind T hT 1 d [] _ (fun ds c more hc => by
    simp [atEnd, ascii_ne hc '\n' (by decide)])]
  simp only [Option.pure_def, Option.bind_some, digitsVal_vals, val_padStr, atEnd, beq_self_eq_true, Bool.true_or, if_true]
  split <;> rename_i hy
  · split <;> rename_i hm
    · split <;> rename_i hd
      · exact (if_pos (by omega)).symm
      · exact (if_neg (by omega)).symm
    · exact (if_neg (by omega)).symm
  · exact (if_neg (by omega)).symm

end Flatland.Scalar
