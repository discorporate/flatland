/-
Facts about the list operations of `Flatland/PyList.lean` that the C08 proofs share: what a
slice assignment stores and replaces, and, for each operation that edits a list, the permutation that says
what stays, what enters and what leaves.
-/
import Proofs.Lemmas.C08Ids
import Proofs.Lemmas.C14SliceSpec
namespace Flatland.C08.Proofs
open Flatland.Tree Flatland.PyList Flatland.C08 Flatland.C08.Spec

section assign
variable {α : Type}

theorem assign_length (l : List α) (is : List Nat) (xs : List α) : (assign l is xs).length = l.length := by
  induction is generalizing l xs with
  | nil => cases xs <;> simp [assign]
  | cons i is ih =>
    cases xs with
    | nil => simp [assign]
    | cons x xs => rw [assign, ih, List.length_set]

theorem assign_getElem?_of_not_mem (l : List α) (is : List Nat) (xs : List α) (j : Nat) (hj : j ∉ is) :
    (assign l is xs)[j]? = l[j]? := by
  induction is generalizing l xs with
  | nil => cases xs <;> simp [assign]
  | cons i is ih =>
    cases xs with
    | nil => simp [assign]
    | cons x xs =>
      rw [assign, ih _ _ (fun h => hj (List.mem_cons_of_mem _ h))]
      rw [List.getElem?_set_ne (by intro h; exact hj (by simp [h]))]

theorem mem_assign_new (l : List α) (is : List Nat) (xs : List α) (hn : is.Nodup) (hlt : ∀ i ∈ is, i < l.length)
    (hlen : xs.length = is.length) : ∀ x ∈ xs, x ∈ assign l is xs := by
  induction is generalizing l xs with
  | nil => cases xs with
    | nil => intro x hx; cases hx
    | cons y ys => simp at hlen
  | cons i is ih =>
    cases xs with
    | nil => simp at hlen
    | cons y ys =>
      rw [List.nodup_cons] at hn
      intro x hx
      rw [assign]
      rcases List.mem_cons.mp hx with h | h
      · have h1 := assign_getElem?_of_not_mem (l.set i y) is ys i hn.1
        rw [List.getElem?_set_self (hlt i (by simp))] at h1
        rw [h]; exact List.mem_of_getElem? h1
      · exact ih (l.set i y) ys hn.2 (fun j hj => by rw [List.length_set]; exact hlt j (by simp [hj]))
          (by simpa using hlen) x h

end assign

/-- the positions are those the set-builder reading `pySlice` selects (`pySlice_spec`): a filter of
    `range len` or of its reverse -/
theorem indices_ok {len : Nat} {s : Slice} {ix : Ix} (h : adjust len s = some ix) :
    (indices ix).Nodup ∧ (∀ i ∈ indices ix, i < len) ∧ (indices ix).length = ix.count := by
  refine ⟨?_, ?_, by rw [indices, List.length_map, List.length_range]⟩
  · rw [C14.Proofs.indices_eq_pySlice h]; exact C14.Proofs.pySlice_nodup _ _ _ _
  · rw [C14.Proofs.indices_eq_pySlice h]; exact C14.Proofs.pySlice_lt _ _ _ _

theorem setSlice_new_mem {α : Type} {l l' : List α} {s : Slice} {new : List α} (h : setSlice l s new = .ok l') :
    ∀ x ∈ new, x ∈ l' := by
  unfold setSlice at h
  split at h
  · cases h
  · rename_i ix hix
    split at h
    · cases h
      intro x hx
      exact List.mem_append.mpr (.inl (List.mem_append.mpr (.inr hx)))
    · split at h
      · cases h
      · rename_i hlen
        cases h
        obtain ⟨h1, h2, h3⟩ := indices_ok hix
        exact mem_assign_new l (indices ix) new h1 h2 (by rw [h3]; exact Decidable.of_not_not hlen)

section perm
variable {α : Type}

theorem perm_erase_pick (is : List Nat) (k : Nat) (l : List α) :
    (eraseIdxsFrom is k l ++ pickIdxsFrom is k l).Perm l := by
  induction l generalizing k with
  | nil => simp [eraseIdxsFrom, pickIdxsFrom]
  | cons x xs ih =>
    rw [eraseIdxsFrom, pickIdxsFrom]
    split
    · exact List.perm_middle.trans ((ih (k + 1)).cons x)
    · exact (ih (k + 1)).cons x

theorem pick_set_of_not_mem (is : List Nat) (k : Nat) (l : List α) (i : Nat) (x : α) (h : k + i ∉ is) :
    pickIdxsFrom is k (l.set i x) = pickIdxsFrom is k l := by
  induction l generalizing k i with
  | nil => simp
  | cons y ys ih =>
    cases i with
    | zero =>
      have hc : is.contains k = false := by simpa using h
      simp only [List.set_cons_zero, pickIdxsFrom, hc]; rfl
    | succ i =>
      simp only [List.set_cons_succ, pickIdxsFrom]
      rw [ih (k + 1) i (by rw [Nat.add_assoc, Nat.add_comm 1 i]; exact h)]

theorem pick_cons_above (is : List Nat) (k : Nat) : ∀ (m : Nat) (zs : List α), k < m →
    pickIdxsFrom (k :: is) m zs = pickIdxsFrom is m zs := by
  intro m zs hm
  induction zs generalizing m with
  | nil => rfl
  | cons z zs ihz =>
    have : (k :: is).contains m = is.contains m := by
      simp only [List.contains_cons]
      have : (m == k) = false := by simp; omega
      rw [this]; rfl
    rw [pickIdxsFrom, pickIdxsFrom, this, ihz (m + 1) (by omega)]

theorem perm_pick_cons (is : List Nat) (k : Nat) (l : List α) (i : Nat) (hi : i < l.length) (hn : k + i ∉ is) :
    (pickIdxsFrom ((k + i) :: is) k l).Perm (l[i] :: pickIdxsFrom is k l) := by
  induction l generalizing k i with
  | nil => simp at hi
  | cons y ys ih =>
    cases i with
    | zero =>
      have hc : is.contains k = false := by simpa using hn
      simp only [Nat.add_zero, pickIdxsFrom, List.contains_cons, beq_self_eq_true, Bool.true_or, if_true, hc,
        List.getElem_cons_zero]
      rw [pick_cons_above is k (k + 1) ys (by omega)]; simp
    | succ i =>
      have hne : ((k + (i + 1)) :: is).contains k = is.contains k := by
        simp only [List.contains_cons]
        have : (k == k + (i + 1)) = false := by simp
        rw [this]; rfl
      have := ih (k + 1) i (by simpa using hi) (by rw [Nat.add_assoc, Nat.add_comm 1 i]; exact hn)
      rw [Nat.add_assoc, Nat.add_comm 1 i] at this
      rw [pickIdxsFrom, pickIdxsFrom, hne, List.getElem_cons_succ]
      split
      · exact (this.cons y).trans (List.Perm.swap _ _ _)
      · exact this

theorem perm_set (l : List α) (i : Nat) (x : α) (h : i < l.length) : (l.set i x ++ [l[i]]).Perm (l ++ [x]) := by
  induction l generalizing i with
  | nil => simp at h
  | cons y ys ih =>
    cases i with
    | zero => exact perm_swap_ends x y ys
    | succ i => simpa using (ih i (by simpa using h)).cons y

theorem pick_nil (k : Nat) (zs : List α) : pickIdxsFrom [] k zs = [] := by
  induction zs generalizing k with
  | nil => rfl
  | cons z zs ih => rw [pickIdxsFrom]; simp [ih]

theorem perm_assign_pick (l : List α) (is : List Nat) (xs : List α) (hn : is.Nodup) (hlt : ∀ i ∈ is, i < l.length)
    (hlen : xs.length = is.length) : (assign l is xs ++ pickIdxsFrom is 0 l).Perm (l ++ xs) := by
  induction is generalizing l xs with
  | nil =>
    cases xs with
    | nil => simp [assign, pick_nil]
    | cons y ys => simp at hlen
  | cons i is ih =>
    cases xs with
    | nil => simp at hlen
    | cons y ys =>
      rw [List.nodup_cons] at hn
      have hi : i < l.length := hlt i (by simp)
      have h1 := ih (l.set i y) ys hn.2 (fun j hj => by rw [List.length_set]; exact hlt j (by simp [hj])) (by simpa using hlen)
      rw [pick_set_of_not_mem is 0 l i y (by simpa using hn.1)] at h1
      have h3 := perm_pick_cons is 0 l i hi (by simpa using hn.1)
      rw [Nat.zero_add] at h3
      rw [assign]
      -- move `l[i]` to the front, apply the induction hypothesis behind it, then `perm_set`
      refine ((List.Perm.append_left _ h3).trans List.perm_middle).trans (((h1.cons _).trans ?_))
      have h4 := (perm_set l i y hi).append_right ys
      rw [List.append_assoc, List.append_assoc] at h4
      exact List.perm_middle.symm.trans h4

/-- the members a slice assignment replaces, as the model reports them -/
def sliceRemoved (l : List α) (s : Slice) : List α :=
  match adjust l.length s with
  | some ix =>
    if ix.step = 1 then (l.drop ix.start.toNat).take ((max ix.start ix.stop).toNat - ix.start.toNat)
    else pickIdxsFrom (indices ix) 0 l
  | none => []

theorem perm_setSlice {l l' : List α} {s : Slice} {new : List α} (h : setSlice l s new = .ok l') :
    (l' ++ sliceRemoved l s).Perm (l ++ new) := by
  unfold setSlice at h
  unfold sliceRemoved
  split at h
  · cases h
  · rename_i ix hix
    simp only [hix]
    split at h
    · rename_i h1
      cases h
      simp only [h1, if_true]
      -- with `A`, `R`, `C` the parts before, inside and after the slice: `A ++ new ++ C ++ R` against `A ++ (R ++ C) ++ new`
      have hd : (l.drop ix.start.toNat).drop ((max ix.start ix.stop).toNat - ix.start.toNat) = l.drop (max ix.start ix.stop).toNat := by
        rw [List.drop_drop]; congr 1; omega
      have hl : l = l.take ix.start.toNat ++ ((l.drop ix.start.toNat).take ((max ix.start ix.stop).toNat - ix.start.toNat) ++
          l.drop (max ix.start ix.stop).toNat) := by
        rw [← hd, List.take_append_drop, List.take_append_drop]
      generalize l.take ix.start.toNat = A, l.drop (max ix.start ix.stop).toNat = C,
        (l.drop ix.start.toNat).take ((max ix.start ix.stop).toNat - ix.start.toNat) = R at hl ⊢
      rw [hl, List.append_assoc, List.append_assoc, List.append_assoc, List.append_assoc]
      refine List.Perm.append_left A ?_
      exact (List.perm_append_comm (l₁ := new) (l₂ := C ++ R)).trans
        ((List.perm_append_comm (l₁ := C) (l₂ := R)).append_right new |>.trans (by rw [List.append_assoc]))
    · rename_i h1
      split at h
      · cases h
      · rename_i hlen
        cases h
        simp only [h1, if_false]
        obtain ⟨g1, g2, g3⟩ := indices_ok hix
        exact perm_assign_pick l (indices ix) new g1 g2 (by rw [g3]; exact Decidable.of_not_not hlen)

theorem perm_delSlice {l l' : List α} {s : Slice} (h : delSlice l s = .ok l') : (l' ++ delSliceRemoved l s).Perm l := by
  unfold delSlice at h
  unfold delSliceRemoved
  split at h
  · cases h
  · rename_i ix hix
    cases h
    exact perm_erase_pick _ _ _

theorem perm_insertAt (l : List α) (i : Int) (x : α) : (insertAt l i x).Perm (l ++ [x]) := by
  unfold insertAt
  exact List.perm_middle.trans (((List.take_append_drop _ l).symm ▸ (List.perm_append_singleton x l).symm))

theorem perm_eraseIdx_opt (l : List α) (k : Nat) : (l.eraseIdx k ++ (l[k]?).toList).Perm l := by
  induction l generalizing k with
  | nil => simp
  | cons y ys ih =>
    cases k with
    | zero => simp
    | succ k => simpa using (ih k).cons y

theorem delItem_eq {l l' : List α} {i : Int} {k : Nat} (h : delItem l i = some l')
    (hk : normIndex l.length i = some k) : l' = l.eraseIdx k := by
  unfold delItem at h; rw [hk] at h; cases h; rfl

theorem popAt_eq {α : Type} {l l' : List α} {i : Int} {x : α} (h : popAt l i = some (x, l')) :
    ∃ k, l' = l.eraseIdx k ∧ l[k]? = some x := by
  unfold popAt at h
  split at h
  · cases h
  · rename_i k _
    split at h
    · cases h
    · rename_i y hy
      cases h; exact ⟨k, rfl, hy⟩

theorem perm_popAt {l l' : List α} {i : Int} {x : α} (h : popAt l i = some (x, l')) : (l' ++ [x]).Perm l := by
  obtain ⟨k, rfl, hk⟩ := popAt_eq h
  have := perm_eraseIdx_opt l k
  rwa [hk] at this

theorem getItem_idx {l : List α} {i : Int} {x : α} {k : Nat} (h : getItem l i = some x)
    (hk : normIndex l.length i = some k) : l[k]? = some x := by
  unfold getItem at h; rw [hk] at h; exact h

end perm

theorem cntL_set (a : Nat) {l : List Node} {k : Nat} {y : Node} (h : l[k]? = some y) (x : Node) :
    cntL a (l.set k x) + cnt a y = cntL a l + cnt a x := by
  rcases List.getElem?_eq_some_iff.mp h with ⟨h1, rfl⟩
  have := cntL_perm a (perm_set l k x h1)
  rwa [cntL_append, cntL_append, cntL_singleton, cntL_singleton] at this

end Flatland.C08.Proofs
