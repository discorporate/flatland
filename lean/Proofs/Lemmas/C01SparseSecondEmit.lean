/-
C01, second round trip with SparseDicts — what emits: a stable state that emits nothing (that survives) looks like the
fresh element (`bl_stable`); `prS` keeps a Compound's own text (`uOf_prS`); below a pruning List, `prS` of an emitting
state still emits (`emitsB_prS_true`).
-/
import Proofs.Lemmas.C01SparseSecondLvl
import Proofs.Lemmas.C01SparseSecondOk
import Proofs.Lemmas.C01Silent
namespace Flatland.Flat.Proofs
open Flatland.Flat Flatland.Flat.Spec

variable {env : Env} {sep : Str}

theorem prefixFree_of_mem {fs : List Schema} (h : prefixFreeL fs = true) :
    ∀ f ∈ fs, prefixFree f = true :=
  (andL_iff rfl (fun _ _ => rfl) _).mp h

theorem bl_stable (s : Schema) (hw : wf s = true) (hpf : prefixFree s = true)
    (u : Bool) (x : Elem) (hok : OkS env s x)
    (hst : StableS env sep u s x) (hem : emitsB env u s x = false) :
    LvlEq (resolve env s x) (resolve env s (blank s)) := by
  have h := lvl_prS (env := env) (sep := sep) s hw u x hok hst
  rw [prS_silent s u x hok hem] at h
  exact h.symm

theorem full_mem {fields : List Schema} {ms : List (Str × Elem)}
    (h : ms.map (·.1) = fields.map (fun f => f.name.getD [])) :
    ∀ f ∈ fields, f.name.getD [] ∈ ms.map (·.1) := by
  intro f hf
  rw [h]
  exact List.mem_map.mpr ⟨f, hf, rfl⟩

theorem uOf_prS : ∀ s : Schema, wf s = true → prefixFree s = true →
    ∀ (u : Bool) (e : Elem), OkS env s e → compoundsFull s e = true →
      uOf env s (prS env sep u s e) = uOf env s e := by
  intro s
  induction s using schema_ind with
  | hleaf nm o k => intro _ _ u e _ _; rw [prS_leaf]
  | hjoined nm o k mem =>
    intro _ _ u e hok _
    obtain ⟨t, ms, rfl, _⟩ := okS_joined_inv hok
    rw [prS_joined]
    rfl
  | hdict nm o mode fields ih => intro _ _ u e _ _; rw [uOf_dict_nil, uOf_dict_nil]
  | hlist nm o p mx member ih => intro _ _ u e _ _; rw [uOf_list_nil, uOf_list_nil]
  | harray nm o p member ih => intro _ _ u e _ _; rw [uOf_array_nil, uOf_array_nil]
  | hcompound nm o k fields ih =>
    intro hw hpf u e hok hcf
    obtain ⟨ms, rfl, hkeys, hmem⟩ := okS_dict_inv ((okS_compound nm o k fields e).mp hok)
    obtain ⟨hnd, hsome, hwf⟩ := wf_compound hw
    simp only [prefixFree, Bool.and_eq_true] at hpf
    simp only [compoundsFull, Bool.and_eq_true, decide_eq_true_eq] at hcf
    rw [prS_compound, prS_dict, uOf_compound, uOf_compound]
    congr 1
    apply usOf_congr
    intro f hf
    obtain ⟨e, hl⟩ := lookup_of_keys_full (full_mem hcf.1) f hf
    refine ⟨_, e, lookup_pick_req fields hnd hsome _ _ _ f hf rfl, hl, ?_⟩
    rw [vOf_valS fields hnd hsome ms hmem u f hf]
    simp only [valS, hl]
    exact ih f hf (hwf f hf) (prefixFree_of_mem hpf.1 f hf) u e
      (okS_member_lookup hnd hmem hf (name_eq_nmOf hsome hf) hl) ((compoundsFullMs_iff _ _).mp hcf.2 f hf e hl)

theorem pick_emits (fields : List Schema) (hnd : (namesOf fields).Nodup)
    (hsome : ∀ g ∈ fields, g.name.isSome) (hpf : NamesPF fields) (ms : List (Str × Elem))
    (hkeys : (ms.map (·.1)).Nodup) (req : Schema → Bool)
    (hih : ∀ f ∈ fields, ∀ e, lookup (f.name.getD []) ms = some e → emitsB env true f e = true →
      emitsB env true f (prS env sep true f e) = true)
    (h : ∃ p ∈ ms, ∃ f, findField p.1 fields = some f ∧ emitsB env true f p.2 = true) :
    ∃ p ∈ pickV req (innerPairs env sep true fields ms) (valS env sep true ms) true fields
        ++ pickV req (innerPairs env sep true fields ms) (valS env sep true ms) false fields,
      ∃ f, findField p.1 fields = some f ∧ emitsB env true f p.2 = true := by
  obtain ⟨p, hp, f, hff, hemf⟩ := h
  obtain ⟨hf, hname⟩ := findField_someS hff
  have hl : lookup (f.name.getD []) ms = some p.2 := by
    rw [hname]; exact lookup_of_mem_nodup hkeys hp
  have ht : touched (innerPairs env sep true fields ms) f = true :=
    (touched_iff fields hnd hsome hpf ms hkeys f hf true).mpr ⟨p.2, hl, hemf⟩
  have hm := mem_pick_of_keep req (innerPairs env sep true fields ms) (valS env sep true ms) fields f hf
    (by simp [ht])
  rw [ht] at hm
  refine ⟨_, hm, f, ?_, ?_⟩
  · simp only [hname, Option.getD_some]; exact hff
  · simp only [valS, hl]
    exact hih f hf p.2 hl hemf

theorem emitsB_prS_true : ∀ s : Schema, wf s = true → prefixFree s = true →
    ∀ e : Elem, OkS env s e → compoundsFull s e = true → emitsB env true s e = true →
      emitsB env true s (prS env sep true s e) = true := by
  intro s
  induction s using schema_ind with
  | hleaf nm o k =>
    intro _ _ e _ _ h
    rw [prS_leaf]; exact h
  | hjoined nm o k mem =>
    intro _ _ e hok _ h
    obtain ⟨t, ms, rfl, _⟩ := okS_joined_inv hok
    rw [emitsB_joined] at h
    rw [prS_joined, emitsB_joined]
    exact h
  | hdict nm o mode fields ih =>
    intro hw hpf e hok hcf h
    obtain ⟨ms, rfl, hkeys, hmem⟩ := okS_dict_inv hok
    obtain ⟨hnd, hsome, hwf⟩ := wf_dict hw
    simp only [prefixFree, Bool.and_eq_true] at hpf
    simp only [compoundsFull] at hcf
    rw [prS_dict]
    exact (emitsB_dictS env true nm o mode fields _).mpr
      (pick_emits fields hnd hsome (namesPF_of_all fields hpf.2) ms hkeys _
        (fun f hf e hl => ih f hf (hwf f hf) (prefixFree_of_mem hpf.1 f hf) e
          (okS_member_lookup hnd hmem hf (name_eq_nmOf hsome hf) hl) ((compoundsFullMs_iff _ _).mp hcf f hf e hl))
        ((emitsB_dictS env true nm o mode fields ms).mp h))
  | hcompound nm o k fields ih =>
    intro hw hpf e hok hcf h
    have hu := uOf_prS (env := env) (sep := sep) (.compound nm o k fields) hw hpf true e hok hcf
    obtain ⟨ms, rfl, hkeys, hmem⟩ := okS_dict_inv ((okS_compound nm o k fields e).mp hok)
    obtain ⟨hnd, hsome, hwf⟩ := wf_compound hw
    simp only [prefixFree, Bool.and_eq_true] at hpf
    simp only [compoundsFull, Bool.and_eq_true, decide_eq_true_eq] at hcf
    rw [prS_compound, prS_dict] at hu ⊢
    rw [uOf_compound, uOf_compound] at hu
    apply (emitsB_compoundS env true nm o k fields _).mpr
    rcases (emitsB_compoundS env true nm o k fields ms).mp h with h | h
    · left; rw [hu]; exact h
    · exact Or.inr (pick_emits fields hnd hsome (namesPF_of_all fields hpf.2) ms hkeys _
        (fun f hf e hl => ih f hf (hwf f hf) (prefixFree_of_mem hpf.1 f hf) e
          (okS_member_lookup hnd hmem hf (name_eq_nmOf hsome hf) hl) ((compoundsFullMs_iff _ _).mp hcf.2 f hf e hl)) h)
  | hlist nm o p mx member ih =>
    intro hw hpf e hok hcf h
    obtain ⟨ms, rfl, _, _, hmem⟩ := okS_list_inv hok
    simp only [wf] at hw
    simp only [prefixFree] at hpf
    simp only [compoundsFull, List.all_eq_true] at hcf
    rw [emitsB_list] at h
    rw [prS_list true nm o p mx member ms hmem, emitsB_list]
    exact any_prList p member _ ms (fun m hm => ih hw hpf m (hmem m hm) (hcf m hm)) h
  | harray nm o p member ih =>
    intro _ _ e hok _ h
    obtain ⟨ms, rfl, _⟩ := okS_array_inv hok
    rw [prS_array]
    simp only [Bool.true_or]
    rw [emitsB_array] at h ⊢
    simpa [List.any_filter] using h

end Flatland.Flat.Proofs
