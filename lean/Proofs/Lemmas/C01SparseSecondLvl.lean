/-
C01, second round trip with SparseDicts — on a stable state `prS` is invisible level by level.
-/
import Proofs.Lemmas.C01SparseSecondStable
import Proofs.Lemmas.C01SparseSecondOk
namespace Flatland.Flat.Proofs
open Flatland.Flat Flatland.Flat.Spec

variable {env : Env} {sep : Str}

theorem uOf_dict_nil (env : Env) (nm : Option Str) (o : Bool) (mode : DictMode) (fields : List Schema)
    (x : Elem) : uOf env (.dict nm o mode fields) x = [] := by cases x <;> simp [uOf]
theorem uOf_list_nil (env : Env) (nm : Option Str) (o p : Bool) (mx : Nat) (member : Schema)
    (x : Elem) : uOf env (.list nm o p mx member) x = [] := by cases x <;> simp [uOf]
theorem uOf_array_nil (env : Env) (nm : Option Str) (o p : Bool) (member : Schema)
    (x : Elem) : uOf env (.array nm o p member) x = [] := by cases x <;> simp [uOf]

theorem uOf_leaf (env : Env) (nm : Option Str) (o : Bool) (k : Nat) (x : Elem) :
    uOf env (.leaf nm o k) x = (match x with | .leaf u => u | _ => []) := by cases x <;> simp [uOf]
theorem uOf_joined (env : Env) (nm : Option Str) (o : Bool) (k : Nat) (m : Schema) (x : Elem) :
    uOf env (.joined nm o k m) x = (match x with | .joined u _ => u | _ => []) := by
  cases x <;> simp [uOf]

theorem uOf_of_lvlEq (s : Schema) (a b : Elem) (h : LvlEq (resolve env s a) (resolve env s b)) :
    uOf env s a = uOf env s b := by
  have h0 := h 0
  cases s with
  | leaf nm o k =>
    unfold resolve at h0
    rw [lvl_zero_mk, lvl_zero_mk] at h0
    simp only [if_true, List.cons.injEq, Prod.mk.injEq, true_and, and_true] at h0
    rw [uOf_leaf, uOf_leaf]; exact h0
  | joined nm o k mem =>
    unfold resolve at h0
    rw [lvl_zero_mk, lvl_zero_mk] at h0
    simp only [if_true, List.cons.injEq, Prod.mk.injEq, true_and, and_true] at h0
    rw [uOf_joined, uOf_joined]; exact h0
  | compound nm o k fields =>
    unfold resolve at h0
    rw [lvl_zero_mk, lvl_zero_mk] at h0
    simpa using h0
  | dict nm o mode fields => rw [uOf_dict_nil, uOf_dict_nil]
  | list nm o p mx member => rw [uOf_list_nil, uOf_list_nil]
  | array nm o p member => rw [uOf_array_nil, uOf_array_nil]

theorem usOf_congr (env : Env) : ∀ (fs : List Schema) (ms ms' : List (Str × Elem)),
    (∀ f ∈ fs, ∃ e e', lookup (f.name.getD []) ms = some e ∧ lookup (f.name.getD []) ms' = some e' ∧
      uOf env f e = uOf env f e') → usOf env fs ms = usOf env fs ms'
  | [], _, _, _ => by simp [usOf]
  | f :: fs, ms, ms', h => by
    obtain ⟨e, e', h1, h2, h3⟩ := h f (by simp)
    simp only [usOf, h1, h2, h3,
      usOf_congr env fs ms ms' (fun g hg => h g (List.mem_cons_of_mem _ hg))]

theorem lookup_of_keys_full {fields : List Schema} {ms : List (Str × Elem)}
    (hfull : ∀ f ∈ fields, f.name.getD [] ∈ ms.map (·.1)) (f : Schema) (hf : f ∈ fields) :
    ∃ e, lookup (f.name.getD []) ms = some e :=
  Option.isSome_iff_exists.mp (by rw [lookup_eq]; exact Assoc.isSome_get_iff.mpr (hfull f hf))

theorem lvl_prS : ∀ s : Schema, wf s = true →
    ∀ (u : Bool) (e : Elem), OkS env s e → StableS env sep u s e →
      LvlEq (resolve env s (prS env sep u s e)) (resolve env s e) := by
  intro s
  induction s using schema_ind with
  | hleaf nm o k =>
    intro _ u e _ _
    rw [prS_leaf]
    exact LvlEq.refl _
  | hjoined nm o k mem =>
    intro _ u e hok _
    obtain ⟨t, ms, rfl, _⟩ := okS_joined_inv hok
    rw [prS_joined, resolve_joined, resolve_joined]
    exact lvlEq_nocfl _ _ _ _ _ _ _
  | hdict nm o mode fields ih =>
    intro hw u e hok hst
    obtain ⟨ms, rfl, hkeys, hmem⟩ := okS_dict_inv hok
    obtain ⟨hnd, hsome, hwf⟩ := wf_dict hw
    simp only [StableS] at hst
    rw [prS_dict, resolve_dictS, resolve_dictS]
    exact lvlEq_mapping nm false [] u (isReq mode) fields hnd hsome ms hkeys _ hst.1 hst.2
      (fun f hf e hl hs => ih f hf (hwf f hf) u e
        (okS_member_lookup hnd hmem hf (name_eq_nmOf hsome hf) hl) hs)
  | hcompound nm o k fields ih =>
    intro hw u e hok hst
    obtain ⟨ms, rfl, hkeys, hmem⟩ := okS_dict_inv ((okS_compound nm o k fields e).mp hok)
    obtain ⟨hnd, hsome, hwf⟩ := wf_compound hw
    simp only [StableS] at hst
    have hih : ∀ f ∈ fields, ∀ e, lookup (f.name.getD []) ms = some e → StableS env sep u f e →
        LvlEq (resolve env f (prS env sep u f e)) (resolve env f e) :=
      fun f hf e hl hs => ih f hf (hwf f hf) u e
        (okS_member_lookup hnd hmem hf (name_eq_nmOf hsome hf) hl) hs
    -- a stable Compound state holds all its fields
    have hfull : ∀ f ∈ fields, f.name.getD [] ∈ ms.map (·.1) := by
      intro f hf
      have h1 := hst.1
      rw [(pickKeys_all _ fields).1, (pickKeys_all _ fields).2, List.append_nil] at h1
      have : f.name.getD [] ∈ fields.map (fun f => f.name.getD []) := List.mem_map.mpr ⟨f, hf, rfl⟩
      rw [← h1] at this
      obtain ⟨p, hp, hk⟩ := List.mem_map.mp this
      exact List.mem_map.mpr ⟨p, (List.mem_filter.mp hp).1, hk⟩
    rw [prS_compound, prS_dict, resolve_compoundS, resolve_compoundS]
    have hu : usOf env fields
        (pickV (isReq .dense) (innerPairs env sep u fields ms) (valS env sep u ms) true fields
          ++ pickV (isReq .dense) (innerPairs env sep u fields ms) (valS env sep u ms) false fields)
        = usOf env fields ms := by
      apply usOf_congr
      intro f hf
      obtain ⟨e, hl⟩ := lookup_of_keys_full hfull f hf
      exact ⟨_, e, lookup_pick_req fields hnd hsome _ _ _ f hf rfl, hl,
        uOf_of_lvlEq f _ _ (lvlEq_rebuilt_field hst.2 hih hf hl rfl)⟩
    rw [hu]
    exact lvlEq_mapping nm true _ u (fun _ => true) fields hnd hsome ms hkeys _ hst.1 hst.2 hih
  | hlist nm o p mx member ih =>
    intro hw u e hok hst
    obtain ⟨ms, rfl, _, _, hmem⟩ := okS_list_inv hok
    simp only [wf] at hw
    rw [prS_list u nm o p mx member ms hmem]
    exact lvlEq_prList nm o p mx member u _ _ ms ((stableS_list ..).mp hst)
      (fun m hm v => ih hw v m (hmem m hm)) (fun m hm => prS_silent member u m (hmem m hm))
  | harray nm o p member ih =>
    intro _ u e hok hst
    obtain ⟨ms, rfl, _⟩ := okS_array_inv hok
    simp only [StableS] at hst
    rw [prS_array, List.filter_eq_self.mpr hst]
    exact LvlEq.refl _

theorem flatten_prS_of_stable (env : Env) (sep sep' : Str) (s : Schema) (u : Bool) (e : Elem)
    (hw : wf s = true) (hok : OkS env s e)
    (hst : StableS env sep u s e) :
    flatten env sep' s (prS env sep u s e) = flatten env sep' s e := by
  rw [flatten_eq_relFlat, flatten_eq_relFlat, relFlat_of_lvlEq (lvl_prS s hw u e hok hst)]

end Flatland.Flat.Proofs
