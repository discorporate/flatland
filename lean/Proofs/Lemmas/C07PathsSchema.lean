/-
C07, uniqueness of name paths — schema level.  By induction over conforming states (`okP_ind`) of well-formed schemas
without SparseDicts: a state whose Arrays / MultiValues hold at most one member (`arrLe1`) emits pairwise distinct
token paths, every token a declared name or a decimal index (`pathsOK_resolve`); cutting every Array / MultiValue down
to its first member (`firstOnly`) yields a conforming `arrLe1` state emitting the same *set* of paths.
-/
import Proofs.Lemmas.C07Paths
namespace Flatland.Flat.Proofs
open Flatland.Flat Flatland.Flat.Spec

mutual
/-- no Array / MultiValue where `flatten()` looks (the members of a JoinedString are never
    flattened, so they are not inspected) -/
def noArray : Schema → Bool
  | .leaf .. => true
  | .joined .. => true
  | .dict _ _ _ fields => noArrayL fields
  | .compound _ _ _ fields => noArrayL fields
  | .list _ _ _ _ member => noArray member
  | .array .. => false
def noArrayL : List Schema → Bool
  | [] => true
  | f :: fs => noArray f && noArrayL fs
end

mutual
/-- every Array / MultiValue of the state holds at most one member -/
def arrLe1 : Schema → Elem → Prop
  | .dict _ _ _ fields, .dict ms => arrLe1Fields fields ms
  | .compound _ _ _ fields, .dict ms => arrLe1Fields fields ms
  | .list _ _ _ _ member, .list ms => ∀ e ∈ ms, arrLe1 member e
  | .array .., .array ms => ms.length ≤ 1
  | _, _ => True
def arrLe1Fields : List Schema → List (Str × Elem) → Prop
  | f :: fs, (_, e) :: ms => arrLe1 f e ∧ arrLe1Fields fs ms
  | _, _ => True
end

mutual
/-- the state with every Array / MultiValue cut down to its first member -/
def firstOnly : Schema → Elem → Elem
  | .dict _ _ _ fields, .dict ms => .dict (firstOnlyFields fields ms)
  | .compound _ _ _ fields, .dict ms => .dict (firstOnlyFields fields ms)
  | .list _ _ _ _ member, .list ms => .list (ms.map (firstOnly member))
  | .array .., .array ms => .array (ms.take 1)
  | _, e => e
def firstOnlyFields : List Schema → List (Str × Elem) → List (Str × Elem)
  | f :: fs, (k, e) :: ms => (k, firstOnly f e) :: firstOnlyFields fs ms
  | _, ms => ms
end

theorem noArray_compound (nm : Option Str) (o : Bool) (k : Nat) (fs : List Schema) :
    noArray (.compound nm o k fs) = noArray (.dict nm o .dense fs) := by rw [noArray, noArray]

theorem arrLe1_compound (nm : Option Str) (o : Bool) (k : Nat) (fs : List Schema) (e : Elem) :
    arrLe1 (.compound nm o k fs) e = arrLe1 (.dict nm o .dense fs) e := by
  cases e <;> simp only [arrLe1]

theorem firstOnly_compound (nm : Option Str) (o : Bool) (k : Nat) (fs : List Schema) (e : Elem) :
    firstOnly (.compound nm o k fs) e = firstOnly (.dict nm o .dense fs) e := by
  cases e <;> simp only [firstOnly]

theorem resKids_map_name (env : Env) : ∀ (fs : List Schema) (ms : List (Str × Elem)),
    OkPFields env fs ms → (resKids env fs ms).map FNode.name = namesOf fs
  | [], [], _ => by simp [resKids, namesOf]
  | [], _ :: _, h => by simp [OkPFields] at h
  | _ :: _, [], h => by simp [OkPFields] at h
  | f :: fs, (key, e) :: ms, h => by
    simp only [OkPFields] at h
    simp only [resKids, List.map_cons, namesOf, resolve_name, resKids_map_name env fs ms h.2.2]

theorem resKids_facts (env : Env) (fields : List Schema) (hnd : (namesOf fields).Nodup)
    (hsome : ∀ g ∈ fields, g.name.isSome) (ms : List (Str × Elem)) (hok : OkPFields env fields ms) :
    (∀ k ∈ resKids env fields ms, k.name.isSome) ∧ ((resKids env fields ms).map FNode.name).Nodup := by
  refine ⟨?_, by rw [resKids_map_name env fields ms hok]; exact hnd⟩
  intro k hk
  have h1 := resKids_namesP env fields ms hok k hk
  obtain ⟨g, hg, hgn⟩ := exists_of_mem_namesOf h1
  rw [← hgn]
  exact hsome g hg

theorem pathsOK_resolve (env : Env) : ∀ s : Schema, wf s = true → dense s = true →
    ∀ e, OkP env s e → arrLe1 s e → PathsOK (Tok s) (resolve env s e) := by
  have hidx : ∀ (s : Schema) i, Tok s (natStr i) := fun _ i => Or.inr ⟨i, rfl⟩
  have sub : ∀ {c s : Schema} {k : FNode}, (∀ t ∈ names c, t ∈ names s) → PathsOK (Tok c) k → PathsOK (Tok s) k :=
    fun h hk => ⟨hk.1, fun π hπ t ht => (hk.2 π hπ t ht).imp_left (h t)⟩
  -- for the members of a mapping: the statement for each resolved member, tokens among the fields' names
  refine okP_ind
    (Q := fun fs ms => arrLe1Fields fs ms →
      ∀ k ∈ resKids env fs ms, (paths k).Nodup ∧ ∀ π ∈ paths k, ∀ t ∈ π, t ∈ namesL fs ∨ ∃ i, t = natStr i)
    ?_ ?_ ?_ ?_ ?_ ?_ ?_ ?_
  · intro nm o k t _ _
    rw [resolve_leaf]
    exact pathsOK_mk_of (hidx _) (by rintro x rfl; exact Or.inl (by simp [names])) (by simp)
      (fun _ => nodup_paths_own _ _ _ _ _ _ (Or.inr rfl))
  · intro nm o k mem t ms _ _ _
    rw [resolve_joined]
    refine ⟨nodup_paths_own _ _ _ _ _ _ (Or.inl rfl), fun π hπ => ?_⟩
    rcases (mem_paths_mk _ _ _ _ _ _ π).mp hπ with ⟨_, rfl⟩ | ⟨h, _⟩
    · intro t ht
      exact Or.inl (by simp [names, Option.mem_toList.mp ht])
    · cases h
  · intro nm o fields ms _ _ hnd hsome hok ih hle
    rw [resolve_dict env nm o fields hnd hsome ms hok]
    obtain ⟨h1, h2⟩ := resKids_facts env fields hnd hsome ms hok
    exact pathsOK_mk_of (hidx _) (by rintro x rfl; exact Or.inl (by simp [names]))
      (fun k hk => ⟨(ih hle k hk).1,
        fun π hπ t ht => ((ih hle k hk).2 π hπ t ht).imp_left (by simp [names]; exact Or.inr)⟩)
      (nodup_paths_mapping _ _ _ _ _ h1 h2)
  · intro nm o k fields ms _ _ hnd hsome hok ih hle
    rw [resolve_compound env nm o k fields hnd hsome ms hok]
    obtain ⟨h1, h2⟩ := resKids_facts env fields hnd hsome ms hok
    exact pathsOK_mk_of (hidx _) (by rintro x rfl; exact Or.inl (by simp [names]))
      (fun k hk => ⟨(ih hle k hk).1,
        fun π hπ t ht => ((ih hle k hk).2 π hπ t ht).imp_left (by simp [names]; exact Or.inr)⟩)
      (nodup_paths_mapping _ _ _ _ _ h1 h2)
  · intro nm o p mx member ms _ _ _ _ _ ih hle
    rw [resolve_list]
    refine pathsOK_mk_of (hidx _) (by rintro x rfl; exact Or.inl (by simp [names])) ?_ (nodup_paths_slots _ _ _ _)
    intro k hk
    obtain ⟨m, hm, rfl⟩ := List.mem_map.mp hk
    exact sub (by simp [names]; exact fun _ => Or.inr) (ih m hm (hle m hm))
  · intro nm o p member ms _ _ hleaf _ ih hle
    rw [resolve_array]
    simp only [arrLe1] at hle
    refine pathsOK_mk_of (hidx _) (by rintro x rfl; exact Or.inl (by simp [names])) ?_
      (nodup_paths_le1 _ _ _ _ (by rw [List.length_map]; exact hle))
    intro k hk
    obtain ⟨m, hm, rfl⟩ := List.mem_map.mp hk
    obtain ⟨n, o', k', rfl⟩ := hleaf
    exact sub (by simp [names]; exact fun _ => Or.inr) (ih m hm (by simp [arrLe1]))
  · intro _ k hk; simp [resKids] at hk
  · intro f fs k e ms _ _ _ _ _ hf ih hle x hx
    simp only [arrLe1Fields] at hle
    simp only [resKids, List.mem_cons] at hx
    rcases hx with rfl | hx
    · exact ⟨(hf hle.1).1,
        fun π hπ t ht => ((hf hle.1).2 π hπ t ht).imp_left (by simp [namesL]; exact Or.inl)⟩
    · exact ⟨(ih hle.2 x hx).1,
        fun π hπ t ht => ((ih hle.2 x hx).2 π hπ t ht).imp_left (by simp [namesL]; exact Or.inr)⟩

theorem noArray_of_mem (fs : List Schema) (h : noArrayL fs = true) : ∀ f ∈ fs, noArray f = true :=
  (andL_iff rfl (fun _ _ => rfl) fs).mp h

theorem arrLe1Fields_of_all : ∀ (fs : List Schema) (ms : List (Str × Elem)),
    (∀ f ∈ fs, ∀ e, arrLe1 f e) → arrLe1Fields fs ms
  | [], _, _ => by simp [arrLe1Fields]
  | _ :: _, [], _ => by simp [arrLe1Fields]
  | f :: fs, (k, e) :: ms, h => by
    simp only [arrLe1Fields]
    exact ⟨h f (by simp) e, arrLe1Fields_of_all fs ms (fun g hg => h g (List.mem_cons_of_mem _ hg))⟩

theorem arrLe1_of_noArray : ∀ s : Schema, noArray s = true → ∀ e, arrLe1 s e := by
  intro s
  induction s using schema_ind_mapping with
  | hleaf nm o k => intro _ e; simp [arrLe1]
  | hjoined nm o k m => intro _ e; simp [arrLe1]
  | hdict nm o mode fields ih =>
    intro h e
    simp only [noArray] at h
    cases e with
    | dict ms =>
      simp only [arrLe1]
      exact arrLe1Fields_of_all fields ms (fun f hf => ih f hf (noArray_of_mem fields h f hf))
    | _ => simp [arrLe1]
  | hcompound nm o k fields h => simpa only [noArray_compound, arrLe1_compound] using h
  | hlist nm o p mx member ih =>
    intro h e
    simp only [noArray] at h
    cases e with
    | list ms =>
      simp only [arrLe1]
      exact fun m _ => ih h m
    | _ => simp [arrLe1]
  | harray nm o p member ih => intro h; simp [noArray] at h

/-- what the induction carries for one schema -/
def FirstOnlyOK (env : Env) (s : Schema) : Prop :=
  ∀ e, OkP env s e →
    OkP env s (firstOnly s e) ∧ arrLe1 s (firstOnly s e) ∧
      samePaths (resolve env s e) (resolve env s (firstOnly s e))

theorem samePathsL_map (env : Env) (member : Schema) : ∀ (ms : List Elem),
    (∀ m ∈ ms, samePaths (resolve env member m) (resolve env member (firstOnly member m))) →
      samePathsL (ms.map (resolve env member)) ((ms.map (firstOnly member)).map (resolve env member))
  | [], _ => by simp [samePathsL]
  | m :: ms, h => by
    simp only [List.map_cons, samePathsL]
    exact ⟨h m (by simp), samePathsL_map env member ms (fun x hx => h x (List.mem_cons_of_mem _ hx))⟩

theorem paths_resolve_leaf (env : Env) (n : Option Str) (o : Bool) (k : Nat) (e : Elem) :
    paths (resolve env (.leaf n o k) e) = [n.toList] := by
  unfold resolve
  rw [paths_mk]
  simp [kidsFrom, qpaths_nil]

theorem firstOnly_ok (env : Env) : ∀ s : Schema, wf s = true → dense s = true → FirstOnlyOK env s := by
  refine okP_ind (P := fun s e => OkP env s (firstOnly s e) ∧ arrLe1 s (firstOnly s e) ∧
        samePaths (resolve env s e) (resolve env s (firstOnly s e)))
    (Q := fun fs ms => OkPFields env fs (firstOnlyFields fs ms) ∧ arrLe1Fields fs (firstOnlyFields fs ms) ∧
        samePathsL (resKids env fs ms) (resKids env fs (firstOnlyFields fs ms)))
    ?_ ?_ ?_ ?_ ?_ ?_ ?_ ?_
  · intro nm o k t h
    exact ⟨h, by simp [arrLe1], samePaths_refl _⟩
  · intro nm o k mem t ms h1 h2
    exact ⟨⟨h1, h2⟩, by simp [arrLe1], samePaths_refl _⟩
  · intro nm o fields ms _ _ hnd hsome hok ⟨h1, h2, h3⟩
    simp only [firstOnly, OkP, arrLe1]
    refine ⟨⟨trivial, h1⟩, h2, ?_⟩
    rw [resolve_dict env nm o fields hnd hsome ms hok, resolve_dict env nm o fields hnd hsome _ h1]
    exact samePaths_mk _ _ _ _ _ _ _ _ h3
  · intro nm o k fields ms _ _ hnd hsome hok ⟨h1, h2, h3⟩
    simp only [firstOnly, OkP, arrLe1]
    refine ⟨h1, h2, ?_⟩
    rw [resolve_compound env nm o k fields hnd hsome ms hok, resolve_compound env nm o k fields hnd hsome _ h1]
    exact samePaths_mk _ _ _ _ _ _ _ _ h3
  · intro nm o p mx member ms _ _ hlen hdig _ ih
    simp only [firstOnly, OkP, arrLe1, List.length_map, List.mem_map, forall_exists_index, and_imp,
      forall_apply_eq_imp_iff₂]
    refine ⟨⟨hlen, hdig, fun m hm => (ih m hm).1⟩, fun m hm => (ih m hm).2.1, ?_⟩
    rw [resolve_list, resolve_list]
    exact samePaths_mk _ _ _ _ _ _ _ _ (samePathsL_map env member ms (fun m hm => (ih m hm).2.2))
  · intro nm o p member ms _ _ hleaf hok _
    simp only [firstOnly, OkP, arrLe1]
    refine ⟨⟨hleaf, fun x hx => hok x (List.mem_of_mem_take hx)⟩, by rw [List.length_take]; omega, ?_⟩
    rw [resolve_array, resolve_array, List.map_take]
    obtain ⟨n, o', k', rfl⟩ := hleaf
    apply samePaths_take1 _ _ _ _ _ _ n.toList
    intro k hk
    obtain ⟨m, _, rfl⟩ := List.mem_map.mp hk
    exact paths_resolve_leaf env n o' k' m
  · simp [firstOnlyFields, OkPFields, arrLe1Fields, resKids, samePathsL]
  · intro f fs k e ms _ _ hk _ _ hf ih
    simp only [firstOnlyFields, OkPFields, arrLe1Fields, resKids, samePathsL]
    exact ⟨⟨hk, hf.1, ih.1⟩, ⟨hf.2.1, ih.2.1⟩, ⟨hf.2.2, ih.2.2⟩⟩

end Flatland.Flat.Proofs
