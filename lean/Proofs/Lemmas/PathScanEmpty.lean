/-
The scanner and the token loop on paths made of name segments, some of which may be EMPTY
(05c4adc: an unnamed child of a mapping is spelled by the empty step, `'//x'`, `'/l/0//'`, `'///y'`).
-/
import Flatland.Path
import Proofs.Lemmas.PathScan
namespace Flatland.Path.Lemmas
open Flatland.Path

/-- `fq_name()` emits `'/' + '/'.join(parts)` and one more slash when the last part is empty.  Read from
    the left, after the leading slash, this is: every segment followed by a slash, except a non-empty
    last one.  In that grouping every segment yields exactly one op (`tokLoop_scan_suf`). -/
def sufJoin : List Str → Str
  | [] => []
  | [s] => if s.isEmpty then ['/'] else s
  | s :: r => s ++ '/' :: sufJoin r

theorem sufJoin_cons2 (s s2 : Str) (r : List Str) :
    sufJoin (s :: s2 :: r) = s ++ '/' :: sufJoin (s2 :: r) := rfl

theorem sufJoin_nil_cons (r : List Str) : sufJoin ([] :: r) = '/' :: sufJoin r := by
  cases r <;> rfl

theorem joinSlash_sufJoin (l : List Str) :
    joinSlash l ++ (if lastEmpty l then ['/'] else []) = sufJoin l := by
  induction l with
  | nil => rfl
  | cons s rest ih =>
    cases rest with
    | nil => cases s with
      | nil => rfl
      | cons c r => exact List.append_nil _
    | cons s2 r =>
      have hl : lastEmpty (s :: s2 :: r) = lastEmpty (s2 :: r) := by
        simp only [lastEmpty, List.getLast?_cons_cons]
      rw [sufJoin_cons2, ← ih, hl]
      exact List.append_assoc s ('/' :: joinSlash (s2 :: r)) _

/-- the op of one step: the empty step is `(NAME, None)` -/
def stepData (s : Str) : Option Str := if s.isEmpty then none else some (unescape s)

def stepOp (s : Str) : Op := .name (stepData s)

/-- segments are clean name runs (the empty one included); only the last may end in a lone backslash -/
def SufOK : List Str → Prop
  | [] => True
  | [s] => cleanB true s = true
  | s :: r => cleanB false s = true ∧ SufOK r

theorem SufOK.tail {s : Str} {r : List Str} (h : SufOK (s :: r)) : SufOK r := by
  cases r with
  | nil => trivial
  | cons _ _ => exact h.2

theorem stepOp_of_ne_nil {s : Str} (h : s ≠ []) : stepOp s = .name (some (unescape s)) := by
  cases s with
  | nil => exact absurd rfl h
  | cons _ _ => rfl

/-- One op per segment: a non-empty segment `s` followed by `/` gives the tokens `s`, `/` — NAME
    unescape(s), and the slash (its `last` is `s`, not a slash) emits nothing; an empty segment is the
    token `/` alone, with `last == '/'` — NAME None, emitted by the slash that CLOSES the segment.  Only an
    empty first segment needs the state to come from a slash. -/
theorem tokLoop_scan_suf (segs : List Str) : ∀ (prev : Option Char) (st : TState),
    SufOK segs → prev ≠ some '\\' → (segs.head? = some [] → st.last = some ['/']) →
    (∀ s ∈ segs, s = [] ∨ PlainSeg s) →
    ∃ l, tokLoop st (scan prev (sufJoin segs)) =
      .ok { toks := (segs.map stepOp).reverse ++ st.toks, last := l, canonical := st.canonical } := by
  induction segs with
  | nil => exact fun prev st _ _ _ _ => ⟨st.last, by rw [sufJoin, scan_nil]; rfl⟩
  | cons s rest ih =>
    intro prev st hok hp hl hs
    have hrest : ∀ x ∈ rest, x = [] ∨ PlainSeg x := fun x hx => hs x (List.mem_cons_of_mem _ hx)
    cases s with
    | nil =>
      obtain ⟨l, h⟩ := ih (some '/') { st with toks := .name none :: st.toks, last := some ['/'] }
        hok.tail (by decide) (fun _ => rfl) hrest
      refine ⟨l, ?_⟩
      rw [sufJoin_nil_cons, scan_slash prev _ hp, tokLoop, tokStep_slash_slash st (hl rfl)]
      simp only [h, List.map_cons, List.reverse_cons, List.append_assoc, List.cons_append, List.nil_append]
      rfl
    | cons c r =>
      have hps : PlainSeg (c :: r) := (hs _ List.mem_cons_self).resolve_left nofun
      cases rest with
      | nil =>
        refine ⟨some (c :: r), ?_⟩
        have hsc := scan_run true prev (c :: r) [] nofun hok (Or.inl rfl) (fun _ => rfl)
        rw [List.append_nil, scan_nil] at hsc
        show tokLoop st (scan prev (c :: r)) = _
        rw [hsc, tokLoop, tokStep_seg st _ hps]
        rfl
      | cons s2 rest =>
        obtain ⟨l, h⟩ := ih (some '/')
          { st with toks := .name (some (unescape (c :: r))) :: st.toks, last := some ['/'] }
          hok.2 (by decide) (fun _ => rfl) hrest
        refine ⟨l, ?_⟩
        rw [sufJoin_cons2, scan_run false prev (c :: r) _ nofun hok.1 (Or.inr ⟨_, Or.inl rfl⟩) nofun,
          scan_slash _ _ (clean_getLast _ hok.1), tokLoop, tokStep_seg st _ hps]
        simp only [tokLoop]
        rw [tokStep_slash_after _ (c :: r) rfl hps.1]
        simp only [h, List.map_cons, List.reverse_cons, List.append_assoc, List.cons_append, List.nil_append,
          stepOp_of_ne_nil (List.cons_ne_nil c r)]

/-- **`tokenize('/' + seg/seg/.../)`** with empty segments: TOP, then one op per segment — NAME None for
    an empty one, NAME unescape(seg) otherwise -/
theorem tokenize_sufJoin (segs : List Str) (hok : SufOK segs) (hp : ∀ s ∈ segs, s = [] ∨ PlainSeg s) :
    tokenize ('/' :: sufJoin segs) = .ok (Op.top :: segs.map stepOp) := by
  obtain ⟨l, h⟩ := tokLoop_scan_suf segs (some '/') { toks := [Op.top], last := some ['/'], canonical := true }
    hok (by decide) (fun _ => rfl) hp
  unfold tokenize
  rw [scan_slash none _ nofun, tokLoop, tokStep_slash_first _ rfl]
  simp [h]

theorem tokenize_sufJoin_rel (segs : List Str) (hne : segs.head? ≠ some []) (hok : SufOK segs)
    (hp : ∀ s ∈ segs, s = [] ∨ PlainSeg s) :
    tokenize (sufJoin segs) = .ok (segs.map stepOp) := by
  obtain ⟨l, h⟩ := tokLoop_scan_suf segs none {} hok nofun (fun e => absurd e hne) hp
  unfold tokenize
  simp [h]

example : tokenize ['/', '/'] = .ok [.top, .name none] :=
  tokenize_sufJoin [[]] (cleanB_nil true) (by simp)

/- Paths `/seg/seg/...` whose segments are all non-empty, and the paths without segments: the cases of
   `tokenize_sufJoin` in which every step is a NAME with data. -/

def slashJoin (segs : List Str) : Str := segs.flatMap (fun s => '/' :: s)

/-- all segments non-empty and clean; only the last may end in a lone backslash -/
def SegsOK : List Str → Prop
  | [] => True
  | [s] => s ≠ [] ∧ cleanB true s = true
  | s :: r => s ≠ [] ∧ cleanB false s = true ∧ SegsOK r

theorem tokenize_root : tokenize ['/'] = .ok [.top] :=
  tokenize_sufJoin [] trivial (fun _ h => absurd h List.not_mem_nil)

theorem tokenize_empty : tokenize [] = .ok [] :=
  tokenize_sufJoin_rel [] nofun trivial (fun _ h => absurd h List.not_mem_nil)

theorem slashJoin_cons (s : Str) (rest : List Str) :
    slashJoin (s :: rest) = '/' :: (s ++ slashJoin rest) := rfl

theorem sufJoin_of_ne_nil (s : Str) (rest : List Str) : (∀ x ∈ s :: rest, x ≠ []) →
    sufJoin (s :: rest) = s ++ slashJoin rest := by
  induction rest generalizing s with
  | nil =>
    intro h
    cases s with
    | nil => exact absurd rfl (h _ List.mem_cons_self)
    | cons c r => exact (List.append_nil _).symm
  | cons s2 rest ih =>
    intro h
    rw [sufJoin_cons2, ih s2 (fun x hx => h x (List.mem_cons_of_mem _ hx)), slashJoin_cons]

theorem SegsOK.sufOK (segs : List Str) : SegsOK segs → SufOK segs ∧ ∀ x ∈ segs, x ≠ [] := by
  induction segs with
  | nil => exact fun _ => ⟨trivial, fun _ h => absurd h List.not_mem_nil⟩
  | cons s rest ih =>
    intro h
    cases rest with
    | nil => exact ⟨h.2, fun x hx => by rw [List.mem_singleton.1 hx]; exact h.1⟩
    | cons s2 rest =>
      obtain ⟨h1, h2⟩ := ih h.2.2
      refine ⟨⟨h.2.1, h1⟩, fun x hx => ?_⟩
      rcases List.mem_cons.1 hx with e | hx
      · rw [e]; exact h.1
      · exact h2 x hx

theorem map_stepOp_of_ne_nil (segs : List Str) (h : ∀ x ∈ segs, x ≠ []) :
    segs.map stepOp = segs.map (fun s => Op.name (some (unescape s))) :=
  List.map_congr_left (fun x hx => stepOp_of_ne_nil (h x hx))

/-- **`tokenize("/seg/seg/...") = [TOP, NAME seg, NAME seg, ...]`** for clean plain segments -/
theorem tokenize_segs (s : Str) (rest : List Str) (hok : SegsOK (s :: rest))
    (hp : ∀ x ∈ s :: rest, PlainSeg x) :
    tokenize (slashJoin (s :: rest))
      = .ok (Op.top :: (s :: rest).map (fun s => Op.name (some (unescape s)))) := by
  obtain ⟨hsuf, hne⟩ := SegsOK.sufOK _ hok
  rw [slashJoin_cons, ← sufJoin_of_ne_nil s rest hne, ← map_stepOp_of_ne_nil _ hne]
  exact tokenize_sufJoin _ hsuf (fun x hx => Or.inr (hp x hx))

end Flatland.Path.Lemmas
