/-
What the constructors and element-level mutators build (`schema(parent=…)`, `element.set(raw)`, `schema(value)`, wrapping an
argument, `schema.from_defaults()`, `element.set_default()`) for ANY invariant of elements: the fields of `ElemInv I` are the
ways these calls make a node, and the theorems follow the recursion of the model once.  Instances: `wp` (Proofs/C08Build.lean),
`dps` (Proofs/C07TreeInvBuild.lean), "a List numbers its slots" (Proofs/C09Positional.lean), "the items of a sequence are of its
member class" (Proofs/C09.lean).
-/
import Flatland.Spec.C08
import Proofs.Lemmas.TreeCtx
namespace Flatland.Tree
open Flatland.PyList Flatland.C08.Proofs

/-- `I`: an invariant of elements; the fields are the ways the constructors and element-level mutators make a node -/
structure ElemInv (I : Node → Prop) : Prop where
  scalar : ∀ {i : NInfo} {s : Schema} {ks : List Node} (v : Val) (u : Str), I (.mk i s ks) → I (.mk { i with val := v, u := u } s ks)
  leaf : ∀ (i : NInfo) (s : Schema), I (.mk i s [])
  append : ∀ {n w : Node} (next : Nat), n.sch.member = some w.sch → I n → I w → I (appendEl n w next).1
  fields : ∀ {i : NInfo} {s : Schema} {ks : List Node}, (s.kind = .dict ∨ s.kind = .sparse) →
    (∀ k ∈ ks, k.parent = some i.id ∧ I k) → I (.mk i s ks)
  /-- a Dict's `set_default`: `child.set_default()` for every child, in place -/
  dictDefault : ∀ {i : NInfo} {s : Schema} {ks : List Node} (next : Nat), s.kind = .dict → I (.mk i s ks) →
    (∀ k ∈ ks, ∀ nx, I k → I (setDefault k nx).node) → I (.mk i s (setDefaultKids ks next).1)
  withParent : ∀ {x : Node} (p : Option Nat), I x → I (x.withParent p)
  /-- a List over the slots `set_default` makes around elements of the member class -/
  slots : ∀ {i : NInfo} {s m : Schema} (mk : Nat → SetR) (k next : Nat), s.kind = .list → s.member = some m →
    (∀ nx, (mk nx).node.sch = m ∧ I (mk nx).node) → I (.mk i s (defaultSlotsWith mk i.id k 0 next).1)

namespace ElemInv
variable {I : Node → Prop} (S : ElemInv I)
include S

theorem attachAll {m : Schema} (vals : List Node) : ∀ (n : Node) (next : Nat), n.sch.member = some m → I n →
    (∀ v ∈ vals, v.sch = m ∧ I v) → I (attachAll n vals next).1 := by
  induction vals with
  | nil => intro n next _ h _; exact h
  | cons e es ih =>
    intro n next hm h hv
    rw [attachAll_eq]
    have he := hv e (by simp)
    exact ih _ _ (by rw [sch_of_hdr (appendEl_hdr n e next)]; exact hm) (S.append next (he.1 ▸ hm) h he.2)
      (fun v hv' => hv v (by simp [hv']))

theorem blank : ∀ (s : Schema) (parent : Option Nat) (key : Str) (next : Nat), I (blank s parent key next).1 :=
  Schema.induction fun s ih parent key next => by
    cases s with
    | mk info dflt subs =>
      have hf : ∀ b nx, ∀ k ∈ (blankFields subs next b nx).1, k.parent = some next ∧ I k := fun b nx =>
        blankFields_forall subs next b
          (fun f hf n1 => ⟨(hdr_id_parent (blank_hdr f (some next) f.key n1)).2, ih f hf _ _ _⟩) nx
      rw [Tree.blank]
      split
      · rename_i hk; exact S.fields (.inl hk) (hf _ _)
      · rename_i hk
        split
        · exact S.fields (.inr hk) (hf _ _)
        · exact S.leaf _ _
      · exact S.leaf _ _

theorem freshKids (i : NInfo) (s : Schema) (next : Nat) : ∀ k ∈ (freshKids i s next).1, k.parent = some i.id ∧ I k := by
  have hb := fun b => blankFields_forall (P := fun k => k.parent = some i.id ∧ I k) s.subs i.id b
    (fun f _ n1 => ⟨(hdr_id_parent (blank_hdr f (some i.id) f.key n1)).2, S.blank f _ _ n1⟩) next
  unfold Flatland.C08.Proofs.freshKids
  split
  · exact hb _
  · split
    · exact hb _
    · intro x hx; cases hx

theorem setNode : ∀ (raw : Raw) (n : Node) (pol : Option Policy) (next : Nat), I n → I (setNode n raw pol next).node :=
  Raw.induction fun raw hl hd n pol next hw => by
    cases n with
    | mk i s kids =>
      have h := setNode_shape i s kids raw pol next
      generalize Tree.setNode (.mk i s kids) raw pol next = r at h ⊢
      cases h with
      | same hh => obtain ⟨v, u, rfl⟩ := hh; exact S.scalar v u hw
      | emptied => exact S.leaf i s
      | @rebuilt m xs _ _ hm hx =>
        exact S.attachAll _ _ _ hm (S.leaf i s)
          (buildItems_forall m xs (fun x hx' nx => ⟨built_sch m x nx, hl xs hx x hx' _ none _ (S.blank m none [] nx)⟩) next)
      | @pairs kvs _ hk hkvs =>
        refine S.fields hk (setPairs_forall (P := fun c => c.parent = some i.id ∧ I c) i.id s.subs kvs ?_ ?_ _ _ (S.freshKids i s next))
        all_goals
          have hset : ∀ p ∈ kvs, ∀ (n : Node) (pol : Option Policy) (next : Nat), I n → I (Tree.setNode n p.2 pol next).node := by
            rcases hkvs with rfl | hkvs
            · intro p hp; cases hp
            · exact hd kvs hkvs
        · exact fun p hp c nx hc =>
            ⟨by rw [(parent_of_hdr (setNode_hdr c p.2 none nx)).1]; exact hc.1, hset p hp c none nx hc.2⟩
        · exact fun p hp f nx =>
            ⟨by rw [(parent_of_hdr (setNode_hdr _ p.2 none _)).1, parent_withParent],
              hset p hp _ none _ (S.withParent _ (S.blank f none p.1 nx))⟩

theorem construct (s : Schema) (raw : Raw) (parent : Option Nat) (key : Str) (next : Nat) (e : Node) (n1 : Nat)
    (h : construct s raw parent key next = (.ok e, n1)) : I e := by
  unfold Tree.construct at h
  dsimp only at h
  split at h
  · cases h; exact S.setNode raw _ none _ (S.blank s parent key next)
  · cases h

theorem wrap (m : Schema) (a : Arg) (ha : ∀ e ∈ Flatland.C08.Spec.argElems a, I e) (next : Nat) (w : Node) (n1 : Nat)
    (h : wrap m a next = (.ok w, n1)) : I w := by
  cases a with
  | elem e => simp only [Tree.wrap] at h; cases h; exact ha _ (List.mem_singleton_self _)
  | plain r => exact S.construct m r none [] next w n1 h

theorem defaultShape {p : Prop} {n : Node} {next : Nat} {r : SetR} (h : DefaultShape p n next r) (hw : I n)
    (hsub : ∀ f ∈ n.sch.subs, ∀ q k nx, I (Tree.fromDefaults f q k nx).node)
    (hkids : p → ∀ k ∈ n.kids, ∀ nx, I k → I (Tree.setDefault k nx).node) : I r.node := by
  cases n with
  | mk i s kids =>
    cases h with
    | same => exact hw
    | set => exact S.setNode _ _ _ _ hw
    | slots hk hm =>
      exact S.slots _ _ _ hk hm (fun nx =>
        ⟨congrArg (fun t => t.2.2.1) (fromDefaults_hdr _ none [] nx), hsub _ (List.mem_of_mem_head? hm) none [] nx⟩)
    | items _ hm =>
      exact S.attachAll _ _ _ hm (S.leaf i s)
        (buildItems_forall _ _ (fun x _ nx => ⟨built_sch _ x nx, S.setNode x _ none _ (S.blank _ none [] nx)⟩) _)
    | emptied | cleared => exact S.leaf i s
    | kids hp hk => exact S.dictDefault next hk hw (hkids hp)
    | fields hk =>
      exact S.fields (hk.elim (fun h => .inl h.1) (fun h => .inr h.1)) (defaultFields_forall s.subs i.id _
        (fun f hf nx => ⟨(hdr_id_parent (fromDefaults_hdr f (some i.id) f.key nx)).2, hsub f hf _ _ _⟩)
        (fun f _ nx => ⟨(hdr_id_parent (blank_hdr f (some i.id) f.key nx)).2, S.blank _ _ _ _⟩) _)

theorem fromDefaults : ∀ (s : Schema) (parent : Option Nat) (key : Str) (next : Nat), I (fromDefaults s parent key next).node :=
  Schema.induction fun s ih parent key next =>
    S.defaultShape (fromDefaults_shape s parent key next) (S.blank s parent key next)
      (by rw [(blank_ni s parent key next).2]; exact fun f hf q k nx => ih f hf q k nx) False.elim

theorem setDefault : ∀ (n : Node) (next : Nat), I n → I (setDefault n next).node :=
  Node.induction fun n ih next hw => by
    cases n with
    | mk i s kids =>
      exact S.defaultShape (setDefault_shape i s kids next) hw (fun f _ q k nx => S.fromDefaults f q k nx) (fun _ => ih)

end ElemInv
end Flatland.Tree
