/-
`Except` computations, for all models: inversion of `>>=` and `<$>`; `Ok x Q`, every result of `x` satisfies `Q` (nothing said when `x`
raises), and `Fails x P`, every exception of `x` satisfies `P` (nothing said when it returns), each with one rule per constructor of a
`do` block; `flatMapM` (map, first error wins, concatenate), the loop that `Spec.C14.flatMapM` and `C12.postsAll` write by hand.
-/
namespace Flatland.Ex
variable {ε α β γ : Type}

theorem bind_eq_ok_iff {x : Except ε α} {f : α → Except ε β} {b : β} :
    x >>= f = .ok b ↔ ∃ a, x = .ok a ∧ f a = .ok b := by
  cases x with
  | error e => exact ⟨(nomatch ·), fun ⟨_, h, _⟩ => nomatch h⟩
  | ok a => exact ⟨fun h => ⟨a, rfl, h⟩, fun ⟨_, h, hf⟩ => by cases h; exact hf⟩

theorem bind_eq_error_iff {x : Except ε α} {f : α → Except ε β} {e : ε} :
    x >>= f = .error e ↔ x = .error e ∨ ∃ a, x = .ok a ∧ f a = .error e := by
  cases x with
  | error e' =>
    exact ⟨fun h => .inl (congrArg _ (Except.error.inj (show (Except.error e' : Except ε β) = .error e from h))),
      fun h => h.elim (fun h => congrArg Except.error (Except.error.inj h)) fun ⟨_, h, _⟩ => nomatch h⟩
  | ok a => exact ⟨fun h => .inr ⟨a, rfl, h⟩, fun h => h.elim (nomatch ·) fun ⟨_, h, hf⟩ => by cases h; exact hf⟩

theorem map_eq_ok_iff {x : Except ε α} {f : α → β} {b : β} : f <$> x = .ok b ↔ ∃ a, x = .ok a ∧ f a = b := by
  cases x with
  | error e => exact ⟨(nomatch ·), fun ⟨_, h, _⟩ => nomatch h⟩
  | ok a => exact ⟨fun h => ⟨a, rfl, Except.ok.inj h⟩, fun ⟨_, h, hf⟩ => by cases h; rw [← hf]; rfl⟩

theorem toOption_eq_some_iff {x : Except ε α} {a : α} : x.toOption = some a ↔ x = .ok a := by
  cases x with
  | error e => exact ⟨(nomatch ·), (nomatch ·)⟩
  | ok a' => exact ⟨fun h => by cases h; rfl, fun h => by cases h; rfl⟩

def Ok (x : Except ε α) (Q : α → Prop) : Prop := ∀ a, x = .ok a → Q a

def Fails (x : Except ε α) (P : ε → Prop) : Prop := ∀ e, x = .error e → P e

namespace Ok
variable {Q Q' : α → Prop}

theorem ok_iff {a : α} : Ok (.ok a : Except ε α) Q ↔ Q a := ⟨fun h => h a rfl, fun h _ e => by cases e; exact h⟩
theorem pure_iff {a : α} : Ok (pure a : Except ε α) Q ↔ Q a := ok_iff
theorem error (e : ε) : Ok (.error e : Except ε α) Q := fun _ h => nomatch h
theorem throw (e : ε) : Ok (throw e : Except ε α) Q := error e

theorem bind_iff {x : Except ε β} {f : β → Except ε α} : Ok (x >>= f) Q ↔ Ok x fun b => Ok (f b) Q := by
  simp only [Ok, bind_eq_ok_iff]
  exact ⟨fun h b hb a ha => h a ⟨b, hb, ha⟩, fun h a ⟨b, hb, ha⟩ => h b hb a ha⟩

theorem bind {x : Except ε β} {f : β → Except ε α} (h : ∀ b, Ok (f b) Q) : Ok (x >>= f) Q :=
  bind_iff.mpr fun b _ => h b

theorem ite_iff {c : Prop} [Decidable c] {x y : Except ε α} :
    Ok (if c then x else y) Q ↔ (c → Ok x Q) ∧ (¬c → Ok y Q) := by
  by_cases h : c <;> simp [h]

theorem ite {c : Prop} [Decidable c] {x y : Except ε α} (hx : Ok x Q) (hy : Ok y Q) : Ok (if c then x else y) Q :=
  ite_iff.mpr ⟨fun _ => hx, fun _ => hy⟩

theorem of_forall {x : Except ε α} (h : ∀ a, Q a) : Ok x Q := fun a _ => h a
theorem mono {x : Except ε α} (h : Ok x Q) (hq : ∀ a, Q a → Q' a) : Ok x Q' := fun a e => hq a (h a e)
theorem and {x : Except ε α} (h : Ok x Q) (h' : Ok x Q') : Ok x fun a => Q a ∧ Q' a := fun a e => ⟨h a e, h' a e⟩
theorem true (x : Except ε α) : Ok x fun _ => True := fun _ _ => trivial

end Ok

namespace Fails
variable {P P' : ε → Prop}

theorem ok (a : α) : Fails (.ok a : Except ε α) P := fun _ h => nomatch h
theorem pure (a : α) : Fails (Pure.pure a : Except ε α) P := ok a

theorem bind_iff {x : Except ε β} {f : β → Except ε α} :
    Fails (x >>= f) P ↔ Fails x P ∧ Ok x fun b => Fails (f b) P := by
  simp only [Fails, Ok, bind_eq_error_iff]
  exact ⟨fun h => ⟨fun e he => h e (.inl he), fun b hb e he => h e (.inr ⟨b, hb, he⟩)⟩,
    fun ⟨h1, h2⟩ e he => he.elim (h1 e) fun ⟨b, hb, hf⟩ => h2 b hb e hf⟩

theorem bind {x : Except ε β} {f : β → Except ε α} (hx : Fails x P) (hf : ∀ b, Fails (f b) P) : Fails (x >>= f) P :=
  bind_iff.mpr ⟨hx, fun b _ => hf b⟩

theorem ite {c : Prop} [Decidable c] {x y : Except ε α} (hx : Fails x P) (hy : Fails y P) :
    Fails (if c then x else y) P := by split <;> assumption

theorem mono {x : Except ε α} (h : Fails x P) (hp : ∀ e, P e → P' e) : Fails x P' := fun e he => hp e (h e he)

end Fails

theorem Ok.foldlM {f : β → α → Except ε β} {I : β → Prop} : ∀ {l : List α} {b : β}, I b →
    (∀ b, ∀ a ∈ l, I b → Ok (f b a) I) → Ok (l.foldlM f b) I
  | [], b, h0, _ => by rw [List.foldlM_nil]; exact Ok.pure_iff.mpr h0
  | a :: l, b, h0, hs => by
    rw [List.foldlM_cons]
    exact Ok.bind_iff.mpr fun b' hb' =>
      Ok.foldlM (hs b a List.mem_cons_self h0 b' hb') fun b a ha => hs b a (List.mem_cons_of_mem _ ha)

section FlatMapM
universe u
variable {α : Type u}

def flatMapM (f : α → Except ε (List β)) : List α → Except ε (List β)
  | [] => .ok []
  | x :: xs => f x >>= fun ys => flatMapM f xs >>= fun zs => .ok (ys ++ zs)

theorem flatMapM_nil (f : α → Except ε (List β)) : flatMapM f [] = .ok [] := rfl

theorem flatMapM_cons (f : α → Except ε (List β)) (x : α) (xs : List α) :
    flatMapM f (x :: xs) = f x >>= fun ys => flatMapM f xs >>= fun zs => .ok (ys ++ zs) := rfl

theorem flatMapM_cons_eq_ok_iff {f : α → Except ε (List β)} {x : α} {xs : List α} {r : List β} :
    flatMapM f (x :: xs) = .ok r ↔ ∃ p q, f x = .ok p ∧ flatMapM f xs = .ok q ∧ r = p ++ q := by
  rw [flatMapM_cons, bind_eq_ok_iff]
  constructor
  · rintro ⟨p, hp, h⟩
    obtain ⟨q, hq, h⟩ := bind_eq_ok_iff.mp h
    exact ⟨p, q, hp, hq, (Except.ok.inj h).symm⟩
  · rintro ⟨p, q, hp, hq, rfl⟩
    exact ⟨p, hp, bind_eq_ok_iff.mpr ⟨q, hq, rfl⟩⟩

theorem flatMapM_singleton (f : α → Except ε (List β)) (x : α) : flatMapM f [x] = f x := by
  rw [flatMapM_cons]; cases f x with
  | error e => rfl
  | ok ys => show Except.ok (ys ++ []) = _; rw [List.append_nil]

theorem flatMapM_append (f : α → Except ε (List β)) (xs ys : List α) :
    flatMapM f (xs ++ ys) = flatMapM f xs >>= fun a => flatMapM f ys >>= fun b => .ok (a ++ b) := by
  induction xs with
  | nil => rw [List.nil_append]; cases flatMapM f ys <;> rfl
  | cons x xs ih =>
    rw [List.cons_append, flatMapM_cons, flatMapM_cons, ih]
    cases f x with
    | error e => rfl
    | ok p =>
      cases flatMapM f xs with
      | error e => rfl
      | ok q =>
        cases flatMapM f ys with
        | error e => rfl
        | ok r => show Except.ok (p ++ (q ++ r)) = .ok (p ++ q ++ r); rw [List.append_assoc]

theorem flatMapM_append_eq_ok_iff {f : α → Except ε (List β)} {xs ys : List α} {r : List β} :
    flatMapM f (xs ++ ys) = .ok r ↔ ∃ p q, flatMapM f xs = .ok p ∧ flatMapM f ys = .ok q ∧ r = p ++ q := by
  rw [flatMapM_append, bind_eq_ok_iff]
  constructor
  · rintro ⟨p, hp, h⟩
    obtain ⟨q, hq, h⟩ := bind_eq_ok_iff.mp h
    exact ⟨p, q, hp, hq, (Except.ok.inj h).symm⟩
  · rintro ⟨p, q, hp, hq, rfl⟩
    exact ⟨p, hp, bind_eq_ok_iff.mpr ⟨q, hq, rfl⟩⟩

theorem flatMapM_eq_error {f : α → Except ε (List β)} {e : ε} :
    ∀ {xs : List α}, flatMapM f xs = .error e → ∃ x ∈ xs, f x = .error e
  | [], h => nomatch h
  | x :: xs, h => by
    rw [flatMapM_cons] at h
    rcases bind_eq_error_iff.mp h with h | ⟨_, _, h⟩
    · exact ⟨x, List.mem_cons_self, h⟩
    · rcases bind_eq_error_iff.mp h with h | ⟨_, _, h⟩
      · obtain ⟨x', hx', h'⟩ := flatMapM_eq_error h
        exact ⟨x', List.mem_cons_of_mem _ hx', h'⟩
      · cases h

theorem Fails.flatMapM {f : α → Except ε (List β)} {P : ε → Prop} {xs : List α} (h : ∀ x ∈ xs, Fails (f x) P) :
    Fails (flatMapM f xs) P :=
  fun e he => have ⟨x, hx, hf⟩ := flatMapM_eq_error he; h x hx e hf

theorem flatMapM_congr_ok {f g : α → Except ε (List β)} : ∀ {xs : List α} {r : List β},
    (∀ x ∈ xs, ∀ y, f x = .ok y → g x = .ok y) → flatMapM f xs = .ok r → flatMapM g xs = .ok r
  | [], _, _, h => h
  | x :: xs, r, hfg, h => by
    obtain ⟨p, q, hp, hq, rfl⟩ := flatMapM_cons_eq_ok_iff.mp h
    exact flatMapM_cons_eq_ok_iff.mpr ⟨p, q, hfg x List.mem_cons_self p hp,
      flatMapM_congr_ok (fun x' hx' => hfg x' (List.mem_cons_of_mem _ hx')) hq, rfl⟩

theorem flatMapM_pure {α : Type} : ∀ xs : List α, flatMapM (fun x => (.ok [x] : Except ε (List α))) xs = .ok xs
  | [] => rfl
  | x :: xs => by rw [flatMapM_cons, flatMapM_pure xs]; rfl

end FlatMapM
end Flatland.Ex
