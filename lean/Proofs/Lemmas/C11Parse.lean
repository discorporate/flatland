/-
The mini parser reads back what the serialiser wrote: attribute lists, then whole elements.
Generic in the escape function `esc` (no `"` in its output, inverted by `dec`).
-/
import Proofs.Lemmas.C11Decode
namespace Flatland.C11.Proofs
open Flatland.C11 Flatland.Markup

/-- author-chosen identifiers: non-empty, none of the characters that end a name -/
def validName (k : Str) : Bool := !k.isEmpty && k.all (fun c => !nameStop c)

/-- the declared name grammar `[A-Za-z][A-Za-z0-9_:.-]*` -/
def isIdentStart (c : Char) : Bool := ('A' ≤ c && c ≤ 'Z') || ('a' ≤ c && c ≤ 'z')
def isIdentChar (c : Char) : Bool :=
  isIdentStart c || ('0' ≤ c && c ≤ '9') || c = '_' || c = ':' || c = '.' || c = '-'
def identName : Str → Bool
  | [] => false
  | c :: cs => isIdentStart c && cs.all isIdentChar
/-- … in lower case (what html.parser reports, and what `Generator.tag()` turns a tag name into) -/
def lowerName (k : Str) : Bool := identName k && k.all (fun c => !('A' ≤ c && c ≤ 'Z'))

theorem identChar_not_stop (c : Char) (h : isIdentChar c = true) : nameStop c = false := by
  rw [Bool.eq_false_iff]
  intro hs
  simp only [nameStop, Bool.or_eq_true, decide_eq_true_eq] at hs
  rcases hs with ((((rfl | rfl) | rfl) | rfl) | rfl) | rfl <;> simp [isIdentChar, isIdentStart] at h

theorem identName_valid {k : Str} (h : identName k = true) : validName k = true := by
  cases k with
  | nil => simp [identName] at h
  | cons c cs =>
    simp only [identName, Bool.and_eq_true, List.all_eq_true] at h
    simp only [validName, List.isEmpty_cons, Bool.not_false, Bool.true_and, List.all_cons, Bool.and_eq_true,
      Bool.not_eq_true', List.all_eq_true]
    refine ⟨identChar_not_stop c (by simp [isIdentChar, h.1]), fun x hx => identChar_not_stop x (h.2 x hx)⟩

theorem lowerName_valid {k : Str} (h : lowerName k = true) : validName k = true := by
  simp only [lowerName, Bool.and_eq_true] at h
  exact identName_valid h.1

theorem takeWhile_name (k rest : Str) (c : Char) (hk : k.all (fun c => !nameStop c) = true)
    (hc : nameStop c = true) :
    (k ++ c :: rest).takeWhile (fun c => !nameStop c) = k ∧
    (k ++ c :: rest).dropWhile (fun c => !nameStop c) = c :: rest := by
  induction k with
  | nil => simp [hc]
  | cons x xs ih =>
    simp only [List.all_cons, Bool.and_eq_true] at hk
    obtain ⟨h1, h2⟩ := ih hk.2
    simp [hk.1, h1, h2]

/-- ` k="esc v"` -/
def attrText (esc : Str → Str) (kv : Str × Str) : Str :=
  ' ' :: kv.1 ++ '=' :: '"' :: esc kv.2 ++ ['"']

theorem parseAttrs_close (dec : Str → Str) (tail : Str) :
    parseAttrs dec ('>' :: tail) = some ([], .opened, tail) := by
  rw [parseAttrs]

theorem parseAttrs_selfclose (dec : Str → Str) (tail : Str) :
    parseAttrs dec (' ' :: '/' :: '>' :: tail) = some ([], .selfClosed, tail) := by
  rw [parseAttrs]

theorem parseAttrs_step (dec esc : Str → Str) (hq : ∀ v, '"' ∉ esc v)
    (k v more : Str) (hk : validName k = true) :
    parseAttrs dec (attrText esc (k, v) ++ more) =
      match parseAttrs dec more with
      | some (m, cl, rest) => some ((k, dec (esc v)) :: m, cl, rest)
      | none => none := by
  simp only [validName, Bool.and_eq_true, Bool.not_eq_true', List.isEmpty_eq_false_iff] at hk
  obtain ⟨hne, hall⟩ := hk
  obtain ⟨h1, h2⟩ := takeWhile_name k ('"' :: (esc v ++ '"' :: more)) '=' hall (by decide +kernel)
  have hs := splitAtChar_append (esc v) more (hq v)
  cases k with
  | nil => exact absurd rfl hne
  | cons x xs =>
    have hx : nameStop x = false := by
      simp only [List.all_cons, Bool.and_eq_true, Bool.not_eq_true'] at hall; exact hall.1
    have hx1 : x ≠ '/' := by intro e; subst e; simp [nameStop] at hx
    have hstr : attrText esc (x :: xs, v) ++ more =
        ' ' :: ((x :: xs) ++ '=' :: '"' :: (esc v ++ '"' :: more)) := by
      simp [attrText]
    rw [hstr, parseAttrs]
    split
    · rename_i s2 hd
      rw [h2] at hd
      simp only [List.cons.injEq, true_and] at hd
      subst hd
      rw [h1]
      simp only [List.isEmpty_cons, Bool.false_eq_true, ↓reduceIte]
      split
      · rename_i v' s3 hsp
        rw [hs] at hsp
        simp only [Option.some.injEq, Prod.mk.injEq] at hsp
        obtain ⟨rfl, rfl⟩ := hsp
        rfl
      · rename_i hsp; rw [hs] at hsp; simp at hsp
    · rename_i hd
      exact absurd h2 (hd _)
    · intro rest e
      simp only [List.cons_append, List.cons.injEq] at e
      exact hx1 e.1

theorem parseAttrs_render (dec esc : Str → Str) (hq : ∀ v, '"' ∉ esc v) (hd : ∀ v, dec (esc v) = v)
    (attrs : List (Str × Str)) (hv : ∀ kv ∈ attrs, validName kv.1 = true)
    (closer : Str) (cl : Closer) (tail : Str)
    (hc : parseAttrs dec (closer ++ tail) = some ([], cl, tail)) :
    parseAttrs dec (attrs.flatMap (attrText esc) ++ closer ++ tail) = some (attrs, cl, tail) := by
  induction attrs with
  | nil => simpa using hc
  | cons kv more ih =>
    obtain ⟨k, v⟩ := kv
    have hk := hv (k, v) (by simp)
    have ih' := ih (fun kv h => hv kv (by simp [h]))
    simp only [List.flatMap_cons, List.append_assoc]
    rw [parseAttrs_step dec esc hq k v _ hk]
    simp only [List.append_assoc] at ih'
    rw [ih', hd]

theorem attributeEscape_text (ch : Chain) (s : Str) :
    attributeEscape ch (.text s) = .ok (escapeChain ch s) := by
  cases s with
  | nil => simp [attributeEscape, escapeChain_nil]; rfl
  | cons x xs => rfl

theorem markupEscape_eq (ch : Chain) (s : Str) : markupEscape ch s = escapeChain ch s := by
  cases s with
  | nil => simp [markupEscape, escapeChain_nil]
  | cons x xs => rfl

/-- the item `k="esc v"` as `renderAttr` writes it -/
def itemText (esc : Str → Str) (kv : Str × Str) : Str := kv.1 ++ ['=', '"'] ++ esc kv.2 ++ ['"']

theorem renderAttrs_text (ch : Chain) (attrs : List (Str × Str)) :
    renderAttrs ch (attrs.map (fun kv => (kv.1, Val.text kv.2))) =
      .ok (attrs.map (itemText (escapeChain ch))) := by
  induction attrs with
  | nil => rfl
  | cons kv rest ih =>
    simp only [List.map_cons, renderAttrs, renderAttr, attributeEscape_text, ih, itemText]
    rfl

theorem joinSpace_flatMap (a : Str) (items : List Str) :
    ' ' :: joinSpace (a :: items) = (a :: items).flatMap (fun i => ' ' :: i) := by
  induction items generalizing a with
  | nil => simp [joinSpace]
  | cons b rest ih =>
    simp only [joinSpace, List.flatMap_cons]
    rw [← List.flatMap_cons, ← ih b]
    simp

theorem header_form (tag : Str) (items : List Str) (hne : ∀ i ∈ items, i ≠ []) :
    (if (joinSpace items).isEmpty then '<' :: tag else '<' :: tag ++ ' ' :: joinSpace items) =
      '<' :: tag ++ items.flatMap (fun i => ' ' :: i) := by
  cases items with
  | nil => simp [joinSpace]
  | cons a rest =>
    have ha : a ≠ [] := hne a (by simp)
    have : (joinSpace (a :: rest)).isEmpty = false := by
      cases rest with
      | nil => simp [joinSpace, ha]
      | cons b r => simp [joinSpace, ha]
    rw [this, ← joinSpace_flatMap]
    simp

theorem items_flatMap (esc : Str → Str) (attrs : List (Str × Str)) :
    (attrs.map (itemText esc)).flatMap (fun i => ' ' :: i) = attrs.flatMap (attrText esc) := by
  induction attrs with
  | nil => rfl
  | cons kv rest ih =>
    simp only [List.map_cons, List.flatMap_cons, ih]
    simp [itemText, attrText]

theorem renderOpen_text (ch : Chain) (tag : Str) (attrs : List (Str × Str)) :
    renderOpen ch tag (attrs.map (fun kv => (kv.1, Val.text kv.2))) =
      .ok ('<' :: tag ++ attrs.flatMap (attrText (escapeChain ch))) := by
  simp only [renderOpen, renderAttrs_text]
  have := header_form tag (attrs.map (itemText (escapeChain ch)))
  rw [items_flatMap] at this
  show (if _ then Except.ok _ else Except.ok _) = _
  rw [← this]
  · split <;> rfl
  intro i hi
  simp only [List.mem_map] at hi
  obtain ⟨kv, _, rfl⟩ := hi
  simp [itemText]

theorem after_name_stop (esc : Str → Str) (attrs : List (Str × Str)) (closer tail : Str)
    (hc : closer = ['>'] ∨ closer = [' ', '/', '>']) :
    ∃ c rest, attrs.flatMap (attrText esc) ++ closer ++ tail = c :: rest ∧ nameStop c = true := by
  cases attrs with
  | nil =>
    rcases hc with rfl | rfl
    · exact ⟨'>', tail, by simp, by decide +kernel⟩
    · exact ⟨' ', '/' :: '>' :: tail, by simp, by decide +kernel⟩
  | cons kv more =>
    exact ⟨' ', _, by simp [attrText]; rfl, by decide +kernel⟩

end Flatland.C11.Proofs
