import Flatland.C15
import Flatland.Spec.C15
import Proofs.C16
import Proofs.Lemmas.C15Email
import Proofs.C15Url
import Proofs.Lemmas.C15Ends
/-
Every `note_error` call of the C15 model is one of the few call sites of its class (`sites`,
`verdict_ends` in `Lemmas/C15Ends`).  Whether a site's message exists in a template table and uses
only keys the model's lookup environment supplies depends on the class alone, not on the
validator's parameters, so it is checked by evaluation on one validator of each class (`sites_ok`)
— and then a failing validator always gets its message recorded (`messages_total`).
-/
namespace Flatland.C15.Proofs
open Flatland.C16 Flatland.C15

def shapeOf (v : V) (n : Note) : String × String × List Str := (v.className, n.key, n.info.map (·.1))

theorem fail_shape {k i b n} (h : fail k i = .ok (b, some n)) : n = ⟨k, i⟩ := by
  simp [fail] at h; exact h.2.symm

theorem pass_shape {b n} (h : pass = .ok (b, some n)) : False := by
  simp [pass] at h

macro "shape_tac" h:ident : tactic => `(tactic| (
  repeat' (first
    | (exact (pass_shape $h).elim)
    | (cases $h:ident; done)
    | (have hh := fail_shape $h; subst hh; simp only [shapeOf, V.className, List.map_cons, List.map_nil]; decide)
    | split at $h:ident)))

def elemKeys : List Str := ["label".toList, "name".toList, "value".toList, "u".toList]

/-- the attributes that hold an int: the count keys of the plural triples -/
def countKeys : V → List Str
  | .hasAtLeast _ => ["minimum".toList]
  | .hasAtMost _ => ["maximum".toList]
  | .hasBetween _ _ => ["minimum".toList, "maximum".toList]
  | _ => []

/-- the count key of a plural triple is an int attribute of the validator that neither a keyword
    nor a method of the keyword dict shadows -/
def countOK (counts kws : List Str) : Msg → Bool
  | .plural _ _ k => counts.contains k && !dictMethodNames.contains k && !kws.contains k
  | .plain _ => true

/-- the message of a call site exists in `table`, is not empty and every form of it uses only keys
    the model's lookup environment supplies -/
def siteOK (table : List BuiltinMsg) (cls : String) (attrKeys counts : List Str)
    (sh : String × List Str) : Bool :=
  match messageOf table cls sh.1 with
  | some msg =>
    (Flatland.C16.Proofs.Msg.forms msg).all (formKeysIn (sh.2 ++ attrKeys ++ elemKeys)) &&
      msg.truthy && countOK counts sh.2 msg
  | none => false

/-- one validator of each class -/
def reps : List V :=
  [.present, .isTrue, .isFalse, .converted, .valueIn [], .valueInText [], .shorterThan 0,
   .longerThan 0, .lengthBetween 0 0, .valueLessThan .none, .valueAtMost .none,
   .valueGreaterThan .none, .valueAtLeast .none, .valueBetween .none .none true,
   .mapEqual .element, .mapEqual .value, .mapEqual .u, .notDuplicated, .hasAtLeast 0, .hasAtMost 0,
   .hasBetween 0 0, .setWithKnownFields, .setWithAllFields, .luhn10, .isEmail true,
   .urlValidator [] [], .httpURL [] [] [], .urlCanonicalizer []]

def classOK (table : List BuiltinMsg) (v : V) : Bool :=
  (sites v).all (siteOK table v.className (v.attrs.map (·.1)) (countKeys v))

/-- instantiated on the regenerated template table: every message the model can note exists
    and uses only keys the model's lookup environment supplies -/
theorem sites_ok : reps.all (classOK Flatland.Generated.C16.builtinMessages) = true := by
  decide +kernel

/-- what depends on the class alone — its name, the names of its attributes, its count keys
    and its call sites — is the same for every validator as for the representative of its
    class: after unfolding, the goal for `.shorterThan m` is literally the fact about
    `.shorterThan 0` -/
theorem class_of_reps (p : String → List Str → List Str → List (String × List Str) → Bool)
    (h : reps.all (fun r => p r.className (r.attrs.map (·.1)) (countKeys r) (sites r)) = true)
    (v : V) : p v.className (v.attrs.map (·.1)) (countKeys v) (sites v) = true := by
  simp only [reps, List.all_cons, List.all_nil, Bool.and_eq_true, Bool.and_true, sites,
    V.className, V.attrs, countKeys, List.map_cons, List.map_nil] at h
  cases v with
  | mapEqual k =>
    cases k <;> simp only [sites, V.className, V.attrs, countKeys, List.map_nil, h]
  | _ => simp only [sites, V.className, V.attrs, countKeys, List.map_cons, List.map_nil, h]

theorem classOK_of_reps (table : List BuiltinMsg) (h : reps.all (classOK table) = true) (v : V) :
    classOK table v = true :=
  class_of_reps (fun cls attrKeys counts ss => ss.all (siteOK table cls attrKeys counts)) h v

/-- the same call sites as one flat table (class, message attribute, keyword names): what
    harness/extractors/c15.py compares with the `note_error` calls of the source -/
def shapes : List (String × String × List Str) :=
  reps.flatMap fun r => (sites r).map (r.className, ·)

theorem verdict_shape (v : V) (e : View) (b : Bool) (n : Note)
    (h : verdict v e = .ok (b, some n)) : shapeOf v n ∈ shapes := by
  have hall := class_of_reps (fun cls _ _ ss => ss.all fun s => shapes.contains (cls, s))
    (List.all_eq_true.2 fun r hr => List.all_eq_true.2 fun s hs =>
      List.contains_iff_mem.2 (List.mem_flatMap.2 ⟨r, hr, List.mem_map.2 ⟨s, hs, rfl⟩⟩)) v
  exact List.contains_iff_mem.1 (List.all_eq_true.1 hall _ ((verdict_ends v e).site h))

/-- a row of the flat table passes the check with the data of a class of its name -/
def shapeOK (sh : String × String × List Str) : Bool :=
  reps.any fun r => r.className == sh.1 &&
    siteOK Flatland.Generated.C16.builtinMessages sh.1 (r.attrs.map (·.1)) (countKeys r) sh.2

theorem shapes_ok : shapes.all shapeOK = true := by
  simp only [shapes, List.all_eq_true, List.mem_flatMap, List.mem_map]
  rintro _ ⟨r, hr, s, hs, rfl⟩
  exact List.any_eq_true.2 ⟨r, hr, by
    simpa using List.all_eq_true.1 (List.all_eq_true.1 sites_ok r hr) s hs⟩

theorem countKeys_int (v : V) (k : Str) (h : k ∈ countKeys v) :
    ∃ i, v.attrs.lookup k = some (.int i) := by
  cases v with
  | hasAtLeast m => cases List.mem_singleton.1 h; exact ⟨m, rfl⟩
  | hasAtMost m => cases List.mem_singleton.1 h; exact ⟨m, rfl⟩
  | hasBetween lo hi =>
    simp only [countKeys, List.mem_cons, List.not_mem_nil, or_false] at h
    rcases h with rfl | rfl
    · exact ⟨lo, rfl⟩
    · exact ⟨hi, rfl⟩
  | _ => cases h

theorem lookup_none_of_not_mem {β} (l : List (Str × β)) (k : Str) (h : k ∉ l.map (·.1)) :
    l.lookup k = none :=
  List.lookup_eq_none_iff.2 fun q hq => by
    simpa using fun hk : k = q.1 => h (List.mem_map.2 ⟨q, hq, hk.symm⟩)

theorem envOf_targets (v : V) (e : View) (info : List (Str × Val)) :
    (envOf v e info).targets =
      Flatland.C16.Proofs.targetsOf info none
        { subscriptable := false, items := [], attrs := v.attrs }
        { subscriptable := false, items := [], attrs := e.attrs } := rfl

theorem get_isSome_of_item {t : Target} {k : Str} (h : (t.item k).isSome = true) :
    (t.get k).isSome = true := by
  rw [Flatland.C16.Proofs.get_eq_or, Option.isSome_or, h]; rfl

theorem get_isSome_of_attr {t : Target} {k : Str} (h : k ∈ t.attrs.map (·.1)) :
    (t.get k).isSome = true := by
  rw [Flatland.C16.Proofs.get_eq_or, Option.isSome_or, Bool.or_eq_true]
  exact .inr (lookup_isSome_of_mem t.attrs k h)

theorem envOf_supplies (v : V) (e : View) (info : List (Str × Val)) (k : Str)
    (h : k ∈ info.map (·.1) ++ v.attrs.map (·.1) ++ elemKeys) :
    (rawLookup (envOf v e info).targets k).isSome = true := by
  simp only [List.mem_append] at h
  rcases h with (h | h) | h
  · exact Flatland.C16.Proofs.rawLookup_isSome (t := kwTarget info) List.mem_cons_self
      (get_isSome_of_item (lookup_isSome_of_mem info k h))
  · exact Flatland.C16.Proofs.rawLookup_isSome (.tail _ List.mem_cons_self) (get_isSome_of_attr h)
  · exact Flatland.C16.Proofs.rawLookup_isSome (.tail _ (.tail _ List.mem_cons_self))
      (get_isSome_of_attr (by simpa [View.attrs, elemKeys] using h))

/-- what `countOK` is checked for: the count key of a plural triple resolves to an int -/
theorem count_lookup (v : V) (e : View) (info : List (Str × Val)) (k : Str)
    (hint : k ∈ countKeys v) (hdict : k ∉ dictMethodNames) (hinfo : k ∉ info.map (·.1)) :
    ∃ i, rawLookup (envOf v e info).targets k = some (.int i) := by
  obtain ⟨i, hi⟩ := countKeys_int v k hint
  refine ⟨i, ?_⟩
  rw [envOf_targets, Flatland.C16.Proofs.priority_partial _ _ _ _ k
    (Flatland.C16.Proofs.kwTarget_attr_none info k hdict) rfl rfl]
  simp only [Spec.lookup, Spec.Sources.ordered, Flatland.C16.Proofs.sourcesOf, List.findSome?,
    lookup_none_of_not_mem info k hinfo, Target.attr, hi]

theorem runWith_pass {table : List BuiltinMsg} {v : V} {e : View} {errors : List Str}
    (h : verdict v e = pass) :
    runWith table v e errors = .ok ⟨true, errors, valueAfter v e⟩ := by
  unfold runWith; rw [h]; rfl

theorem runWith_note {table : List BuiltinMsg} {v : V} {e : View} {errors : List Str} {b n}
    (h : verdict v e = .ok (b, some n)) :
    runWith table v e errors =
      match messageOf table v.className n.key with
      | none => .error .attributeError
      | some msg =>
        (fun errs => ⟨b, errs, valueAfter v e⟩) <$> noteError (envOf v e n.info) errors msg := by
  unfold runWith; rw [h]
  simp only [bind, Except.bind]
  cases messageOf table v.className n.key with
  | none => rfl
  | some msg => simp only []; cases noteError (envOf v e n.info) errors msg <;> rfl

theorem siteOK_forms {table : List BuiltinMsg} {cls : String} {attrKeys counts : List Str}
    {sh : String × List Str} (h : siteOK table cls attrKeys counts sh = true) :
    ∃ msg, messageOf table cls sh.1 = some msg ∧ msg.truthy = true ∧
      ∀ f ∈ Flatland.C16.Proofs.Msg.forms msg,
        formKeysIn (sh.2 ++ attrKeys ++ elemKeys) f = true := by
  unfold siteOK at h
  cases hm : messageOf table cls sh.1 with
  | none => rw [hm] at h; cases h
  | some msg =>
    simp only [hm, Bool.and_eq_true, List.all_eq_true] at h
    exact ⟨msg, rfl, h.1.2, h.1.1⟩

/-- every form of the message expands in the model's environment, so it does not matter which
    one the count of a plural triple selects -/
theorem runWith_total (table : List BuiltinMsg) (hok : reps.all (classOK table) = true)
    (v : V) (e : View) (errors : List Str) (b : Bool) (n : Note)
    (hv : verdict v e = .ok (b, some n)) :
    ∃ o msg s, messageOf table v.className n.key = some msg ∧
      expandMessage (envOf v e n.info) msg = .ok s ∧
      runWith table v e errors = .ok o ∧ o.verdict = b ∧ o.value = valueAfter v e ∧
      o.errors = addError errors s := by
  obtain ⟨msg, hm, ht, hforms⟩ := siteOK_forms
    (List.all_eq_true.1 (classOK_of_reps table hok v) _ ((verdict_ends v e).site hv))
  obtain ⟨s, hx⟩ := Flatland.C16.Proofs.expandMessage_total (envOf v e n.info) none msg rfl rfl
    fun f hf => Flatland.C16.Proofs.formKeysIn_expands _ f (hforms f hf) _ none
      (envOf_supplies v e n.info)
  refine ⟨⟨b, addError errors s, valueAfter v e⟩, msg, s, hm, hx, ?_, rfl, rfl, rfl⟩
  simp only [runWith_note hv, hm, Flatland.C16.Proofs.noteError_eq, if_pos ht, hx]
  rfl

/-- whenever a validator of the model returns a false verdict, the run
    completes: the message attribute exists in the regenerated template table, is not empty,
    and expands without error in the model's lookup environment; the error list afterwards is
    the old one with that one expanded text added (`add_error`: unless it is already there). -/
theorem messages_total (v : V) (e : View) (errors : List Str) (b : Bool) (n : Note)
    (hv : verdict v e = .ok (b, some n)) :
    ∃ o msg s, messageOf Flatland.Generated.C16.builtinMessages v.className n.key = some msg ∧
      expandMessage (envOf v e n.info) msg = .ok s ∧
      run v e errors = .ok o ∧ o.verdict = b ∧ o.value = valueAfter v e ∧
      o.errors = addError errors s :=
  runWith_total _ sites_ok v e errors b n hv

end Flatland.C15.Proofs
