/-
C01, groundwork: the flatten output of an element as a path-level queue output (`relFlat`); the `startswith`
selection of one field's pairs (`field_select`); induction over conforming elements (`okP_ind`);
the equations of `resolve`; the queue a mapping or a List starts with.
-/
import Flatland.Flat
import Flatland.Spec.C01
import Flatland.Spec.C01Prune
import Flatland.Spec.C02
import Proofs.Lemmas.FlatPath
import Proofs.Lemmas.SepSafe
import Proofs.C02Confined
namespace Flatland.Flat.Proofs
open Flatland.Flat Flatland.Flat.Spec

/-- what an element emits, as token paths relative to its own position -/
def relFlat (n : FNode) : List PPair := bfsPath [([], n)]

theorem flatten_eq_relFlat (env : Env) (sep : Str) (s : Schema) (e : Elem) :
    flatten env sep s e = (relFlat (resolve env s e)).map (joinPair sep) := by
  unfold flatten relFlat
  rw [flattenNode_eq, ← bfsFlat_single sep ([], resolve env s e), bfsFlat_eq_map]

theorem relFlat_eq (n : FNode) : relFlat n = ownPath ([], n) ++ bfsPath (pushed ([], n)) := by
  unfold relFlat; rw [bfsPath_cons]; simp

theorem relFlat_mk (nm : Option Str) (fl cfl : Bool) (t : Str) (s : Bool) (kids : List FNode) :
    relFlat (.mk nm fl cfl t s kids)
      = (if fl then [(nm.toList, t)] else []) ++
        (if cfl then bfsPath (kidsFrom nm.toList s 0 kids) else []) := by
  rw [relFlat_eq]
  cases fl <;> cases cfl <;>
    simp [ownPath, pushed, childItems, namePath, FNode.fl, FNode.cfl, FNode.name, FNode.u,
      FNode.slots, FNode.kids, bfsPath_nil]

theorem name_mem_names (s : Schema) (x : Str) (h : s.name = some x) : x ∈ names s := by
  cases s <;> simp only [Schema.name] at h <;> subst h <;> simp [names]

theorem names_compound (nm : Option Str) (o : Bool) (k : Nat) (fs : List Schema) :
    names (.compound nm o k fs) = names (.dict nm o .dense fs) := by rw [names, names]

theorem names_sub_namesL {g : Schema} {fs : List Schema} (hg : g ∈ fs) : ∀ t ∈ names g, t ∈ namesL fs := by
  induction fs with
  | nil => simp at hg
  | cons f fs ih =>
    intro t ht
    simp only [namesL, List.mem_append]
    rcases List.mem_cons.mp hg with rfl | h
    · exact Or.inl ht
    · exact Or.inr (ih h t ht)

theorem wrap_filter (l : List (Str × Str)) (P : Key → Bool) :
    (wrap l).filter (fun p => P p.1) = wrap (l.filter (fun p => P (some p.1))) := by
  induction l with
  | nil => simp [wrap]
  | cons x xs ih =>
    simp only [wrap, List.map_cons, List.filter_cons] at ih ⊢
    split <;> simp [ih]

/-- **the sloppy `startswith` of `Mapping._set_flat`.**  Among the stripped keys of the members'
    output, those that merely *start with* the name `nm` are, as far as a reader `A` can tell that
    ignores every key whose first token is another name, exactly the output of the members named
    `nm`.  (`A` is the field's own first test, `reach`.) -/
theorem field_select {sep : Str} {T : Str → Prop} (A : Key → Bool) (nm : Str)
    (hA : ∀ t, T t → t ≠ nm → ∀ ext, A (some (joinSep sep (t :: ext))) = false)
    (kids : List FNode) (hkids : ∀ k ∈ kids, ∃ y, k.name = some y ∧ T y) (keep : PPair → Bool) :
    (wrap ((((bfsPath (kids.map (fun k => (([], k) : QItem)))).filter keep).map (joinPair sep)).filter
        (fun p => isPrefix nm p.1))).filter (fun p => A p.1)
      = (wrap (((bfsPath ((kids.map (fun k => (([], k) : QItem))).filter
          (fun it => (namePath it.1 it.2).head? == some nm))).filter keep).map (joinPair sep))).filter
            (fun p => A p.1) := by
  generalize hQ : kids.map (fun k => (([], k) : QItem)) = Q
  have hhead : ∀ it ∈ Q, ∃ y ext, T y ∧ namePath it.1 it.2 = y :: ext := by
    intro it hit
    rw [← hQ] at hit
    obtain ⟨k, hk, rfl⟩ := List.mem_map.mp hit
    obtain ⟨y, hy, hTy⟩ := hkids k hk
    exact ⟨y, [], hTy, by simp [namePath, hy]⟩
  rw [← bfsPath_filter_head nm Q (fun it hit => by obtain ⟨y, ext, _, h⟩ := hhead it hit; simp [h])]
  simp only [wrap_filter, List.filter_map, List.filter_filter]
  congr 2
  apply List.filter_congr
  intro x hx
  obtain ⟨it, hit, ext', he⟩ := bfsPath_mem Q x hx
  obtain ⟨y, ext, hTy, hy⟩ := hhead it hit
  rw [hy] at he
  simp only [Function.comp, joinPair, he, List.cons_append, List.head?_cons]
  by_cases hyn : y = nm
  · subst hyn; simp [isPrefix_tok_self]
  · simp [hA y hTy hyn]

theorem lookup_append_skip (key : Str) (a b : List (Str × Elem)) (h : ∀ p ∈ a, p.1 ≠ key) :
    lookup key (a ++ b) = lookup key b := by
  rw [lookup_eq, lookup_eq, Assoc.get_append_of_not_mem (Assoc.not_mem_keys_iff.2 h)]

theorem replace_append_skip (key : Str) (x : Elem) (a b : List (Str × Elem)) (h : ∀ p ∈ a, p.1 ≠ key) :
    replace key x (a ++ b) = a ++ replace key x b := by
  rw [replace_eq, replace_eq, Assoc.replace_append_of_not_mem (Assoc.not_mem_keys_iff.2 h)]

theorem okPFields_ind {env : Env} {Q : List Schema → List (Str × Elem) → Prop} (nil : Q [] [])
    (cons : ∀ f fs k e ms, f.name = some k → OkP env f e → OkPFields env fs ms → Q fs ms →
      Q (f :: fs) ((k, e) :: ms)) :
    ∀ fs ms, OkPFields env fs ms → Q fs ms
  | [], [], _ => nil
  | [], _ :: _, h => by simp [OkPFields] at h
  | _ :: _, [], h => by simp [OkPFields] at h
  | f :: fs, (k, e) :: ms, h => by
    simp only [OkPFields] at h
    exact cons f fs k e ms h.1 h.2.1 h.2.2 (okPFields_ind nil cons fs ms h.2.2)

/-- Induction over a well-formed schema without SparseDicts together with a conforming element:
    `P` for elements, `Q` for the members of a mapping against its fields.  Each case is handed what
    `OkP` says there, so no proof has to take `OkP` apart or to rule out the ill-sorted elements. -/
theorem okP_ind {env : Env} {P : Schema → Elem → Prop} {Q : List Schema → List (Str × Elem) → Prop}
    (leaf : ∀ nm o k t, env.norm k t = t → P (.leaf nm o k) (.leaf t))
    (joined : ∀ nm o k mem t ms, env.norm k t = t →
      (ms = (env.joinedMembers k t).map Elem.leaf ∨ (t = [] ∧ ms = [])) →
      P (.joined nm o k mem) (.joined t ms))
    (dict : ∀ nm o fields ms, wf (.dict nm o .dense fields) = true →
      dense (.dict nm o .dense fields) = true → (namesOf fields).Nodup →
      (∀ g ∈ fields, g.name.isSome) → OkPFields env fields ms → Q fields ms →
      P (.dict nm o .dense fields) (.dict ms))
    (compound : ∀ nm o k fields ms, wf (.compound nm o k fields) = true →
      dense (.compound nm o k fields) = true → (namesOf fields).Nodup →
      (∀ g ∈ fields, g.name.isSome) → OkPFields env fields ms → Q fields ms →
      P (.compound nm o k fields) (.dict ms))
    (list : ∀ nm o p mx member ms, wf member = true → dense member = true → ms.length ≤ mx →
      (∀ i, i < ms.length → (natStr i).length ≤ env.maxDigits) → (∀ m ∈ ms, OkP env member m) →
      (∀ m ∈ ms, P member m) → P (.list nm o p mx member) (.list ms))
    (array : ∀ nm o p member ms, wf member = true → dense member = true →
      (∃ n o k, member = .leaf n o k) → (∀ m ∈ ms, OkP env member m) → (∀ m ∈ ms, P member m) →
      P (.array nm o p member) (.array ms))
    (nil : Q [] [])
    (cons : ∀ f fs k e ms, wf f = true → dense f = true → f.name = some k → OkP env f e →
      OkPFields env fs ms → P f e → Q fs ms → Q (f :: fs) ((k, e) :: ms)) :
    ∀ s, wf s = true → dense s = true → ∀ e, OkP env s e → P s e := by
  have fields : ∀ fs ms, OkPFields env fs ms →
      (∀ f ∈ fs, wf f = true ∧ dense f = true ∧ ∀ e, OkP env f e → P f e) → Q fs ms :=
    okPFields_ind (fun _ => nil) (fun f fs k e ms hk he hms ih h =>
      cons f fs k e ms (h f (by simp)).1 (h f (by simp)).2.1 hk he hms ((h f (by simp)).2.2 e he)
        (ih (fun g hg => h g (List.mem_cons_of_mem _ hg))))
  intro s hw hd
  refine schema_ind_wf (Q := fun s => wf s = true → dense s = true → ∀ e, OkP env s e → P s e)
    ?_ ?_ ?_ ?_ ?_ ?_ s hw hd hw hd
  · intro nm o k _ _ e hok
    cases e with
    | leaf t => exact leaf nm o k t hok
    | _ => simp [OkP] at hok
  · intro nm o k mem _ _ e hok
    cases e with
    | joined t ms => exact joined nm o k mem t ms hok.1 hok.2
    | _ => simp [OkP] at hok
  · intro nm o fs hnd hsome ih hw hd e hok
    cases e with
    | dict ms =>
      exact dict nm o fs ms hw hd hnd hsome hok.2
        (fields fs ms hok.2 (fun f hf => ⟨(ih f hf).1, (ih f hf).2.1, (ih f hf).2.2 (ih f hf).1 (ih f hf).2.1⟩))
    | _ => simp [OkP] at hok
  · intro nm o k fs hnd hsome ih _ hw hd e hok
    cases e with
    | dict ms =>
      exact compound nm o k fs ms hw hd hnd hsome hok
        (fields fs ms hok (fun f hf => ⟨(ih f hf).1, (ih f hf).2.1, (ih f hf).2.2 (ih f hf).1 (ih f hf).2.1⟩))
    | _ => simp [OkP] at hok
  · intro nm o p mx member hw hd ih _ _ e hok
    cases e with
    | list ms =>
      exact list nm o p mx member ms hw hd hok.1 hok.2.1 hok.2.2 (fun m hm => ih hw hd m (hok.2.2 m hm))
    | _ => simp [OkP] at hok
  · intro nm o p member hw hd ih _ _ e hok
    cases e with
    | array ms =>
      exact array nm o p member ms hw hd hok.1 hok.2 (fun m hm => ih hw hd m (hok.2 m hm))
    | _ => simp [OkP] at hok

theorem resolveOne_eq (env : Env) (fields : List Schema) (key : Str) (e : Elem) :
    resolveOne env fields key e = (findField key fields).map (fun f => resolve env f e) := by
  induction fields with
  | nil => simp [resolveOne, findField]
  | cons f fs ih =>
    simp only [resolveOne, findField]
    split <;> simp [ih]

/-- members resolved in order against their own field schemas -/
def resKids (env : Env) : List Schema → List (Str × Elem) → List FNode
  | f :: fs, (_, e) :: ms => resolve env f e :: resKids env fs ms
  | _, _ => []

theorem resolveMembers_eqP (env : Env) (all : List Schema) (hn : (namesOf all).Nodup)
    (hs : ∀ g ∈ all, g.name.isSome) (any : List (Str × Elem)) :
    ∀ (fs : List Schema) (ms : List (Str × Elem)), (∀ f ∈ fs, f ∈ all) → OkPFields env fs ms →
      resolveMembers env all any ms = resKids env fs ms := by
  intro fs ms hsub hok
  refine okPFields_ind (Q := fun fs ms => (∀ f ∈ fs, f ∈ all) → resolveMembers env all any ms = resKids env fs ms)
    (fun _ => by simp [resolveMembers, resKids]) ?_ fs ms hok hsub
  intro f fs k e ms hname _ _ ih hsub
  have hf := findField_of_mem f all hn hs (hsub f (by simp))
  simp only [hname, Option.getD_some] at hf
  simp only [resolveMembers, resKids, resolveOne_eq, hf, Option.map_some, List.singleton_append,
    ih (fun g hg => hsub g (List.mem_cons_of_mem _ hg))]

theorem resolve_name (env : Env) (s : Schema) (e : Elem) : (resolve env s e).name = s.name := by
  cases s <;> (unfold resolve; rfl)

theorem resolveList_eq_map (env : Env) (member : Schema) (ms : List Elem) :
    resolveList env member ms = ms.map (resolve env member) := by
  induction ms with
  | nil => unfold resolveList; rfl
  | cons e es ih => unfold resolveList; rw [ih]; rfl

theorem resolve_leaf (env : Env) (nm : Option Str) (o : Bool) (k : Nat) (t : Str) :
    resolve env (.leaf nm o k) (.leaf t) = .mk nm true true t false [] := by
  unfold resolve; rfl

theorem resolve_joined (env : Env) (nm : Option Str) (o : Bool) (k : Nat) (member : Schema) (t : Str)
    (ms : List Elem) :
    resolve env (.joined nm o k member) (.joined t ms)
      = .mk nm true false t false (resolveList env member ms) := by
  unfold resolve; rfl

theorem resolve_list (env : Env) (nm : Option Str) (o p : Bool) (mx : Nat) (member : Schema)
    (ms : List Elem) :
    resolve env (.list nm o p mx member) (.list ms)
      = .mk nm false true [] true (ms.map (resolve env member)) := by
  rw [← resolveList_eq_map]; unfold resolve; rfl

theorem resolve_array (env : Env) (nm : Option Str) (o p : Bool) (member : Schema) (ms : List Elem) :
    resolve env (.array nm o p member) (.array ms)
      = .mk nm false true [] false (ms.map (resolve env member)) := by
  rw [← resolveList_eq_map]; unfold resolve; rfl

theorem resolve_dict (env : Env) (nm : Option Str) (o : Bool) (fields : List Schema)
    (hnd : (namesOf fields).Nodup) (hsome : ∀ g ∈ fields, g.name.isSome) (ms : List (Str × Elem))
    (hok : OkPFields env fields ms) :
    resolve env (.dict nm o .dense fields) (.dict ms)
      = .mk nm false true [] false (resKids env fields ms) := by
  unfold resolve
  simp only [membersOf]
  rw [resolveMembers_eqP env fields hnd hsome ms fields ms (fun f hf => hf) hok]

theorem resolve_compound (env : Env) (nm : Option Str) (o : Bool) (k : Nat) (fields : List Schema)
    (hnd : (namesOf fields).Nodup) (hsome : ∀ g ∈ fields, g.name.isSome) (ms : List (Str × Elem))
    (hok : OkPFields env fields ms) :
    resolve env (.compound nm o k fields) (.dict ms)
      = .mk nm true true (uOf env (.compound nm o k fields) (.dict ms)) false (resKids env fields ms) := by
  unfold resolve
  simp only [membersOf]
  rw [resolveMembers_eqP env fields hnd hsome ms fields ms (fun f hf => hf) hok]

theorem kidsFrom_slots (p : List Str) (i : Nat) (ks : List FNode) :
    kidsFrom p true i ks = (kidsFrom [] true i ks).map (shift p) := by
  rw [← kidsFrom_shift, List.append_nil]

def pre (π : List Str) (x : PPair) : PPair := (π ++ x.1, x.2)

theorem bfsPath_shift' (π : List Str) (q : List QItem) :
    bfsPath (q.map (shift π)) = (bfsPath q).map (pre π) := bfsPath_shift π q

theorem bfsPath_single (p : List Str) (k : FNode) : bfsPath [(p, k)] = (relFlat k).map (pre p) := by
  have : [((p, k) : QItem)] = [(([], k) : QItem)].map (shift p) := by simp [shift]
  rw [this, bfsPath_shift']
  rfl

theorem map_pair_shift (p : List Str) (ks : List FNode) :
    ks.map (fun k => ((p, k) : QItem)) = (ks.map (fun k => (([], k) : QItem))).map (shift p) := by
  simp [shift]

end Flatland.Flat.Proofs
