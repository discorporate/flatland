/-
C01: the round trip for scalar leaves, joined values and arrays of scalars.
-/
import Proofs.Lemmas.C01List
namespace Flatland.Flat.Proofs
open Flatland.Flat Flatland.Flat.Spec

/- The statement of the round trip for one schema (`RTP`); dropping empty-valued pairs commutes with everything the
   round trip does with paths. -/

/-- does a path-level pair survive an enclosing pruning List? -/
def keepP (u : Bool) (x : PPair) : Bool := !u || !x.2.isEmpty

theorem keepS_joinPair (sep : Str) (u : Bool) (x : PPair) : keepS u (joinPair sep x) = keepP u x := rfl

theorem keepP_pre (π : List Str) (u : Bool) (x : PPair) : keepP u (pre π x) = keepP u x := rfl

theorem filter_keepP_pre (π : List Str) (u : Bool) (l : List PPair) :
    (l.map (pre π)).filter (keepP u) = (l.filter (keepP u)).map (pre π) := by
  induction l with
  | nil => rfl
  | cons x xs ih =>
    simp only [List.map_cons, List.filter_cons, keepP_pre, ih]
    split <;> rfl

theorem keepP_false (x : PPair) : keepP false x = true := rfl

theorem filter_keepP_false (l : List PPair) : l.filter (keepP false) = l := by
  apply List.filter_eq_self.mpr; intro x _; rfl

theorem keepP_or (u p : Bool) (x : PPair) :
    (keepP u x && !(p && x.2.isEmpty)) = keepP (u || p) x := by
  unfold keepP
  cases u <;> cases p <;> cases x.2.isEmpty <;> rfl

/-- the general round-trip statement for one schema: with or without an enclosing pruning List -/
def RTP (env : Env) (sep : Str) (s : Schema) : Prop :=
  ∀ (u : Bool) (e : Elem), OkP env s e →
    setFlat env sep s (blank s) (toKeys sep ((relFlat (resolve env s e)).filter (keepP u))) = pr env u s e

theorem emitsB_iff (env : Env) (u : Bool) (s : Schema) (e : Elem) :
    emitsB env u s e = true ↔ (relFlat (resolve env s e)).filter (keepP u) ≠ [] := by
  unfold emitsB
  rw [flatten_eq_relFlat]
  have h : ((relFlat (resolve env s e)).map (joinPair [])).filter (keepS u)
      = ((relFlat (resolve env s e)).filter (keepP u)).map (joinPair []) := by
    rw [List.filter_map]; rfl
  rw [h]
  cases hf : (relFlat (resolve env s e)).filter (keepP u) with
  | nil => simp
  | cons a as => simp

theorem emitsB_false_iff (env : Env) (u : Bool) (s : Schema) (e : Elem) :
    emitsB env u s e = false ↔ (relFlat (resolve env s e)).filter (keepP u) = [] := by
  rw [← Bool.not_eq_true, emitsB_iff, Ne, Decidable.not_not]

theorem toKeys_filter (sep : Str) (u : Bool) (l : List PPair) :
    toKeys sep (l.filter (keepP u)) = (toKeys sep l).filter (fun p => !u || !p.2.isEmpty) := by
  simp only [toKeys, List.filter_map]
  rfl

variable {env : Env} {sep : Str} {T : Str → Prop}

theorem tokKey_name (sep : Str) (nm : Option Str) : (tokKey sep nm.toList == nm) = true := by
  cases nm with
  | none => rfl
  | some x => simp [tokKey, joinSep]

theorem relFlat_leaf (nm : Option Str) (cfl : Bool) (u : Str) (kids : List FNode)
    (h : cfl = false ∨ kids = []) :
    relFlat (.mk nm true cfl u false kids) = [(nm.toList, u)] := by
  rw [relFlat_mk]
  rcases h with rfl | rfl
  · simp
  · cases cfl <;> simp [kidsFrom, bfsPath_nil]

theorem bfsPath_leaves (p : List Str) (cn : Option Str) (us : List Str) :
    bfsPath (us.map (fun u => ((p, FNode.mk cn true true u false []) : QItem)))
      = us.map (fun u => (p ++ cn.toList, u)) := by
  rw [bfsPath_level]
  have h1 : (us.map (fun u => ((p, FNode.mk cn true true u false []) : QItem))).flatMap pushed = [] := by
    induction us with
    | nil => simp
    | cons u us ih => simp [List.flatMap_cons, pushed, childItems, kidsFrom, FNode.kids, FNode.cfl, ih]
  rw [h1, bfsPath_nil, List.append_nil]
  clear h1
  induction us with
  | nil => simp
  | cons u us ih =>
    simp only [List.map_cons, List.flatMap_cons, ih]
    simp [ownPath, FNode.fl, namePath, FNode.name, FNode.u]

/-- texts of the members of an array of scalars -/
def leafTexts : List Elem → List Str
  | [] => []
  | .leaf u :: es => u :: leafTexts es
  | _ :: es => leafTexts es

theorem setFlat_leaf_single (env : Env) (sep : Str) (cn : Option Str) (o : Bool) (k : Nat) (u : Str)
    (hu : env.norm k u = u) :
    setFlat env sep (.leaf cn o k) (blank (.leaf cn o k)) [(cn, u)] = .leaf u := by
  simp [setFlat, hu]

theorem arrayRemainder_self (hs : SepSafe env sep T) (x : Str) :
    arrayRemainder sep x x = some none := by
  unfold arrayRemainder
  have h1 : isPrefix x x = true := (isPrefix_iff _ _).mpr ⟨[], by simp⟩
  have h2 : isPrefix sep [] = false := by
    cases hsep : sep with
    | nil => exact absurd hsep hs.sep_ne
    | cons c r => rfl
  simp [h1, h2]

theorem arrayRemainder_member (x c : Str) (hc : c ≠ []) :
    arrayRemainder sep x (x ++ sep ++ c) = some (some c) := by
  unfold arrayRemainder
  have h3 : c.isEmpty = false := by cases c with | nil => exact absurd rfl hc | cons a as => rfl
  simp [isPrefix_append, h3]

theorem rtp_leaf (nm : Option Str) (o : Bool) (k : Nat) : RTP env sep (.leaf nm o k) := by
  intro u e hok
  cases e with
  | leaf t =>
    simp only [OkP] at hok
    rw [resolve_leaf, relFlat_leaf nm true t [] (Or.inr rfl)]
    simp only [List.filter_cons, List.filter_nil, keepP]
    by_cases hk : (!u || !t.isEmpty) = true
    · simp only [hk, if_true, toKeys, List.map_cons, List.map_nil, setFlat, List.find?_cons,
        tokKey_name, hok, pr]
    · simp only [hk, if_false, Bool.false_eq_true, toKeys, List.map_nil, setFlat, List.find?_nil, pr, blank]
      have : t = [] := by
        cases t with
        | nil => rfl
        | cons a as => cases u <;> simp at hk
      rw [this]
  | _ => simp [OkP] at hok

theorem rtp_joined (nm : Option Str) (o : Bool) (k : Nat) (m : Schema) : RTP env sep (.joined nm o k m) := by
  intro u e hok
  cases e with
  | joined t ms =>
    simp only [OkP] at hok
    rw [resolve_joined, relFlat_leaf nm false t _ (Or.inl rfl)]
    simp only [List.filter_cons, List.filter_nil, keepP]
    by_cases hk : (!u || !t.isEmpty) = true
    · have hnot : (u && t.isEmpty) = false := by
        cases u <;> cases hte : t.isEmpty <;> simp_all
      simp only [hk, if_true, toKeys, List.map_cons, List.map_nil, setFlat, List.find?_cons,
        tokKey_name, hok.1, pr, hnot, Bool.false_eq_true, if_false]
    · have hyes : (u && t.isEmpty) = true := by
        cases u <;> cases hte : t.isEmpty <;> simp_all
      simp only [hk, if_false, Bool.false_eq_true, toKeys, List.map_nil, setFlat, List.find?_nil, pr,
        blank, hyes, if_true]
  | _ => simp [OkP] at hok

theorem emitsB_leaf (env : Env) (u : Bool) (cn : Option Str) (o : Bool) (k : Nat) (t : Str) :
    emitsB env u (.leaf cn o k) (.leaf t) = (!u || !t.isEmpty) := by
  have hr := resolve_leaf env cn o k t
  cases hb : (!u || !t.isEmpty) with
  | true =>
    apply (emitsB_iff env u _ _).mpr
    rw [hr, relFlat_leaf cn true t [] (Or.inr rfl)]
    simp [keepP, hb]
  | false =>
    apply (emitsB_false_iff env u _ _).mpr
    rw [hr, relFlat_leaf cn true t [] (Or.inr rfl)]
    simp [keepP, hb]

theorem resolveList_leavesP (env : Env) (cn : Option Str) (o : Bool) (k : Nat) (ms : List Elem)
    (h : ∀ e ∈ ms, OkP env (.leaf cn o k) e) :
    resolveList env (.leaf cn o k) ms = (leafTexts ms).map (fun u => FNode.mk cn true true u false [])
    ∧ ms = (leafTexts ms).map Elem.leaf ∧ ∀ u ∈ leafTexts ms, env.norm k u = u := by
  induction ms with
  | nil => simp [resolveList, leafTexts]
  | cons e es ih =>
    have he := h e (by simp)
    have ih' := ih (fun x hx => h x (List.mem_cons_of_mem _ hx))
    cases e with
    | leaf u =>
      simp only [OkP] at he
      refine ⟨?_, ?_, ?_⟩
      · simp only [resolveList, leafTexts, List.map_cons, ih'.1]
        congr 1
        exact resolve_leaf env cn o k u
      · simp only [leafTexts, List.map_cons]; rw [← ih'.2.1]
      · intro v hv
        simp only [leafTexts, List.mem_cons] at hv
        rcases hv with rfl | hv
        · exact he
        · exact ih'.2.2 v hv
    | _ => simp [OkP] at he

theorem anonPass_own (sep : Str) (prune : Bool) (cn : Option Str) (hcn : ∀ c, cn = some c → c ≠ [])
    (t : Str) :
    anonPass prune cn (tokKey sep cn.toList, t)
      = if (!(prune && cn.isSome) || !t.isEmpty) = true then some (cn, t) else none := by
  cases cn with
  | none => simp [anonPass, tokKey, truthy]
  | some c =>
    have hc := hcn c rfl
    have hk : tokKey sep (some c).toList = some c := by simp [tokKey, joinSep]
    have hne : (some c == some ([] : Str)) = false := by simpa using hc
    simp only [anonPass, hk, truthy_some hc, if_true, Option.getD_some, beq_self_eq_true, Bool.and_true,
      Option.isSome_some, hne]
    cases prune <;> cases t.isEmpty <;> simp

theorem namedPass_own (hs : SepSafe env sep T) (prune : Bool) (x : Str) (cn : Option Str)
    (hcn : ∀ c, cn = some c → c ≠ []) (t : Str) :
    namedPass sep prune x cn (tokKey sep (x :: cn.toList), t)
      = if (!prune || !t.isEmpty) = true then some (cn, t) else none := by
  cases cn with
  | none =>
    simp only [namedPass, tokKey_cons, Option.toList, joinSep_single, arrayRemainder_self hs x, truthy]
    cases prune <;> cases t.isEmpty <;> rfl
  | some c =>
    have hc := hcn c rfl
    have hj : joinSep sep (x :: (some c).toList) = x ++ sep ++ c := by simp [joinSep]
    simp only [namedPass, tokKey_cons, hj, arrayRemainder_member x c hc, truthy_some hc]
    cases prune <;> cases t.isEmpty <;> simp

theorem leaves_of_pass (setM : Pairs → Elem) (cn : Option Str) (key : Key) (P : Str → Bool)
    (pass : Key × Str → Option (Key × Str))
    (hpass : ∀ t, pass (key, t) = if P t = true then some (cn, t) else none) :
    ∀ us : List Str, (∀ u ∈ us, setM [(cn, u)] = .leaf u) →
      ((us.map (fun u => (key, u))).filterMap pass).map (fun q => setM [q]) = (us.filter P).map Elem.leaf
  | [], _ => rfl
  | t :: us, hset => by
    have ih := leaves_of_pass setM cn key P pass hpass us (fun v hv => hset v (List.mem_cons_of_mem _ hv))
    simp only [List.map_cons, List.filterMap_cons, hpass, List.filter_cons]
    cases P t with
    | true => simp only [if_true, List.map_cons, ih, hset t (by simp)]
    | false => simpa using ih

/-- the pair a member emits passes the Array's filters — anonymous or named — unless it is pruned;
    `arrayPrunes` says when that is -/
theorem arrayPass_own (hs : SepSafe env sep T) (nm : Option Str) (hnm : ∀ x, nm = some x → x ≠ []) (prune : Bool)
    (member : Schema) (hcn : ∀ c, member.name = some c → c ≠ []) (t : Str) :
    arrayPass sep nm prune member.name (tokKey sep (nm.toList ++ member.name.toList), t)
      = if (!arrayPrunes nm prune member || !t.isEmpty) = true then some (member.name, t) else none := by
  cases nm with
  | none =>
    have h : arrayPass sep none prune member.name = anonPass prune member.name := by simp [arrayPass, truthy]
    rw [h]
    show anonPass prune member.name (tokKey sep member.name.toList, t) = _
    rw [anonPass_own sep prune member.name hcn t]
    cases hn : member.name <;> simp [arrayPrunes, hn]
  | some x =>
    have h : arrayPass sep (some x) prune member.name = namedPass sep prune x member.name := by
      simp [arrayPass, truthy_some (hnm x rfl)]
    rw [h]
    show namedPass sep prune x member.name (tokKey sep (x :: member.name.toList), t) = _
    rw [namedPass_own hs prune x member.name hcn t]
    simp [arrayPrunes]

theorem own_array_eq (nm : Option Str) (o prune : Bool) (cn : Option Str) (mo : Bool) (k : Nat) (ms : List Elem)
    (hmem : ∀ e ∈ ms, OkP env (.leaf cn mo k) e) :
    relFlat (resolve env (.array nm o prune (.leaf cn mo k)) (.array ms))
      = (leafTexts ms).map (fun t => ((nm.toList ++ cn.toList, t) : PPair)) := by
  rw [resolve_array, ← resolveList_eq_map, relFlat_mk]
  simp only [Bool.false_eq_true, if_false, if_true, List.nil_append]
  rw [kidsFrom_noslots, (resolveList_leavesP env cn mo k ms hmem).1, List.map_map]
  exact bfsPath_leaves nm.toList cn (leafTexts ms)

theorem rtp_array (hs : SepSafe env sep T) (nm : Option Str) (hnm : ∀ x, nm = some x → x ≠ [])
    (o prune : Bool) (member : Schema) (hmn : ∀ c, member.name = some c → c ≠ []) :
    RTP env sep (.array nm o prune member) := by
  intro u e hok
  cases e with
  | array ms =>
    simp only [OkP] at hok
    obtain ⟨⟨cn, mo, k, hm⟩, hmem⟩ := hok
    subst hm
    obtain ⟨_, hms, hnorm⟩ := resolveList_leavesP env cn mo k ms hmem
    rw [own_array_eq nm o prune cn mo k ms hmem, List.filter_map, setFlat_array]
    simp only [toKeys, List.map_map, Function.comp_def, pr]
    congr 1
    have hset : ∀ t ∈ (leafTexts ms).filter (fun x => keepP u (nm.toList ++ cn.toList, x)),
        (fun g => setFlat env sep (.leaf cn mo k) (blank (.leaf cn mo k)) g) [(cn, t)] = .leaf t :=
      fun t ht => setFlat_leaf_single env sep cn mo k t (hnorm t (List.mem_filter.mp ht).1)
    refine (leaves_of_pass _ cn _ _ _ (arrayPass_own hs nm hnm prune (.leaf cn mo k) hmn) _ hset).trans ?_
    rw [List.filter_filter]
    conv => rhs; rw [hms, List.filter_map]
    congr 1
    apply List.filter_congr
    intro t _
    simp only [Function.comp, emitsB_leaf, keepP]
    cases u <;> cases arrayPrunes nm prune (.leaf cn mo k) <;> cases t.isEmpty <;> rfl
  | _ => simp [OkP] at hok

end Flatland.Flat.Proofs
