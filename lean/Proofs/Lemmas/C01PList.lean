/-
C01, Lists: what `List._set_flat` makes of a List's own flat pairs (`own_group`: slot `i` is handed the
own pairs of member `i`; `own_indexes`: the indexes seen are the members that still emit), and the round
trip through a List — pruning and non-pruning, below a pruning List or not — given the member's.
-/
import Proofs.Lemmas.C01PListFacts
namespace Flatland.Flat.Proofs
open Flatland.Flat Flatland.Flat.Spec

variable {env : Env} {sep : Str} {T : Str → Prop}

theorem sel_comb {β} (u prune : Bool) (x : PPair) (r : Option β) :
    (if keepP u x = true then (if (prune && x.2.isEmpty) = true then none else r) else none)
      = if keepP (u || prune) x = true then r else none := by
  unfold keepP; cases u <;> cases prune <;> cases x.2.isEmpty <;> simp

theorem mem_indexesOf_iff (env : Env) (sep : Str) (name : Option Str) (prune : Bool) (j : Nat) (ps : Pairs) :
    j ∈ indexesOf env sep name prune ps ↔ groupOf env sep name prune j ps ≠ [] := by
  unfold indexesOf groupOf
  rw [List.mem_filterMap, ne_eq, List.filterMap_eq_nil_iff, Classical.not_forall]
  refine exists_congr fun p => ?_
  rw [Classical.not_imp]
  refine and_congr_right fun _ => ?_
  cases (prune && p.2.isEmpty) with
  | true => simp only [if_true, reduceCtorEq, not_true_eq_false]
  | false =>
    simp only [Bool.false_eq_true, if_false]
    cases listAddr env sep name p.1 with
    | none => simp only [Option.map_none, reduceCtorEq, not_true_eq_false]
    | some a =>
      simp only [Option.map_some, Option.some.injEq]
      by_cases h : a.1 = j
      · simp only [h, if_true, reduceCtorEq, not_false_eq_true]
      · simp only [h, if_false, not_true_eq_false]

theorem groupOf_eq_nil (env : Env) (sep : Str) (name : Option Str) (prune : Bool) (i : Nat) (ps : Pairs)
    (h : i ∉ indexesOf env sep name prune ps) : groupOf env sep name prune i ps = [] :=
  Classical.byContradiction fun hg => h ((mem_indexesOf_iff env sep name prune i ps).mpr hg)

theorem own_list_eq (nm : Option Str) (o prune : Bool) (mx : Nat) (member : Schema) (ms : List Elem) :
    relFlat (resolve env (.list nm o prune mx member) (.list ms))
      = (bfsPath (kidsFrom [] true 0 (ms.map (resolve env member)))).map (pre nm.toList) := by
  rw [resolve_list, relFlat_mk]
  simp only [Bool.false_eq_true, if_false, if_true, List.nil_append]
  rw [kidsFrom_slots, bfsPath_shift']

theorem filterMap_ite_and {α β} (p q : α → Bool) (f : α → β) (l : List α) :
    l.filterMap (fun x => if (p x && q x) = true then some (f x) else none)
      = ((l.filter q).filter p).map f := by
  induction l with
  | nil => rfl
  | cons a as ih =>
    cases hp : p a <;> cases hq : q a <;>
      simp only [List.filterMap_cons, List.filter_cons, hp, hq, Bool.and_self, Bool.and_true, Bool.and_false,
        if_true, if_false, Bool.false_eq_true, List.map_cons, ih]

section list
variable (hs : SepSafe env sep T) (henv : EnvOK env) (nm : Option Str) (hnm : ∀ x, nm = some x → T x)
include hs henv hnm

theorem slots_addr (kids : List FNode) (hk : namesNEL kids)
    (hdig : ∀ i, i < kids.length → (natStr i).length ≤ env.maxDigits) :
    ∀ x ∈ bfsPath (kidsFrom [] true 0 kids), ∃ i ext, i < kids.length ∧ x.1 = natStr i :: ext ∧
      listAddr env sep nm (tokKey sep (pre nm.toList x).1) = some (i, tokKey sep ext) := by
  intro x hx
  obtain ⟨i, ext, hi, hxe, hext⟩ := slots_heads kids hk x hx
  refine ⟨i, ext, hi, hxe, ?_⟩
  simp only [pre, hxe]
  exact listAddr_path hs henv nm hnm i (hdig i hi) ext hext

variable (o prune : Bool) (mx : Nat) (member : Schema) (hmn : ∀ t ∈ names member, t ≠ [])
  (ms : List Elem) (hdig : ∀ i, i < ms.length → (natStr i).length ≤ env.maxDigits) (u : Bool) (i : Nat)
include hmn hdig

theorem own_group :
    groupOf env sep nm prune i
        (toKeys sep ((relFlat (resolve env (.list nm o prune mx member) (.list ms))).filter (keepP u)))
      = match ms[i]? with
        | some e => toKeys sep ((relFlat (resolve env member e)).filter (keepP (u || prune)))
        | none => [] := by
  rw [own_list_eq, filter_keepP_pre]
  generalize hkids : ms.map (resolve env member) = kids
  have hklen : kids.length = ms.length := by rw [← hkids]; simp
  have hkne : namesNEL kids := by
    rw [← hkids, ← resolveList_eq_map]; exact resolveList_namesNE env member ms hmn
  have haddr := slots_addr hs henv nm hnm kids hkne (fun i hi => hdig i (by omega))
  generalize hLs : bfsPath (kidsFrom [] true 0 kids) = Ls at haddr
  by_cases hi : i < ms.length
  · rw [List.getElem?_eq_getElem hi]
    have hi' : i < kids.length := by omega
    have hkid : kids[i] = resolve env member ms[i] := by simp [← hkids]
    simp only [groupOf, toKeys, List.filterMap_map]
    rw [List.filterMap_filter]
    -- `slots_addr` reads every key as (slot `j`, the member's relative key); the group keeps those with
    -- `j = i`, that is the paths that begin with `natStr i` (`slots_filter`)
    refine (Lists.filterMap_congr' _ (fun x => if (keepP (u || prune) x && (x.1.head? == some (natStr i))) = true
            then some (tokKey sep x.1.tail, x.2) else none) Ls ?_).trans ?_
    · intro x hx
      obtain ⟨j, ext, hj, hxe, hla⟩ := haddr x hx
      simp only [Function.comp, pre] at hla ⊢
      show (if keepP u x = true then (if (prune && x.2.isEmpty) = true then none else _) else none) = _
      rw [sel_comb, hla]
      simp only [hxe, List.head?_cons, List.tail_cons]
      by_cases hk : keepP (u || prune) x = true
      · by_cases hji : j = i
        · subst hji; simp [hk]
        · have : natStr j ≠ natStr i := fun h => hji (natStr_inj h)
          simp [hk, hji, this]
      · simp [hk]
    · rw [filterMap_ite_and, ← hLs, slots_filter kids i hi', filter_keepP_pre, hkid]
      simp [pre, List.map_map, Function.comp_def]
  · rw [List.getElem?_eq_none (by omega)]
    simp only [groupOf, toKeys, List.filterMap_map]
    apply List.filterMap_eq_nil_iff.mpr
    intro x hx
    obtain ⟨j, ext, hj, hxe, hla⟩ := haddr x (List.mem_filter.mp hx).1
    simp only [Function.comp, pre] at hla ⊢
    rw [hla]
    have : j ≠ i := by omega
    simp [this]

theorem own_indexes :
    i ∈ indexesOf env sep nm prune
        (toKeys sep ((relFlat (resolve env (.list nm o prune mx member) (.list ms))).filter (keepP u)))
      ↔ ∃ e, ms[i]? = some e ∧ emitsB env (u || prune) member e = true := by
  rw [mem_indexesOf_iff, own_group hs henv nm hnm o prune mx member hmn ms hdig u i]
  cases ms[i]? with
  | none => simp
  | some e =>
    simp only [Option.some.injEq, exists_eq_left', emitsB_iff, toKeys, ne_eq, List.map_eq_nil_iff]

end list

/-- `R u' m` is what the member's own round trip yields (`pr` without SparseDicts, `prS` with them):
    the round trip through a List does not depend on what the member is. -/
theorem list_roundtrip (hs : SepSafe env sep T) (henv : EnvOK env) (nm : Option Str)
    (hnm : ∀ x, nm = some x → T x) (o prune : Bool) (mx : Nat) (member : Schema)
    (hmn : ∀ t ∈ names member, t ≠ []) (R : Bool → Elem → Elem) (u : Bool) (ms : List Elem)
    (hlen : ms.length ≤ mx) (hdig : ∀ i, i < ms.length → (natStr i).length ≤ env.maxDigits)
    (hrt : ∀ u', ∀ m ∈ ms, setFlat env sep member (blank member)
      (toKeys sep ((relFlat (resolve env member m)).filter (keepP u'))) = R u' m) :
    setFlat env sep (.list nm o prune mx member) (blank (.list nm o prune mx member))
        (toKeys sep ((relFlat (resolve env (.list nm o prune mx member) (.list ms))).filter (keepP u)))
      = if prune then .list ((ms.filter (emitsB env true member)).map (R true))
        else .list ((dropTrailing (emitsB env u member) ms).map
          (fun m => if emitsB env u member m then R u m else blank member)) := by
  have hgroup := own_group hs henv nm hnm o prune mx member hmn ms hdig u
  have hidx := fun j => own_indexes hs henv nm hnm o prune mx member hmn ms hdig u j
  rw [setFlat_list]
  generalize toKeys sep ((relFlat (resolve env (.list nm o prune mx member) (.list ms))).filter (keepP u))
    = PS at hgroup hidx ⊢
  obtain ⟨u', hu'⟩ : ∃ u' : Bool, u' = (u || prune) := ⟨_, rfl⟩
  rw [← hu'] at hgroup hidx
  -- what each slot is rebuilt to
  have hslot : ∀ i, i < ms.length →
      setFlat env sep member (blank member) (groupOf env sep nm prune i PS)
        = if emitsB env u' member ms[i]! = true then R u' ms[i]! else blank member := by
    intro i hi
    have hmi : ms[i]! = ms[i] := by simp [hi]
    rw [hgroup, List.getElem?_eq_getElem hi, hmi]
    simp only []
    cases hem : emitsB env u' member ms[i] with
    | false =>
      rw [(emitsB_false_iff env u' member ms[i]).mp hem]
      exact setFlat_blank_nil env sep member
    | true => exact hrt u' ms[i] (List.getElem_mem hi)
  have hidx_lt : ∀ j ∈ indexesOf env sep nm prune PS, j < ms.length := fun j hj => by
    obtain ⟨e, he, _⟩ := (hidx j).mp hj
    exact (List.getElem?_eq_some_iff.mp he).1
  have hidx_iff : ∀ i, i < ms.length →
      (i ∈ indexesOf env sep nm prune PS ↔ emitsB env u' member ms[i]! = true) := by
    intro i hi
    have hmi : ms[i]! = ms[i] := by simp [hi]
    rw [hidx i, List.getElem?_eq_getElem hi, hmi]
    simp only [Option.some.injEq, exists_eq_left']
  clear hgroup hidx
  generalize indexesOf env sep nm prune PS = idxs at *
  unfold slotIdxs
  by_cases hnone : idxs = []
  · -- nothing survives: the list comes back empty
    have hno : ∀ m ∈ ms, emitsB env u' member m = false := by
      intro m hm
      obtain ⟨i, hi, rfl⟩ := List.getElem_of_mem hm
      cases hem : emitsB env u' member ms[i] with
      | false => rfl
      | true =>
        have : i ∈ idxs := (hidx_iff i hi).mpr (by simpa [hi] using hem)
        rw [hnone] at this; simp at this
    rw [hnone]
    cases hp : prune with
    | true =>
      have hut : u' = true := by rw [hu', hp]; simp
      rw [hut] at hno
      rw [List.filter_eq_nil_iff.mpr (fun m hm => by simp [hno m hm])]
      rfl
    | false =>
      have huu : u' = u := by rw [hu', hp]; simp
      rw [huu] at hno
      rw [dropTrailing_none _ _ hno]
      rfl
  · have hidne : idxs.isEmpty = false := by
      cases hI : idxs with
      | nil => exact absurd hI hnone
      | cons a as => rfl
    simp only [hidne, Bool.false_eq_true, if_false]
    cases hp : prune with
    | true =>
      have hut : u' = true := by rw [hu', hp]; simp
      subst hut
      simp only [if_true]
      congr 1
      have hsd : sortedDistinct idxs
          = (List.range ms.length).filter (fun i => emitsB env true member ms[i]!) := by
        apply sortedDistinct_eq_filter_range
        · intro j hj; have := hidx_lt j hj; omega
        · intro i hi
          exact hidx_iff i (by omega)
      have htake : (sortedDistinct idxs).take mx = sortedDistinct idxs := by
        apply List.take_of_length_le
        rw [hsd]
        have := List.length_filter_le (fun i => emitsB env true member ms[i]!) (List.range ms.length)
        simp only [List.length_range] at this
        omega
      rw [htake, hsd, ← filter_range_map ms (emitsB env true member) (R true)]
      apply List.map_congr_left
      intro i hi
      obtain ⟨hir, hie⟩ := List.mem_filter.mp hi
      rw [hp] at hslot
      rw [hslot i (List.mem_range.mp hir), if_pos hie]
    | false =>
      have huu : u' = u := by rw [hu', hp]; simp
      subst huu
      simp only [Bool.false_eq_true, if_false]
      congr 1
      -- the last surviving index
      have hM := foldl_max_mem idxs hnone
      have hMk := hidx_lt _ hM
      have hMe := (hidx_iff _ hMk).mp hM
      have hnle := dropTrailing_length_le (emitsB env u' member) ms
      have hMn : idxs.foldl max 0 < (dropTrailing (emitsB env u' member) ms).length := by
        by_cases h : idxs.foldl max 0 < (dropTrailing (emitsB env u' member) ms).length
        · exact h
        · have := dropTrailing_after (emitsB env u' member) ms (idxs.foldl max 0) (by omega) (by omega)
          rw [this] at hMe; cases hMe
      have hlast := dropTrailing_last (emitsB env u' member) ms (by omega)
      have hn1 : (dropTrailing (emitsB env u' member) ms).length - 1 ∈ idxs := by
        exact (hidx_iff _ (by omega)).mpr hlast
      have hge := foldl_max_mem_ge idxs 0 _ hn1
      have htop : min (idxs.foldl max 0 + 1) mx = (dropTrailing (emitsB env u' member) ms).length := by
        omega
      rw [htop]
      conv => rhs; rw [dropTrailing_eq_take (emitsB env u' member) ms]
      generalize (dropTrailing (emitsB env u' member) ms).length = n at *
      have htk : ms.take n = (List.range n).map (fun i => ms[i]!) := by
        apply List.ext_getElem
        · simp; omega
        · intro i h1 h2
          simp only [List.length_map, List.length_range] at h2
          have : i < ms.length := by omega
          simp [List.getElem_take, this]
      rw [htk, List.map_map]
      apply List.map_congr_left
      intro i hi
      have hin : i < n := List.mem_range.mp hi
      rw [hp] at hslot
      exact hslot i (by omega)

theorem rtp_list (hs : SepSafe env sep T) (henv : EnvOK env) (nm : Option Str)
    (hnm : ∀ x, nm = some x → T x) (o prune : Bool) (mx : Nat) (member : Schema)
    (hmn : ∀ t ∈ names member, t ≠ []) (hrt : RTP env sep member) :
    RTP env sep (.list nm o prune mx member) := by
  intro u e hok
  cases e with
  | list ms =>
    simp only [OkP] at hok
    rw [list_roundtrip hs henv nm hnm o prune mx member hmn (pr env · member) u ms hok.1 hok.2.1
      (fun u' m hm => hrt u' m (hok.2.2 m hm)), pr]
  | _ => simp [OkP] at hok

end Flatland.Flat.Proofs
