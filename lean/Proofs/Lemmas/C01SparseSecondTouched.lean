/-
C01, second round trip with SparseDicts: the spec's `touched` against `emitsB` (`touched_iff`, under `prefixFree`), and
when a mapping emits (`emitsB_dictS`, `emitsB_compoundS`).
-/
import Proofs.Lemmas.C01SparseMap
import Proofs.Lemmas.C01Emit
namespace Flatland.Flat.Proofs
open Flatland.Flat Flatland.Flat.Spec

variable {env : Env} {sep : Str}

/-- the clause of `prefixFree` for the fields of one mapping -/
def NamesPF (fields : List Schema) : Prop :=
  ∀ f ∈ fields, ∀ g ∈ fields,
    f.name = g.name ∨ isPrefix (f.name.getD []) (g.name.getD []) = false

theorem namesPF_of_all (fields : List Schema)
    (h : fields.all (fun f => fields.all (fun g =>
      f.name == g.name || !isPrefix (f.name.getD []) (g.name.getD []))) = true) : NamesPF fields := by
  intro f hf g hg
  have := List.all_eq_true.mp (List.all_eq_true.mp h f hf) g hg
  simp only [Bool.or_eq_true, beq_iff_eq, Bool.not_eq_true'] at this
  exact this

theorem joinSep_head (sep t : Str) (q : List Str) : ∃ r, joinSep sep (t :: q) = t ++ r := by
  cases q with
  | nil => exact ⟨[], by simp [joinSep]⟩
  | cons u q => exact ⟨sep ++ joinSep sep (u :: q), by rw [joinSep_cons_cons, List.append_assoc]⟩

theorem not_prefix_of_ext (a b r : Str) (h1 : isPrefix a b = false) (h2 : isPrefix b a = false) :
    isPrefix a (b ++ r) = false := by
  cases h : isPrefix a (b ++ r) with
  | false => rfl
  | true =>
    exfalso
    have ha : a <+: b ++ r := by
      obtain ⟨z, hz⟩ := (isPrefix_iff _ _).mp h
      exact ⟨z, hz.symm⟩
    have hb : b <+: b ++ r := List.prefix_append b r
    rcases List.prefix_or_prefix_of_prefix ha hb with hab | hba
    · obtain ⟨z, hz⟩ := hab
      have := (isPrefix_iff a b).mpr ⟨z, hz.symm⟩
      rw [h1] at this; cases this
    · obtain ⟨z, hz⟩ := hba
      have := (isPrefix_iff b a).mpr ⟨z, hz.symm⟩
      rw [h2] at this; cases this

theorem kidsS_of_mem {fields : List Schema} {k : Str} {e : Elem} {f : Schema}
    (hf : findField k fields = some f) : ∀ {ms : List (Str × Elem)}, (k, e) ∈ ms →
    resolve env f e ∈ kidsS env fields ms
  | [], h => by simp at h
  | (k0, e0) :: ms, h => by
    simp only [kidsS, List.mem_append]
    rcases List.mem_cons.mp h with heq | hin
    · injection heq with h1 h2; subst h1; subst h2
      left; simp [hf]
    · exact Or.inr (kidsS_of_mem hf hin)

theorem relFlat_head (k : FNode) (y : Str) (hy : k.name = some y) :
    ∀ x ∈ relFlat k, ∃ ext, x.1 = y :: ext := by
  intro x hx
  obtain ⟨it, hit, ext, he⟩ := bfsPath_mem _ x hx
  simp only [List.mem_singleton] at hit
  subst hit
  exact ⟨ext, by simp [he, namePath, hy]⟩

theorem touched_of_emits (fields : List Schema) (hnd : (namesOf fields).Nodup)
    (hsome : ∀ g ∈ fields, g.name.isSome) (ms : List (Str × Elem))
    (f : Schema) (hf : f ∈ fields) (u : Bool) (e : Elem)
    (hl : lookup (f.name.getD []) ms = some e) (hem : emitsB env u f e = true) :
    touched (innerPairs env sep u fields ms) f = true := by
  obtain ⟨nm, hname⟩ := Option.isSome_iff_exists.mp (hsome f hf)
  rw [innerPairs_eq]
  unfold touched
  simp only [hname, Option.getD_some, List.any_eq_true, List.mem_map, List.mem_filter]
  obtain ⟨x, hx, hkx⟩ := (emitsB_iffN env u f e).mp hem
  have hk : resolve env f e ∈ kidsS env fields ms :=
    kidsS_of_mem (findField_unique hnd hf hname) (by simpa [hname] using mem_of_lookup hl)
  obtain ⟨ext, hext⟩ := relFlat_head _ nm (by rw [resolve_name, hname]) x hx
  refine ⟨joinPair sep x, ⟨x, ⟨?_, hkx⟩, rfl⟩, ?_⟩
  · exact (mem_bfsPath_iff _ x).mpr ⟨([], resolve env f e), List.mem_map.mpr ⟨_, hk, rfl⟩, hx⟩
  · simp only [joinPair, hext]
    exact isPrefix_tok_self sep nm ext

/-- If no field name is a prefix of a sibling's, a declared field is touched (some surviving flat key of the
    mapping starts with its name, `Mapping._set_flat`'s `startswith`) exactly when the member under its key is
    present and emits a pair that survives. -/
theorem touched_iff (fields : List Schema) (hnd : (namesOf fields).Nodup)
    (hsome : ∀ g ∈ fields, g.name.isSome) (hpf : NamesPF fields)
    (ms : List (Str × Elem)) (hkeys : (ms.map (·.1)).Nodup)
    (f : Schema) (hf : f ∈ fields) (u : Bool) :
    touched (innerPairs env sep u fields ms) f = true ↔
      ∃ e, lookup (f.name.getD []) ms = some e ∧ emitsB env u f e = true := by
  constructor
  · intro ht
    obtain ⟨nm, hname⟩ := Option.isSome_iff_exists.mp (hsome f hf)
    rw [innerPairs_eq] at ht
    unfold touched at ht
    simp only [hname, Option.getD_some, List.any_eq_true, List.mem_map, List.mem_filter] at ht
    obtain ⟨p, ⟨x, ⟨hx, hkx⟩, rfl⟩, hpre⟩ := ht
    obtain ⟨it, hit, hxi⟩ := (mem_bfsPath_iff _ x).mp hx
    obtain ⟨k, hk, rfl⟩ := List.mem_map.mp hit
    obtain ⟨q, hq, g, hg, rfl⟩ := kidsS_mem hk
    obtain ⟨hgm, hgn⟩ := findField_someS hg
    have hxr : x ∈ relFlat (resolve env g q.2) := hxi
    obtain ⟨ext, hext⟩ := relFlat_head _ q.1 (by rw [resolve_name, hgn]) x hxr
    have hfg : f.name = g.name := by
      rcases hpf f hf g hgm with h | h1
      · exact h
      · rcases hpf g hgm f hf with h | h2
        · exact h.symm
        · exfalso
          rw [hname, hgn] at h1 h2
          simp only [Option.getD_some] at h1 h2
          obtain ⟨r, hr⟩ := joinSep_head sep q.1 ext
          simp only [joinPair, hext, hr] at hpre
          rw [not_prefix_of_ext nm q.1 r h1 h2] at hpre
          cases hpre
    have hq1 : q.1 = nm := by
      rw [hname, hgn] at hfg; injection hfg with h; exact h.symm
    have hgf : g = f := by
      have := findField_unique hnd hf (k := q.1) (by rw [hname, hq1])
      rw [hg] at this; injection this
    subst hgf
    refine ⟨q.2, ?_, ?_⟩
    · rw [hname, Option.getD_some, ← hq1]; exact lookup_of_mem_nodup hkeys (by simpa using hq)
    · exact (emitsB_iffN env u _ q.2).mpr ⟨x, hxr, hkx⟩
  · rintro ⟨e, hl, hem⟩
    exact touched_of_emits fields hnd hsome ms f hf u e hl hem

theorem touched_false_iff (fields : List Schema) (hnd : (namesOf fields).Nodup)
    (hsome : ∀ g ∈ fields, g.name.isSome) (hpf : NamesPF fields)
    (ms : List (Str × Elem)) (hkeys : (ms.map (·.1)).Nodup)
    (f : Schema) (hf : f ∈ fields) (u : Bool) :
    touched (innerPairs env sep u fields ms) f = false ↔
      ∀ e, lookup (f.name.getD []) ms = some e → emitsB env u f e = false := by
  have h := touched_iff (env := env) (sep := sep) fields hnd hsome hpf ms hkeys f hf u
  constructor
  · intro ht e hl
    cases hem : emitsB env u f e with
    | false => rfl
    | true => rw [h.mpr ⟨e, hl, hem⟩] at ht; cases ht
  · intro hall
    cases ht : touched (innerPairs env sep u fields ms) f with
    | false => rfl
    | true =>
      obtain ⟨e, hl, hem⟩ := h.mp ht
      rw [hall e hl] at hem; cases hem

theorem emitsB_dictS (env : Env) (u : Bool) (nm : Option Str) (o : Bool) (mode : DictMode)
    (fields : List Schema) (ms : List (Str × Elem)) :
    emitsB env u (.dict nm o mode fields) (.dict ms) = true ↔
      ∃ p ∈ ms, ∃ f, findField p.1 fields = some f ∧ emitsB env u f p.2 = true := by
  rw [emitsB_iffN, resolve_dictS, emitsN_mk]
  constructor
  · rintro (⟨h, _⟩ | ⟨_, k, hk, hem⟩)
    · cases h
    · obtain ⟨p, hp, f, hf, rfl⟩ := kidsS_mem hk
      exact ⟨p, hp, f, hf, (emitsB_iffN env u f p.2).mpr hem⟩
  · rintro ⟨p, hp, f, hf, hem⟩
    exact Or.inr ⟨rfl, resolve env f p.2, kidsS_of_mem hf (by simpa using hp),
      (emitsB_iffN env u f p.2).mp hem⟩

theorem emitsB_compoundS (env : Env) (u : Bool) (nm : Option Str) (o : Bool) (k : Nat)
    (fields : List Schema) (ms : List (Str × Elem)) :
    emitsB env u (.compound nm o k fields) (.dict ms) = true ↔
      (!u || !(env.compose k (usOf env fields ms)).isEmpty) = true ∨
      ∃ p ∈ ms, ∃ f, findField p.1 fields = some f ∧ emitsB env u f p.2 = true := by
  rw [emitsB_iffN, resolve_compoundS, emitsN_mk]
  constructor
  · rintro (⟨_, h⟩ | ⟨_, k', hk, hem⟩)
    · exact Or.inl h
    · obtain ⟨p, hp, f, hf, rfl⟩ := kidsS_mem hk
      exact Or.inr ⟨p, hp, f, hf, (emitsB_iffN env u f p.2).mpr hem⟩
  · rintro (h | ⟨p, hp, f, hf, hem⟩)
    · exact Or.inl ⟨rfl, h⟩
    · exact Or.inr ⟨rfl, resolve env f p.2, kidsS_of_mem hf (by simpa using hp),
        (emitsB_iffN env u f p.2).mp hem⟩

end Flatland.Flat.Proofs
