/-
Path-level view of `flatten`: the queue loop emitting the *token path* of each element instead of
the separator-joined key.  `bfsFlat` is its image under `joinSep`.  Lemmas: level order,
selection of a subtree by a path predicate, shifting by a common prefix.
-/
import Flatland.Flat
import Proofs.Lemmas.FlatBfs
namespace Flatland.Flat

abbrev PPair := List Str × Str

def ownPath (it : QItem) : List PPair :=
  if it.2.fl then [(namePath it.1 it.2, it.2.u)] else []

def bfsPath : List QItem → List PPair
  | [] => []
  | it :: q => ownPath it ++ bfsPath (q ++ pushed it)
termination_by q => qsize q
decreasing_by
  have h := qsize_pushed_lt it
  rw [qsize_append, qsize_cons it q]
  omega

theorem bfsPath_nil : bfsPath [] = [] := by rw [bfsPath]

theorem bfsPath_cons (it : QItem) (q : List QItem) :
    bfsPath (it :: q) = ownPath it ++ bfsPath (q ++ pushed it) := by rw [bfsPath]

theorem bfsPath_isLoop : Fifo.IsLoop ownPath pushed bfsPath := ⟨bfsPath_nil, bfsPath_cons⟩

theorem bfsPath_append (q r : List QItem) :
    bfsPath (q ++ r) = q.flatMap ownPath ++ bfsPath (r ++ q.flatMap pushed) :=
  bfsPath_isLoop.append q r

theorem bfsPath_level (q : List QItem) :
    bfsPath q = q.flatMap ownPath ++ bfsPath (q.flatMap pushed) :=
  bfsPath_isLoop.level q

def joinPair (sep : Str) (x : PPair) : Str × Str := (joinSep sep x.1, x.2)

theorem ownPair_eq_map (sep : Str) (it : QItem) : ownPair sep it = (ownPath it).map (joinPair sep) := by
  unfold ownPair ownPath joinPair
  split <;> simp

theorem bfsFlat_eq_map (sep : Str) (q : List QItem) :
    bfsFlat sep q = (bfsPath q).map (joinPair sep) := by
  have := bfsPath_isLoop.sim (bfsFlat_isLoop sep) qsize_levels id (joinPair sep) (fun _ => True)
    (fun a _ => ownPair_eq_map sep a) (fun a _ => (List.map_id _).symm) (fun _ _ _ _ => trivial) q
    (fun _ _ => trivial)
  rwa [List.map_id] at this

theorem flatMap_filter_sel {α β} (f : α → List β) (sel : α → Bool) (P : β → Bool) :
    ∀ l : List α, (∀ a ∈ l, ∀ x ∈ f a, P x = sel a) → (l.flatMap f).filter P = (l.filter sel).flatMap f
  | [], _ => rfl
  | a :: as, h => by
    have ih := flatMap_filter_sel f sel P as (fun b hb => h b (List.mem_cons_of_mem _ hb))
    have ha := h a (by simp)
    rw [List.flatMap_cons, List.filter_append, ih, List.filter_cons]
    cases hsel : sel a with
    | true =>
      rw [if_pos rfl, List.flatMap_cons, List.filter_eq_self.mpr (fun x hx => by rw [ha x hx, hsel])]
    | false =>
      rw [if_neg (by simp), List.filter_eq_nil_iff.mpr (fun x hx => by simp [ha x hx, hsel]),
        List.nil_append]

/-- `I` is an invariant of the queued items under which `P` is constant on an item's whole subtree.
    The order is kept: level order restricted to a set of subtrees is the level order of those subtrees. -/
theorem bfsPath_filter_of (I : QItem → Prop) (sel : QItem → Bool) (P : PPair → Bool)
    (hown : ∀ it, I it → ∀ x ∈ ownPath it, P x = sel it)
    (hpush : ∀ it, I it → ∀ c ∈ pushed it, sel c = sel it ∧ I c) (q : List QItem)
    (hq : ∀ it ∈ q, I it) : (bfsPath q).filter P = bfsPath (q.filter sel) := by
  induction q using level_ind with
  | nil => simp [bfsPath_nil]
  | level it q ih =>
    rw [bfsPath_level, bfsPath_level ((it :: q).filter sel)]
    have hI : ∀ c ∈ (it :: q).flatMap pushed, I c := by
      intro c hc
      obtain ⟨a, ha, hca⟩ := List.mem_flatMap.mp hc
      exact (hpush a (hq a ha) c hca).2
    rw [List.filter_append, ih hI,
      flatMap_filter_sel ownPath sel P _ (fun a ha => hown a (hq a ha)),
      flatMap_filter_sel pushed sel sel _ (fun a ha c hc => (hpush a (hq a ha) c hc).1)]

theorem bfsPath_filter (sel : QItem → Bool) (P : PPair → Bool)
    (hown : ∀ it x, x ∈ ownPath it → P x = sel it)
    (hpush : ∀ it c, c ∈ pushed it → sel c = sel it) (q : List QItem) :
    (bfsPath q).filter P = bfsPath (q.filter sel) :=
  bfsPath_filter_of (fun _ => True) sel P (fun it _ x hx => hown it x hx)
    (fun it _ c hc => ⟨hpush it c hc, trivial⟩) q (fun _ _ => trivial)

def shift (π : List Str) (it : QItem) : QItem := (π ++ it.1, it.2)

theorem namePath_shift (π p : List Str) (n : FNode) : namePath (π ++ p) n = π ++ namePath p n := by
  simp [namePath, List.append_assoc]

theorem kidsFrom_shift (π p : List Str) (s : Bool) (i : Nat) (ks : List FNode) :
    kidsFrom (π ++ p) s i ks = (kidsFrom p s i ks).map (shift π) := by
  simp only [kidsFrom_zipIdx, List.map_map]
  apply List.map_congr_left
  intro kj _
  cases s <;> simp [shift, List.append_assoc]

theorem pushed_shift (π : List Str) (it : QItem) : pushed (shift π it) = (pushed it).map (shift π) := by
  obtain ⟨p, n⟩ := it
  simp only [pushed, shift, childItems]
  by_cases h : n.cfl = true
  · simp only [h, if_true]; rw [namePath_shift, kidsFrom_shift]
  · simp [h]

theorem ownPath_shift (π : List Str) (it : QItem) :
    ownPath (shift π it) = (ownPath it).map (fun x => (π ++ x.1, x.2)) := by
  obtain ⟨p, n⟩ := it
  simp only [ownPath, shift]
  by_cases h : n.fl = true
  · simp [h, namePath_shift]
  · simp [h]

theorem bfsPath_shift (π : List Str) (q : List QItem) :
    bfsPath (q.map (shift π)) = (bfsPath q).map (fun x => (π ++ x.1, x.2)) :=
  bfsPath_isLoop.sim bfsPath_isLoop qsize_levels (shift π) _ (fun _ => True)
    (fun a _ => ownPath_shift π a) (fun a _ => pushed_shift π a) (fun _ _ _ _ => trivial) q (fun _ _ => trivial)

theorem namePath_kidsFrom (p : List Str) (s : Bool) (i : Nat) (ks : List FNode) (c : QItem)
    (hc : c ∈ kidsFrom p s i ks) : ∃ ext, namePath c.1 c.2 = p ++ ext := by
  rw [kidsFrom_zipIdx] at hc
  obtain ⟨kj, _, rfl⟩ := List.mem_map.mp hc
  cases s
  · exact ⟨kj.1.name.toList, by simp [namePath]⟩
  · exact ⟨[natStr kj.2] ++ kj.1.name.toList, by simp [namePath, List.append_assoc]⟩

theorem namePath_pushed (it c : QItem) (hc : c ∈ pushed it) :
    ∃ ext, namePath c.1 c.2 = namePath it.1 it.2 ++ ext := by
  obtain ⟨p, n⟩ := it
  simp only [pushed] at hc
  split at hc
  · exact namePath_kidsFrom _ _ _ _ c hc
  · simp at hc

theorem bfsPath_filter_head (t : Str) (q : List QItem) (hq : ∀ it ∈ q, namePath it.1 it.2 ≠ []) :
    (bfsPath q).filter (fun x => x.1.head? == some t)
      = bfsPath (q.filter (fun it => (namePath it.1 it.2).head? == some t)) := by
  refine bfsPath_filter_of (fun it => namePath it.1 it.2 ≠ []) _ _ ?_ ?_ q hq
  · intro it _ x hx
    unfold ownPath at hx
    split at hx <;> simp at hx
    rw [hx]
  · -- what an item pushes lies below it: a non-empty name path keeps its first token
    intro it hne c hc
    obtain ⟨ext, he⟩ := namePath_pushed it c hc
    rw [he]
    cases hnp : namePath it.1 it.2 with
    | nil => exact absurd hnp hne
    | cons x xs => simp

theorem bfsPath_mem (q : List QItem) (x : PPair) (hx : x ∈ bfsPath q) :
    ∃ it ∈ q, ∃ ext, x.1 = namePath it.1 it.2 ++ ext := by
  induction q using level_ind with
  | nil => simp [bfsPath_nil] at hx
  | level it q ih =>
    rw [bfsPath_level] at hx
    rcases List.mem_append.mp hx with h1 | h1
    · obtain ⟨a, ha, hxa⟩ := List.mem_flatMap.mp h1
      unfold ownPath at hxa
      split at hxa <;> simp at hxa
      exact ⟨a, ha, [], by simp [hxa]⟩
    · obtain ⟨c, hc, ext, he⟩ := ih h1
      obtain ⟨a, ha, hca⟩ := List.mem_flatMap.mp hc
      obtain ⟨ext2, he2⟩ := namePath_pushed a c hca
      exact ⟨a, ha, ext2 ++ ext, by rw [he, he2, List.append_assoc]⟩

end Flatland.Flat
