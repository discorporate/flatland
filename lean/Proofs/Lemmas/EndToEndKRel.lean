/-
END TO END / C02 — groundwork for "for CANONICAL pair lists the plain per-key reading of stability is enough": `KRel`
(the same multiset, and the pairs of every KEY in the same relative order) survives every stripping step of `_set_flat`
that is injective on the keys that occur, and a list all of whose keys are equal is determined by it
(`krel_eq_of_const_key`).  Also: `ASame` is reflexive and only looks at the pairs that pass the element's own first
test.
-/
import Proofs.Lemmas.EndToEndHNodup
namespace Flatland.Flat.Proofs
open Flatland.Flat Flatland.Flat.Spec Flatland.EndToEnd

/-- the same multiset of pairs, and the pairs of every key in the same order -/
def KRel {κ : Type} [BEq κ] (A B : List (κ × Str)) : Prop :=
  A.Perm B ∧ ∀ k : κ, A.filter (fun p => p.1 == k) = B.filter (fun p => p.1 == k)

section krel
variable {κ κ' : Type} [BEq κ] [LawfulBEq κ] [BEq κ'] [LawfulBEq κ']

theorem krel_refl (A : List (κ × Str)) : KRel A A := ⟨List.Perm.refl _, fun _ => rfl⟩

omit [LawfulBEq κ] in
theorem krel_nil_right {B : List (κ × Str)} (h : KRel [] B) : B = [] := (List.Perm.nil_eq h.1).symm

omit [LawfulBEq κ] in
theorem krel_filter (q : κ × Str → Bool) {A B : List (κ × Str)} (h : KRel A B) :
    KRel (A.filter q) (B.filter q) := by
  refine ⟨h.1.filter q, fun k => ?_⟩
  have := congrArg (List.filter q) (h.2 k)
  simp only [List.filter_filter] at this ⊢
  have e : (fun a : κ × Str => (a.1 == k && q a)) = (fun a => (q a && a.1 == k)) := by
    funext a; exact Bool.and_comm _ _
  rw [e]; exact this

theorem filterMap_filter_restrict {α β} (g : α → Option β) (c : β → Bool) (d : α → Bool) (X : List α)
    (h : ∀ x ∈ X, ∀ x', g x = some x' → c x' = true → d x = true) :
    (X.filterMap g).filter c = ((X.filter d).filterMap g).filter c := by
  rw [List.filter_filterMap, List.filter_filterMap, List.filterMap_filter]
  refine Lists.filterMap_congr' _ _ X fun x hx => ?_
  cases hg : g x with
  | none => cases d x <;> simp
  | some x' =>
    by_cases hc : c x' = true
    · simp [h x hx x' hg hc]
    · cases d x <;> simp [hc]

theorem krel_filterMap (g : κ × Str → Option (κ' × Str)) {A B : List (κ × Str)}
    (hinj : ∀ p ∈ A, ∀ q ∈ A, ∀ p' q', g p = some p' → g q = some q' → p'.1 = q'.1 → p.1 = q.1)
    (h : KRel A B) : KRel (A.filterMap g) (B.filterMap g) := by
  refine ⟨h.1.filterMap g, fun k' => ?_⟩
  by_cases hex : ∃ p0 ∈ A, ∃ p0', g p0 = some p0' ∧ p0'.1 = k'
  · obtain ⟨p0, hp0, p0', hg0, hk0⟩ := hex
    have hA : ∀ x ∈ A, ∀ x', g x = some x' → (x'.1 == k') = true → (x.1 == p0.1) = true := by
      intro x hx x' hgx hc
      have h1 : x'.1 = p0'.1 := by rw [hk0]; exact eq_of_beq hc
      rw [hinj x hx p0 hp0 x' p0' hgx hg0 h1]
      exact beq_self_eq_true _
    have hB : ∀ x ∈ B, ∀ x', g x = some x' → (x'.1 == k') = true → (x.1 == p0.1) = true :=
      fun x hx => hA x (h.1.mem_iff.mpr hx)
    rw [filterMap_filter_restrict g _ (fun p => p.1 == p0.1) A hA,
      filterMap_filter_restrict g _ (fun p => p.1 == p0.1) B hB, h.2 p0.1]
  · have hn : ∀ X : List (κ × Str), (∀ x ∈ X, x ∈ A) →
        (X.filterMap g).filter (fun p => p.1 == k') = [] := by
      intro X hX
      apply List.filter_eq_nil_iff.mpr
      intro x' hx' hc
      obtain ⟨x, hx, hgx⟩ := List.mem_filterMap.mp hx'
      exact hex ⟨x, hX x hx, x', hgx, eq_of_beq hc⟩
    rw [hn A (fun _ h => h), hn B (fun x hx => h.1.mem_iff.mpr hx)]

theorem krel_eq_of_const_key {A B : List (κ × Str)} (h : KRel A B) (k0 : κ) (hk : ∀ p ∈ A, p.1 = k0) :
    A = B := by
  have hA : A.filter (fun p => p.1 == k0) = A :=
    List.filter_eq_self.mpr (fun p hp => by rw [hk p hp]; exact beq_self_eq_true _)
  have hB : B.filter (fun p => p.1 == k0) = B :=
    List.filter_eq_self.mpr (fun p hp => by rw [hk p (h.1.mem_iff.mpr hp)]; exact beq_self_eq_true _)
  rw [← hA, ← hB]; exact h.2 k0

end krel

theorem krel_wrap {A B : List (Str × Str)} (h : KRel A B) : KRel (wrap A) (wrap B) := by
  unfold wrap
  rw [← List.filterMap_eq_map]
  exact krel_filterMap _ (fun p _ q _ p' q' hp hq hk => by cases hp; cases hq; exact Option.some.inj hk) h

theorem stripName_inj {sep : Str} {name : Option Str} {a b r : Str}
    (ha : stripName sep name a = some r) (hb : stripName sep name b = some r) : a = b := by
  cases name with
  | none =>
    simp only [stripName, Option.some.injEq] at ha hb
    rw [ha, hb]
  | some n =>
    simp only [stripName] at ha hb
    split at ha <;> split at hb <;> simp only [Option.some.injEq, reduceCtorEq] at ha hb
    rename_i h1 h2
    obtain ⟨r1, e1⟩ := (isPrefix_iff _ _).mp h1
    obtain ⟨r2, e2⟩ := (isPrefix_iff _ _).mp h2
    rw [e1, List.drop_left] at ha
    rw [e2, List.drop_left] at hb
    rw [e1, e2, ha, hb]

theorem krel_possibles (sep : Str) (name : Option Str) {A B : Pairs} (h : KRel A B) :
    KRel (possibles sep name A) (possibles sep name B) := by
  rw [possibles_eq_filterMap, possibles_eq_filterMap]
  refine krel_filterMap _ (fun p _ q _ p' q' hp hq hk => ?_) h
  simp only [stripPair, Option.bind_eq_some_iff, Option.map_eq_some_iff] at hp hq
  obtain ⟨a, ha, r, hr, rfl⟩ := hp
  obtain ⟨b, hb, r', hr', rfl⟩ := hq
  cases (hk : r = r')
  rw [ha, hb, stripName_inj hr hr']

theorem asame_refl (env : Env) (sep : Str) : ∀ (s : Schema) (ps : Pairs), ASame env sep s ps ps := by
  intro s
  induction s using schema_ind_mapping with
  | hleaf _ _ _ | hjoined _ _ _ _ => intro _; simp only [ASame]
  | hdict name o mode fields ih =>
    intro ps
    simp only [ASame, asameFields_iff]; exact fun f hf => ih f hf _
  | hcompound name o k fields ih => intro ps; rw [asame_compound]; exact ih ps
  | hlist name o prune mx member ih => intro ps; simp only [ASame]; exact fun _ => ih _
  | harray name o prune member _ => exact fun ps => (asame_array ..).mpr rfl

theorem asameFields_refl (env : Env) (sep : Str) : ∀ (fs : List Schema) (poss : List (Str × Str)),
    ASameFields env sep fs poss poss :=
  fun fs poss => (asameFields_iff env sep poss poss fs).mpr fun f _ => asame_refl env sep f _

theorem asame_reach (env : Env) (sep : Str) (s : Schema) (A B : Pairs) :
    ASame env sep s (A.filter (fun p => reach env sep s p.1)) (B.filter (fun p => reach env sep s p.1))
      ↔ ASame env sep s A B := by
  cases s with
  | leaf name o k | joined name o k m => simp only [ASame]
  | dict name o mode fields | compound name o k fields => simp only [ASame, reach, possibles_filter]
  | list name o prune mx member => simp only [ASame, reach, groupOf_filter]
  | array name o prune member =>
    rw [asame_array, asame_array, arrayPass_reach, arrayPass_reach]

theorem asame_congr_reach (env : Env) (sep : Str) (s : Schema) (A A' B B' : Pairs)
    (hA : A.filter (fun p => reach env sep s p.1) = A'.filter (fun p => reach env sep s p.1))
    (hB : B.filter (fun p => reach env sep s p.1) = B'.filter (fun p => reach env sep s p.1))
    (h : ASame env sep s A' B') : ASame env sep s A B := by
  rw [← asame_reach, hA, hB, asame_reach]; exact h

end Flatland.Flat.Proofs
