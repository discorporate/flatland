/-
A call applied inside a tree (`stepAt`) is `nodeStep` on one node with the target identity, and the result is the
old tree with that one subtree exchanged (`Swap`, `stepAt_swap`): what is to hold of the whole tree afterwards is
shown of the target and carried from an item to its holder by induction on `Swap`.  Also the nodes of a tree,
predicates that are one local test at every node (`IsDeep`), and induction along histories (`hrun_induct`).
-/
import Flatland.C08
import Proofs.Lemmas.TreeHdr
namespace Flatland.Tree
open Flatland.PyList Flatland.C08

/-- `Swap n n' t t'`: `t'` is `t` with one occurrence of the subtree `n` exchanged for `n'` -/
inductive Swap (n n' : Node) : Node → Node → Prop
  | here : Swap n n' n n'
  | kid {i : NInfo} {s : Schema} {pre post : List Node} {k k' : Node} :
      Swap n n' k k' → Swap n n' (.mk i s (pre ++ k :: post)) (.mk i s (pre ++ k' :: post))

theorem stepAtL_split (op : Op) (tid next : Nat) : ∀ (ks ks' : List Node) (r : StepR),
    stepAtL ks tid op next = some (ks', r) →
    ∃ pre k post, ks = pre ++ k :: post ∧ ks' = pre ++ r.node :: post ∧ stepAt k tid op next = some r := by
  intro ks
  induction ks with
  | nil => intro ks' r h; rw [stepAtL] at h; cases h
  | cons k ks ih =>
    intro ks' r h
    rw [stepAtL] at h
    split at h
    · rename_i r1 h1; cases h; exact ⟨[], k, ks, rfl, rfl, h1⟩
    · split at h
      · cases h
      · rename_i ks2 r2 h2; cases h
        obtain ⟨pre, k0, post, e1, e2, h3⟩ := ih _ _ h2
        exact ⟨k :: pre, k0, post, by rw [e1]; rfl, by rw [e2]; rfl, h3⟩

theorem stepAt_swap (op : Op) (tid next : Nat) : ∀ (t : Node) (r : StepR), stepAt t tid op next = some r →
    ∃ n, n.id = tid ∧ Swap n (nodeStep n op next).node t r.node ∧ r.next = (nodeStep n op next).next ∧
      r.out = (nodeStep n op next).out ∧ r.detached = (nodeStep n op next).detached := by
  intro t
  induction t using Node.induction with
  | step t ih =>
    intro r hr
    cases t with
    | mk i s kids =>
      rw [stepAt] at hr
      split at hr
      · rename_i hid; cases hr; exact ⟨.mk i s kids, hid, .here, rfl, rfl, rfl⟩
      · split at hr
        · cases hr
        · rename_i kids' r' hl; cases hr
          obtain ⟨pre, k, post, rfl, rfl, hk⟩ := stepAtL_split op tid next _ _ _ hl
          obtain ⟨n, hid, hs, hr'⟩ := ih k (by simp [Node.kids]) r' hk
          exact ⟨n, hid, .kid hs, hr'⟩

theorem forall_mem_swap {α : Type} {P : α → Prop} {pre post : List α} {k k' : α}
    (h : ∀ x ∈ pre ++ k :: post, P x) (hk : P k → P k') : ∀ x ∈ pre ++ k' :: post, P x := by
  intro x hx
  rcases List.mem_append.mp hx with h1 | h1
  · exact h x (List.mem_append.mpr (.inl h1))
  · rcases List.mem_cons.mp h1 with rfl | h2
    · exact hk (h k (by simp))
    · exact h x (by simp [h2])

theorem keys_swap {pre post : List Node} {k k' : Node} (h : k'.hdr = k.hdr) :
    (pre ++ k' :: post).map Node.key = (pre ++ k :: post).map Node.key := by
  simp only [List.map_append, List.map_cons, key_of_hdr h]

theorem stepAtL_some_of {op : Op} {tid next : Nat} : ∀ {ks : List Node} {k : Node}, k ∈ ks →
    (stepAt k tid op next).isSome → ∃ ks' r, stepAtL ks tid op next = some (ks', r) := by
  intro ks
  induction ks with
  | nil => intro k h; cases h
  | cons x xs ih =>
    intro k hk hs
    rw [stepAtL]
    cases hx : stepAt x tid op next with
    | some r => exact ⟨_, _, rfl⟩
    | none =>
      rcases List.mem_cons.mp hk with rfl | h1
      · rw [hx] at hs; cases hs
      · obtain ⟨ks', r, h⟩ := ih h1 hs
        simp only [h]; exact ⟨_, _, rfl⟩

end Flatland.Tree

namespace Flatland.C08.Proofs
open Flatland.Tree Flatland.C08

theorem self_mem_nodes (n : Node) : n ∈ nodes n := by cases n; rw [nodes]; simp

theorem nodesL_append (x y : List Node) : nodesL (x ++ y) = nodesL x ++ nodesL y := by
  induction x with
  | nil => simp [nodesL]
  | cons k ks ih => simp [nodesL, ih]

theorem mem_nodesL_iff {ks : List Node} {n : Node} : n ∈ nodesL ks ↔ ∃ k ∈ ks, n ∈ nodes k := by
  induction ks with
  | nil => simp [nodesL]
  | cons k ks ih => rw [nodesL, List.mem_append, ih]; simp

theorem mem_nodesL_swap {pre post : List Node} {k x : Node} (h : x ∈ nodes k) : x ∈ nodesL (pre ++ k :: post) :=
  mem_nodesL_iff.mpr ⟨k, by simp, h⟩

theorem nodes_eq (n : Node) : nodes n = n :: nodesL n.kids := by cases n; rw [nodes]; rfl

theorem forall_nodes {P : Node → Prop} (step : ∀ p, P p → ∀ c ∈ p.kids, P c) : ∀ t, P t → ∀ n ∈ nodes t, P n := by
  intro t
  induction t using Node.induction with
  | step t ih =>
    intro ht n h
    rw [nodes_eq] at h
    rcases List.mem_cons.mp h with rfl | h1
    · exact ht
    · obtain ⟨k, hk, hnk⟩ := mem_nodesL_iff.mp h1
      exact ih k hk (step _ ht k hk) n hnk

theorem forall_nodesL {P : Node → Prop} (step : ∀ p, P p → ∀ c ∈ p.kids, P c) :
    ∀ ks, (∀ k ∈ ks, P k) → ∀ n ∈ nodesL ks, P n := by
  intro ks hk n h
  obtain ⟨k, hkm, hnk⟩ := mem_nodesL_iff.mp h
  exact forall_nodes step k (hk k hkm) n hnk

/-- a Bool predicate `X` with list companion `XL` is the local test `loc` at every node -/
def IsDeep (X : Node → Bool) (XL : List Node → Bool) (loc : Node → Bool) : Prop :=
  (∀ ks, XL ks = true ↔ ∀ k ∈ ks, X k = true) ∧ ∀ n, X n = true ↔ ∀ x ∈ nodes n, loc x = true

theorem deep_iff {X : Node → Bool} {XL : List Node → Bool} {loc : Node → Bool}
    (hX : ∀ i s ks, X (.mk i s ks) = (loc (.mk i s ks) && XL ks)) (hnil : XL [] = true)
    (hcons : ∀ k ks, XL (k :: ks) = (X k && XL ks)) : IsDeep X XL loc := by
  have hL : ∀ ks, XL ks = true ↔ ∀ k ∈ ks, X k = true := fun ks => by
    induction ks with
    | nil => simp [hnil]
    | cons k ks ih => simp [hcons, ih]
  refine ⟨hL, Node.induction fun n ih => ?_⟩
  cases n with
  | mk i s ks =>
    rw [hX, Bool.and_eq_true, hL, nodes]
    simp only [List.mem_cons, forall_eq_or_imp, mem_nodesL_iff]
    exact and_congr_right fun _ =>
      ⟨fun h x ⟨k, hk, hx⟩ => (ih k hk).mp (h k hk) x hx, fun h k hk => (ih k hk).mpr fun x hx => h x ⟨k, hk, hx⟩⟩

theorem hstep_cases (s : HState) (h : HOp) :
    (stepAt s.root h.target h.op s.next = none ∧ hstep s h = s) ∨
      ∃ r, stepAt s.root h.target h.op s.next = some r ∧ hstep s h = ⟨r.node, r.next⟩ := by
  unfold hstep
  cases stepAt s.root h.target h.op s.next with
  | none => exact .inl ⟨rfl, rfl⟩
  | some r => exact .inr ⟨r, rfl, rfl⟩

theorem hrun_induct {I : HState → Prop} {H : HState → List HOp → Prop}
    (step : ∀ s h hs, I s → H s (h :: hs) → I (hstep s h) ∧ H (hstep s h) hs) :
    ∀ (hs : List HOp) (s : HState), I s → H s hs → I (hrun s hs) := by
  intro hs
  induction hs with
  | nil => intro s hi _; exact hi
  | cons h hs ih =>
    intro s hi hh
    have := step s h hs hi hh
    simpa [hrun] using ih (hstep s h) this.1 this.2

end Flatland.C08.Proofs

namespace Flatland.Tree
open Flatland.C08 Flatland.C08.Proofs

theorem Swap.mem {n n' t t' : Node} (h : Swap n n' t t') : n ∈ nodes t := by
  induction h with
  | here => exact self_mem_nodes _
  | kid _ ih => rw [nodes]; exact List.mem_cons_of_mem _ (mem_nodesL_swap ih)

theorem Swap.mem' {n n' t t' : Node} (h : Swap n n' t t') : n' ∈ nodes t' := by
  induction h with
  | here => exact self_mem_nodes _
  | kid _ ih => rw [nodes]; exact List.mem_cons_of_mem _ (mem_nodesL_swap ih)

theorem Swap.eq_of_eq {n n' t t' : Node} (h : Swap n n' t t') (e : n' = n) : t' = t := by
  induction h with
  | here => exact e
  | kid _ ih => rw [ih]

theorem stepAt_found (op : Op) (tid next : Nat) (n : Node) (hid : n.id = tid) : ∀ (t : Node), n ∈ nodes t →
    ∃ r, stepAt t tid op next = some r := by
  intro t
  induction t using Node.induction with
  | step t ih =>
    intro hn
    cases t with
    | mk i s kids =>
      rw [stepAt]
      split
      · exact ⟨_, rfl⟩
      · rename_i hne
        rw [nodes] at hn
        rcases List.mem_cons.mp hn with h1 | h1
        · rw [h1] at hid; exact absurd hid hne
        · obtain ⟨k, hk, hnk⟩ := mem_nodesL_iff.mp h1
          obtain ⟨r, hr⟩ := ih k hk hnk
          obtain ⟨ks', r', h⟩ := stepAtL_some_of (op := op) (tid := tid) (next := next) hk (by rw [hr]; rfl)
          rw [h]; exact ⟨_, rfl⟩

end Flatland.Tree
