/-
C01 with SparseDicts: the mapping the field loop leaves, `pickV req keys V true fs ++ pickV req keys V false fs`
(`setFields_closed`, `prS_dict`) — its keys, its members, what it holds under a declared field's key,
and the fresh mapping as the case `keys = []`.  All of it is read off `pickV_eq`: each pass is a
`filter` of the declared fields followed by a `map`.
-/
import Proofs.Lemmas.C01SparseMap
namespace Flatland.Flat.Proofs
open Flatland.Flat Flatland.Flat.Spec

theorem pickV_keys_filter (req : Schema → Bool) (keys : List (Str × Str)) (V : Schema → Elem) (first : Bool)
    (fs : List Schema) :
    (pickV req keys V first fs).map (·.1) = (fs.filter (pickSel req keys first)).map nmOf := by
  rw [pickV_eq, List.map_map]; rfl

theorem pickV_filter_keys (req : Schema → Bool) (keys : List (Str × Str)) (V : Schema → Elem) (first : Bool)
    (kk : Str → Bool) (fs : List Schema) :
    ((pickV req keys V first fs).filter (fun p => kk p.1)).map (·.1)
      = (fs.filter (fun f => kk (nmOf f) && pickSel req keys first f)).map nmOf := by
  rw [pickV_eq, List.filter_map, List.map_map, List.filter_filter]; rfl

theorem pick_keys_nodup (fields : List Schema) (hnd : (namesOf fields).Nodup)
    (hsome : ∀ g ∈ fields, g.name.isSome) (req : Schema → Bool) (keys : List (Str × Str))
    (V : Schema → Elem) :
    ((pickV req keys V true fields ++ pickV req keys V false fields).map (·.1)).Nodup := by
  rw [List.map_append, pickV_keys_filter, pickV_keys_filter]
  have hn := nmOf_nodup fields hnd hsome
  apply List.nodup_append.mpr
  refine ⟨hn.sublist (List.Sublist.map _ List.filter_sublist),
    hn.sublist (List.Sublist.map _ List.filter_sublist), ?_⟩
  intro a ha b hb hab
  subst hab
  obtain ⟨f, hf, rfl⟩ := List.mem_map.mp ha
  obtain ⟨g, hg, hgf⟩ := List.mem_map.mp hb
  obtain ⟨hf1, hf2⟩ := List.mem_filter.mp hf
  obtain ⟨hg1, hg2⟩ := List.mem_filter.mp hg
  have := field_eq_of_nmOf hnd hsome hg1 hf1 hgf
  subst this
  simp only [pickSel, if_true, Bool.false_eq_true, if_false, Bool.and_eq_true,
    Bool.not_eq_true'] at hf2 hg2
  rw [hf2] at hg2
  exact absurd hg2.1 (by simp)

theorem mem_pickV {req : Schema → Bool} {keys : List (Str × Str)} {V : Schema → Elem} {first : Bool}
    {p : Str × Elem} {fs : List Schema} (h : p ∈ pickV req keys V first fs) :
    ∃ f ∈ fs, p.1 = f.name.getD [] ∧ (req f || touched keys f) = true ∧
      p.2 = if touched keys f then V f else blank f := by
  rw [pickV_eq] at h
  obtain ⟨f, hf, rfl⟩ := List.mem_map.mp h
  obtain ⟨hf1, hf2⟩ := List.mem_filter.mp hf
  refine ⟨f, hf1, rfl, ?_, rfl⟩
  cases first <;> cases hr : req f <;> simp_all [pickSel]

theorem mem_pick {req : Schema → Bool} {keys : List (Str × Str)} {V : Schema → Elem} {p : Str × Elem}
    {fs : List Schema} (h : p ∈ pickV req keys V true fs ++ pickV req keys V false fs) :
    ∃ f ∈ fs, p.1 = f.name.getD [] ∧ (req f || touched keys f) = true ∧
      p.2 = if touched keys f then V f else blank f :=
  (List.mem_append.mp h).elim mem_pickV mem_pickV

theorem mem_pick_of_keep (req : Schema → Bool) (keys : List (Str × Str)) (V : Schema → Elem)
    (fs : List Schema) (f : Schema) (hf : f ∈ fs) (hk : (req f || touched keys f) = true) :
    (f.name.getD [], if touched keys f then V f else blank f)
      ∈ pickV req keys V true fs ++ pickV req keys V false fs := by
  rw [pickV_eq, pickV_eq, List.mem_append]
  cases hr : req f with
  | true => exact Or.inl (List.mem_map.mpr ⟨f, List.mem_filter.mpr ⟨hf, by simp [pickSel, hr]⟩, rfl⟩)
  | false =>
    exact Or.inr (List.mem_map.mpr ⟨f, List.mem_filter.mpr ⟨hf, by simpa [pickSel, hr] using hk⟩, rfl⟩)

theorem lookup_pick (fields : List Schema) (hnd : (namesOf fields).Nodup)
    (hsome : ∀ g ∈ fields, g.name.isSome) (req : Schema → Bool) (K : List (Str × Str))
    (V : Schema → Elem) {f : Schema} (hf : f ∈ fields) {e : Elem}
    (hl : lookup (f.name.getD []) (pickV req K V true fields ++ pickV req K V false fields) = some e) :
    (req f || touched K f) = true ∧ e = if touched K f then V f else blank f := by
  obtain ⟨g, hg, h1, h2, h4⟩ := mem_pick (mem_of_lookup hl)
  have : f = g := field_eq_of_nmOf hnd hsome hf hg h1
  subst this
  exact ⟨h2, h4⟩

theorem lookup_pick_req (fields : List Schema) (hnd : (namesOf fields).Nodup)
    (hsome : ∀ g ∈ fields, g.name.isSome) (req : Schema → Bool) (keys : List (Str × Str))
    (V : Schema → Elem) (f : Schema) (hf : f ∈ fields) (hr : req f = true) :
    lookup (f.name.getD []) (pickV req keys V true fields ++ pickV req keys V false fields)
      = some (if touched keys f then V f else blank f) :=
  lookup_of_mem_nodup (pick_keys_nodup fields hnd hsome req keys V)
    (mem_pick_of_keep req keys V fields f hf (by simp [hr]))

theorem pick_untouched (req : Schema → Bool) (keys : List (Str × Str)) (V : Schema → Elem)
    (fs : List Schema) (h : ∀ f ∈ fs, touched keys f = false) :
    pickV req keys V true fs ++ pickV req keys V false fs = blankSel req fs := by
  have h0 : fs.filter (pickSel req keys false) = [] :=
    List.filter_eq_nil_iff.mpr (fun f hf => by simp [pickSel, h f hf])
  rw [pickV_eq, pickV_eq, blankSel_eq, h0, List.map_nil, List.append_nil]
  exact List.map_congr_left fun f hf => by simp [vOf, h f (List.mem_filter.mp hf).1]

theorem blankSel_eq_pick (req : Schema → Bool) (V : Schema → Elem) (fs : List Schema) :
    blankSel req fs = pickV req [] V true fs ++ pickV req [] V false fs :=
  (pick_untouched req [] V fs fun _ _ => rfl).symm

theorem pickV_all (req : Schema → Bool) (hreq : ∀ f, req f = true) (keys : List (Str × Str))
    (V : Schema → Elem) (fs : List Schema) :
    pickV req keys V true fs ++ pickV req keys V false fs
      = fs.map (fun f => (f.name.getD [], if touched keys f then V f else blank f)) := by
  have h1 : fs.filter (pickSel req keys true) = fs :=
    List.filter_eq_self.mpr (fun f _ => by simp [pickSel, hreq f])
  have h0 : fs.filter (pickSel req keys false) = [] :=
    List.filter_eq_nil_iff.mpr (fun f _ => by simp [pickSel, hreq f])
  rw [pickV_eq, pickV_eq, h1, h0, List.map_nil, List.append_nil]
  rfl

end Flatland.Flat.Proofs
