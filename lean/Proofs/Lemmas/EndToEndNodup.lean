/-
End-to-end (C12 ∘ C02 ∘ C01): the executable tests of `Flatland/Spec/EndToEnd.lean` imply the propositions
the composed theorems use: `hnodupB → HNodup` (C02), `fnodeBeq → =`, `envOKB → EnvOK`, `namesSafe → SepSafe`.
-/
import Proofs.Lemmas.EndToEndHNodup
import Proofs.C01Examples
namespace Flatland.EndToEnd.Proofs
open Flatland.Flat Flatland.Flat.Spec Flatland.Flat.Proofs Flatland.EndToEnd

theorem hnodupB_sound (env : Env) (sep : Str) : ∀ (s : Schema) (ps : Pairs),
    hnodupB env sep s ps = true → HNodup env sep s ps :=
  fun s ps => (hnodupB_iff env sep s ps).mp

theorem hnodupFieldsB_sound (env : Env) (sep : Str) : ∀ (fs : List Schema) (poss : List (Str × Str)),
    hnodupFieldsB env sep fs poss = true → HNodupFields env sep fs poss :=
  fun fs poss => (hnodupFieldsB_iff env sep fs poss).mp

mutual
theorem fnodeBeq_sound : ∀ a b : FNode, fnodeBeq a b = true → a = b
  | .mk n f c u s k, .mk n' f' c' u' s' k', h => by
    simp only [fnodeBeq, Bool.and_eq_true, beq_iff_eq] at h
    obtain ⟨⟨⟨⟨⟨h1, h2⟩, h3⟩, h4⟩, h5⟩, h6⟩ := h
    rw [h1, h2, h3, h4, h5, fnodesBeq_sound k k' h6]
theorem fnodesBeq_sound : ∀ a b : List FNode, fnodesBeq a b = true → a = b
  | [], [], _ => rfl
  | a :: as, b :: bs, h => by
    simp only [fnodesBeq, Bool.and_eq_true] at h
    rw [fnodeBeq_sound a b h.1, fnodesBeq_sound as bs h.2]
  | [], _ :: _, h => by simp [fnodesBeq] at h
  | _ :: _, [], h => by simp [fnodesBeq] at h
end

theorem envOKB_sound (env : Env) (h : envOKB env = true) : EnvOK env := by
  unfold envOKB at h
  unfold EnvOK
  cases hz : env.ndZeros with
  | nil => simp [hz] at h
  | cons z zs =>
    simp [hz] at h
    exact ⟨zs, by rw [h]⟩

theorem namesSafe_sound (env : Env) (s : Schema) (henv : EnvOK env) (h : namesSafe env s = true) :
    SepSafe env usep (Tok s) := by
  simp only [namesSafe, Bool.and_eq_true, List.all_eq_true, Bool.not_eq_true'] at h
  apply sepSafe_single_char env henv s '_' h.1
  intro t ht
  have := h.2 t ht
  constructor
  · intro he; subst he; simp at this
  · intro hc
    have h2 : t.contains '_' = true := by simpa using hc
    rw [h2] at this
    simp at this

end Flatland.EndToEnd.Proofs
