/-
When does an element emit a (surviving) flat pair?  Structural characterisation of `emitsB`,
through a permutation view of the queue loop.
-/
import Proofs.Lemmas.C01PList
namespace Flatland.Flat.Proofs
open Flatland.Flat Flatland.Flat.Spec

theorem bfsPath_append_perm (a b : List QItem) : (bfsPath (a ++ b)).Perm (bfsPath a ++ bfsPath b) :=
  level_append_perm bfsPath_nil bfsPath_level a b

theorem bfsPath_perm_flatMap (q : List QItem) : (bfsPath q).Perm (q.flatMap (fun it => bfsPath [it])) :=
  level_perm_flatMap bfsPath_nil bfsPath_level q

theorem mem_bfsPath_iff (q : List QItem) (x : PPair) :
    x ∈ bfsPath q ↔ ∃ it ∈ q, x ∈ bfsPath [it] := by
  rw [(bfsPath_perm_flatMap q).mem_iff, List.mem_flatMap]

/-- the node emits a pair that survives `u` -/
def emitsN (u : Bool) (n : FNode) : Prop := ∃ x ∈ relFlat n, keepP u x = true

theorem filter_ne_nil_iff {α} (p : α → Bool) (l : List α) : l.filter p ≠ [] ↔ ∃ x ∈ l, p x = true := by
  simp [List.filter_eq_nil_iff]

theorem emitsB_iffN (env : Env) (u : Bool) (s : Schema) (e : Elem) :
    emitsB env u s e = true ↔ emitsN u (resolve env s e) := by
  rw [emitsB_iff, filter_ne_nil_iff]; rfl

theorem keepS_false_iff {u : Bool} {t : Str} : (!u || !t.isEmpty) = false ↔ u = true ∧ t = [] := by
  cases u <;> cases t <;> simp

theorem emitsB_true_of_false {env : Env} {s : Schema} {e : Elem} (h : emitsB env false s e = false) :
    emitsB env true s e = false := by
  have := (emitsB_false_iff env false s e).mp h
  rw [filter_keepP_false] at this
  apply (emitsB_false_iff env true s e).mpr
  rw [this]; rfl

theorem emitsB_mono {env : Env} {u : Bool} {s : Schema} {e : Elem} (v : Bool)
    (h : emitsB env u s e = false) : emitsB env (u || v) s e = false := by
  cases u with
  | true => exact h
  | false =>
    cases v with
    | false => exact h
    | true => exact emitsB_true_of_false h

theorem mem_kidsFrom (p : List Str) (s : Bool) (i : Nat) (ks : List FNode) (c : QItem)
    (hc : c ∈ kidsFrom p s i ks) : c.2 ∈ ks := by
  rw [kidsFrom_zipIdx] at hc
  obtain ⟨kj, h, rfl⟩ := List.mem_map.mp hc
  exact List.fst_mem_of_mem_zipIdx h

theorem kidsFrom_mem (p : List Str) (s : Bool) (i : Nat) (ks : List FNode) (k : FNode) (hk : k ∈ ks) :
    ∃ c ∈ kidsFrom p s i ks, c.2 = k := by
  rw [← List.zipIdx_map_fst i ks] at hk
  obtain ⟨kj, h, rfl⟩ := List.mem_map.mp hk
  exact ⟨_, kidsFrom_zipIdx p s i ks ▸ List.mem_map_of_mem h, rfl⟩

theorem emitsN_item (u : Bool) (p : List Str) (k : FNode) :
    (∃ x ∈ bfsPath [(p, k)], keepP u x = true) ↔ emitsN u k := by
  rw [bfsPath_single]
  unfold emitsN
  constructor
  · rintro ⟨x, hx, hk⟩
    obtain ⟨y, hy, rfl⟩ := List.mem_map.mp hx
    exact ⟨y, hy, by rwa [keepP_pre] at hk⟩
  · rintro ⟨y, hy, hk⟩
    exact ⟨pre p y, List.mem_map_of_mem hy, by rwa [keepP_pre]⟩

theorem relFlat_kid (nm : Option Str) (fl : Bool) (t : Str) (slots : Bool) {kids : List FNode} {k : FNode}
    (hk : k ∈ kids) : ∃ p, ∀ y ∈ relFlat k, pre p y ∈ relFlat (.mk nm fl true t slots kids) := by
  obtain ⟨c, hc, hck⟩ := kidsFrom_mem (namePath [] (.mk nm fl true t slots kids)) slots 0 kids k hk
  obtain ⟨p, k'⟩ := c
  simp only at hck; subst hck
  refine ⟨p, fun y hy => ?_⟩
  rw [relFlat_eq]
  apply List.mem_append_right
  apply (mem_bfsPath_iff _ _).mpr
  refine ⟨(p, k'), hc, ?_⟩
  rw [bfsPath_single]
  exact List.mem_map_of_mem hy

theorem emitsN_mk (u : Bool) (nm : Option Str) (fl cfl : Bool) (t : Str) (slots : Bool) (kids : List FNode) :
    emitsN u (.mk nm fl cfl t slots kids) ↔
      (fl = true ∧ (!u || !t.isEmpty) = true) ∨ (cfl = true ∧ ∃ k ∈ kids, emitsN u k) := by
  unfold emitsN
  constructor
  · rw [relFlat_eq]
    simp only [List.mem_append]
    rintro ⟨x, hx | hx, hk⟩
    · left
      unfold ownPath at hx
      simp only [FNode.fl] at hx
      cases fl with
      | false => simp at hx
      | true =>
        simp only [if_true, List.mem_singleton] at hx
        subst hx
        exact ⟨rfl, hk⟩
    · right
      unfold pushed at hx
      simp only [FNode.cfl] at hx
      cases cfl with
      | false => simp [bfsPath_nil] at hx
      | true =>
        simp only [if_true] at hx
        obtain ⟨it, hit, hxi⟩ := (mem_bfsPath_iff _ x).mp hx
        refine ⟨rfl, it.2, ?_, ?_⟩
        · unfold childItems at hit
          exact mem_kidsFrom _ _ _ _ it hit
        · obtain ⟨p, k⟩ := it
          exact (emitsN_item u p k).mp ⟨x, hxi, hk⟩
  · rintro (⟨hfl, hk⟩ | ⟨hcfl, k, hkk, y, hy, hem⟩)
    · subst hfl
      refine ⟨(namePath [] (.mk nm true cfl t slots kids), t), ?_, hk⟩
      rw [relFlat_eq]
      simp [ownPath, FNode.fl, FNode.u]
    · subst hcfl
      obtain ⟨p, hp⟩ := relFlat_kid nm fl t slots hkk
      exact ⟨pre p y, hp y hy, by rwa [keepP_pre]⟩

/-- every pair the node emits survives `u`: below a pruning List (`u = true`) none of its values is
    empty; otherwise no condition -/
def Keeps (u : Bool) (n : FNode) : Prop := ∀ x ∈ relFlat n, keepP u x = true

theorem keeps_false (n : FNode) : Keeps false n := fun _ _ => rfl

theorem keeps_of_valuesNonempty {env : Env} {s : Schema} {e : Elem} (h : valuesNonempty env s e)
    (u : Bool) : Keeps u (resolve env s e) := by
  intro x hx
  have : x.2 ≠ [] := h (joinPair [] x) (by rw [flatten_eq_relFlat]; exact List.mem_map_of_mem hx)
  cases hx2 : x.2 with
  | nil => exact absurd hx2 this
  | cons a as => simp [keepP, hx2]

theorem keeps_kid {u : Bool} {nm : Option Str} {fl : Bool} {t : Str} {slots : Bool} {kids : List FNode}
    (h : Keeps u (.mk nm fl true t slots kids)) : ∀ k ∈ kids, Keeps u k := by
  intro k hk y hy
  obtain ⟨p, hp⟩ := relFlat_kid nm fl t slots hk
  exact h (pre p y) (hp y hy)

theorem emitsB_of_keeps {env : Env} {s : Schema} {e : Elem} {u : Bool} (h : emitsAny env s e)
    (hv : Keeps u (resolve env s e)) : emitsB env u s e = true := by
  rw [emitsB_iff, List.filter_eq_self.mpr hv]
  exact (emitsAny_iff env s e).mp h

theorem emitsN_resolveList (env : Env) (u : Bool) (member : Schema) (ms : List Elem) :
    (∃ k ∈ resolveList env member ms, emitsN u k) ↔ ms.any (emitsB env u member) = true := by
  rw [resolveList_eq_map, List.any_eq_true]
  constructor
  · rintro ⟨k, hk, hem⟩
    obtain ⟨m, hm, rfl⟩ := List.mem_map.mp hk
    exact ⟨m, hm, (emitsB_iffN env u member m).mpr hem⟩
  · rintro ⟨m, hm, hem⟩
    exact ⟨_, List.mem_map_of_mem hm, (emitsB_iffN env u member m).mp hem⟩

theorem emitsB_list (env : Env) (u : Bool) (nm : Option Str) (o p : Bool) (mx : Nat) (member : Schema)
    (ms : List Elem) :
    emitsB env u (.list nm o p mx member) (.list ms) = ms.any (emitsB env u member) := by
  apply Bool.eq_iff_iff.mpr
  rw [emitsB_iffN, resolve_list, ← resolveList_eq_map, emitsN_mk, emitsN_resolveList]
  simp

theorem emitsB_array (env : Env) (u : Bool) (nm : Option Str) (o p : Bool) (member : Schema)
    (ms : List Elem) :
    emitsB env u (.array nm o p member) (.array ms) = ms.any (emitsB env u member) := by
  apply Bool.eq_iff_iff.mpr
  rw [emitsB_iffN, resolve_array, ← resolveList_eq_map, emitsN_mk, emitsN_resolveList]
  simp

theorem emitsB_joined (env : Env) (u : Bool) (nm : Option Str) (o : Bool) (k : Nat) (member : Schema)
    (t : Str) (ms : List Elem) :
    emitsB env u (.joined nm o k member) (.joined t ms) = (!u || !t.isEmpty) := by
  apply Bool.eq_iff_iff.mpr
  rw [emitsB_iffN, resolve_joined, emitsN_mk]
  simp

end Flatland.Flat.Proofs
