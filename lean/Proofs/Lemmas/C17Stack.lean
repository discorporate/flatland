/-
C17 — a view reads a stack of frames and writes to the first of them.  A class view reads `tFrames σ c d`, an attached
instance view `local :: tFrames σ c d`; what a stack `fs` shows is `overlayAll (fs.map frameLayer)` (`shows_readerOf`).
`_TypeLookup` and `_InstanceLookup` (and their counterparts in the mechanism model) spell the same six writing methods:
`writeOp` is that one algorithm over what `self[k]` answers, what `keys()` lists and the dict written to.
-/
import Flatland.C17Frames
import Proofs.Lemmas.C17Layer
namespace Flatland.C17.Proofs
open Flatland.C17 Flatland.C17.Spec
open Flatland.C17.Frames (readerOf)

theorem itemsOf_mem_keys {m : Mapping} {l : List (Key × Val)} (h : ItemsOf m l) (k : Key) :
    k ∈ l.map (·.1) ↔ (m k).isSome := by
  rw [Option.isSome_iff_exists]
  constructor
  · intro hk
    obtain ⟨p, hp, e⟩ := List.mem_map.1 hk
    exact ⟨p.2, (h.2 k p.2).1 (e ▸ hp)⟩
  · rintro ⟨v, hv⟩
    exact List.mem_map.2 ⟨(k, v), (h.2 k v).2 hv, rfl⟩

/-- the reader `rd` shows the mapping `m`: `__getitem__` finds `m` and raises `KeyError` where `m` has nothing,
    `items()` lists `m` -/
structure Shows (rd : Reader) (m : Mapping) : Prop where
  get : ∀ k, rd.getitem k = ofOpt (m k)
  items : ItemsOf m rd.items

theorem get?_items_readerOf (fs : List Frame) (k : Key) :
    AList.get? (readerOf fs).items k = overlayAll (fs.map frameLayer) k := by
  show AList.get? (itemsGo fs.flatten []) k = _
  rw [get?_itemsGo, if_neg List.not_mem_nil, overlayAll_flat]

theorem itemsOf_readerOf (fs : List Frame) : ItemsOf (overlayAll (fs.map frameLayer)) (readerOf fs).items := by
  have hn : ((readerOf fs).items.map (·.1)).Nodup := nodup_itemsGo _ []
  refine ⟨hn, fun k v => ?_⟩
  rw [← get?_items_readerOf]
  exact ⟨get?_of_mem_nodup _ k v hn, mem_of_get? _ k v⟩

theorem shows_readerOf (fs : List Frame) : Shows (readerOf fs) (overlayAll (fs.map frameLayer)) :=
  ⟨lookupFrames_show fs, itemsOf_readerOf fs⟩

theorem iGet_stack (σ : State) (f : Frame) (c : ClassId) (d : DescId) :
    iGet σ f c d = lookupFrames (f :: tFrames σ c d) := by
  funext k
  simp only [iGet, lookupFrames, tGet]
  cases AList.get? f k with
  | none => rfl
  | some s => cases s <;> rfl

theorem iItems_eq (σ : State) (f : Frame) (c : ClassId) (d : DescId) (hn : (f.map (·.1)).Nodup) :
    iItems σ f c d = itemsGo (f :: tFrames σ c d).flatten [] := by
  rw [List.flatten_cons, itemsGo_append f hn _ [] (fun _ _ => List.not_mem_nil), itemsGo_filter, iItems, tItems]
  congr 1
  apply List.filter_congr
  intro kv _
  simp only [AList.hasKey, List.append_nil, List.mem_reverse, mem_keys_iff]
  cases AList.get? f kv.1 <;> simp

theorem iReader_eq_readerOf (σ : State) (f : Frame) (c : ClassId) (d : DescId) (hn : (f.map (·.1)).Nodup) :
    iReader σ f c d = readerOf (f :: tFrames σ c d) := by
  simp only [iReader, readerOf, iItems_eq σ f c d hn, iGet_stack]

/-- what a writing method decides, given what `self[k]` answers and what `keys()` lists: the mutation of the dict it
    writes to (`none`: nothing is written) and its result -/
def writeOp (get : Key → Except Err Val) (keys : List Key) : Op → Option (Frame → Frame) × Res
  | .setitem k v => (some (AList.set · k (.val v)), .unit)
  | .delitem k =>
    match get k with
    | .error e => (none, .err e)
    | .ok _ => (some (AList.set · k .deleted), .unit)
  | .clear => (some (keys.foldl (fun f k => AList.set f k .deleted)), .unit)
  | .pop k dflt =>
    match get k with
    | .error e => (none, match dflt with | none => .err e | some v => .val v)
    | .ok cur => (some (AList.set · k .deleted), .val cur)
  | .setdefault k dflt =>
    match get k with
    | .ok cur => (none, .val cur)
    | .error _ => (some (AList.set · k (.val dflt)), .val dflt)
  | .update pairs => (some (AList.update · (valFrame pairs)), .unit)
  | _ => (none, .err .badCase)

theorem tWrite_eq (σ : State) (c : ClassId) (d : DescId) (o : Op) :
    tWrite σ c d o =
      (match (writeOp (tGet σ c d) ((tItems σ c d).map (·.1)) o).1 with
        | none => σ
        | some g => σ.setFrame (σ.baseKey c d) (g (σ.baseFrame c d)),
       (writeOp (tGet σ c d) ((tItems σ c d).map (·.1)) o).2) := by
  cases o with
  | delitem k | pop k _ | setdefault k _ => simp only [tWrite, writeOp]; cases tGet σ c d k <;> rfl
  | _ => rfl

/-- `clear` empties `local` first (`self.local.clear()`); its keys are those of the class lookup -/
theorem iWrite_eq (σ : State) (f : Frame) (c : ClassId) (d : DescId) (o : Op) :
    iWrite σ f c d o =
      (((writeOp (iGet σ f c d) ((tItems σ c d).map (·.1)) o).1.getD id) (match o with | .clear => [] | _ => f),
       (writeOp (iGet σ f c d) ((tItems σ c d).map (·.1)) o).2) := by
  cases o with
  | delitem k | pop k _ | setdefault k _ => simp only [iWrite, writeOp]; cases iGet σ f c d k <;> rfl
  | _ => rfl

theorem writeOp_layer (get : Key → Except Err Val) (keys : List Key) (m : Mapping)
    (hget : ∀ k, (get k).toOption = m k) (f : Frame) (o : Op)
    (hkeys : o = .clear → ∀ k, k ∈ keys ↔ (m k).isSome) :
    frameLayer (((writeOp get keys o).1.getD id) f) = applyOp m (frameLayer f) o := by
  cases o <;> simp only [writeOp, applyOp, ← hget, Option.getD_some, Option.getD_none, id]
  case setitem k x => rw [frameLayer_set]
  case delitem k => cases get k <;> simp [Except.toOption, frameLayer_set]
  case clear =>
    rw [frameLayer_foldl_deleted]
    funext k
    simp only [hkeys rfl, ← hget]
  case pop k dflt => cases get k <;> simp [Except.toOption, frameLayer_set]
  case setdefault k dv => cases get k <;> simp [Except.toOption, frameLayer_set]
  case update ps => exact frameLayer_update f ps

theorem writeOp_nodup (get : Key → Except Err Val) (keys : List Key) (o : Op) (f : Frame)
    (hn : (f.map (·.1)).Nodup) : ((((writeOp get keys o).1.getD id) f).map (·.1)).Nodup := by
  have hfold : ∀ (ks : List Key) (g : Frame), (g.map (·.1)).Nodup →
      ((ks.foldl (fun g k => AList.set g k Slot.deleted) g).map (·.1)).Nodup := by
    intro ks
    induction ks with
    | nil => intro g hg; exact hg
    | cons k r ih => intro g hg; exact ih _ (nodup_set g k _ hg)
  cases o <;> simp only [writeOp]
  case setitem => exact nodup_set _ _ _ hn
  case delitem k => cases get k <;> first | exact hn | exact nodup_set _ _ _ hn
  case clear => exact hfold _ _ hn
  case pop k _ => cases get k <;> first | exact hn | exact nodup_set _ _ _ hn
  case setdefault k _ => cases get k <;> first | exact hn | exact nodup_set _ _ _ hn
  case update => exact nodup_update _ _ hn
  all_goals exact hn

/-- C17 `dict` semantics, for any view: a view whose own dict `b` lies over the mapping `below` reads the overlay and
    writes to `b`; after any writing method it shows what a Python dict holding the previously visible mapping would hold. -/
theorem dict_semantics_stack (below : Mapping) (b : Frame) (get : Key → Except Err Val) (keys : List Key) (o : Op)
    (hget : ∀ k, (get k).toOption = overlay below (frameLayer b) k)
    (hkeys : o = .clear → ∀ k, k ∈ keys ↔ (overlay below (frameLayer b) k).isSome) :
    overlay below (frameLayer (((writeOp get keys o).1.getD id) b)) = dictApply o (overlay below (frameLayer b)) := by
  rw [writeOp_layer get keys _ hget b o hkeys, overlay_applyOp]

/-- results of the order-free methods, reading or writing, through any reader: those of a Python dict holding the
    mapping the reader shows -/
theorem dict_result_reader (rd : Reader) (m : Mapping) (hs : Shows rd m) (keys : List Key) (o : Op) (r : Res)
    (h : dictResult o m = some r) :
    (match dictLikeRead rd o with
      | some r => r
      | none => (writeOp rd.getitem keys o).2) = r := by
  cases o <;> cases h <;>
    simp only [dictLikeRead, writeOp, hs.get, itemsOf_mem_keys hs.items, Bool.decide_eq_true]
  case getitem k => cases m k <;> rfl
  case delitem k => cases m k <;> rfl
  case pop k dflt => cases m k <;> cases dflt <;> rfl
  case setdefault k dv => cases m k <;> rfl
  case get k dv => cases m k <;> rfl

/-- the iterating methods are computed by `DictLike` on the reader's `items()` -/
theorem iter_result_read (rd : Reader) (hn : (rd.items.map (·.1)).Nodup) (o : Op) (r : Res)
    (h : iterResult rd.items o = some r) : dictLikeRead rd o = some r := by
  have hof := ofPairs_of_nodup rd.items hn
  cases o <;> simp only [iterResult, reduceCtorEq] at h <;> simp only [dictLikeRead, hof] <;> exact h

/-- what a method called through a reader returns: `DictLike` answers the reading methods from the reader, a writing
    method decides its own result -/
def opResult (rd : Reader) (keys : List Key) (o : Op) : Res :=
  match dictLikeRead rd o with
  | some r => r
  | none => (writeOp rd.getitem keys o).2

theorem opResult_of_read {rd : Reader} {keys : List Key} {o : Op} {r : Res} (h : dictLikeRead rd o = some r) :
    opResult rd keys o = r := by
  simp only [opResult, h]

theorem opResult_dict {rd : Reader} {m : Mapping} (hs : Shows rd m) (keys : List Key) {o : Op} {r : Res}
    (h : dictResult o m = some r) : opResult rd keys o = r :=
  dict_result_reader rd m hs keys o r h

theorem opResult_iter {rd : Reader} {m : Mapping} (hs : Shows rd m) (keys : List Key) (o : Op) :
    ∃ l, ItemsOf m l ∧ ∀ r, iterResult l o = some r → opResult rd keys o = r :=
  ⟨rd.items, hs.items, fun r h => opResult_of_read (iter_result_read rd hs.items.1 o r h)⟩

end Flatland.C17.Proofs
