/-
C14, "in sequence order": on the Canon domain with ascending slices, the elements selected are strictly
increasing in document order (lexicographic order of positions) — in particular there are no
duplicates.  Proved on the depth-first reading `denoteStepsR`: every result of an element extends it,
and the children an element contributes are ordered by their index.
-/
import Flatland.Path
import Flatland.Spec.C14
import Proofs.Lemmas.C14Work
import Proofs.Lemmas.C14Steps
namespace Flatland.C14.Proofs
open Flatland.Path Flatland.C14.Spec

/-- document order: lexicographic on positions (an ancestor precedes its descendants) -/
def posLt : Pos → Pos → Bool
  | [], [] => false
  | [], _ :: _ => true
  | _ :: _, [] => false
  | a :: as, b :: bs => decide (a < b) || (a == b && posLt as bs)

theorem posLt_ext (el : Pos) {i j : Nat} (h : i < j) (x y : Pos) : posLt (el ++ i :: x) (el ++ j :: y) = true := by
  induction el with
  | nil => simp [posLt, h]
  | cons a r ih => simp [posLt, ih]

def _root_.Flatland.C14.Spec.Step.ascending : Step → Bool
  | .slice _ _ (some (some c)) => decide (c > 0)
  | _ => true

theorem pySlice_ascending (n : Nat) (a b c : Option Int) (h : c.getD 1 > 0) :
    (pySlice n a b c).Pairwise (· < ·) := by
  unfold pySlice
  simp only [h, if_true]
  exact List.Pairwise.filter _ List.pairwise_lt_range

theorem option_toList_pairwise (o : Option Nat) : o.toList.Pairwise (· < ·) := by
  cases o <;> simp

theorem stepDen_children (root : Node) (strict : Bool) (s : Step) (hd : s.down = true)
    (ha : s.ascending = true) (el : Pos) (ys : List Pos) (h : stepDen root strict s el = .ok ys) :
    ∃ is : List Nat, is.Pairwise (· < ·) ∧ ys = is.map (fun i => el ++ [i]) := by
  cases s with
  | up => simp [Step.down] at hd
  | here => simp [Step.down] at hd
  | name nm =>
    simp only [stepDen] at h
    split at h
    · next i _ =>
      simp only [Except.ok.injEq] at h
      exact ⟨[i], by simp, by simp [← h]⟩
    · split at h
      · simp at h
      · simp only [Except.ok.injEq] at h
        exact ⟨[], by simp, by simp [← h]⟩
  | negidx k =>
    simp only [stepDen, Except.ok.injEq] at h
    exact ⟨_, option_toList_pairwise _, h.symm⟩
  | slice a b c =>
    simp only [stepDen] at h
    split at h
    · simp at h
    simp only [Except.ok.injEq] at h
    refine ⟨_, pySlice_ascending _ a b (Step.stride c) ?_, h.symm⟩
    match c, ha with
    | none, _ => simp [Step.stride]
    | some none, _ => simp [Step.stride]
    | some (some v), ha =>
      simp only [Step.ascending, decide_eq_true_eq] at ha
      simpa [Step.stride] using ha

theorem wf_of_ascending {s : Step} (h : s.ascending = true) : s.wf = true := by
  unfold Step.wf
  split
  · next c =>
    simp only [Step.ascending, decide_eq_true_eq] at h
    simp only [bne_iff_ne, ne_eq]; omega
  · rfl

/-- along a `Canon` step list read depth-first: the results are in document order, and once a downward step has been
    taken every result lies below the element it started from -/
theorem denoteStepsR_sorted (root : Node) (strict : Bool) :
    ∀ (steps : List Step) (seen : Bool) (d : Nat) (el : Pos) (res : List Pos),
      canonFrom seen steps = true → steps.all Step.ascending = true → denoteStepsR root strict steps d el = .ok res →
      res.Pairwise (fun a b => posLt a b = true) ∧ (seen = true → ∀ p ∈ res, ∃ x, p = el ++ x) := by
  intro steps
  induction steps with
  | nil =>
    intro _ _ el res _ _ h
    cases h
    exact ⟨List.pairwise_singleton _ _, fun _ p hp => ⟨[], by rw [List.mem_singleton.1 hp, List.append_nil]⟩⟩
  | cons s r ih =>
    intro seen d el res hc hasc h
    obtain ⟨ha, hasc'⟩ := (Bool.and_eq_true _ _).mp hasc
    rw [denoteStepsR] at h
    cases hs : stepDen root strict s el with
    | error e => rw [hs] at h; cases h
    | ok next =>
      rw [hs] at h
      simp only [] at h
      induction s using Step.cases3 with
      | here => cases hs; rw [flatMapR_singleton] at h; exact ih seen _ el res hc hasc' h
      | up =>
        cases seen with
        | true => cases hc
        | false => cases hs; rw [flatMapR_singleton] at h; exact ⟨(ih false _ _ res hc hasc' h).1, nofun⟩
      | down s hd =>
        rw [canonFrom_down hd] at hc
        obtain ⟨is, his, rfl⟩ := stepDen_children root strict s hd ha el next hs
        obtain ⟨g, hg, rfl⟩ : ∃ g : Pos → List Pos, (∀ x ∈ is.map (fun i => el ++ [i]), denoteStepsR root strict r _ x = .ok (g x)) ∧
            res = (is.map (fun i => el ++ [i])).flatMap g := ⟨_, flatMapR_eq_ok h⟩
        have hsub : ∀ i ∈ is, (g (el ++ [i])).Pairwise (fun a b => posLt a b = true) ∧
            ∀ p ∈ g (el ++ [i]), ∃ x, p = el ++ i :: x := fun i hi => by
          obtain ⟨h1, h2⟩ := ih true _ _ _ hc hasc' (hg _ (List.mem_map_of_mem hi))
          refine ⟨h1, fun p hp => ?_⟩
          obtain ⟨x, rfl⟩ := h2 rfl p hp
          exact ⟨x, by rw [List.append_assoc]; rfl⟩
        rw [List.flatMap_map]
        refine ⟨List.pairwise_flatMap.2 ⟨fun i hi => (hsub i hi).1, his.imp_of_mem fun {i j} hi hj hij p hp q hq => ?_⟩,
          fun _ p hp => ?_⟩
        · obtain ⟨x, rfl⟩ := (hsub i hi).2 p hp
          obtain ⟨y, rfl⟩ := (hsub j hj).2 q hq
          exact posLt_ext el hij x y
        · obtain ⟨i, hi, hp⟩ := List.mem_flatMap.1 hp
          obtain ⟨x, rfl⟩ := (hsub i hi).2 p hp
          exact ⟨_, rfl⟩

end Flatland.C14.Proofs
