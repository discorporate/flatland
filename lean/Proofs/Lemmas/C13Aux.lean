/-
Facts about model A (Flatland/Path.lean) that C13 uses and that do not mention `fq_name`:
the evaluation of a path that compiles to TOP and slice-free ops (one context, run from the root), the
length of index texts.
-/
import Flatland.Path
import Proofs.Lemmas.PathScanEmpty
import Proofs.Lemmas.C14Work
import Proofs.Lemmas.PathInt
namespace Flatland.C13.Proofs
open Flatland.Path Flatland.Path.Lemmas Flatland.Generated.C14 Flatland.C14.Proofs

theorem natStr_length_le (n : Nat) : (natStr n).length ≤ n + 1 := natStr_eq n ▸ Dec.length_toDigits_le n

theorem runCtx_steps_prefix (root : Node) (strict : Bool) : ∀ (l : List Str) (el p : Pos),
    runCtx root strict (l.map stepOp) el = .ok (.found p) → el <+: p
  | [], el, p, h => by
    simp only [List.map_nil, runCtx, Except.ok.injEq, CtxRes.found.injEq] at h
    exact h ▸ List.prefix_refl el
  | s :: r, el, p, h => by
    simp only [List.map_cons, stepOp, runCtx] at h
    cases hi : indexAt root el (stepData s) with
    | none => rw [hi] at h; cases strict <;> simp at h
    | some j =>
      rw [hi] at h
      exact (List.prefix_append el [j]).trans (runCtx_steps_prefix root strict r (el ++ [j]) p h)

theorem afterSlice_steps : ∀ l : List Str, afterSlice (l.map stepOp) = none
  | [] => rfl
  | _ :: r => afterSlice_steps r

theorem find_top (root : Node) (start : Pos) (path : Str) (ops : List Op) (strict : Bool)
    (ht : tokenize path = .ok (Op.top :: ops)) (hs : afterSlice ops = none) :
    find root start path false strict =
      match runCtx root strict ops [] with
      | .error e => .err e
      | .ok (.found p) => .many [p]
      | .ok _ => .many [] := by
  simp only [find, ht, evalOps, work_cons, runCtx]
  cases hr : runCtx root strict ops [] with
  | error e => simp
  | ok r =>
    cases r with
    | found p => simp [work]
    | dead => simp [work]
    | spawn rest kids => cases hs.symm.trans (runCtx_after root strict ops [] _ hr)

theorem find_top_iff (root : Node) (start : Pos) (path : Str) (ops : List Op) (strict : Bool)
    (ht : tokenize path = .ok (Op.top :: ops)) (hs : afterSlice ops = none) (p : Pos) :
    find root start path false strict = .many [p] ↔ runCtx root strict ops [] = .ok (.found p) := by
  rw [find_top root start path ops strict ht hs]
  cases runCtx root strict ops [] with
  | error e => simp
  | ok r => cases r <;> simp

theorem find_single (root : Node) (start : Pos) (path : Str) (strict : Bool) (p : Pos)
    (h : find root start path false strict = .many [p]) : find root start path true strict = .one (some p) := by
  revert h
  unfold find
  cases tokenize path with
  | error e => simp
  | ok ops =>
    dsimp only
    cases evalOps root strict ops start with
    | error e => simp
    | ok res =>
      simp only [Bool.not_false, if_true, FindRes.many.injEq]
      intro h
      simp [h]

end Flatland.C13.Proofs
