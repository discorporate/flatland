/-
C14, tokenizer ∘ printer for the whole concrete syntax: scanner and token loop read the printed steps
one after the other; the text of each step is one token, which the loop turns into the op the step
compiles to (`read_step`), and a separating or trailing slash leaves no trace (`read_steps`).  First the pieces a
printed path is made of (`Piece`, `BrOK`, `scan_bracket`).
-/
import Flatland.Path
import Flatland.Spec.C14
import Proofs.Lemmas.PathScan
import Proofs.Lemmas.PathScanEmpty
import Proofs.Lemmas.C14Print
import Proofs.Lemmas.C14Num
import Proofs.Lemmas.C14Steps
/-
The pieces a printed path is made of — `/`, a clean name run (this includes the texts `.` and `..`),
or a bracket token `[content]` whose content is in the slice language — and `findall` on a bracket
token (`scan_bracket`; `/` and name runs are in `Lemmas/PathScan`).
-/
namespace Flatland.Path.Lemmas
open Flatland.Path

inductive Piece
  | slash
  | seg (s : Str)
  | br (content : Str)
  deriving Repr

def Piece.text : Piece → Str
  | .slash => ['/']
  | .seg s => s
  | .br c => '[' :: c ++ [']']

/-- kind of the piece before -/
inductive PK | start | slash | seg | br
  deriving DecidableEq

def Piece.kind : Piece → PK
  | .slash => .slash
  | .seg _ => .seg
  | .br _ => .br

def BrOK (c : Str) : Prop := (∀ x ∈ c, x ≠ ']') ∧ sliceLang c = true ∧ c.getLast? ≠ some '\\'

theorem bracketLookahead_stop (t : Str) (h : SlashOrEnd t) : bracketLookahead t = true := by
  rcases h with h | ⟨t', h | h⟩ <;> subst h
  · rfl
  · cases t' <;> rfl
  · cases t' <;> rfl

theorem scanStep_bracket (prev : Option Char) (c after : Str) (hp : prev ≠ some '\\') (hb : BrOK c)
    (ha : SlashOrEnd after) :
    scanStep prev '[' (c ++ ']' :: after) = (some ('[' :: c ++ [']'], c), c.length + 1) := by
  obtain ⟨h1, h2, h3⟩ := hb
  have h0 : nameRunLen ('[' :: (c ++ ']' :: after)) = 0 := rfl
  have hne : (('[' : Char) == '/') = false := by decide
  have hclosed : ((c ++ ']' :: after).drop c.length).head? = some ']' := by rw [List.drop_left' rfl]; rfl
  unfold scanStep
  simp only [h0, ne_eq, not_true_eq_false, if_false, hne, Bool.false_eq_true, takeWhile_ne ']' c after h1,
    bne_iff_ne.2 hp, hclosed, drop_past ']', bracketLookahead_stop after ha, bne_iff_ne.2 h3, h2,
    beq_self_eq_true, Bool.and_self, if_true]

theorem scan_bracket (prev : Option Char) (c t : Str) (hp : prev ≠ some '\\') (hb : BrOK c)
    (ht : SlashOrEnd t) :
    scan prev ((Piece.br c).text ++ t) = ('[' :: c ++ [']'], c) :: scan (some ']') t := by
  have hd : ('[' :: (c ++ ']' :: t)).getD (c.length + 1) '[' = ']' := by
    simp [List.getD_eq_getElem?_getD]
  rw [show (Piece.br c).text ++ t = '[' :: (c ++ ']' :: t) by simp [Piece.text], scan_cons,
    scanStep_bracket prev c t hp hb ht, hd, drop_past ']']
  rfl

end Flatland.Path.Lemmas

namespace Flatland.C14.Proofs
open Flatland.Path Flatland.C14.Spec Flatland.Path.Lemmas Flatland.Generated.C14

theorem ascii_bridge (c : Char) (h : Spec.isAsciiDigit c = true) : Lemmas.isAsciiDigit c = true := by
  simp only [Spec.isAsciiDigit, Bool.and_eq_true, decide_eq_true_eq] at h
  simp only [Lemmas.isAsciiDigit, Bool.and_eq_true, decide_eq_true_eq]
  obtain ⟨h1, h2⟩ := h
  rw [Char.le_def] at h1 h2
  exact ⟨h1, h2⟩

def bracketed (c : CStep) (s : Str) : Bool := c.sp.bracket && !s.isEmpty && s.all Spec.isAsciiDigit

def stepPiece (c : CStep) : Piece :=
  match c.step with
  | .up => .seg ['.', '.']
  | .here => .seg ['.']
  | .name s => if bracketed c s then .br s else .seg (escapeSeg c.sp.escAll s)
  | .negidx n => .br ('-' :: natStr n)
  | .slice a b none => .br (optIntStr a ++ ':' :: optIntStr b)
  | .slice a b (some c') => .br (optIntStr a ++ ':' :: (optIntStr b ++ ':' :: optIntStr c'))

def _root_.Flatland.Path.Lemmas.Piece.isBr : Piece → Bool | .br _ => true | _ => false

theorem text_piece (c : CStep) : c.text = ((stepPiece c).text, (stepPiece c).isBr) := by
  unfold CStep.text stepPiece
  cases c.step with
  | up => rfl
  | here => rfl
  | name s =>
    show (if bracketed c s = true then _ else _) = _
    by_cases hb : bracketed c s = true
    · simp only [hb, if_true]; rfl
    · simp only [hb, Bool.false_eq_true, if_false]; rfl
  | negidx n => rfl
  | slice a b c' =>
    cases c' with
    | none => rfl
    | some x => simp [Piece.text, Piece.isBr]

def StepFits : Step → Prop
  | .negidx n => (natStr n).length ≤ intMaxDigits ∨ intMaxDigits = 0
  | .slice a b c => OptFits a ∧ OptFits b ∧ (match c with | none => True | some c' => OptFits c')
  | _ => True

theorem wfSteps_cons (trail : Bool) (c : CStep) (r : List CStep) :
    wfSteps trail (c :: r) = ((if r.isEmpty && !trail then c.wfLast else c.wf) && wfSteps trail r) := by
  cases r with
  | nil => cases trail <;> simp [wfSteps]
  | cons _ _ => rfl

theorem wfLast_of_wf {c : CStep} (h : c.wf = true) : c.wfLast = true := by
  unfold CStep.wf at h
  unfold CStep.wfLast
  split
  · next s hs => rw [hs] at h; exact ((Bool.and_eq_true _ _).mp h).1
  · rfl

theorem wfSteps_trail (trail : Bool) (cs : List CStep) : wfSteps (trail && !cs.isEmpty) cs = wfSteps trail cs := by
  cases cs with
  | nil => rfl
  | cons _ _ => rw [List.isEmpty_cons, Bool.not_false, Bool.and_true]

theorem getLast?_ne_of_all (s : Str) (h : ∀ x ∈ s, x ≠ '\\') : s.getLast? ≠ some '\\' :=
  fun e => h _ (List.mem_of_getLast? e) rfl

def BrChar (x : Char) : Prop := NumChar x ∨ x = ':'

theorem brOK_of_chars (c : Str) (hall : ∀ x ∈ c, BrChar x) (hl : sliceLang c = true) : BrOK c := by
  have hne : ∀ x ∈ c, x ≠ ']' ∧ x ≠ '\\' := by
    intro x hx
    rcases hall x hx with h | h
    · have := numChar_ne x h; exact ⟨this.2.1, this.2.2⟩
    · subst h; exact ⟨by decide, by decide⟩
  exact ⟨fun x hx => (hne x hx).1, hl, getLast?_ne_of_all c (fun x hx => (hne x hx).2)⟩

theorem brChar_opt (o : Option Int) : ∀ x ∈ optIntStr o, BrChar x :=
  fun x hx => Or.inl (optIntStr_chars o x hx)

theorem brChar_join {A B : Str} (ha : ∀ x ∈ A, BrChar x) (hb : ∀ x ∈ B, BrChar x) :
    ∀ x ∈ A ++ ':' :: B, BrChar x := by
  intro x hx
  rcases List.mem_append.1 hx with hx | hx
  · exact ha x hx
  · rcases List.mem_cons.1 hx with hx | hx
    · exact Or.inr hx
    · exact hb x hx

theorem name_all_digits (s : Str) (h : s.all Spec.isAsciiDigit = true) : ∀ x ∈ s, Lemmas.isAsciiDigit x = true :=
  fun x hx => ascii_bridge x (List.all_eq_true.1 h x hx)

theorem wfLast_name_ne_nil (c : CStep) (s : Str) (hs : c.step = .name s) (h : c.wfLast = true) : s ≠ [] := by
  simp only [CStep.wfLast, hs, Bool.not_eq_true'] at h
  intro e; subst e; simp at h

theorem br_ne_nil_of_brOK (c : CStep) (b : Str) (hp : stepPiece c = .br b) : b ≠ [] := by
  unfold stepPiece at hp
  split at hp
  · cases hp
  · cases hp
  · next s _ =>
    split at hp
    · next hb =>
      rw [← Piece.br.inj hp]
      intro e
      rw [e] at hb
      simp [bracketed] at hb
    · cases hp
  · rw [← Piece.br.inj hp]; exact List.cons_ne_nil _ _
  · rw [← Piece.br.inj hp]; exact List.append_ne_nil_of_right_ne_nil _ (List.cons_ne_nil _ _)
  · rw [← Piece.br.inj hp]; exact List.append_ne_nil_of_right_ne_nil _ (List.cons_ne_nil _ _)

/-- the token loop reads the name run `s` as `op` (`nd`: it is not `.`/`..`) -/
def SegReads (s : Str) (op : Op) (nd : Bool) : Prop :=
  ∀ st : TState, tokStep st (s, []) = .ok { toks := op :: st.toks, last := some s, canonical := st.canonical && nd }

theorem segReads_plain {s : Str} (hs : PlainSeg s) : SegReads s (.name (some (unescape s))) true :=
  fun st => by rw [tokStep_seg st s hs, Bool.and_true]

/-- what the scanner and the token loop need of the piece of a step -/
def PieceFor (c : CStep) : Piece → Prop
  | .slash => False
  | .seg s => s ≠ [] ∧ s ≠ ['/'] ∧ (∀ last, (last = false → c.wf = true) → cleanB last s = true) ∧
      SegReads s (compileStep c.step) c.step.down
  | .br b => b ≠ [] ∧ BrOK b ∧ parseSlice b = some (compileStep c.step) ∧ c.step.down = true

theorem stepPiece_for (c : CStep) (hw : c.wfLast = true) (hfit : StepFits c.step) : PieceFor c (stepPiece c) := by
  unfold stepPiece
  cases hs : c.step with
  | up =>
    exact ⟨nofun, by decide, fun last _ => clean_of_chars last _ (by decide),
      fun st => by rw [hs, show Step.up.down = false from rfl, Bool.and_false]; rfl⟩
  | here =>
    exact ⟨nofun, by decide, fun last _ => clean_of_chars last _ (by decide),
      fun st => by rw [hs, show Step.here.down = false from rfl, Bool.and_false]; rfl⟩
  | name s =>
    have hne := wfLast_name_ne_nil c s hs hw
    show PieceFor c (if bracketed c s = true then Piece.br s else Piece.seg (escapeSeg c.sp.escAll s))
    by_cases hb : bracketed c s = true
    · have hd := name_all_digits s (by
        simp only [bracketed, Bool.and_eq_true] at hb
        exact hb.2)
      rw [if_pos hb]
      exact ⟨hne, brOK_of_chars s (fun x hx => Or.inl (Or.inl (hd x hx))) (sliceLang_digits s hd),
        by rw [hs]; exact parseSlice_digits s hd, by rw [hs]; rfl⟩
    · rw [if_neg hb]
      have hf := escapeSeg_facts true c.sp.escAll s hne (Or.inl rfl)
      refine ⟨hf.1, hf.2.2.1.1, fun last hl => (escapeSeg_facts last c.sp.escAll s hne ?_).2.1, ?_⟩
      · cases last with
        | true => exact Or.inl rfl
        | false =>
          have h1 := hl rfl
          simp only [CStep.wf, hs, Bool.and_eq_true, GoodName, bne_iff_ne, ne_eq] at h1
          exact Or.inr h1.2
      · have := segReads_plain hf.2.2.1
        rw [hf.2.2.2] at this
        rw [hs]
        exact this
  | negidx n =>
    rw [hs] at hfit
    refine ⟨List.cons_ne_nil _ _, brOK_of_chars _ (fun x hx => ?_) (sliceLang_neg n),
      by rw [hs]; exact parseSlice_neg n hfit, by rw [hs]; rfl⟩
    rcases List.mem_cons.1 hx with hx | hx
    · exact Or.inl (Or.inr hx)
    · exact Or.inl (Or.inl (natStr_all_digits n x hx))
  | slice a b c' =>
    rw [hs] at hfit
    cases c' with
    | none =>
      exact ⟨List.append_ne_nil_of_right_ne_nil _ (List.cons_ne_nil _ _),
        brOK_of_chars _ (brChar_join (brChar_opt a) (brChar_opt b)) (sliceLang_two a b),
        by rw [hs]; exact parseSlice_two a b hfit.1 hfit.2.1, by rw [hs]; rfl⟩
    | some cc =>
      exact ⟨List.append_ne_nil_of_right_ne_nil _ (List.cons_ne_nil _ _),
        brOK_of_chars _ (brChar_join (brChar_opt a) (brChar_join (brChar_opt b) (brChar_opt cc)))
          (by simpa using sliceLang_three a b cc),
        by rw [hs]; exact parseSlice_three a b cc hfit.1 hfit.2.1 hfit.2.2, by rw [hs]; rfl⟩

theorem isBr_kind (p : Piece) : p.isBr = true ↔ p.kind = .br := by
  cases p <;> simp [Piece.isBr, Piece.kind]

theorem stepPiece_text_ne_slash (c : CStep) (hw : c.wfLast = true) (hfit : StepFits c.step) :
    (stepPiece c).text ≠ ['/'] := by
  have hfor := stepPiece_for c hw hfit
  cases hp : stepPiece c with
  | slash => rw [hp] at hfor; exact hfor.elim
  | br b => exact fun e => absurd (List.cons.inj e).1 (by decide)
  | seg s => rw [hp] at hfor; exact hfor.2.1

def LastOK (st : TState) : Prop := ∃ l, st.last = some l ∧ l ≠ ['/']

theorem read_step (c : CStep) (hw : c.wfLast = true) (hfit : StepFits c.step) (prev : Option Char)
    (hp : prev ≠ some '\\') (last : Bool) (t : Str) (ht : SlashOrEnd t) (hl : last = true → t = [])
    (hs : last = false → c.wf = true) (st : TState) :
    ∃ prev', (last = false → prev' ≠ some '\\') ∧
      tokLoop st (scan prev ((stepPiece c).text ++ t)) =
        tokLoop { toks := compileStep c.step :: st.toks, last := some (stepPiece c).text,
                  canonical := st.canonical && c.step.down } (scan prev' t) := by
  have hfor := stepPiece_for c hw hfit
  cases hp' : stepPiece c with
  | slash => rw [hp'] at hfor; exact hfor.elim
  | br b =>
    rw [hp'] at hfor
    refine ⟨some ']', fun _ => by decide, ?_⟩
    rw [scan_bracket prev b t hp hfor.2.1 ht, tokLoop, tokStep_br st b _ hfor.1 hfor.2.2.1, hfor.2.2.2,
      Bool.and_true]
    rfl
  | seg s =>
    rw [hp'] at hfor
    have hc : cleanB last s = true := hfor.2.2.1 last hs
    refine ⟨s.getLast?, fun h => clean_getLast s (h ▸ hc), ?_⟩
    rw [Piece.text, scan_run last prev s t hfor.1 hc ht hl, tokLoop, hfor.2.2.2 st]

theorem printSteps_stop (cs : List CStep) (tl : Str) (h : SlashOrEnd tl) : SlashOrEnd (printSteps false cs ++ tl) := by
  cases cs with
  | nil => exact h
  | cons c r =>
    refine Or.inr ?_
    rw [printSteps, text_piece]
    simp only [Bool.false_or]
    split
    · next hb =>
      cases hp : stepPiece c with
      | br b => exact ⟨_, Or.inr rfl⟩
      | slash => rw [hp] at hb; cases hb
      | seg _ => rw [hp] at hb; cases hb
    · exact ⟨_, Or.inl rfl⟩

theorem read_steps (trail : Bool) (cs : List CStep) : ∀ (first : Bool) (prev : Option Char) (st : TState),
    wfSteps trail cs = true → (∀ c ∈ cs, StepFits c.step) →
    ((cs.isEmpty && !trail) = false → prev ≠ some '\\') → (first = false → LastOK st) →
    (first = true → cs = [] → trail = false) →
    ∃ l, tokLoop st (scan prev (printSteps first cs ++ (if trail then ['/'] else []))) =
      .ok { toks := (cs.map (fun c => compileStep c.step)).reverse ++ st.toks, last := l,
            canonical := st.canonical && cs.all (fun c => c.step.down) } := by
  induction cs with
  | nil =>
    intro first prev st _ _ hp hlast hft
    cases trail with
    | false =>
      exact ⟨st.last, by
        rw [printSteps, List.nil_append, if_neg Bool.false_ne_true, scan_nil, List.all_nil, Bool.and_true]; rfl⟩
    | true =>
      cases first with
      | true => cases hft rfl rfl
      | false =>
        obtain ⟨l, hl, hne⟩ := hlast rfl
        exact ⟨some ['/'], by
          rw [printSteps, List.nil_append, if_pos rfl, scan_slash prev _ (hp rfl), scan_nil, tokLoop,
            tokStep_slash_after st l hl hne, List.all_nil, Bool.and_true]; rfl⟩
  | cons c r ih =>
    intro first prev st hwf hfit hp hlast _
    have hp := hp rfl
    have hfc := hfit c List.mem_cons_self
    rw [wfSteps_cons, Bool.and_eq_true] at hwf
    have hw : c.wfLast = true := by
      have h1 := hwf.1
      split at h1
      · exact h1
      · exact wfLast_of_wf h1
    have htl : SlashOrEnd (if trail then ['/'] else []) := by
      cases trail with
      | false => exact Or.inl rfl
      | true => exact Or.inr ⟨_, Or.inl rfl⟩
    -- the step's own token, after the optional separator has been read
    have hstep : ∀ prev0 st0, prev0 ≠ some '\\' →
        ∃ l, tokLoop st0 (scan prev0 ((stepPiece c).text ++ (printSteps false r ++ (if trail then ['/'] else [])))) =
          .ok { toks := ((c :: r).map (fun c => compileStep c.step)).reverse ++ st0.toks, last := l,
                canonical := st0.canonical && (c :: r).all (fun c => c.step.down) } := by
      intro prev0 st0 hp0
      obtain ⟨prev', hp', h1⟩ := read_step c hw hfc prev0 hp0 (r.isEmpty && !trail)
        (printSteps false r ++ (if trail then ['/'] else [])) (printSteps_stop r _ htl)
        (fun hl => by
          rw [Bool.and_eq_true, List.isEmpty_iff, Bool.not_eq_true'] at hl
          rw [hl.1, hl.2]; rfl)
        (fun hl => by have := hwf.1; rwa [hl, if_neg Bool.false_ne_true] at this) st0
      obtain ⟨l, h2⟩ := ih false prev' _ hwf.2 (fun x hx => hfit x (List.mem_cons_of_mem _ hx)) hp'
        (fun _ => ⟨(stepPiece c).text, (rfl : TState.last ⟨_, _, _⟩ = _), stepPiece_text_ne_slash c hw hfc⟩) nofun
      exact ⟨l, by rw [h1, h2, List.map_cons, List.reverse_cons, List.append_assoc, List.all_cons, Bool.and_assoc]; rfl⟩
    rw [printSteps, text_piece, List.append_assoc]
    by_cases hsep : (first || ((stepPiece c).isBr && !c.sp.sep)) = true
    · rw [if_pos hsep]; exact hstep prev st hp
    · obtain ⟨l, hl, hne⟩ := hlast (by
        cases first with
        | false => rfl
        | true => exact absurd rfl hsep)
      rw [if_neg hsep, List.cons_append, scan_slash prev _ hp, tokLoop, tokStep_slash_after st l hl hne]
      exact hstep (some '/') _ (by decide)

theorem compile_abstract (p : CPath) :
    compile p.abstract = (if p.top then [Op.top] else []) ++ p.steps.map (fun c => compileStep c.step) := by
  unfold compile CPath.abstract
  rw [List.map_map]
  rfl

end Flatland.C14.Proofs
