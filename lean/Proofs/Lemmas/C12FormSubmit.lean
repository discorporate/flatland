/-
C12, whole form — submission through an activated submitter (`browserSubmit`, `Flatland/C12/Form.lean`).  A browser
reads "is a submitter" off the rendered tag as `kwSubmitter` reads it off the call (the transforms never touch
`type`); `browserSubmit` is `browserPost` with no submitter, or with at most one and that one activated.
-/
import Proofs.Lemmas.C12FormGen
namespace Flatland.C12.Proofs
open Flatland.Markup Flatland.C12 Flatland.C19.Proofs

theorem isSubmitter_congr (tag : Str) (a a' : List (Str × Str)) (h : ∀ k, attr? a k = attr? a' k) :
    isSubmitter tag a = isSubmitter tag a' := by
  unfold isSubmitter
  simp only [h]

/-- the transforms leave `type` alone, so what a browser reads is what the author wrote -/
theorem seenOf_submitter {T : Tables} {ctx : Ctx} {tag : Str} {b : Bind} {kw : Attrs} {s : Seen}
    (hnd : (Dict.keys kw).Nodup) (h : seenOf T ctx tag b kw = .ok s) : isSubmitter tag s.1 = kwSubmitter tag kw := by
  obtain ⟨st6, body, ht, _, rfl⟩ := seenOf_ok h
  have hn6 := transform_nodup hnd ht
  have hty := transform_frame sType sType_not_touched ht
  simp only at hty
  unfold isSubmitter kwSubmitter
  simp only [attr?_strAttrs _ hn6, hty]

theorem seenVia_submitter {T : Tables} {order : List Str} {g : Gen} {tag : Str} {b : Bind} {kw : Attrs} {s : Seen}
    (hk : kwStable kw) (h : seenVia T order g tag b kw = .ok s) : isSubmitter tag s.1 = kwSubmitter tag kw := by
  obtain ⟨s', hs', _, ha⟩ := seenVia_ok hk h
  rw [isSubmitter_congr tag s.1 s'.1 ha]
  exact seenOf_submitter hk.1 hs'

/-- a way of making the tag calls that shows a browser the `type` the author wrote -/
def ReadsType (see : Str → Bind → Attrs → Except PyErr Seen) : Prop :=
  ∀ tag b kw s, kwStable kw → see tag b kw = .ok s → isSubmitter tag s.1 = kwSubmitter tag kw

theorem readsType_seenOf (T : Tables) (ctx : Ctx) : ReadsType (seenOf T ctx) :=
  fun _ _ _ _ hk h => seenOf_submitter hk.1 h

theorem readsType_seenVia (T : Tables) (order : List Str) (g : Gen) : ReadsType (seenVia T order g) :=
  fun _ _ _ _ hk h => seenVia_submitter hk h

theorem isSub_of_posts {see : Str → Bind → Attrs → Except PyErr Seen} (hsee : ReadsType see) (c : Control)
    (hc : ControlStable c) {ps : List Pair} (h : Control.posts see c = .ok ps) : Control.isSub see c = .ok c.kwSub := by
  cases c with
  | single tag b kw =>
    obtain ⟨s, hs, _⟩ := posts_single h
    unfold Control.isSub
    simp only [bind, Except.bind, pure, Except.pure, hs, Control.kwSub, hsee tag b kw s hc hs]
  | select b kw opts => rfl

theorem subCount_cons {see : Str → Bind → Attrs → Except PyErr Seen} {c : Control} {cs : List Control} {s : Bool} {n : Nat}
    (h1 : Control.isSub see c = .ok s) (h2 : subCount see cs = .ok n) :
    subCount see (c :: cs) = .ok ((if s then 1 else 0) + n) := by
  simp only [subCount, bind, Except.bind, pure, Except.pure, h1, h2]

theorem subCount_eq {see : Str → Bind → Attrs → Except PyErr Seen} (hsee : ReadsType see) :
    ∀ (cs : List Control), (∀ c ∈ cs, ControlStable c) → ∀ ps, browserPost see cs = .ok ps →
      subCount see cs = .ok (cs.countP Control.kwSub)
  | [], _, _, _ => rfl
  | c :: cs, hst, ps, h => by
    obtain ⟨p, q, hp, hq, _⟩ := postsAll_cons h
    have h1 := isSub_of_posts hsee c (hst c (List.mem_cons_self ..)) hp
    have h2 := subCount_eq hsee cs (fun c' hc' => hst c' (List.mem_cons_of_mem _ hc')) q hq
    rw [subCount_cons h1 h2, List.countP_cons]
    congr 1
    exact Nat.add_comm _ _

theorem browserSubmit_cons {see : Str → Bind → Attrs → Except PyErr Seen} {c : Control} {p : List Pair} {s : Bool}
    (hp : Control.posts see c = .ok p) (hs : Control.isSub see c = .ok s) (act : Option Nat) (cs : List Control) :
    browserSubmit see act (c :: cs) =
      if s then
        match act with
        | some 0 => (p ++ ·) <$> browserSubmit see none cs
        | some (k + 1) => browserSubmit see (some k) cs
        | none => browserSubmit see none cs
      else (p ++ ·) <$> browserSubmit see act cs := by
  cases s <;> rcases act with _ | _ | k <;>
    simp only [browserSubmit, bind, Except.bind, pure, Except.pure, hp, hs, if_true, Bool.false_eq_true, if_false] <;> rfl

theorem browserSubmit_cons_skip {see : Str → Bind → Attrs → Except PyErr Seen} {c : Control} {cs : List Control}
    {p q : List Pair} (k : Nat) (hp : Control.posts see c = .ok p) (hs : Control.isSub see c = .ok true)
    (hq : browserSubmit see (some k) cs = .ok q) : browserSubmit see (some (k + 1)) (c :: cs) = .ok q := by
  rw [browserSubmit_cons hp hs]; exact hq

theorem subCount_cons_inv {see : Str → Bind → Attrs → Except PyErr Seen} {c : Control} {cs : List Control} {n : Nat}
    (h : subCount see (c :: cs) = .ok n) :
    ∃ s m, Control.isSub see c = .ok s ∧ subCount see cs = .ok m ∧ n = (if s then 1 else 0) + m := by
  obtain ⟨s, hs, h⟩ := bind_ok h
  obtain ⟨m, hm, h⟩ := bind_ok h
  exact ⟨s, m, hs, hm, (Except.ok.inj h).symm⟩

theorem browserSubmit_all {see : Str → Bind → Attrs → Except PyErr Seen} :
    ∀ (cs : List Control) (act : Option Nat) (n : Nat) (ps : List Pair), subCount see cs = .ok n →
      (n = 0 ∨ (n = 1 ∧ act = some 0)) → browserPost see cs = .ok ps → browserSubmit see act cs = .ok ps
  | [], act, _, ps, _, _, h => by cases act <;> exact h
  | c :: cs, act, n, ps, hn, hle, h => by
    obtain ⟨p, q, hp, hq, rfl⟩ := postsAll_cons h
    obtain ⟨s, m, hs, hm, rfl⟩ := subCount_cons_inv hn
    rw [browserSubmit_cons hp hs]
    cases s with
    | true =>
      obtain ⟨hm0, rfl⟩ : m = 0 ∧ act = some 0 := by simp at hle; omega
      simp only [if_true, browserSubmit_all cs none m q hm (Or.inl hm0) hq]; rfl
    | false =>
      simp only [Bool.false_eq_true, if_false, browserSubmit_all cs act m q hm (by simpa using hle) hq]; rfl

/-- no submitter among the controls: whichever way the form is submitted, every control posts -/
theorem browserSubmit_of_none {see : Str → Bind → Attrs → Except PyErr Seen} :
    ∀ (cs : List Control) (ps : List Pair), subCount see cs = .ok 0 → browserPost see cs = .ok ps →
      ∀ act, browserSubmit see act cs = .ok ps :=
  fun cs ps hn h act => browserSubmit_all cs act 0 ps hn (Or.inl rfl) h

/-- at most one submitter, and it is the one that was activated: every control posts -/
theorem browserSubmit_of_one {see : Str → Bind → Attrs → Except PyErr Seen} :
    ∀ (cs : List Control) (n : Nat) (ps : List Pair), subCount see cs = .ok n → n ≤ 1 → browserPost see cs = .ok ps →
      browserSubmit see (some 0) cs = .ok ps :=
  fun cs n ps hn hle h => browserSubmit_all cs (some 0) n ps hn
    (by rcases n with _ | _ | n; exact .inl rfl; exact .inr ⟨rfl, rfl⟩; omega) h

theorem browserSubmit_none_append {see : Str → Bind → Attrs → Except PyErr Seen} :
    ∀ (a b : List Control) (p q : List Pair), browserSubmit see none a = .ok p → browserSubmit see none b = .ok q →
      browserSubmit see none (a ++ b) = .ok (p ++ q)
  | [], b, p, q, ha, hb => by
    cases ha
    exact hb
  | c :: a, b, p, q, ha, hb => by
    obtain ⟨p0, hp, ha⟩ := bind_ok ha
    obtain ⟨s, hs, ha⟩ := bind_ok ha
    cases s with
    | true => rw [List.cons_append, browserSubmit_cons hp hs]; exact browserSubmit_none_append a b p q ha hb
    | false =>
      obtain ⟨r, hr, ha⟩ := bind_ok ha
      cases ha
      rw [List.cons_append, browserSubmit_cons hp hs, List.append_assoc]
      simp only [Bool.false_eq_true, if_false, browserSubmit_none_append a b r q hr hb]; rfl

theorem browserSubmit_none_single_sub {see : Str → Bind → Attrs → Except PyErr Seen} {c : Control} {p : List Pair}
    (hp : Control.posts see c = .ok p) (hs : Control.isSub see c = .ok true) : browserSubmit see none [c] = .ok [] :=
  (browserSubmit_cons hp hs none []).trans rfl

theorem browserPost_of_submit {see : Str → Bind → Attrs → Except PyErr Seen} :
    ∀ (cs : List Control) (act : Option Nat) (ps : List Pair), browserSubmit see act cs = .ok ps →
      ∃ ps', browserPost see cs = .ok ps'
  | [], _, _, _ => ⟨[], rfl⟩
  | c :: cs, act, ps, h => by
    obtain ⟨p0, hp, h⟩ := bind_ok h
    obtain ⟨s, hs, h⟩ := bind_ok h
    have rest : ∃ act' q, browserSubmit see act' cs = .ok q := by
      cases s with
      | false =>
        obtain ⟨r, hr, _⟩ := bind_ok h
        exact ⟨act, r, hr⟩
      | true =>
        match act, h with
        | none, h => exact ⟨none, _, h⟩
        | some (k + 1), h => exact ⟨some k, _, h⟩
        | some 0, h =>
          obtain ⟨r, hr, _⟩ := bind_ok h
          exact ⟨none, r, hr⟩
    obtain ⟨act', q, hq⟩ := rest
    obtain ⟨q', hq'⟩ := browserPost_of_submit cs act' q hq
    exact ⟨p0 ++ q', postsAll_cons_ok hp hq'⟩

theorem kwSubmitter_input_tag (kw : Attrs) : kwSubmitter sInput kw = submitTy ((Dict.get? kw sType).bind Val.str?) := by
  unfold kwSubmitter
  have e : ¬ (sInput = "button".toList) := by decide +kernel
  cases (Dict.get? kw sType).bind Val.str? with
  | none => simp only [e, if_false]; decide +kernel
  | some t =>
    simp only [e, if_false, Option.getD_some, submitTy, decide_true, Bool.true_and]
    rw [Bool.eq_iff_iff, beq_iff_eq]
    exact decide_eq_true_iff

theorem kwSubmitter_kwOf (ty lit : Option Str) {extra : Attrs} (hex : extraOk extra = true) :
    kwSubmitter sInput (kwOf ty lit extra) = submitTy ty := by
  rw [kwSubmitter_input_tag, get?_kwOf_type ty lit hex]
  cases ty <;> rfl

theorem kwSubmitter_button (extra : Attrs) (hex : extraOk extra = true) : kwSubmitter sButton extra = true := by
  unfold kwSubmitter
  rw [extraOk_get? hex mem_reserved_type]
  decide +kernel

theorem kwSubmitter_textarea (extra : Attrs) : kwSubmitter sTextarea extra = false := by
  unfold kwSubmitter
  have e1 : ¬ (sTextarea = "button".toList) := by decide +kernel
  have e2 : ¬ (sTextarea = sInput) := by decide +kernel
  simp only [e1, e2, if_false, decide_false, Bool.false_and]

theorem checkTy_not_submit (ty : Str) (h : checkTy ty = true) : submitTy (some ty) = false := by
  simp only [checkTy, Bool.and_eq_true, Bool.or_eq_true, beq_iff_eq] at h
  obtain ⟨h1, h2⟩ := h
  simp only [submitTy, h2]
  rcases h1 with h1 | h1 <;> rw [h1] <;> decide +kernel

theorem countP_checkGroup (b : Bind) (ty : Str) (h : checkTy ty = true) (lits : List Str) (es : List Attrs)
    (hes : es.all extraOk = true) : (checkGroup b ty lits es).countP Control.kwSub = 0 := by
  rw [checkGroup_eq_map, List.countP_eq_zero]
  exact List.forall_mem_map.mpr (group_forall (P := fun kw => ¬ kwSubmitter sInput ((sType, .text ty) :: kw) = true)
    (fun l _ he => ne_true_of_eq_false ((kwSubmitter_kwOf (some ty) (some l) he).trans (checkTy_not_submit ty h))) lits es hes)

mutual
theorem countP_renderForm (T : Tables) : ∀ (t : FormTree) (pre : List (Option Str)), formOk T pre t = true →
    (renderForm pre t).countP Control.kwSub = submitters t
  | .text n u w ex, pre, hok => by
    simp only [formOk, Bool.and_eq_true] at hok
    simp only [renderForm]
    cases w with
    | input ty =>
      simp only [scalarControls, List.countP_cons, List.countP_nil, Control.kwSub, kwInput_eq,
        kwSubmitter_kwOf ty none (extraOk_headD hok.2), submitters]
      cases submitTy ty <;> rfl
    | textarea =>
      simp only [scalarControls, List.countP_cons, List.countP_nil, Control.kwSub, kwSubmitter_textarea, submitters,
        Bool.false_eq_true, if_false]
    | button =>
      simp only [scalarControls, List.countP_cons, List.countP_nil, Control.kwSub,
        kwSubmitter_button _ (extraOk_headD hok.2), submitters, if_true]
    | radios ty lits =>
      simp only [widgetOk, Bool.and_eq_true] at hok
      simp only [scalarControls, submitters]
      exact countP_checkGroup _ ty hok.1.2.1 lits ex hok.2
    | select lits =>
      simp only [scalarControls, List.countP_cons, List.countP_nil, Control.kwSub, submitters, Bool.false_eq_true, if_false]
  | .bool n tru u ex, pre, hok => by
    simp only [renderForm, List.countP_cons, List.countP_nil, Control.kwSub, submitters]
    have : kwSubmitter sInput (kwInput (some sCheckbox) (ex.headD [])) = false := by
      rw [kwSubmitter_input_tag]
      exact checkTy_not_submit sCheckbox checkTy_checkbox
    simp only [kwInput] at this
    simp only [this, Bool.false_eq_true, if_false]
  | .array n strip ms w ex, pre, hok => by
    simp only [formOk, Bool.and_eq_true] at hok
    simp only [renderForm, submitters]
    cases w with
    | checkboxes => exact countP_checkGroup _ sCheckbox checkTy_checkbox ms ex hok.2
    | selectMultiple => simp only [arrayControls, List.countP_cons, List.countP_nil, Control.kwSub, Bool.false_eq_true, if_false]
  | .joined n u ms ty ex, pre, hok => by
    simp only [formOk, Bool.and_eq_true] at hok
    simp only [renderForm, List.countP_cons, List.countP_nil, Control.kwSub, kwInput_eq,
      kwSubmitter_kwOf ty none (extraOk_headD hok.2), submitters]
    cases submitTy ty <;> rfl
  | .dict n fields, pre, hok => countP_renderFields T fields (pre ++ [n]) hok
  | .list n members, pre, hok => countP_renderSlots T members (pre ++ [n]) 0 hok
theorem countP_renderFields (T : Tables) : ∀ (ts : List FormTree) (pre : List (Option Str)), fieldsOk T pre ts = true →
    (renderFields pre ts).countP Control.kwSub = submittersL ts
  | [], _, _ => rfl
  | t :: ts, pre, hok => by
    simp only [fieldsOk, Bool.and_eq_true] at hok
    simp only [renderFields, List.countP_append, submittersL, countP_renderForm T t pre hok.1,
      countP_renderFields T ts pre hok.2]
theorem countP_renderSlots (T : Tables) : ∀ (ts : List FormTree) (pre : List (Option Str)) (i : Nat),
    slotsOk T pre i ts = true → (renderSlots pre i ts).countP Control.kwSub = submittersL ts
  | [], _, _, _ => rfl
  | t :: ts, pre, i, hok => by
    simp only [slotsOk, Bool.and_eq_true] at hok
    simp only [renderSlots, List.countP_append, submittersL, countP_renderForm T t _ hok.1,
      countP_renderSlots T ts pre (i + 1) hok.2]
end

end Flatland.C12.Proofs
