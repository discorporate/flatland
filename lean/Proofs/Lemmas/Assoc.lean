/-
Association lists with first-hit lookup: the one theory behind the insertion-ordered dictionaries of the models
(`Markup.Dict`, `C17.AList`, `C20.lookup`/`dictSet`, `Flat.lookup`/`replace`, `C03.lookup`/`replace`, `C06.assoc`/`assocSet`,
the `(name, tag)` lists of `C06.metaSchemaNew`).  Each of those is shown equal to `get`, `set`, `erase` or `replace` here
(`get_unique` does it for a reader from its two equations) in the lemma file of its model, and takes its laws from this
file.  "The last pair wins" (`C20.dictGet`, `Spec.C19.lastAssign`, `Spec.C06.lastWith`) is `get` of the reversed list
(`last_unique`), so a sequence of writes reads as the reversed log in front of the dictionary (`get_foldl_set`).
-/
namespace Flatland.Assoc
variable {κ β γ : Type} [DecidableEq κ]

def get : List (κ × β) → κ → Option β
  | [], _ => none
  | (k', v) :: r, k => if k' = k then some v else get r k

/-- `d[k] = v`: overwrite in place, or append at the end -/
def set : List (κ × β) → κ → β → List (κ × β)
  | [], k, v => [(k, v)]
  | (k', v') :: r, k, v => if k' = k then (k, v) :: r else (k', v') :: set r k v

def erase : List (κ × β) → κ → List (κ × β)
  | [], _ => []
  | (k', v') :: r, k => if k' = k then r else (k', v') :: erase r k

def replace : List (κ × β) → κ → β → List (κ × β)
  | [], _, _ => []
  | (k', v') :: r, k, v => if k' = k then (k, v) :: r else (k', v') :: replace r k v

abbrev keys (d : List (κ × β)) : List κ := d.map (·.1)

@[simp] theorem get_nil (k : κ) : get ([] : List (κ × β)) k = none := rfl

theorem get_cons (k' : κ) (v : β) (d : List (κ × β)) (k : κ) :
    get ((k', v) :: d) k = if k' = k then some v else get d k := rfl

@[simp] theorem get_cons_self (k : κ) (v : β) (d : List (κ × β)) : get ((k, v) :: d) k = some v := if_pos rfl

theorem get_cons_ne {k' k : κ} (h : k' ≠ k) (v : β) (d : List (κ × β)) : get ((k', v) :: d) k = get d k :=
  if_neg h

theorem get_append (a b : List (κ × β)) (k : κ) : get (a ++ b) k = (get a k).or (get b k) := by
  induction a with
  | nil => rfl
  | cons p r ih =>
    obtain ⟨k0, v0⟩ := p
    by_cases h : k0 = k
    · subst h; simp
    · simp only [List.cons_append, get_cons_ne h, ih]

theorem get_eq_none_iff {d : List (κ × β)} {k : κ} : get d k = none ↔ k ∉ keys d := by
  induction d with
  | nil => exact ⟨fun _ => List.not_mem_nil, fun _ => rfl⟩
  | cons p r ih =>
    obtain ⟨k0, v0⟩ := p
    simp only [keys, List.map_cons, List.mem_cons, not_or]
    by_cases h : k0 = k
    · subst h; rw [get_cons_self]; exact ⟨nofun, fun h => absurd rfl h.1⟩
    · rw [get_cons_ne h, ih]; exact ⟨fun h' => ⟨Ne.symm h, h'⟩, And.right⟩

omit [DecidableEq κ] in
theorem not_mem_keys_iff {d : List (κ × β)} {k : κ} : k ∉ keys d ↔ ∀ p ∈ d, p.1 ≠ k :=
  ⟨fun h p hp e => h (List.mem_map.2 ⟨p, hp, e⟩), fun h hm => by
    obtain ⟨p, hp, e⟩ := List.mem_map.1 hm; exact h p hp e⟩

theorem get_append_of_not_mem {a : List (κ × β)} {k : κ} (h : k ∉ keys a) (b : List (κ × β)) :
    get (a ++ b) k = get b k := by
  rw [get_append, get_eq_none_iff.2 h, Option.none_or]

theorem mem_of_get {d : List (κ × β)} {k : κ} {v : β} (h : get d k = some v) : (k, v) ∈ d := by
  induction d with
  | nil => exact nomatch h
  | cons p r ih =>
    obtain ⟨k0, v0⟩ := p
    by_cases e : k0 = k
    · subst e; rw [get_cons_self] at h; cases h; exact List.mem_cons_self
    · exact List.mem_cons_of_mem _ (ih ((get_cons_ne e ..).symm.trans h))

theorem isSome_get_iff {d : List (κ × β)} {k : κ} : (get d k).isSome = true ↔ k ∈ keys d := by
  rw [← Decidable.not_iff_not, ← get_eq_none_iff]
  cases get d k <;> simp

theorem get_append_cons_of_mem {a : List (κ × β)} {k : κ} (h : k ∈ keys a) (v : β) (b : List (κ × β)) (k' : κ) :
    get (a ++ (k, v) :: b) k' = get (a ++ b) k' := by
  rw [get_append, get_append, get_cons]
  split
  · rename_i e
    obtain ⟨t, ht⟩ := Option.isSome_iff_exists.1 (isSome_get_iff.2 (e ▸ h))
    rw [ht]; rfl
  · rfl

theorem get_eq_some_iff {d : List (κ × β)} {k : κ} {v : β} :
    get d k = some v ↔ ∃ a b, d = a ++ (k, v) :: b ∧ k ∉ keys a := by
  constructor
  · intro h
    induction d with
    | nil => exact nomatch h
    | cons p r ih =>
      obtain ⟨k0, v0⟩ := p
      by_cases e : k0 = k
      · subst e; rw [get_cons_self] at h; cases h; exact ⟨[], r, rfl, List.not_mem_nil⟩
      · obtain ⟨a, b, rfl, ha⟩ := ih ((get_cons_ne e ..).symm.trans h)
        exact ⟨(k0, v0) :: a, b, rfl, by simp [ha, Ne.symm e]⟩
  · rintro ⟨a, b, rfl, ha⟩
    rw [get_append, get_eq_none_iff.2 ha, Option.none_or, get_cons_self]

theorem mem_iff_get {d : List (κ × β)} (hn : (keys d).Nodup) {k : κ} {v : β} : (k, v) ∈ d ↔ get d k = some v := by
  refine ⟨fun h => ?_, mem_of_get⟩
  induction d with
  | nil => exact nomatch h
  | cons p r ih =>
    obtain ⟨k0, v0⟩ := p
    rw [keys, List.map_cons, List.nodup_cons] at hn
    rcases List.mem_cons.1 h with h | h
    · cases h; exact get_cons_self ..
    · rw [get_cons_ne (fun e => hn.1 (List.mem_map.2 ⟨(k, v), h, e.symm⟩)), ih hn.2 h]

theorem get_map_val (d : List (κ × β)) (g : κ → β → γ) (k : κ) :
    get (d.map fun p => (p.1, g p.1 p.2)) k = (get d k).map (g k) := by
  induction d with
  | nil => rfl
  | cons p r ih =>
    obtain ⟨k0, v0⟩ := p
    by_cases e : k0 = k
    · subst e; simp
    · simp only [List.map_cons, get_cons_ne e, ih]

theorem get_filter_key (d : List (κ × β)) (q : κ → Bool) (k : κ) :
    get (d.filter fun p => q p.1) k = if q k then get d k else none := by
  induction d with
  | nil => simp
  | cons p r ih =>
    obtain ⟨k0, v0⟩ := p
    by_cases e : k0 = k
    · subst e; cases hq : q k0 <;> simp [hq, ih]
    · cases hq : q k0 <;> simp [hq, ih, get_cons_ne e]

theorem get_set (d : List (κ × β)) (k : κ) (v : β) (k' : κ) :
    get (set d k v) k' = if k = k' then some v else get d k' := by
  induction d with
  | nil => rfl
  | cons p r ih =>
    obtain ⟨k0, v0⟩ := p
    by_cases e : k0 = k
    · subst e
      rw [set, if_pos rfl, get_cons, get_cons]
      by_cases e' : k0 = k'
      · simp only [if_pos e']
      · simp only [if_neg e']
    · rw [set, if_neg e, get_cons, get_cons, ih]
      by_cases e' : k0 = k'
      · simp only [if_pos e', if_neg (e' ▸ Ne.symm e : ¬ k = k')]
      · simp only [if_neg e']

theorem get_set_self (d : List (κ × β)) (k : κ) (v : β) : get (set d k v) k = some v := by
  rw [get_set, if_pos rfl]

theorem get_set_ne (d : List (κ × β)) {k k' : κ} (v : β) (h : k ≠ k') : get (set d k v) k' = get d k' := by
  rw [get_set, if_neg h]

theorem set_of_not_mem {d : List (κ × β)} {k : κ} (h : k ∉ keys d) (v : β) : set d k v = d ++ [(k, v)] := by
  induction d with
  | nil => rfl
  | cons p r ih =>
    obtain ⟨k0, v0⟩ := p
    simp only [keys, List.map_cons, List.mem_cons, not_or] at h
    simp only [set, if_neg (Ne.symm h.1), ih h.2, List.cons_append]

theorem keys_set (d : List (κ × β)) (k : κ) (v : β) :
    keys (set d k v) = if k ∈ keys d then keys d else keys d ++ [k] := by
  induction d with
  | nil => rfl
  | cons p r ih =>
    obtain ⟨k0, v0⟩ := p
    by_cases e : k0 = k
    · subst e
      simp only [set, keys, List.map_cons, List.mem_cons, true_or, if_true]
    · simp only [keys] at ih
      simp only [set, if_neg e, keys, List.map_cons, List.mem_cons, Ne.symm e, false_or, ih]
      split <;> rfl

theorem mem_keys_set {d : List (κ × β)} {k x : κ} {v : β} : x ∈ keys (set d k v) ↔ x = k ∨ x ∈ keys d := by
  rw [keys_set]; split
  · exact ⟨Or.inr, fun h => h.elim (fun e => e ▸ ‹_›) id⟩
  · rw [List.mem_append, List.mem_singleton, or_comm]

theorem nodup_set {d : List (κ × β)} (h : (keys d).Nodup) (k : κ) (v : β) : (keys (set d k v)).Nodup := by
  rw [keys_set]; split
  · exact h
  · rename_i hk
    exact List.nodup_append.2 ⟨h, List.nodup_cons.2 ⟨List.not_mem_nil, List.nodup_nil⟩,
      fun a ha b hb e => hk (List.mem_singleton.1 hb ▸ e ▸ ha)⟩

theorem nodup_concat {d : List (κ × β)} (hn : (keys d).Nodup) {k : κ} (hk : k ∉ keys d) (v : β) :
    (keys (d ++ [(k, v)])).Nodup := by
  rw [← set_of_not_mem hk]; exact nodup_set hn k v

theorem mem_set {d : List (κ × β)} {k : κ} {v : β} {p : κ × β} (h : p ∈ set d k v) : p = (k, v) ∨ p ∈ d := by
  induction d with
  | nil => exact .inl (List.mem_singleton.1 h)
  | cons q r ih =>
    obtain ⟨k0, v0⟩ := q
    by_cases e : k0 = k
    · rw [set, if_pos e] at h
      exact (List.mem_cons.1 h).imp id (List.mem_cons_of_mem _)
    · rw [set, if_neg e] at h
      rcases List.mem_cons.1 h with h | h
      · exact .inr (h ▸ List.mem_cons_self)
      · exact (ih h).imp id (List.mem_cons_of_mem _)

theorem set_set (d : List (κ × β)) (k : κ) (a b : β) : set (set d k a) k b = set d k b := by
  induction d with
  | nil => simp [set]
  | cons p r ih =>
    obtain ⟨k0, v0⟩ := p
    by_cases e : k0 = k
    · simp [set, e]
    · simp [set, e, ih]

theorem set_of_get {d : List (κ × β)} {k : κ} {v : β} (h : get d k = some v) : set d k v = d := by
  obtain ⟨a, b, rfl, ha⟩ := get_eq_some_iff.1 h
  clear h
  induction a with
  | nil => simp [set]
  | cons p r ih =>
    obtain ⟨k0, v0⟩ := p
    simp only [keys, List.map_cons, List.mem_cons, not_or] at ha
    simp only [List.cons_append, set, if_neg (Ne.symm ha.1), ih ha.2]

theorem get_foldl_set (ps d : List (κ × β)) (k : κ) :
    get (ps.foldl (fun d p => set d p.1 p.2) d) k = get (ps.reverse ++ d) k := by
  induction ps generalizing d with
  | nil => rfl
  | cons p r ih =>
    obtain ⟨k0, v0⟩ := p
    rw [List.foldl_cons, ih, get_append, get_set, List.reverse_cons, List.append_assoc, get_append]
    rfl

theorem nodup_foldl_set (ps : List (κ × β)) {d : List (κ × β)} (h : (keys d).Nodup) :
    (keys (ps.foldl (fun d p => set d p.1 p.2) d)).Nodup := by
  induction ps generalizing d with
  | nil => exact h
  | cons p r ih => exact ih (nodup_set h ..)

theorem mem_foldl_set (ps : List (κ × β)) {d : List (κ × β)} {p : κ × β}
    (h : p ∈ ps.foldl (fun d p => set d p.1 p.2) d) : p ∈ ps ∨ p ∈ d := by
  induction ps generalizing d with
  | nil => exact .inr h
  | cons q r ih =>
    rcases ih h with h | h
    · exact .inl (List.mem_cons_of_mem _ h)
    · exact (mem_set h).imp (fun e => by rw [e]; exact List.mem_cons_self) id

theorem foldl_set_of_nodup {ps d : List (κ × β)} (hn : (keys ps).Nodup) (hd : ∀ k ∈ keys ps, k ∉ keys d) :
    ps.foldl (fun d p => set d p.1 p.2) d = d ++ ps := by
  induction ps generalizing d with
  | nil => simp
  | cons p r ih =>
    obtain ⟨k0, v0⟩ := p
    rw [keys, List.map_cons, List.nodup_cons] at hn
    rw [List.foldl_cons, set_of_not_mem (hd k0 List.mem_cons_self), ih hn.2, List.append_assoc]; rfl
    intro k hk
    simp only [keys, List.map_append, List.map_cons, List.map_nil, List.mem_append, List.mem_singleton, not_or]
    exact ⟨hd k (List.mem_cons_of_mem _ hk), fun e => hn.1 (e ▸ hk)⟩

theorem get_reverse_cons (k' : κ) (v : β) (d : List (κ × β)) (k : κ) :
    get ((k', v) :: d).reverse k = (get d.reverse k).or (if k' = k then some v else none) := by
  rw [List.reverse_cons, get_append]; rfl

theorem get_reverse_of_nodup {d : List (κ × β)} (hn : (keys d).Nodup) (k : κ) : get d.reverse k = get d k := by
  have hr : (keys d.reverse).Nodup := by rw [keys, List.map_reverse]; exact (List.reverse_perm _).nodup_iff.2 hn
  cases h : get d k with
  | none =>
    rw [get_eq_none_iff] at h ⊢
    rwa [keys, List.map_reverse, List.mem_reverse]
  | some v => exact (mem_iff_get hr).1 (List.mem_reverse.2 (mem_of_get h))

theorem get_unique (g : List (κ × β) → κ → Option β) (h0 : ∀ k, g [] k = none)
    (h1 : ∀ k' v r k, g ((k', v) :: r) k = if k' = k then some v else g r k) (d : List (κ × β)) (k : κ) :
    g d k = get d k := by
  induction d with
  | nil => exact h0 k
  | cons p r ih => rw [h1, ih]; rfl

theorem last_unique (g : List (κ × β) → κ → Option β) (h0 : ∀ k, g [] k = none)
    (h1 : ∀ k' v r k, g ((k', v) :: r) k = (g r k).or (if k' = k then some v else none))
    (d : List (κ × β)) (k : κ) : g d k = get d.reverse k := by
  induction d with
  | nil => exact h0 k
  | cons p r ih => rw [h1, ih, get_reverse_cons]

theorem erase_sublist (d : List (κ × β)) (k : κ) : (erase d k).Sublist d := by
  induction d with
  | nil => exact .slnil
  | cons p r ih =>
    obtain ⟨k0, v0⟩ := p
    simp only [erase]; split
    · exact .cons _ (List.Sublist.refl _)
    · exact .cons_cons _ ih

theorem erase_of_not_mem {d : List (κ × β)} {k : κ} (h : k ∉ keys d) : erase d k = d := by
  induction d with
  | nil => rfl
  | cons p r ih =>
    obtain ⟨k0, v0⟩ := p
    simp only [keys, List.map_cons, List.mem_cons, not_or] at h
    rw [erase, if_neg (Ne.symm h.1), ih h.2]

theorem nodup_erase {d : List (κ × β)} (h : (keys d).Nodup) (k : κ) : (keys (erase d k)).Nodup :=
  ((erase_sublist d k).map _).nodup h

theorem get_erase_ne (d : List (κ × β)) {k k' : κ} (h : k ≠ k') : get (erase d k) k' = get d k' := by
  induction d with
  | nil => rfl
  | cons p r ih =>
    obtain ⟨k0, v0⟩ := p
    by_cases e : k0 = k
    · subst e; simp only [erase, ↓reduceIte, get_cons_ne h]
    · simp only [erase, if_neg e, get_cons, ih]

theorem get_erase_self {d : List (κ × β)} (h : (keys d).Nodup) (k : κ) : get (erase d k) k = none := by
  induction d with
  | nil => rfl
  | cons p r ih =>
    obtain ⟨k0, v0⟩ := p
    rw [keys, List.map_cons, List.nodup_cons] at h
    by_cases e : k0 = k
    · subst e; simp only [erase, ↓reduceIte]; exact get_eq_none_iff.2 h.1
    · simp only [erase, if_neg e, get_cons_ne e, ih h.2]

theorem not_mem_keys_erase {d : List (κ × β)} (hn : (keys d).Nodup) (k : κ) : k ∉ keys (erase d k) :=
  get_eq_none_iff.1 (get_erase_self hn k)

/-- `del d[k]; d[k] = v`: the key moves to the end -/
theorem get_erase_concat {d : List (κ × β)} (hn : (keys d).Nodup) (k : κ) (v : β) (k' : κ) :
    get (erase d k ++ [(k, v)]) k' = if k = k' then some v else get d k' := by
  rw [get_append, get_cons, get_nil]
  by_cases e : k = k'
  · rw [← e, get_erase_self hn, if_pos rfl, if_pos rfl]; rfl
  · rw [get_erase_ne d e, if_neg e, if_neg e, Option.or_none]

theorem replace_eq (d : List (κ × β)) (k : κ) (v : β) : replace d k v = if k ∈ keys d then set d k v else d := by
  induction d with
  | nil => rfl
  | cons p r ih =>
    obtain ⟨k0, v0⟩ := p
    by_cases e : k0 = k
    · subst e
      simp only [replace, set, keys, List.map_cons, List.mem_cons, true_or, if_true]
    · simp only [keys] at ih
      simp only [replace, set, if_neg e, ih, keys, List.map_cons, List.mem_cons, Ne.symm e, false_or]
      split <;> rfl

theorem keys_replace (d : List (κ × β)) (k : κ) (v : β) : keys (replace d k v) = keys d := by
  rw [replace_eq]; split
  · rw [keys_set, if_pos ‹_›]
  · rfl

theorem replace_append_of_not_mem {a : List (κ × β)} {k : κ} (h : k ∉ keys a) (b : List (κ × β)) (v : β) :
    replace (a ++ b) k v = a ++ replace b k v := by
  induction a with
  | nil => rfl
  | cons p r ih =>
    obtain ⟨k0, v0⟩ := p
    simp only [keys, List.map_cons, List.mem_cons, not_or] at h
    rw [List.cons_append, replace, if_neg (Ne.symm h.1), ih h.2, List.cons_append]

end Flatland.Assoc
