/- C04, setting `.u` again: the text of an adapted value is a fixed text of its kind (`TextFixed`, `reset_u_all`), and
   so is the text any `set(text)` leaves (`TextFixed.of_set`); for the modelled kinds the text adapts to `canon k v`,
   what it keeps of the value (`readapt`) -/
import Proofs.Lemmas.C04Typing
import Proofs.Lemmas.C04Num
namespace Flatland.Scalar
open Flatland.Scalar Flatland.Scalar.Spec

theorem adapt_str_nil_integer (E : Env) (sg : Bool) (w : Nat) : adapt E (.integer sg w) (.str []) = .ok none := by
  simp [adapt, strip, lstrip, rstrip, pyIntOfStr, splitSign, parseDigitBody]

theorem adaptTemporalText_nil (T : Tables) (w : Nat) : adaptTemporalText T w [] = none := by
  unfold adaptTemporalText
  split <;> simp [matchDate, matchTime, matchDateTime, match3, takeDigits]

theorem adaptTemporalText_strip_nil (T : Tables) (w : Nat) (b : Bool) :
    adaptTemporalText T w (if b = true then strip T [] else []) = none := by
  rw [strip_nil, ite_self, adaptTemporalText_nil]

theorem adapt_fmtInt (E : Env) (hT : E.T.OK) (sg : Bool) (w : Nat) (i : Int) (hfit : intFits E.T i = true)
    (hw : WidthOK E.T (.integer sg w) = true) (hs : sg = true ∨ 0 ≤ i) :
    adapt E (.integer sg w) (.str (fmtInt w i)) = .ok (some (.int i)) := by
  simp only [adapt, strip_fmtInt E.T hT, pyIntOfStr_fmtInt E.T hT w i hfit (of_decide_eq_true hw), checkSigned]
  rcases hs with h | h
  · rw [if_pos h]
  · rw [decide_eq_false (Int.not_lt.mpr h)]
    split <;> rfl

theorem adapt_dateText (E : Env) (hT : E.T.OK) (b : Bool) (y m d : Nat) (hvd : validDate y m d = true) :
    adapt E (.date b) (.str (dateText y m d)) = .ok (some (.date y m d)) := by
  simp only [adapt, strip_dateText E.T hT, ite_self, adaptTemporalText, matchDate_dateText E.T hT y m d hvd, hvd, if_true]

theorem adapt_timeText (E : Env) (hT : E.T.OK) (b : Bool) (h mi s : Nat) (hvt : validTime h mi s = true) :
    adapt E (.time b) (.str (timeText h mi s)) = .ok (some (.time h mi s 0)) := by
  simp only [adapt, strip_timeText E.T hT, ite_self, adaptTemporalText, matchTime_timeText E.T hT h mi s hvt, hvt, if_true]

theorem adapt_dateTimeText (E : Env) (hT : E.T.OK) (b : Bool) (y m d h mi s : Nat) (hvd : validDate y m d = true)
    (hvt : validTime h mi s = true) :
    adapt E (.datetime b) (.str (dateText y m d ++ [' '] ++ timeText h mi s)) =
      .ok (some (.datetime y m d h mi s 0)) := by
  simp only [adapt, strip_dateTimeText E.T hT, ite_self, adaptTemporalText,
    matchDateTime_text E.T hT y m d h mi s hvd hvt, hvd, hvt, Bool.and_self, if_true]

theorem adapt_boolText (E : Env) (tr fl : Str) (ts fs : List Str) (hc : Coherent (.boolean tr fl ts fs) = true)
    (b : Bool) : adapt E (.boolean tr fl ts fs) (.str (if b = true then tr else fl)) = .ok (some (.bool b)) := by
  cases b
  · simp only [Coherent, Bool.and_eq_true, bne_iff_ne, Bool.not_eq_true', List.contains_eq_mem,
      decide_eq_false_iff_not] at hc
    simp [adapt, hc.1, hc.2]
  · simp [adapt]

/-- `u` is a fixed text of kind `k`: set again it fails to adapt (and is kept as it is), or adapts to a value
    whose text is `u` -/
def TextFixed (E : Env) (k : Kind) (u : Str) : Prop :=
  adapt E k (.str u) = .ok none ∨ ∃ v', adapt E k (.str u) = .ok (some v') ∧ uOfValue E k v' = .ok u

theorem TextFixed.constrained {E : Env} {c : Kind} {u : Str} (vd : Valid) (h : TextFixed E c u) :
    TextFixed E (.constrained c vd) u := by
  rcases h with h | ⟨v', h1, h2⟩
  · left; simp only [adapt, h]
  · by_cases hh : vd.holds v' = true
    · right; exact ⟨v', by simp only [adapt, h1, hh, if_true], (uOfValue_constrained ..).trans h2⟩
    · left; simp only [adapt, h1, hh]; rfl

theorem TextFixed.set {E : Env} {k : Kind} {u : Str} (h : TextFixed E k u) :
    ∃ r', setScalar E k (.str u) = .ok r' ∧ r'.st.u = u := by
  rcases h with h1 | ⟨v', h1, h2⟩
  · exact ⟨⟨⟨.str u, .none, u⟩, false, [false]⟩, by simp only [setScalar, h1, uOfFailed], rfl⟩
  · exact ⟨⟨⟨.str u, v', u⟩, true, [true]⟩, by simp only [setScalar, h1, h2], rfl⟩

theorem TextFixed.norm {E : Env} {k : Kind} {u : Str} (h : TextFixed E k u) : norm E k u = u := by
  obtain ⟨r', hr', hu'⟩ := h.set
  simp only [Flatland.Scalar.norm, hr', hu']

theorem serialize_opaque (E : Env) (dec sg : Bool) (t : Tok) :
    uOfValue E (if dec then .decimal sg else .float sg) (if dec then .decimal t else .float t) = .ok (tokText t) := by
  cases dec <;> rfl

theorem reset_u_opaque (E : Env) (dec : Bool) (hst : OpaqueStable E dec) (sg : Bool) (x v : Native) (u : Str)
    (hv : Adapts E (if dec then .decimal sg else .float sg) x v)
    (hu : uOfValue E (if dec then .decimal sg else .float sg) v = .ok u) :
    TextFixed E (if dec then .decimal sg else .float sg) u := by
  obtain ⟨y, t, hy, rfl⟩ : ∃ y t, E.conv dec y = some (some t) ∧ v = (if dec then .decimal t else .float t) := by
    cases dec <;> exact hv
  have hadapt : ∀ s, adapt E (if dec then .decimal sg else .float sg) (.str s) = adaptTok E dec sg (.str (strip E.T s)) := by
    intro s; cases dec <;> rfl
  unfold TextFixed
  rw [serialize_opaque] at hu
  cases hu
  rw [hadapt]
  rcases hst.2 y t hy with h | ⟨t', h, htxt⟩
  · left; simp only [adaptTok, h]
  · unfold adaptTok
    simp only [h]
    cases hcs : checkSigned sg t'.neg (if dec then Native.decimal t' else Native.float t') with
    | none => left; rfl
    | some w =>
      right
      cases checkSigned_some _ _ _ _ hcs
      exact ⟨_, rfl, by rw [serialize_opaque, htxt]⟩

/-- what the text form keeps of a value: a Date's text drops the time of a datetime, a Time's and a DateTime's
    drop the microseconds (KF-C04-b is `canon k v ≠ v`) -/
def canon : Kind → Native → Native
  | .date _, .datetime y m d _ _ _ _ => .date y m d
  | .time _, .time h mi s _ => .time h mi s 0
  | .datetime _, .datetime y m d h mi s _ => .datetime y m d h mi s 0
  | .constrained c _, v => canon c v
  | _, v => v

theorem uOfValue_canon (E : Env) (k : Kind) (v : Native) : uOfValue E k (canon k v) = uOfValue E k v := by
  induction k with
  | constrained c vd ih => rw [uOfValue_constrained, uOfValue_constrained]; exact ih
  | date b => cases v <;> rfl
  | time b => cases v <;> rfl
  | datetime b => cases v <;> rfl
  | _ => rfl

/-- the text of an adapted value other than None adapts to `canon k v` — unless a Constrained on the way
    rejects `canon k v`, which then differs from `v` (`v` itself was accepted) -/
theorem readapt (E : Env) (hT : E.T.OK) (k : Kind) (hm : Modelled k = true) (hc : Coherent k = true)
    (hw : WidthOK E.T k = true) (x v : Native) (u : Str) (hv : Adapts E k x v) (hu : uOfValue E k v = .ok u) :
    adapt E k (.str u) = .ok (some (canon k v)) ∨ (adapt E k (.str u) = .ok none ∧ canon k v ≠ v) := by
  induction k with
  | float sg => cases hm
  | decimal sg => cases hm
  | constrained c vd ih =>
    rw [uOfValue_constrained] at hu
    rcases ih hm hc hw hv.1 hu with h | ⟨h, hcv⟩
    · by_cases hh : vd.holds (canon c v) = true
      · exact .inl (by simp only [adapt, h, hh, if_true, canon])
      · exact .inr ⟨by simp only [adapt, h, hh]; rfl, fun heq => hh (by rw [show canon c v = v from heq]; exact hv.2)⟩
    · exact .inr ⟨by simp only [adapt, h], hcv⟩
  | string b =>
    obtain ⟨s, rfl, hs⟩ := hv
    cases hu
    left
    cases b
    · rfl
    · simp only [adapt, canon, if_true, hs rfl]
  | integer sg w =>
    obtain ⟨i, rfl, hfit, hs⟩ := hv
    simp only [uOfValue, serialize, pyFmtInt, hfit, if_true, Except.ok.injEq] at hu
    subst hu
    exact .inl (adapt_fmtInt E hT sg w i hfit hw hs)
  | boolean tr fl ts fs =>
    obtain ⟨b, rfl⟩ := hv
    have hb : u = if b = true then tr else fl := by cases b <;> cases hu <;> rfl
    subst hb
    exact .inl (adapt_boolText E tr fl ts fs hc b)
  | date b =>
    rcases hv with ⟨y, m, d, rfl, hvd⟩ | ⟨y, m, d, a, b', c, us, rfl, _, hvd⟩
    all_goals
      obtain rfl : dateText y m d = u := Except.ok.inj hu
      exact .inl (adapt_dateText E hT b y m d hvd)
  | time b =>
    obtain ⟨a, b', c, us, rfl, hvt, _⟩ := hv
    obtain rfl : timeText a b' c = u := Except.ok.inj hu
    exact .inl (adapt_timeText E hT b a b' c hvt)
  | datetime b =>
    obtain ⟨y, m, d, a, b', c, us, rfl, hvd, hvt, _⟩ := hv
    obtain rfl : dateText y m d ++ [' '] ++ timeText a b' c = u := Except.ok.inj hu
    exact .inl (adapt_dateTimeText E hT b y m d a b' c hvd hvt)

theorem reset_u_none (E : Env) (k : Kind) (hst : OpaqueOK E k) (hcn : CoherentNone k = true) : TextFixed E k [] := by
  induction k with
  | float sg => left; simp only [adapt, strip_nil, adaptTok, hst.1]
  | decimal sg => left; simp only [adapt, strip_nil, adaptTok, hst.1]
  | constrained c vd ih => exact (ih hst hcn).constrained vd
  | string b => right; cases b <;> exact ⟨_, rfl, rfl⟩
  | integer sg w => exact .inl (adapt_str_nil_integer E sg w)
  | boolean tr fl ts fs =>
    -- what '' adapts to must have the text '' as well
    simp only [CoherentNone] at hcn
    simp only [TextFixed, adapt]
    by_cases h1 : ([] == tr || ts.contains []) = true
    · rw [if_pos (by simpa using h1)]
      simp only [h1, if_true, beq_iff_eq] at hcn
      exact .inr ⟨.bool true, rfl, by simp only [uOfValue, serialize, pyTruthy, hcn, if_true]⟩
    · rw [if_neg (by simpa using h1)]
      simp only [h1, Bool.false_eq_true, if_false] at hcn
      by_cases h2 : ([] == fl || fs.contains []) = true
      · rw [if_pos (by simpa using h2)]
        simp only [h2, if_true, beq_iff_eq] at hcn
        exact .inr ⟨.bool false, rfl, by simp [uOfValue, serialize, pyTruthy, hcn]⟩
      · rw [if_neg (by simpa using h2)]
        exact .inl rfl
  | date b => left; simp only [adapt, adaptTemporalText_strip_nil]
  | time b => left; simp only [adapt, adaptTemporalText_strip_nil]
  | datetime b => left; simp only [adapt, adaptTemporalText_strip_nil]

/-- the text of an adapted value other than None is a fixed text of its kind -/
theorem Adapts.textFixed {E : Env} {k : Kind} {x v : Native} {u : Str} (hv : Adapts E k x v) (hT : E.T.OK)
    (hst : OpaqueOK E k) (hc : Coherent k = true) (hw : WidthOK E.T k = true) (hu : uOfValue E k v = .ok u) :
    TextFixed E k u := by
  induction k with
  | float sg => exact reset_u_opaque E false hst sg x v u hv hu
  | decimal sg => exact reset_u_opaque E true hst sg x v u hv hu
  | constrained c vd ih =>
    rw [uOfValue_constrained] at hu
    exact (ih hv.1 hst hc hw hu).constrained vd
  | _ =>
    exact (readapt E hT _ rfl hc hw x v u hv hu).elim
      (fun h => .inr ⟨_, h, (uOfValue_canon E _ v).trans hu⟩) (fun h => .inl h.1)

theorem reset_u_all (E : Env) (hT : E.T.OK) (k : Kind) (hst : OpaqueOK E k)
    (hc : Coherent k = true) (hw : WidthOK E.T k = true) (x v : Native) (u : Str)
    (hx : NoHuge E.T x = true) (hwf : Native.WF x = true)
    (ha : adapt E k x = .ok (some v)) (hu : uOfValue E k v = .ok u)
    (hnone : v = .none → CoherentNone k = true) : TextFixed E k u := by
  rcases adapt_adapts E hT k x v hx hwf ha with ⟨_, rfl⟩ | hv
  · cases hu
    exact reset_u_none E k hst (hnone rfl)
  · exact hv.textFixed hT hst hc hw hu

theorem Adapts.exact {E : Env} {k : Kind} {x v : Native} (h : Adapts E k x v) (hx : ExactInput k x = true) : canon k v = v := by
  induction k with
  | constrained c vd ih => exact ih h.1 hx
  | date b =>
    rcases h with ⟨_, _, _, rfl, _⟩ | ⟨_, _, _, _, _, _, _, rfl, rfl, _⟩
    · rfl
    · cases hx
  | time b =>
    obtain ⟨_, _, _, _, rfl, _, rfl | rfl⟩ := h
    · rfl
    · cases of_decide_eq_true hx; rfl
  | datetime b =>
    obtain ⟨_, _, _, _, _, _, _, rfl, _, _, rfl | rfl⟩ := h
    · rfl
    · cases of_decide_eq_true hx; rfl
  | _ => rfl

theorem reset_value_value (E : Env) (hT : E.T.OK) (k : Kind) (hm : Modelled k = true) (hc : Coherent k = true)
    (hw : WidthOK E.T k = true) (x v : Native) (u : Str) (hv : Adapts E k x v) (hex : canon k v = v)
    (hu : uOfValue E k v = .ok u) : adapt E k (.str u) = .ok (some v) := by
  rcases readapt E hT k hm hc hw x v u hv hu with h | ⟨_, h⟩
  · rwa [hex] at h
  · exact absurd hex h

theorem TextFixed.of_set (E : Env) (hT : E.T.OK) (k : Kind) (hst : OpaqueOK E k) (hc : Coherent k = true)
    (hw : WidthOK E.T k = true) (s : Str) (r : SetResult) (h : setScalar E k (.str s) = .ok r) :
    TextFixed E k r.st.u := by
  unfold setScalar at h
  cases ha : adapt E k (.str s) with
  | error e => simp [ha] at h
  | ok ov =>
    rw [ha] at h
    cases ov with
    | none => cases h; exact .inl ha
    | some v =>
      cases hu : uOfValue E k v with
      | error e => simp [hu] at h
      | ok u =>
        simp only [hu, Except.ok.injEq] at h
        subst h
        -- text is not None, so neither is what it adapts to
        exact ((adapt_adapts E hT k _ v rfl rfl ha).resolve_left (fun hn => nomatch hn.1)).textFixed hT hst hc hw hu

end Flatland.Scalar
