/-
C14, `_canonicalize`.  On compiled paths of more than one op it is, literally, the compiled path with
every `X/..` pair and every `.` deleted (`canonicalize_cancel`); on the `Canon` domain that deletion
changes no reading of the op list (`Reading.cancel_canon`).  Both depth-first readings, `denOps` and
`denOrd`, are covered at once: the lemmas use of a reading only what `Reading` lists.
-/
import Flatland.Path
import Flatland.Spec.C14
import Proofs.Lemmas.C14Compile
import Proofs.Lemmas.C14Steps
namespace Flatland.C14.Proofs
open Flatland.Path Flatland.C14.Spec

theorem canonStep_here (canon : List Op) : canonStep true canon .here = canon := rfl

theorem canonStep_up (multi : Bool) (canon : List Op) :
    canonStep multi canon .up =
      match canon with
      | [] => [.up]
      | .top :: _ => canon
      | .up :: _ => .up :: canon
      | _ :: rest => rest := by
  cases canon with
  | nil => rfl
  | cons c cs => cases c <;> rfl

theorem canonicalize_short (ops : List Op) (h : ops.length ≤ 1) : canonicalize ops = ops := by
  match ops, h with
  | [], _ => rfl
  | [o], _ =>
    simp only [canonicalize, List.length_singleton, Nat.lt_irrefl, decide_false, List.foldl_cons, List.foldl_nil,
      canonStep, Bool.and_false, Bool.false_eq_true, if_false, List.isEmpty_nil, Bool.or_true, if_true,
      List.reverse_singleton]
  | _ :: _ :: _, h => exact absurd h (by simp only [List.length_cons]; omega)

def topPart (top : Bool) : List Op := if top then [.top] else []

theorem compileStep_down {s : Step} (hd : s.down = true) :
    (∃ nm, compileStep s = .name nm) ∨ ∃ a b c, compileStep s = .slice a b c := by
  cases s with
  | here => cases hd
  | up => cases hd
  | name nm => exact Or.inl ⟨_, rfl⟩
  | negidx n => obtain ⟨a, b, c, h, _⟩ := compileStep_slice (.negidx n) rfl; exact Or.inr ⟨a, b, c, h⟩
  | slice a b c => obtain ⟨a, b, c, h, _⟩ := compileStep_slice (.slice a b c) rfl; exact Or.inr ⟨a, b, c, h⟩

theorem canonStep_down {s : Step} (hd : s.down = true) (canon : List Op) :
    canonStep true canon (compileStep s) = compileStep s :: canon := by
  rcases compileStep_down hd with ⟨_, h⟩ | ⟨_, _, _, h⟩ <;> rw [h] <;> rfl

theorem canonStep_up_down {s : Step} (hd : s.down = true) (canon : List Op) :
    canonStep true (compileStep s :: canon) .up = canon := by
  rcases compileStep_down hd with ⟨_, h⟩ | ⟨_, _, _, h⟩ <;> rw [h] <;> rfl

theorem canonStep_cancelStep (top : Bool) (acc : List Step) (s : Step)
    (hacc : acc.all (fun a => !a.isHere) = true) :
    canonStep true (acc.map compileStep ++ topPart top) (compileStep s)
      = (cancelStep top acc s).map compileStep ++ topPart top ∧
    (cancelStep top acc s).all (fun a => !a.isHere) = true := by
  induction s using Step.cases3 with
  | here => exact ⟨canonStep_here _, hacc⟩
  | down s hd =>
    rw [cancelStep_down hd]
    exact ⟨canonStep_down hd _, (Bool.and_eq_true _ _).mpr ⟨congrArg not (down_isHere hd), hacc⟩⟩
  | up =>
    cases acc with
    | nil => cases top <;> exact ⟨rfl, rfl⟩
    | cons a rest =>
      obtain ⟨ha, hrest⟩ := (Bool.and_eq_true _ _).mp hacc
      induction a using Step.cases3 with
      | here => cases ha
      | up => exact ⟨rfl, (Bool.and_eq_true _ _).mpr ⟨rfl, hacc⟩⟩
      | down a hd => rw [cancelStep_up_down hd]; exact ⟨canonStep_up_down hd _, hrest⟩

theorem foldl_canon_cancel (top : Bool) : ∀ (steps acc : List Step),
    acc.all (fun a => !a.isHere) = true →
    (steps.map compileStep).foldl (canonStep true) (acc.map compileStep ++ topPart top)
      = (steps.foldl (cancelStep top) acc).map compileStep ++ topPart top
  | [], acc, _ => rfl
  | s :: r, acc, hacc => by
    obtain ⟨h1, h2⟩ := canonStep_cancelStep top acc s hacc
    simp only [List.map_cons, List.foldl_cons, h1]
    exact foldl_canon_cancel top r _ h2

theorem canonicalize_cancel (p : Spec.Path) (hlen : (compile p).length > 1) :
    canonicalize (compile p) = compile (cancel p) := by
  unfold canonicalize
  have hm : decide ((compile p).length > 1) = true := by simpa using hlen
  rw [hm]
  unfold compile cancel
  simp only
  rw [List.foldl_append]
  have h0 : (if p.top = true then [Op.top] else []).foldl (canonStep true) []
      = ([] : List Step).map compileStep ++ topPart p.top := by
    cases p.top <;> rfl
  rw [h0, foldl_canon_cancel p.top p.steps [] rfl]
  cases p.top <;> simp [topPart]

theorem mem_cancelStep {top : Bool} {acc : List Step} {s x : Step} (h : x ∈ cancelStep top acc s) :
    x = s ∨ x ∈ acc := by
  induction s using Step.cases3 with
  | here => exact Or.inr h
  | down s hd => rw [cancelStep_down hd] at h; exact List.mem_cons.mp h
  | up =>
    cases acc with
    | nil =>
      cases top with
      | true => cases h
      | false => exact Or.inl (List.mem_singleton.mp h)
    | cons a rest =>
      induction a using Step.cases3 with
      | up => exact List.mem_cons.mp h
      | here => exact Or.inr (List.mem_cons_of_mem _ h)
      | down a hd => rw [cancelStep_up_down hd] at h; exact Or.inr (List.mem_cons_of_mem _ h)

theorem mem_foldl_cancelStep (top : Bool) : ∀ (steps acc : List Step) (x : Step),
    x ∈ steps.foldl (cancelStep top) acc → x ∈ acc ∨ x ∈ steps
  | [], _, _, h => Or.inl h
  | s :: r, acc, x, h => by
    rcases mem_foldl_cancelStep top r _ x h with h | h
    · rcases mem_cancelStep h with h | h
      · exact Or.inr (h ▸ List.mem_cons_self)
      · exact Or.inl h
    · exact Or.inr (List.mem_cons_of_mem _ h)

theorem mem_cancel (p : Spec.Path) (x : Step) (h : x ∈ (cancel p).steps) : x ∈ p.steps := by
  rcases mem_foldl_cancelStep p.top p.steps [] x (List.mem_reverse.mp h) with h | h
  · cases h
  · exact h

theorem cancel_wf (p : Spec.Path) (h : p.steps.all Step.wf = true) : (cancel p).steps.all Step.wf = true :=
  List.all_eq_true.mpr (fun x hx => List.all_eq_true.mp h x (mem_cancel p x hx))

/-- what the lemmas below use of a reading `D` of op lists: `.` is a no-op, `..` stays at the root,
    and the reading of an op list depends on a tail of it only through the tail's reading -/
structure Reading {α : Type} (D : List Op → Pos → α) : Prop where
  here : ∀ r, D (.here :: r) = D r
  top_up : ∀ r, D (.top :: .up :: r) = D (.top :: r)
  congr : ∀ (A : List Op) {X Y : List Op}, D X = D Y → D (A ++ X) = D (A ++ Y)

theorem denOps_reading (root : Node) (strict : Bool) : Reading (denOps root strict) where
  here _ := funext fun _ => rfl
  top_up _ := funext fun _ => rfl
  congr A X Y h := by
    induction A with
    | nil => exact h
    | cons o A ih =>
      funext el
      cases o <;> simp only [List.cons_append, denOps, ih]

/-- `denOrd` at every depth -/
theorem denOrd_reading (root : Node) (strict : Bool) :
    Reading (fun ops el d => denOrd root strict ops d el) where
  here _ := funext fun _ => funext fun _ => rfl
  top_up _ := funext fun _ => funext fun _ => rfl
  congr A X Y h := by
    induction A with
    | nil => exact h
    | cons o A ih =>
      have ih' : ∀ d, denOrd root strict (A ++ X) d = denOrd root strict (A ++ Y) d :=
        fun d => funext fun el => congrFun (congrFun ih el) d
      funext el d
      cases o <;> simp only [List.cons_append, denOrd, ih']

namespace Reading
variable {α : Type} {D : List Op → Pos → α}

/-- **what the code evaluates, for every path**: the reading of the path with every `X/..` pair and
    every `.` deleted -/
theorem canonicalize (hD : Reading D) (p : Spec.Path) :
    D (canonicalize (compile p)) = D (compile (cancel p)) := by
  by_cases hlen : (compile p).length > 1
  · rw [canonicalize_cancel p hlen]
  · rw [canonicalize_short _ (by omega)]
    -- at most one op: `/`, nothing, or a single relative step
    cases p with | mk top steps =>
    cases steps with
    | nil => cases top <;> rfl
    | cons s r =>
      cases top with
      | true => exact absurd (Nat.succ_lt_succ (Nat.succ_pos _)) hlen
      | false =>
        cases r with
        | cons _ _ => exact absurd (Nat.succ_lt_succ (Nat.succ_pos _)) hlen
        | nil =>
          cases s with
          | here => exact hD.here []
          | up => rfl
          | name _ => rfl
          | negidx _ => rfl
          | slice _ _ _ => rfl

/-- on the `Canon` domain the loop of `cancel` deletes only `.`s and, after `/`, leading `..`s;
    `acc` holds nothing but `..`s (none after `/`) until a name, index or slice step has been seen -/
theorem cancel_canon_aux (hD : Reading D) (top : Bool) : ∀ (steps : List Step) (seen : Bool) (acc : List Step),
    canonFrom seen steps = true →
    (seen = false → acc.all Step.isUp = true ∧ (top = true → acc = [])) →
    D (topPart top ++ (steps.foldl (cancelStep top) acc).reverse.map compileStep)
      = D (topPart top ++ (acc.reverse ++ steps).map compileStep) := by
  intro steps
  induction steps with
  | nil => intro _ acc _ _; rw [List.foldl_nil, List.append_nil]
  | cons s r ih =>
    intro seen acc h hi
    rw [List.foldl_cons]
    induction s using Step.cases3 with
    | here =>
      rw [show cancelStep top acc .here = acc from rfl, ih seen acc h hi, List.map_append, List.map_append,
        List.map_cons, ← List.append_assoc, ← List.append_assoc]
      exact (hD.congr _ (hD.here _)).symm
    | down s hd =>
      rw [canonFrom_down hd] at h
      rw [cancelStep_down hd, ih true (s :: acc) h (fun h => nomatch h), List.reverse_cons, List.append_assoc]
      rfl
    | up =>
      cases seen with
      | true => cases h
      | false =>
        obtain ⟨hall, htop⟩ := hi rfl
        have h' : canonFrom false r = true := h
        cases top with
        | true =>
          cases htop rfl
          rw [show cancelStep true [] .up = [] from rfl, ih false [] h' (fun _ => ⟨rfl, fun _ => rfl⟩)]
          exact (hD.top_up _).symm
        | false =>
          have hstep : cancelStep false acc .up = .up :: acc := by
            cases acc with
            | nil => rfl
            | cons a rest =>
              have ha : a.isUp = true := ((Bool.and_eq_true _ _).mp hall).1
              cases a <;> first | rfl | cases ha
          rw [hstep, ih false (.up :: acc) h'
            (fun _ => ⟨(Bool.and_eq_true _ _).mpr ⟨rfl, hall⟩, fun h => nomatch h⟩), List.reverse_cons,
            List.append_assoc]
          rfl

theorem cancel_canon (hD : Reading D) (p : Spec.Path) (hc : Canon p = true) :
    D (compile (cancel p)) = D (compile p) :=
  cancel_canon_aux hD p.top p.steps false [] hc (fun _ => ⟨rfl, fun _ => rfl⟩)

theorem canonicalize_canon (hD : Reading D) (p : Spec.Path) (hc : Canon p = true) :
    D (Flatland.Path.canonicalize (compile p)) = D (compile p) :=
  (hD.canonicalize p).trans (hD.cancel_canon p hc)

end Reading

end Flatland.C14.Proofs
