/-
List facts that several properties need and core does not state: congruence of `filterMap`, `flatMap`,
`findSome?` under a hypothesis on the members only; the one element a filter keeps; lists with distinct keys; sorted
lists with the same members.
-/
namespace Flatland.Lists

theorem filterMap_congr' {α β} (f g : α → Option β) (l : List α) (h : ∀ x ∈ l, f x = g x) :
    l.filterMap f = l.filterMap g := by
  induction l with
  | nil => rfl
  | cons a as ih =>
    rw [List.filterMap_cons, List.filterMap_cons, h a List.mem_cons_self,
      ih (fun x hx => h x (List.mem_cons_of_mem _ hx))]

theorem flatMap_congr' {α β} (f g : α → List β) (l : List α) (h : ∀ x ∈ l, f x = g x) :
    l.flatMap f = l.flatMap g := by
  induction l with
  | nil => rfl
  | cons a as ih =>
    rw [List.flatMap_cons, List.flatMap_cons, h a List.mem_cons_self,
      ih (fun x hx => h x (List.mem_cons_of_mem _ hx))]

theorem findSome?_ext {α β : Type} (f g : α → Option β) (l : List α) (h : ∀ x ∈ l, f x = g x) :
    l.findSome? f = l.findSome? g := by
  induction l with
  | nil => rfl
  | cons x r ih =>
    rw [List.findSome?_cons, List.findSome?_cons, h x List.mem_cons_self,
      ih (fun y hy => h y (List.mem_cons_of_mem _ hy))]

theorem flatMap_singleton_map {α β} (f : α → β) (l : List α) : l.flatMap (fun t => [f t]) = l.map f :=
  List.map_eq_flatMap.symm

theorem filter_unique {α} (p : α → Bool) (a : List α) (x : α) (b : List α) (hx : p x = true)
    (ha : ∀ y ∈ a, p y = false) (hb : ∀ y ∈ b, p y = false) : (a ++ x :: b).filter p = [x] := by
  rw [List.filter_append, List.filter_cons_of_pos hx,
    List.filter_eq_nil_iff.mpr (fun y hy => by simp [ha y hy]),
    List.filter_eq_nil_iff.mpr (fun y hy => by simp [hb y hy]), List.nil_append]

theorem nodup_map_of_inj_on {α β} (f : α → β) (l : List α)
    (hinj : ∀ a ∈ l, ∀ b ∈ l, f a = f b → a = b) (hnd : l.Nodup) : (l.map f).Nodup := by
  rw [List.Nodup, List.pairwise_map]
  exact List.Pairwise.imp_of_mem (fun ha hb hne h => hne (hinj _ ha _ hb h)) hnd

theorem eq_of_nodup_map {α β} (f : α → β) {l : List α} (hn : (l.map f).Nodup) {a b : α} (ha : a ∈ l) (hb : b ∈ l)
    (h : f a = f b) : a = b := by
  induction l with
  | nil => cases ha
  | cons x xs ih =>
    simp only [List.map_cons, List.nodup_cons, List.mem_map, not_exists, not_and] at hn
    rcases List.mem_cons.mp ha with ha | ha <;> rcases List.mem_cons.mp hb with hb | hb
    · rw [ha, hb]
    · exact absurd (ha ▸ h).symm (hn.1 b hb)
    · exact absurd (hb ▸ h) (hn.1 a ha)
    · exact ih hn.2 ha hb

theorem find?_key_of_mem {α κ : Type} [DecidableEq κ] (key : α → κ) {l : List α}
    (hn : (l.map key).Nodup) {a : α} (ha : a ∈ l) {k : κ} (hk : key a = k) :
    l.find? (fun x => key x = k) = some a := by
  induction l with
  | nil => exact nomatch ha
  | cons g gs ih =>
    rw [List.map_cons, List.nodup_cons] at hn
    rcases List.mem_cons.1 ha with rfl | hin
    · rw [List.find?_cons_of_pos]; exact decide_eq_true hk
    · rw [List.find?_cons_of_neg, ih hn.2 hin]
      exact fun e => hn.1 (by rw [of_decide_eq_true e, ← hk]; exact List.mem_map_of_mem hin)

theorem pairwise_ext {α} {r : α → α → Prop} (hr : ∀ a b, r a b → ¬ r b a) {l1 l2 : List α}
    (h1 : l1.Pairwise r) (h2 : l2.Pairwise r) (h : ∀ x, x ∈ l1 ↔ x ∈ l2) : l1 = l2 :=
  have hne : ∀ {a b}, r a b → a ≠ b := fun hab e => by subst e; exact hr _ _ hab hab
  List.Perm.eq_of_pairwise (fun a b _ _ hab hba => absurd hba (hr a b hab)) h1 h2
    ((List.perm_ext_iff_of_nodup (h1.imp hne) (h2.imp hne)).2 h)

theorem getElem?_append_singleton {α : Type} (l : List α) (a : α) (c : Nat) :
    (l ++ [a])[c]? = if c = l.length then some a else l[c]? := by
  rcases Nat.lt_trichotomy c l.length with h | h | h
  · rw [List.getElem?_append_left h, if_neg (Nat.ne_of_lt h)]
  · subst h; simp
  · rw [if_neg (Nat.ne_of_gt h), List.getElem?_eq_none (by simp; omega), List.getElem?_eq_none (by omega)]

end Flatland.Lists
