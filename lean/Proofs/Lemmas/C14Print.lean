/-
The printer's escaping of names (`escapeFrom`, `escapeSeg` of Spec/C14) against the scanner and the
unescaper: the printed form of a name, with the necessary escapes or with every `.`/`]` escaped, is one
clean name run, a plain NAME token, and unescapes to the name (`escapeSeg_facts`).
-/
import Flatland.Path
import Flatland.Spec.C14
import Proofs.Lemmas.PathScan
namespace Flatland.C14.Proofs
open Flatland.Path Flatland.C14.Spec Flatland.Path.Lemmas

def escNow (e p : Bool) (c : Char) : Bool :=
  c == '/' || c == '[' || ((c == '.' || c == ']') && (p || e))

theorem escapeFrom_cons (e p : Bool) (c : Char) (r : Str) :
    escapeFrom e p (c :: r)
      = (if escNow e p c then ['\\', c] else [c]) ++ escapeFrom e (c == '\\') r := by
  simp [escapeFrom, escNow]

theorem escapeFrom_nil (e p : Bool) : escapeFrom e p [] = [] := by simp [escapeFrom]

/-- after a backslash, the next emitted character is never one the scanner or the unescaper
    would pair with it: `/ [ . ]` are all escaped there -/
theorem escapeFrom_head (e : Bool) (d : Char) (r : Str) :
    ∃ h tl, escapeFrom e true (d :: r) = h :: tl ∧ isEscapable h = false ∧ isUnescapable h = false := by
  have key : ∀ a b c c' : Bool, (a || b || ((c || c') && (true || e))) = false →
      (a || c || b) = false ∧ (a || b || c' || c) = false := by cases e <;> decide
  rw [escapeFrom_cons]
  by_cases hx : escNow e true d = true
  · exact ⟨'\\', _, by rw [if_pos hx]; rfl, rfl, rfl⟩
  · exact ⟨d, _, by rw [if_neg hx]; rfl, key _ _ _ _ (Bool.not_eq_true _ ▸ hx)⟩

theorem getLast_tail (c : Char) (r : Str) (h : (c :: r).getLast? ≠ some '\\') : r.getLast? ≠ some '\\' := by
  cases r with
  | nil => nofun
  | cons d r' => rwa [List.getLast?_cons_cons] at h

theorem clean_escapeFrom (last e : Bool) (s : Str) : ∀ p : Bool,
    (last = true ∨ s.getLast? ≠ some '\\') → cleanB last (escapeFrom e p s) = true := by
  induction s with
  | nil => exact fun _ _ => cleanB_nil last
  | cons c r ih' =>
    intro p hl
    have ih := fun p' => ih' p' (hl.imp_right (getLast_tail c r))
    rw [escapeFrom_cons]
    by_cases hx : escNow e p c = true
    · simp only [hx, if_true, List.cons_append, List.nil_append]
      rw [cleanB_cons]
      simp only [if_true]
      by_cases he : isEscapable c = true
      · simp only [he, if_true]; exact ih _
      · simp only [he, Bool.false_eq_true, if_false]
        rw [cleanB_cons]
        have hc1 : c ≠ '\\' := by
          intro e1; subst e1; simp [escNow] at hx
        have hc2 : (c == '/' || c == '[') = false := by
          simp only [isEscapable, Bool.or_eq_true, beq_iff_eq, not_or] at he
          simp [he.1.1, he.2]
        simp [hc1, hc2, ih]
    · simp only [hx, Bool.false_eq_true, if_false, List.cons_append, List.nil_append]
      rw [cleanB_cons]
      by_cases hb : c = '\\'
      · subst hb
        simp only [if_true, beq_self_eq_true]
        cases r with
        | nil => exact hl.resolve_right (fun h => h rfl)
        | cons d r' =>
          obtain ⟨h, tl, heq, hne, _⟩ := escapeFrom_head e d r'
          have := ih true
          rw [heq] at this ⊢
          simp only [hne, Bool.false_eq_true, if_false]
          exact this
      · simp only [hb, if_false]
        simp only [escNow, Bool.or_eq_true, beq_iff_eq, not_or] at hx
        simp [hx.1.1, hx.1.2, ih]

theorem unescape_escapeFrom (e : Bool) (s : Str) : ∀ p : Bool, unescape (escapeFrom e p s) = s := by
  induction s with
  | nil => exact fun _ => unescape_nil
  | cons c r ih =>
    intro p
    rw [escapeFrom_cons]
    by_cases hx : escNow e p c = true
    · simp only [hx, if_true, List.cons_append, List.nil_append]
      rw [unescape_cons]
      have hu : isUnescapable c = true := by
        simp only [escNow, Bool.or_eq_true, beq_iff_eq, Bool.and_eq_true] at hx
        rcases hx with (h | h) | ⟨h | h, _⟩ <;> subst h <;> decide
      simp [hu, ih]
    · simp only [hx, Bool.false_eq_true, if_false, List.cons_append, List.nil_append]
      rw [unescape_cons]
      by_cases hb : c = '\\'
      · subst hb
        simp only [if_true, beq_self_eq_true]
        cases r with
        | nil => simp [escapeFrom_nil]
        | cons d r' =>
          obtain ⟨h, tl, heq, _, hne⟩ := escapeFrom_head e d r'
          have := ih true
          rw [heq] at this ⊢
          simp only [hne, Bool.false_eq_true, if_false]
          rw [this]
      · simp [hb, ih]

theorem escapeFrom_ne_nil (e p : Bool) (c : Char) (r : Str) : escapeFrom e p (c :: r) ≠ [] := by
  rw [escapeFrom_cons]
  split <;> simp

theorem escapeFrom_plain (e : Bool) (s : Str) (hne : s ≠ []) (hd : e = true ∨ (s ≠ ['.'] ∧ s ≠ ['.', '.'])) :
    PlainSeg (escapeFrom e false s) := by
  have hdots : ∀ d : Str, d = ['.'] ∨ d = ['.', '.'] → escapeFrom e false s ≠ d := by
    intro d hd' h
    -- the escaped text unescapes to the name, so it is `.` or `..` only if the name is
    have hs : s = d := by
      rw [← unescape_escapeFrom e s false, h]
      rcases hd' with rfl | rfl <;> rfl
    subst hs
    cases e with
    | true => rcases hd' with rfl | rfl <;> exact absurd h (by decide)
    | false =>
      obtain ⟨h1, h2⟩ := hd.resolve_left Bool.false_ne_true
      rcases hd' with rfl | rfl
      · exact h1 rfl
      · exact h2 rfl
  cases s with
  | nil => exact absurd rfl hne
  | cons c r =>
    have hhead : ∃ x tl, escapeFrom e false (c :: r) = x :: tl ∧ x ≠ '/' ∧ x ≠ '[' := by
      rw [escapeFrom_cons]
      by_cases hx : escNow e false c = true
      · exact ⟨'\\', _, by rw [if_pos hx]; rfl, by decide, by decide⟩
      · exact ⟨c, _, by rw [if_neg hx]; rfl, fun hc => hx (by rw [hc]; rfl), fun hc => hx (by rw [hc]; rfl)⟩
    obtain ⟨x, tl, hxe, h1, h2⟩ := hhead
    rw [hxe] at hdots ⊢
    exact ⟨fun h => h1 (List.cons.inj h).1, hdots _ (Or.inl rfl), hdots _ (Or.inr rfl),
      fun h => h2 (Option.some.inj h)⟩

/-- `.` and `..` are spelled as if every dot had to be escaped -/
theorem escapeSeg_eq (e : Bool) (s : Str) :
    escapeSeg e s = escapeFrom (e || s == ['.'] || s == ['.', '.']) false s := by
  unfold escapeSeg
  by_cases h1 : s = ['.']
  · subst h1; cases e <;> rfl
  · by_cases h2 : s = ['.', '.']
    · subst h2; cases e <;> rfl
    · rw [if_neg (by simpa using h1), if_neg (by simpa using h2), beq_eq_false_iff_ne.2 h1,
        beq_eq_false_iff_ne.2 h2, Bool.or_false, Bool.or_false]

theorem escapeSeg_facts (last e : Bool) (s : Str) (hne' : s ≠ [])
    (hl : last = true ∨ s.getLast? ≠ some '\\') :
    escapeSeg e s ≠ [] ∧ cleanB last (escapeSeg e s) = true ∧ PlainSeg (escapeSeg e s) ∧
      unescape (escapeSeg e s) = s := by
  rw [escapeSeg_eq]
  refine ⟨?_, clean_escapeFrom last _ s false hl, escapeFrom_plain _ s hne' ?_, unescape_escapeFrom _ s false⟩
  · cases s with
    | nil => exact absurd rfl hne'
    | cons c r => exact escapeFrom_ne_nil _ false c r
  · by_cases h1 : s = ['.']
    · left; rw [h1]; simp
    · by_cases h2 : s = ['.', '.']
      · left; rw [h2]; simp
      · exact Or.inr ⟨h1, h2⟩

end Flatland.C14.Proofs
