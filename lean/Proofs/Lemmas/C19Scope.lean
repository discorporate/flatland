/-
Tabindex within a SCOPE: the tag calls made at one nesting depth, with anything in between —
accepted and rejected `set()/update()/[]=` (as long as they do not write `tabindex` themselves),
nested `begin()…end()` blocks with their own counters, tag calls that raise.  Here: the notions
(`scopeHanded`, `noTabWriteAt`), where the scope's counter lives while a nested block is open
(`ScopeInv`), and that what is handed out is what is rendered.  The theorems about the values
are in `Proofs/C19Writes.lean`.
-/
import Proofs.Lemmas.C19Hist
import Proofs.Lemmas.C19Discipline
import Proofs.Lemmas.C19Transforms
namespace Flatland.C19.Proofs
open Flatland.Markup Flatland.C19 Flatland.C19.Spec

/-- an explicit write of the `tabindex` setting into the current frame -/
def writesTab : Op → Bool
  | .set s => s.any (fun kv => kv.1 == sTabindex)
  | .update s => s.any (fun kv => kv.1 == sTabindex)
  | .setItem k _ => k == sTabindex
  | _ => false

/-- the values handed out by the tag calls made at depth `d` -/
def scopeHanded (T : Tables) (R : RenderCfg) (d : Nat) : Gen → List Op → List Int
  | _, [] => []
  | g, op :: rest =>
    (if isTag op && g.ctx.depth == d && decide ((step T R g op).1.ctx ≠ g.ctx) then
       (match counter g with | some n => [n] | none => [])
     else []) ++ scopeHanded T R d (step T R g op).1 rest

/-- no explicit `tabindex` write at depth `d` (deeper blocks may do what they like) -/
def noTabWriteAt (T : Tables) (R : RenderCfg) (d : Nat) : Gen → List Op → Bool
  | _, [] => true
  | g, op :: rest => !(g.ctx.depth == d && writesTab op) && noTabWriteAt T R d (step T R g op).1 rest

theorem setUpdates_any (T : Tables) (c : Ctx) (k : Str) (s ups : List (Str × CVal))
    (h : setUpdates T c s = .ok ups) : ups.any (fun kv => kv.1 == k) = s.any (fun kv => kv.1 == k) := by
  have : ∀ l : List (Str × CVal), l.any (fun kv => kv.1 == k) = (l.map (·.1)).any (· == k) := fun l => by
    simp only [List.any_map]; rfl
  rw [this, this, (setUpdates_ok T c h).1]

theorem Moves.write_notab {T : Tables} {g : Gen} {op : Op} {xs : List (Str × CVal)} (hm : Moves T g op (.write xs))
    (hnt : isTag op = false) (hw : writesTab op = false) : xs.any (fun kv => kv.1 == sTabindex) = false := by
  cases hm with
  | set s _ hs => rw [setUpdates_any T g.ctx sTabindex s _ hs]; exact hw
  | setItem k v => simpa [writesTab] using hw
  | update s => exact hw
  | tag => simp [isTag] at hnt

theorem step_notab (T : Tables) (R : RenderCfg) (g : Gen) (op : Op) (hnt : isTag op = false)
    (hw : writesTab op = false) :
    ((step T R g op).1.ctx.below = g.ctx.below ∧
      Dict.get? (step T R g op).1.ctx.top sTabindex = Dict.get? g.ctx.top sTabindex) ∨
    (step T R g op).1.ctx.below = g.ctx.top :: g.ctx.below ∨
    (∃ f rest, g.ctx.below = f :: rest ∧ (step T R g op).1.ctx = ⟨f, rest⟩) := by
  obtain ⟨m, hmv, hg, _, _⟩ := step_moves T R g op
  rw [hg]
  cases m with
  | keep => exact .inl ⟨rfl, rfl⟩
  | write xs => exact .inl ⟨rfl, Dict.get?_foldl_set_absent _ _ (hmv.write_notab hnt hw)⟩
  | push xs => exact .inr (.inl rfl)
  | pop =>
    cases hmv with
    | end_ f rest hb _ => exact .inr (.inr ⟨f, rest, hb, by simp [Move.ctx, hb]⟩)

theorem counter_eq (g : Gen) (m : Int) : counter g = some m ↔ Dict.get? g.ctx.top sTabindex = some (.int m) := by
  unfold counter Ctx.getItem
  cases h : Dict.get? g.ctx.top sTabindex with
  | none => simp [throw, throwThe, MonadExceptOf.throw]
  | some v => cases v <;> simp [pure, Except.pure]

/-- where the scope's own counter lives: in the frame `F` just above the scope's lower frames `B` — the
    current frame while we are at the scope's depth (`pre = []`), further down while nested blocks are open -/
def ScopeInv (B : List Frame) (m : Int) (g : Gen) : Prop :=
  ∃ pre F, frames g.ctx = pre ++ F :: B ∧ Dict.get? F sTabindex = some (.int m)

theorem ScopeInv.of_top {B : List Frame} {m : Int} {g : Gen} (hB : g.ctx.below = B) (hc : counter g = some m) :
    ScopeInv B m g :=
  ⟨[], g.ctx.top, by rw [← hB]; rfl, (counter_eq g m).mp hc⟩

/-- tabindex handed out = tabindex rendered: when a tag call advances the counter, the value it
    took (`n`, positive) is the `tabindex` attribute that reaches the serialiser, and `n + 1` is
    stored -/
theorem prepareTag_handed {T : Tables} {order : List Str} {g : Gen} {tag : Str} {bnd : Option Bind}
    {kwargs : List (Str × Val)} {r : TagResult} (hp : prepareTag T order g tag bnd kwargs = .ok r)
    (hne : r.ctx ≠ g.ctx) :
    ∃ n : Int, n > 0 ∧ counter g = some n ∧ (sTabindex, Val.text (intRepr n)) ∈ r.pairs ∧
      r.ctx.getItem sTabindex = .ok (.int (n + 1)) := by
  obtain ⟨st6, o, ht, hpairs, _, hctx⟩ := prepareTag_steps hp
  obtain ⟨st5, h5, h6⟩ := transform_prefix ht
  obtain ⟨ha6, _, hc6⟩ := transformFilters_ok _ _ _ _ _ h6
  rcases transformPrefix_tab h5 with e5 | ⟨n, hn, hg, hs, hattr⟩
  · exact absurd (by rw [hctx, hc6, e5]) hne
  · obtain ⟨e, _⟩ := setItem_ok hs
    refine ⟨n, hn, by simp [counter, hg], ?_, ?_⟩
    · have hm : (sTabindex, Val.text (intRepr n)) ∈ st6.attrs :=
        Dict.mem_of_get? (by rw [ha6, Dict.get?_erase_other _ _ _ (by decide +kernel)]; exact hattr)
      rw [hpairs, mem_orderPairs]
      exact hm
    · rw [hctx, hc6, e]
      simp [Ctx.getItem, Dict.get?_set_self, pure, Except.pure]

end Flatland.C19.Proofs
