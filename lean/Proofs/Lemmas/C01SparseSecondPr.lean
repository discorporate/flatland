/-
C01, second round trip with SparseDicts — `prS` produces stable states, fresh elements are
stable.
-/
import Proofs.Lemmas.C01SparseSecondEmit
namespace Flatland.Flat.Proofs
open Flatland.Flat Flatland.Flat.Spec

variable {env : Env} {sep : Str}

/-- the hypotheses on the schema, bundled -/
def Good (env : Env) (s : Schema) : Prop :=
  wf s = true ∧ prefixFree s = true ∧ blankSettled env s = true ∧ arraysScalar s = true

theorem good_dict {nm : Option Str} {o : Bool} {mode : DictMode} {fields : List Schema}
    (h : Good env (.dict nm o mode fields)) :
    (namesOf fields).Nodup ∧ (∀ g ∈ fields, g.name.isSome) ∧ NamesPF fields ∧ ∀ f ∈ fields, Good env f := by
  obtain ⟨hw, hpf, hbs, has⟩ := h
  obtain ⟨hnd, hsome, hwf⟩ := wf_dict hw
  simp only [prefixFree, Bool.and_eq_true] at hpf
  simp only [blankSettled] at hbs
  simp only [arraysScalar] at has
  exact ⟨hnd, hsome, namesPF_of_all fields hpf.2,
    fun f hf => ⟨hwf f hf, prefixFree_of_mem hpf.1 f hf,
      blankSettled_of_mem hbs f hf, arraysScalar_of_mem has f hf⟩⟩

theorem good_list {nm : Option Str} {o p : Bool} {mx : Nat} {member : Schema}
    (h : Good env (.list nm o p mx member)) : Good env member := by
  obtain ⟨hw, hpf, hbs, has⟩ := h
  simp only [wf] at hw
  simp only [prefixFree] at hpf
  simp only [blankSettled] at hbs
  simp only [arraysScalar] at has
  exact ⟨hw, hpf, hbs, has⟩

theorem stableS_compound (u : Bool) (nm : Option Str) (o : Bool) (k : Nat) (fields : List Schema)
    (e : Elem) :
    StableS env sep u (.compound nm o k fields) e ↔ StableS env sep u (.dict nm o .dense fields) e := by
  cases e <;> exact Iff.rfl

theorem compoundsFull_dense_of_compound {nm : Option Str} {o : Bool} {k : Nat} {fields : List Schema}
    {e : Elem} (h : compoundsFull (.compound nm o k fields) e = true) :
    compoundsFull (.dict nm o .dense fields) e = true := by
  cases e with
  | dict ms => simp only [compoundsFull, Bool.and_eq_true] at h ⊢; exact h.2
  | _ => rfl

/-- what `prS` rebuilds a mapping to is a stable mapping (also covers the fresh mapping: `K = []`) -/
theorem stable_pick (u : Bool) (req : Schema → Bool) (fields : List Schema)
    (hnd : (namesOf fields).Nodup) (hsome : ∀ g ∈ fields, g.name.isSome) (hpf : NamesPF fields)
    (hgood : ∀ f ∈ fields, Good env f)
    (K : List (Str × Str)) (V : Schema → Elem)
    (hval : ∀ f ∈ fields, (req f || touched K f) = true →
      OkS env f (vOf K V f) ∧ StableS env sep u f (vOf K V f) ∧
      (req f = false → emitsB env u f (vOf K V f) = false → LvlEmpty (resolve env f (vOf K V f))))
    (R : List (Str × Elem)) (hR : R = pickV req K V true fields ++ pickV req K V false fields)
    (keys' : List (Str × Str)) (hk : keys' = innerPairs env sep u fields R) :
    (R.filter (fun p => keepKey req keys' fields p.1)).map (·.1)
      = pickKeys req keys' true fields ++ pickKeys req keys' false fields
    ∧ StableSFields env sep u req keys' R fields := by
  have hRnd : (R.map (·.1)).Nodup := by rw [hR]; exact pick_keys_nodup fields hnd hsome req K V
  have hlook : ∀ f ∈ fields, ∀ e, lookup (f.name.getD []) R = some e →
      (req f || touched K f) = true ∧ e = vOf K V f := by
    intro f hf e hl
    rw [hR] at hl
    exact lookup_pick fields hnd hsome req K V hf hl
  have ht' : ∀ f ∈ fields, req f = false → touched keys' f = true → touched K f = true := by
    intro f hf hr ht
    rw [hk] at ht
    obtain ⟨e, hl, _⟩ := (touched_iff fields hnd hsome hpf R hRnd f hf u).mp ht
    have := (hlook f hf e hl).1
    simpa [hr] using this
  have hkk : ∀ f ∈ fields, keepKey req keys' fields (nmOf f) = (req f || touched keys' f) := by
    intro f hf
    simp only [keepKey, findField_unique hnd hf (name_eq_nmOf hsome hf)]
  constructor
  · rw [hR, List.filter_append, List.map_append, pickV_filter_keys, pickV_filter_keys,
      pickKeys_eq_filter, pickKeys_eq_filter]
    congr 2 <;> apply List.filter_congr <;> intro f hf <;> rw [hkk f hf]
    · simp only [pickSel, if_true]
      cases req f <;> simp
    · simp only [pickSel, Bool.false_eq_true, if_false]
      cases hr : req f with
      | true => simp
      | false =>
        cases htk : touched keys' f with
        | false => simp
        | true => simp [ht' f hf hr htk]
  · apply (stableSFields_iff fields).mpr
    intro f hf e hl
    obtain ⟨h2, he⟩ := hlook f hf e hl
    subst he
    obtain ⟨hok, hst, hE⟩ := hval f hf h2
    refine ⟨fun _ => hst, fun ht => ?_⟩
    rw [hk] at ht
    have hemf := (touched_false_iff fields hnd hsome hpf R hRnd f hf u).mp ht _ hl
    obtain ⟨hw, hp, _, _⟩ := hgood f hf
    cases hr : req f with
    | true =>
      simp only [if_true]
      exact bl_stable f hw hp u _ hok hst hemf
    | false =>
      simp only [Bool.false_eq_true, if_false]
      exact hE hr hemf

theorem stableS_blank : ∀ s : Schema, Good env s → ∀ u : Bool, StableS env sep u s (blank s) := by
  intro s
  induction s using schema_ind_mapping with
  | hleaf nm o k => intro _ u; simp [StableS]
  | hjoined nm o k mem => intro _ u; simp [StableS]
  | hcompound nm o k fields ih =>
    intro hg u
    exact (stableS_compound u nm o k fields _).mpr (ih hg u)
  | hlist nm o p mx member ih =>
    intro _ u
    exact (stableS_list ..).mpr ⟨fun _ _ h => absurd h List.not_mem_nil,
      fun _ => ⟨fun _ h => absurd h List.not_mem_nil, fun _ => rfl⟩⟩
  | harray nm o p member ih => intro _ u; simp [blank, StableS]
  | hdict nm o mode fields ih =>
    intro hg u
    obtain ⟨hnd, hsome, hpf, hgood⟩ := good_dict hg
    rw [blank_dict_members]
    simp only [StableS]
    apply stable_pick u (isReq mode) fields hnd hsome hpf hgood [] (fun f => blank f) _ _
      (blankSel_eq_pick _ _ _) _ rfl
    intro f hf h2
    have ht : touched [] f = false := rfl
    have hv : vOf [] (fun f => blank f) f = blank f := by simp [vOf]
    rw [hv]
    obtain ⟨hw, _, hbs, has⟩ := hgood f hf
    refine ⟨okS_blank f hw hbs has, ih f hf (hgood f hf) u, fun hr => ?_⟩
    rw [hr, ht] at h2; cases h2

theorem stableS_prS : ∀ s : Schema, Good env s →
    ∀ (u : Bool) (e : Elem), OkS env s e → compoundsFull s e = true →
      StableS env sep u s (prS env sep u s e) := by
  intro s
  induction s using schema_ind_mapping with
  | hleaf nm o k =>
    intro _ u e _ _
    rw [prS_leaf]
    cases e <;> simp [StableS]
  | hjoined nm o k mem =>
    intro _ u e hok _
    obtain ⟨t, ms, rfl, _⟩ := okS_joined_inv hok
    rw [prS_joined]
    trivial
  | hdict nm o mode fields ih =>
    intro hg u e hok hcf
    obtain ⟨ms, rfl, hkeys, hmem⟩ := okS_dict_inv hok
    obtain ⟨hnd, hsome, hpf, hgood⟩ := good_dict hg
    simp only [compoundsFull] at hcf
    rw [prS_dict]
    simp only [StableS]
    apply stable_pick u (isReq mode) fields hnd hsome hpf hgood
      (innerPairs env sep u fields ms) (valS env sep u ms) _ _ rfl _ rfl
    intro f hf h2
    obtain ⟨hw, hp, hbs, has⟩ := hgood f hf
    cases ht : touched (innerPairs env sep u fields ms) f with
    | true =>
      obtain ⟨e, hl, hemf⟩ := (touched_iff fields hnd hsome hpf ms hkeys f hf u).mp ht
      have hv : vOf (innerPairs env sep u fields ms) (valS env sep u ms) f = prS env sep u f e := by
        simp only [vOf, ht, if_true, valS, hl]
      rw [hv]
      have hoke := okS_member_lookup hnd hmem hf (name_eq_nmOf hsome hf) hl
      have hcfe := (compoundsFullMs_iff _ _).mp hcf f hf e hl
      refine ⟨prS_okS f hw hbs has u e hoke, ih f hf (hgood f hf) u e hoke hcfe, fun _ hem' => ?_⟩
      cases u with
      | false => exact lvlEmpty_of_emitsB_false hem'
      | true =>
        rw [emitsB_prS_true f hw hp e hoke hcfe hemf] at hem'
        cases hem'
    | false =>
      have hv : vOf (innerPairs env sep u fields ms) (valS env sep u ms) f = blank f := by
        simp only [vOf, ht, Bool.false_eq_true, if_false]
      rw [hv]
      refine ⟨okS_blank f hw hbs has, stableS_blank f (hgood f hf) u, fun hr => ?_⟩
      rw [hr, ht] at h2; cases h2
  | hcompound nm o k fields ih =>
    intro hg u e hok hcf
    rw [prS_compound, stableS_compound]
    exact ih hg u e ((okS_compound nm o k fields e).mp hok) (compoundsFull_dense_of_compound hcf)
  | hlist nm o p mx member ih =>
    intro hg u e hok hcf
    obtain ⟨ms, rfl, _, _, hmem⟩ := okS_list_inv hok
    have hgm := good_list hg
    have ⟨hw, hp', hbs, has⟩ := hgm
    simp only [compoundsFull, List.all_eq_true] at hcf
    rw [prS_list u nm o p mx member ms hmem, stableS_list]
    exact stableList_prList u p member _ _ ms (fun m hm v => ih hgm v m (hmem m hm) (hcf m hm))
      (fun m hm => emitsB_prS_true member hw hp' m (hmem m hm) (hcf m hm))
      (fun m hm => bl_stable member hw hp' u _ (prS_okS member hw hbs has u m (hmem m hm))
        (ih hgm u m (hmem m hm) (hcf m hm)))
  | harray nm o p member ih =>
    intro _ u e hok _
    obtain ⟨ms, rfl, _⟩ := okS_array_inv hok
    rw [prS_array]
    simp only [StableS]
    intro m hm
    exact (List.mem_filter.mp hm).2

end Flatland.Flat.Proofs
