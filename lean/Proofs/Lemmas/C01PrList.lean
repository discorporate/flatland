/-
The List step of the documented pruning, shared by `pr` and `prS`.

On conforming members a List is pruned to `prList … g ms`, `g u m` the pruned member (`pr_list`,
`prS_list`: the fresh member put for a silent one is that member pruned, `pr_or_blank`).
`StableList` is the List clause of the stable states; the step is invisible on a stable List
(`lvlEq_prList`) and yields one (`stableList_prList`), given the same of the member step.
-/
import Proofs.Lemmas.C01Silent
namespace Flatland.Flat.Proofs
open Flatland.Flat Flatland.Flat.Spec

variable {env : Env} {sep : Str}

/-- what a List makes of its members, given what becomes of a single member (`g u m`) -/
def prList (env : Env) (u prune : Bool) (member : Schema) (g : Bool → Elem → Elem) (ms : List Elem) :
    List Elem :=
  if prune then (ms.filter (emitsB env true member)).map (g true)
  else (dropTrailing (emitsB env u member) ms).map (g u)

theorem pr_list (u : Bool) (nm : Option Str) (o p : Bool) (mx : Nat) (member : Schema) (ms : List Elem)
    (hw : wf member = true) (hd : dense member = true) (hmem : ∀ m ∈ ms, OkP env member m) :
    pr env u (.list nm o p mx member) (.list ms)
      = .list (prList env u p member (fun v => pr env v member) ms) := by
  simp only [pr, prList]
  split
  · rfl
  · exact congrArg Elem.list (List.map_congr_left fun m hm =>
      pr_or_blank member hw hd u m (hmem m (mem_of_mem_dropTrailing _ _ _ hm)))

theorem prS_list (u : Bool) (nm : Option Str) (o p : Bool) (mx : Nat) (member : Schema) (ms : List Elem)
    (hmem : ∀ m ∈ ms, OkS env member m) :
    prS env sep u (.list nm o p mx member) (.list ms)
      = .list (prList env u p member (fun v => prS env sep v member) ms) := by
  simp only [prS, prList]
  split
  · rfl
  · exact congrArg Elem.list (List.map_congr_left fun m hm =>
      prS_or_blank member u m (hmem m (mem_of_mem_dropTrailing _ _ _ hm)))

theorem mem_prList {u p : Bool} {member : Schema} {g : Bool → Elem → Elem} {ms : List Elem} {x : Elem}
    (hx : x ∈ prList env u p member g ms) : ∃ m ∈ ms, x = g (p || u) m := by
  unfold prList at hx
  cases p with
  | true =>
    obtain ⟨m, hm, rfl⟩ := List.mem_map.mp hx
    exact ⟨m, (List.mem_filter.mp hm).1, rfl⟩
  | false =>
    obtain ⟨m, hm, rfl⟩ := List.mem_map.mp hx
    exact ⟨m, mem_of_mem_dropTrailing _ _ _ hm, rfl⟩

theorem length_prList_le (u p : Bool) (member : Schema) (g : Bool → Elem → Elem) (ms : List Elem) :
    (prList env u p member g ms).length ≤ ms.length := by
  unfold prList
  split
  · rw [List.length_map]; exact List.length_filter_le _ _
  · rw [List.length_map]; exact dropTrailing_length_le _ _

theorem prList_eq_self {u p : Bool} {member : Schema} {g : Bool → Elem → Elem} {ms : List Elem}
    (hem : ∀ m ∈ ms, emitsB env (p || u) member m = true) (hg : ∀ m ∈ ms, g (p || u) m = m) :
    prList env u p member g ms = ms := by
  unfold prList
  cases p with
  | true =>
    simp only [Bool.true_or] at hem hg
    rw [if_pos rfl, List.filter_eq_self.mpr hem]
    exact (List.map_congr_left hg).trans (List.map_id _)
  | false =>
    simp only [Bool.false_or] at hem hg
    rw [if_neg (by simp), dropTrailing_eq_self hem]
    exact (List.map_congr_left hg).trans (List.map_id _)

theorem any_prList (p : Bool) (member : Schema) (g : Bool → Elem → Elem) (ms : List Elem)
    (hem : ∀ m ∈ ms, emitsB env true member m = true → emitsB env true member (g true m) = true)
    (h : ms.any (emitsB env true member) = true) :
    (prList env true p member g ms).any (emitsB env true member) = true := by
  unfold prList
  split
  · obtain ⟨m, hm, hemm⟩ := List.any_eq_true.mp h
    rw [List.any_map]
    exact List.any_eq_true.mpr ⟨m, List.mem_filter.mpr ⟨hm, hemm⟩, hem m hm hemm⟩
  · rw [← any_dropTrailing] at h
    obtain ⟨m, hm, hemm⟩ := List.any_eq_true.mp h
    rw [List.any_map]
    exact List.any_eq_true.mpr ⟨m, hm, hem m (mem_of_mem_dropTrailing _ _ _ hm) hemm⟩

/-- the List clause of the stable states, for any notion `St` of a stable member: every member of a
    pruning List survives; in a non-pruning List the members that do not survive look like fresh
    ones, and below a pruning List (`u`) the last member survives -/
def StableList (env : Env) (u prune : Bool) (member : Schema) (St : Bool → Elem → Prop) (ms : List Elem) :
    Prop :=
  (prune = true → ∀ m ∈ ms, emitsB env true member m = true ∧ St true m) ∧
  (prune = false →
    (∀ m ∈ ms, (emitsB env u member m = true → St u m) ∧
      (emitsB env u member m = false →
        LvlEq (resolve env member m) (resolve env member (blank member)))) ∧
    (u = true → dropTrailing (emitsB env u member) ms = ms))

theorem lvlEq_prList (nm : Option Str) (o p : Bool) (mx : Nat) (member : Schema) (u : Bool)
    (g : Bool → Elem → Elem) (St : Bool → Elem → Prop) (ms : List Elem)
    (hst : StableList env u p member St ms)
    (hg : ∀ m ∈ ms, ∀ v, St v m → LvlEq (resolve env member (g v m)) (resolve env member m))
    (hsil : ∀ m ∈ ms, emitsB env u member m = false → g u m = blank member) :
    LvlEq (resolve env (.list nm o p mx member) (.list (prList env u p member g ms)))
      (resolve env (.list nm o p mx member) (.list ms)) := by
  unfold prList
  split
  · rename_i hp
    have hall := hst.1 hp
    rw [List.filter_eq_self.mpr (fun m hm => (hall m hm).1), resolve_list, resolve_list, List.map_map]
    exact lvlEq_mk_kids _ _ _ _ _ _ _ (lvlEqL_map _ _ _ fun m hm => hg m hm true (hall m hm).2)
  · rename_i hp
    obtain ⟨hmems, hlast⟩ := hst.2 (by simpa using hp)
    obtain ⟨tl, hsplit, htl⟩ := dropTrailing_split (emitsB env u member) ms
    -- the dropped tail emits nothing at all: below a pruning List there is none
    have htlE : ∀ k ∈ tl.map (resolve env member), LvlEmpty k := by
      intro k hk
      obtain ⟨m, hm, rfl⟩ := List.mem_map.mp hk
      cases u with
      | false => exact lvlEmpty_of_emitsB_false (htl m hm)
      | true =>
        have := dropTrailing_eq_self_split _ _ _ (hlast rfl) hsplit
        subst this; simp at hm
    rw [resolve_list, resolve_list, List.map_map]
    generalize dropTrailing (emitsB env u member) ms = D at hsplit ⊢
    subst hsplit
    rw [List.map_append]
    refine lvlEq_mk_drop _ _ _ _ _ _ _ _ (lvlEqL_map _ _ _ fun m hm => ?_) htlE
    have hm' : m ∈ D ++ tl := List.mem_append_left _ hm
    show LvlEq (resolve env member (g u m)) (resolve env member m)
    cases hem : emitsB env u member m with
    | true => exact hg m hm' u ((hmems m hm').1 hem)
    | false => rw [hsil m hm' hem]; exact ((hmems m hm').2 hem).symm

theorem stableList_prList (u p : Bool) (member : Schema) (g : Bool → Elem → Elem)
    (St : Bool → Elem → Prop) (ms : List Elem)
    (hSt : ∀ m ∈ ms, ∀ v, St v (g v m))
    (hem : ∀ m ∈ ms, emitsB env true member m = true → emitsB env true member (g true m) = true)
    (hsil : ∀ m ∈ ms, emitsB env u member (g u m) = false →
      LvlEq (resolve env member (g u m)) (resolve env member (blank member))) :
    StableList env u p member St (prList env u p member g ms) := by
  unfold prList
  split
  · rename_i hp
    refine ⟨fun _ x hx => ?_, fun h => by rw [hp] at h; cases h⟩
    obtain ⟨m, hm, rfl⟩ := List.mem_map.mp hx
    have hm' := List.mem_filter.mp hm
    exact ⟨hem m hm'.1 hm'.2, hSt m hm'.1 true⟩
  · rename_i hp
    refine ⟨fun h => absurd h hp, fun _ => ⟨fun x hx => ?_, fun hu => ?_⟩⟩
    · obtain ⟨m, hm, rfl⟩ := List.mem_map.mp hx
      have hm' := mem_of_mem_dropTrailing _ _ _ hm
      exact ⟨fun _ => hSt m hm' u, hsil m hm'⟩
    · subst hu
      exact dropTrailing_map_idem _ _ _ _ hem

end Flatland.Flat.Proofs
