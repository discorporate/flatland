/-
Stable element states: states on which the documented pruning `pr` changes nothing that `flatten`
can see.
-/
import Flatland.Spec.C01Second
import Proofs.Lemmas.C01LevelSub
namespace Flatland.Flat.Proofs
open Flatland.Flat Flatland.Flat.Spec

variable {env : Env}

mutual
/-- `pr env u` has nothing visible left to do on the element: every member of a pruning sequence
    survives; in a non-pruning List the members that do not survive already look like fresh ones, and
    below a pruning List (`u`) the last member survives. -/
def Stable (env : Env) : Bool → Schema → Elem → Prop
  | u, .dict _ _ _ fields, .dict ms => StableFields env u fields ms
  | u, .compound _ _ _ fields, .dict ms => StableFields env u fields ms
  | u, .list _ _ prune _ member, .list ms =>
    (prune = true → ∀ m ∈ ms, emitsB env true member m = true ∧ Stable env true member m) ∧
    (prune = false →
      (∀ m ∈ ms, (emitsB env u member m = true → Stable env u member m) ∧
        (emitsB env u member m = false →
          LvlEq (resolve env member m) (resolve env member (blank member)))) ∧
      (u = true → dropTrailing (emitsB env u member) ms = ms))
  | u, .array nm _ prune member, .array ms =>
    ∀ m ∈ ms, emitsB env (u || arrayPrunes nm prune member) member m = true
  | _, _, _ => True
def StableFields (env : Env) (u : Bool) : List Schema → List (Str × Elem) → Prop
  | f :: fs, (_, e) :: ms => Stable env u f e ∧ StableFields env u fs ms
  | _, _ => True
end

theorem stable_list (u : Bool) (nm : Option Str) (o p : Bool) (mx : Nat) (member : Schema) (ms : List Elem) :
    Stable env u (.list nm o p mx member) (.list ms)
      ↔ StableList env u p member (fun v => Stable env v member) ms := by
  simp only [Stable, StableList]

theorem lvl_pr : ∀ s : Schema, wf s = true → dense s = true →
    ∀ (u : Bool) (e : Elem), OkP env s e → Stable env u s e →
      LvlEq (resolve env s (pr env u s e)) (resolve env s e) := by
  intro s hw hd u e hok
  refine okP_ind
    (P := fun s e => ∀ u, Stable env u s e → LvlEq (resolve env s (pr env u s e)) (resolve env s e))
    (Q := fun fs ms => ∀ u, StableFields env u fs ms →
      LvlEqL (resKids env fs (prFields env u fs ms)) (resKids env fs ms))
    ?_ ?_ ?_ ?_ ?_ ?_ ?_ ?_ s hw hd e hok u
  · intro nm o k t _ u _
    exact LvlEq.refl _
  · intro nm o k mem t ms _ _ u _
    rw [pr_joined, resolve_joined, resolve_joined]
    exact lvlEq_nocfl _ _ _ _ _ _ _
  · intro nm o fields ms hw hd hnd hsome hok hQ u hst
    have hok' : OkPFields env fields (prFields env u fields ms) :=
      (okP_pr _ hw hd u (.dict ms) ⟨rfl, hok⟩).2
    simp only [pr]
    rw [resolve_dict env nm o fields hnd hsome _ hok', resolve_dict env nm o fields hnd hsome _ hok]
    exact lvlEq_mk_kids _ _ _ _ _ _ _ (hQ u hst)
  · intro nm o k fields ms hw hd hnd hsome hok hQ u hst
    have hok' : OkPFields env fields (prFields env u fields ms) := okP_pr _ hw hd u (.dict ms) hok
    have hu := uOf_pr (env := env) _ hw hd u (.dict ms) hok
    simp only [pr] at hu ⊢
    rw [resolve_compound env nm o k fields hnd hsome _ hok',
      resolve_compound env nm o k fields hnd hsome _ hok, hu]
    exact lvlEq_mk_kids _ _ _ _ _ _ _ (hQ u hst)
  · intro nm o p mx member ms hw hd _ _ hmem ih u hst
    rw [pr_list u nm o p mx member ms hw hd hmem]
    exact lvlEq_prList nm o p mx member u _ _ ms ((stable_list ..).mp hst) ih
      (fun m hm => pr_silent member hw hd m (hmem m hm) u)
  · intro nm o p member ms _ _ _ _ _ u hst
    simp only [Stable] at hst
    simp only [pr]
    rw [List.filter_eq_self.mpr hst]
    exact LvlEq.refl _
  · intro u _
    trivial
  · intro f fs k e ms _ _ _ _ _ hP hQ u hst
    exact ⟨hP u hst.1, hQ u hst.2⟩

theorem stable_pr : ∀ s : Schema, wf s = true → dense s = true →
    ∀ (u : Bool) (e : Elem), OkP env s e → Stable env u s (pr env u s e) := by
  intro s hw hd u e hok
  refine okP_ind (P := fun s e => ∀ u, Stable env u s (pr env u s e))
    (Q := fun fs ms => ∀ u, StableFields env u fs (prFields env u fs ms))
    ?_ ?_ ?_ ?_ ?_ ?_ ?_ ?_ s hw hd e hok u
  · intro nm o k t _ u
    trivial
  · intro nm o k mem t ms _ _ u
    rw [pr_joined]
    trivial
  · intro nm o fields ms _ _ _ _ _ hQ u
    exact hQ u
  · intro nm o k fields ms _ _ _ _ _ hQ u
    exact hQ u
  · intro nm o p mx member ms hw hd _ _ hmem ih u
    rw [pr_list u nm o p mx member ms hw hd hmem, stable_list]
    refine stableList_prList u p member _ _ ms ih
      (fun m hm h => by rw [emitsB_true_pr member hw hd true m (hmem m hm)]; exact h)
      (fun m hm hne => ?_)
    -- a silent `pr u m` is pruned to the fresh member, and the pruning is invisible on it
    have hok' := okP_pr member hw hd u m (hmem m hm)
    have h := lvl_pr member hw hd u _ hok' (ih m hm u)
    rw [pr_silent member hw hd _ hok' u hne] at h
    exact h.symm
  · intro nm o p member ms _ _ _ _ _ u
    simp only [pr, Stable]
    intro m hm
    exact (List.mem_filter.mp hm).2
  · intro u
    trivial
  · intro f fs k e ms _ _ _ _ _ hP hQ u
    exact ⟨hP u, hQ u⟩

theorem stable_noPrune : ∀ s : Schema, wf s = true → dense s = true → noPrune s = true →
    ∀ e : Elem, OkP env s e → Stable env false s e := by
  intro s hw hd hnp e hok
  refine okP_ind (P := fun s e => noPrune s = true → Stable env false s e)
    (Q := fun fs ms => noPruneL fs = true → StableFields env false fs ms)
    ?_ ?_ ?_ ?_ ?_ ?_ ?_ ?_ s hw hd e hok hnp
  · intro nm o k t _ _
    trivial
  · intro nm o k mem t ms _ _ _
    trivial
  · intro nm o fields ms _ _ _ _ _ hQ hnp
    exact hQ hnp
  · intro nm o k fields ms _ _ _ _ _ hQ hnp
    exact hQ hnp
  · intro nm o p mx member ms hw hd _ _ hmem ih hnp
    simp only [noPrune, Bool.and_eq_true, Bool.not_eq_true'] at hnp
    simp only [Stable]
    refine ⟨fun h => (by rw [hnp.1] at h; cases h), fun _ => ⟨?_, fun h => (by cases h)⟩⟩
    intro m hm
    refine ⟨fun _ => ih m hm hnp.2, fun hem => ?_⟩
    exact lvlEq_of_empty (lvlEmpty_of_emitsB_false hem)
      (lvlEmpty_of_emitsB_false (blank_silent member hw hd m (hmem m hm) false hem))
  · intro nm o p member ms _ _ hleaf hmem _ hnp
    obtain ⟨n, o', k, rfl⟩ := hleaf
    simp only [noPrune, Bool.and_eq_true, Bool.not_eq_true'] at hnp
    simp only [Stable, hnp.1, Bool.or_false]
    intro m hm
    have := hmem m hm
    cases m with
    | leaf t => rw [emitsB_leaf]; rfl
    | _ => simp [OkP] at this
  · intro _
    trivial
  · intro f fs k e ms _ _ _ _ _ hP hQ hnp
    simp only [noPruneL, Bool.and_eq_true] at hnp
    exact ⟨hP hnp.1, hQ hnp.2⟩

end Flatland.Flat.Proofs
