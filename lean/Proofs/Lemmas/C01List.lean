/-
C01, Lists: no token of an emitted path is empty; the output of one slot among the output of all;
how `List._set_flat` reads a key that starts with an index.
-/
import Proofs.Lemmas.C01Keys
namespace Flatland.Flat.Proofs
open Flatland.Flat Flatland.Flat.Spec

variable {env : Env} {sep : Str} {T : Str → Prop}

mutual
def namesNE : FNode → Prop
  | .mk nm _ _ _ _ kids => nm ≠ some [] ∧ namesNEL kids
def namesNEL : List FNode → Prop
  | [] => True
  | k :: ks => namesNE k ∧ namesNEL ks
end

def itemNE (it : QItem) : Prop := (∀ t ∈ it.1, t ≠ []) ∧ namesNE it.2

theorem namesNEL_iff : ∀ ks : List FNode, namesNEL ks ↔ ∀ k ∈ ks, namesNE k
  | [] => by simp [namesNEL]
  | k :: ks => by simp [namesNEL, namesNEL_iff ks]

theorem namePath_tokens_ne (it : QItem) (h : itemNE it) : ∀ t ∈ namePath it.1 it.2, t ≠ [] := by
  obtain ⟨p, n⟩ := it
  obtain ⟨nm, fl, cfl, u, slots, kids⟩ := n
  intro t ht
  simp only [namePath, FNode.name, List.mem_append] at ht
  rcases ht with ht | ht
  · exact h.1 t ht
  · cases nm with
    | none => simp at ht
    | some x =>
      simp at ht; subst ht
      intro hx; exact h.2.1 (by rw [hx])

theorem kidsFrom_itemNE (p : List Str) (hp : ∀ t ∈ p, t ≠ []) (s : Bool) (i : Nat) (ks : List FNode)
    (hk : namesNEL ks) : ∀ c ∈ kidsFrom p s i ks, itemNE c := by
  intro c hc
  rw [kidsFrom_zipIdx] at hc
  obtain ⟨kj, h, rfl⟩ := List.mem_map.mp hc
  refine ⟨fun t ht => ?_, (namesNEL_iff ks).mp hk _ (List.fst_mem_of_mem_zipIdx h)⟩
  cases s with
  | false => exact hp t ht
  | true =>
    rcases List.mem_append.mp ht with ht | ht
    · exact hp t ht
    · exact List.mem_singleton.mp ht ▸ natStr_ne_nil kj.2

theorem pushed_itemNE (it : QItem) (h : itemNE it) : ∀ c ∈ pushed it, itemNE c := by
  intro c hc
  have hnp := namePath_tokens_ne it h
  obtain ⟨p, n⟩ := it
  obtain ⟨nm, fl, cfl, u, slots, kids⟩ := n
  simp only [pushed, FNode.cfl] at hc
  cases cfl with
  | true => exact kidsFrom_itemNE _ hnp _ _ _ h.2.2 c (by simpa [childItems, FNode.kids] using hc)
  | false => simp at hc

theorem bfsPath_tokens_ne (q : List QItem) (hq : ∀ it ∈ q, itemNE it) :
    ∀ x ∈ bfsPath q, ∀ t ∈ x.1, t ≠ [] := by
  induction q using level_ind with
  | nil => intro x hx; simp [bfsPath_nil] at hx
  | level it q ih =>
    intro x hx
    rw [bfsPath_level] at hx
    rcases List.mem_append.mp hx with h1 | h1
    · obtain ⟨a, ha, hxa⟩ := List.mem_flatMap.mp h1
      unfold ownPath at hxa
      split at hxa <;> simp at hxa
      subst hxa
      exact namePath_tokens_ne a (hq a ha)
    · refine ih ?_ x h1
      intro c hc
      obtain ⟨a, ha, hca⟩ := List.mem_flatMap.mp hc
      exact pushed_itemNE a (hq a ha) c hca

theorem mem_resolveList {env : Env} {member : Schema} {n : FNode} :
    ∀ {es : List Elem}, n ∈ resolveList env member es → ∃ e, n = resolve env member e
  | [], h => by simp [resolveList] at h
  | e :: es, h => by
    rw [resolveList, List.mem_cons] at h
    rcases h with rfl | h
    · exact ⟨e, rfl⟩
    · exact mem_resolveList h

theorem resolveOne_some {env : Env} {key : Str} {e : Elem} {n : FNode} :
    ∀ {fields : List Schema}, resolveOne env fields key e = some n →
      ∃ f ∈ fields, f.name = some key ∧ n = resolve env f e
  | [], h => by simp [resolveOne] at h
  | f :: fs, h => by
    rw [resolveOne] at h
    split at h
    · rename_i hf
      exact ⟨f, by simp, hf, (Option.some.inj h).symm⟩
    · obtain ⟨g, hg, hn⟩ := resolveOne_some h
      exact ⟨g, List.mem_cons_of_mem _ hg, hn⟩

theorem mem_resolveMembers {env : Env} {fields : List Schema} {all : List (Str × Elem)} {n : FNode} :
    ∀ {ms : List (Str × Elem)}, n ∈ resolveMembers env fields all ms →
      ∃ f ∈ fields, ∃ key e, f.name = some key ∧ n = resolve env f e
  | [], h => by simp [resolveMembers] at h
  | (key, e) :: rest, h => by
    rw [resolveMembers, List.mem_append] at h
    rcases h with h | h
    · cases ho : resolveOne env fields key e with
      | none => simp [ho] at h
      | some k =>
        simp only [ho, List.mem_singleton] at h
        obtain ⟨f, hf, hfn, hk⟩ := resolveOne_some ho
        exact ⟨f, hf, key, e, hfn, h.trans hk⟩
    · exact mem_resolveMembers h

theorem resolve_namesNE (env : Env) : ∀ (s : Schema) (e : Elem), (∀ t ∈ names s, t ≠ []) →
    namesNE (resolve env s e) := by
  intro s
  have hname : ∀ (s : Schema) (kids : List FNode), (∀ t ∈ names s, t ≠ []) → namesNEL kids →
      ∀ fl cfl u slots, namesNE (.mk s.name fl cfl u slots kids) := by
    intro s kids h hk fl cfl u slots
    refine ⟨?_, hk⟩
    intro hn
    exact h [] (name_mem_names s [] hn) rfl
  have hmap : ∀ (nm : Option Str) (fields : List Schema) (e : Elem),
      (∀ f ∈ fields, ∀ e, (∀ t ∈ names f, t ≠ []) → namesNE (resolve env f e)) →
      (∀ t ∈ nm.toList ++ namesL fields, t ≠ []) →
      namesNEL (resolveMembers env fields (membersOf e) (membersOf e)) := by
    intro nm fields e ih h
    refine (namesNEL_iff _).mpr fun k hk => ?_
    obtain ⟨f, hf, _, e', _, rfl⟩ := mem_resolveMembers hk
    exact ih f hf e' fun t ht => h t (List.mem_append_right _ (names_sub_namesL hf t ht))
  have hseq : ∀ (nm : Option Str) (member : Schema) (es : List Elem),
      (∀ e, (∀ t ∈ names member, t ≠ []) → namesNE (resolve env member e)) →
      (∀ t ∈ nm.toList ++ names member, t ≠ []) → namesNEL (resolveList env member es) := by
    intro nm member es ih h
    refine (namesNEL_iff _).mpr fun k hk => ?_
    obtain ⟨e', rfl⟩ := mem_resolveList hk
    exact ih e' fun t ht => h t (List.mem_append_right _ ht)
  induction s using schema_rec with
  | hleaf nm o k => intro e h; unfold resolve; exact hname (.leaf nm o k) [] h trivial ..
  | hjoined nm o k m ih =>
    intro e h; unfold resolve
    exact hname (.joined nm o k m) _ h (hseq nm m _ ih h) ..
  | hdict nm o mode fields ih =>
    intro e h; unfold resolve
    exact hname (.dict nm o mode fields) _ h (hmap nm fields e ih h) ..
  | hcompound nm o k fields ih =>
    intro e h; unfold resolve
    exact hname (.compound nm o k fields) _ h (hmap nm fields e ih h) ..
  | hlist nm o p mx member ih =>
    intro e h; unfold resolve
    exact hname (.list nm o p mx member) _ h (hseq nm member _ ih h) ..
  | harray nm o p member ih =>
    intro e h; unfold resolve
    exact hname (.array nm o p member) _ h (hseq nm member _ ih h) ..

theorem resolveMembers_namesNE (env : Env) : ∀ (fields : List Schema) (all ms : List (Str × Elem)),
    (∀ t ∈ namesL fields, t ≠ []) → namesNEL (resolveMembers env fields all ms) := by
  intro fields all ms h
  refine (namesNEL_iff _).mpr fun k hk => ?_
  obtain ⟨f, hf, _, e, _, rfl⟩ := mem_resolveMembers hk
  exact resolve_namesNE env f e fun t ht => h t (names_sub_namesL hf t ht)

theorem resolveOne_namesNE (env : Env) : ∀ (fields : List Schema) (key : Str) (e : Elem),
    (∀ t ∈ namesL fields, t ≠ []) → ∀ n, resolveOne env fields key e = some n → namesNE n := by
  intro fields key e h n hn
  obtain ⟨f, hf, _, rfl⟩ := resolveOne_some hn
  exact resolve_namesNE env f e fun t ht => h t (names_sub_namesL hf t ht)

theorem resolveList_namesNE (env : Env) : ∀ (member : Schema) (es : List Elem),
    (∀ t ∈ names member, t ≠ []) → namesNEL (resolveList env member es) := by
  intro member es h
  refine (namesNEL_iff _).mpr fun k hk => ?_
  obtain ⟨e, rfl⟩ := mem_resolveList hk
  exact resolve_namesNE env member e h

theorem mem_slots (a : Nat) (ks : List FNode) (it : QItem) (h : it ∈ kidsFrom [] true a ks) :
    ∃ j, j < ks.length ∧ it.1 = [natStr (a + j)] := by
  rw [kidsFrom_zipIdx] at h
  obtain ⟨kj, hkj, rfl⟩ := List.mem_map.mp h
  obtain ⟨h1, h2, _⟩ := List.mem_zipIdx hkj
  exact ⟨kj.2 - a, by omega, by simp; congr 1; omega⟩

theorem slots_filter (kids : List FNode) (i : Nat) (hi : i < kids.length) :
    (bfsPath (kidsFrom [] true 0 kids)).filter (fun x => x.1.head? == some (natStr i))
      = (relFlat kids[i]).map (pre [natStr i]) := by
  have hne : ∀ it ∈ kidsFrom [] true 0 kids, namePath it.1 it.2 ≠ [] := by
    intro it hit
    obtain ⟨j, _, he⟩ := mem_slots 0 kids it hit
    simp [namePath, he]
  rw [bfsPath_filter_head (natStr i) _ hne]
  have hsplit : kids = kids.take i ++ kids[i] :: kids.drop (i + 1) := by
    rw [List.getElem_cons_drop, List.take_append_drop]
  have hlen : (kids.take i).length = i := by simp; omega
  conv => lhs; rw [hsplit, kidsFrom_append]
  simp only [kidsFrom, hlen, Nat.zero_add, if_true, List.nil_append]
  rw [Lists.filter_unique]
  · exact bfsPath_single [natStr i] kids[i]
  · simp [namePath]
  · intro it hit
    obtain ⟨j, hj, he⟩ := mem_slots 0 _ it hit
    rw [hlen] at hj
    have hne' : natStr j ≠ natStr i := by
      intro h; have := natStr_inj h; omega
    simp [namePath, he, hne']
  · intro it hit
    obtain ⟨j, hj, he⟩ := mem_slots (i + 1) _ it hit
    have hne' : natStr (i + 1 + j) ≠ natStr i := by
      intro h; have := natStr_inj h; omega
    simp [namePath, he, hne']

theorem slots_heads (kids : List FNode) (hk : namesNEL kids) :
    ∀ x ∈ bfsPath (kidsFrom [] true 0 kids), ∃ i ext, i < kids.length ∧ x.1 = natStr i :: ext ∧
      (∀ t ∈ ext, t ≠ []) := by
  intro x hx
  obtain ⟨it, hit, ext, he⟩ := bfsPath_mem _ x hx
  obtain ⟨j, hj, hp⟩ := mem_slots 0 kids it hit
  have htok := bfsPath_tokens_ne _ (kidsFrom_itemNE [] (fun _ h => absurd h List.not_mem_nil) true 0 kids hk) x hx
  refine ⟨j, it.2.name.toList ++ ext, hj, ?_, ?_⟩
  · rw [he]; simp [namePath, hp]
  · intro t ht
    apply htok t
    rw [he]; simp only [namePath, hp, List.mem_append]
    simp only [List.mem_append] at ht
    rcases ht with ht | ht
    · exact Or.inl (Or.inr ht)
    · exact Or.inr ht

theorem emitsAny_iff (env : Env) (s : Schema) (e : Elem) :
    emitsAny env s e ↔ relFlat (resolve env s e) ≠ [] := by
  unfold emitsAny
  rw [flatten_eq_relFlat, Ne, List.map_eq_nil_iff]

theorem listAddr_path (hs : SepSafe env sep T) (henv : EnvOK env) (nm : Option Str)
    (hnm : ∀ x, nm = some x → T x) (i : Nat) (hi : (natStr i).length ≤ env.maxDigits)
    (ext : List Str) (hext : ∀ t ∈ ext, t ≠ []) :
    listAddr env sep nm (tokKey sep (nm.toList ++ natStr i :: ext)) = some (i, tokKey sep ext) := by
  cases nm with
  | none => exact listAddr_anon hs henv i hi ext hext
  | some x => exact listAddr_named hs henv x (hs.tok_ne x (hnm x rfl)) i hi ext hext

end Flatland.Flat.Proofs
