/-
Membership facts about the CPython list functions that read a list or sort it, and what `getItem`
returning or failing says of the index, free of the tree model.  What an edit (item, slice, insert,
pop, delete) does to a list is stated as a permutation in Proofs/Lemmas/C08Lists.lean.
-/
import Flatland.PyList
namespace Flatland.PyList
variable {α : Type}

theorem mem_pickIdxsFrom {is : List Nat} {k : Nat} {l : List α} {x : α}
    (h : x ∈ pickIdxsFrom is k l) : x ∈ l := by
  induction l generalizing k with
  | nil => simp [pickIdxsFrom] at h
  | cons y ys ih =>
    simp only [pickIdxsFrom] at h
    split at h
    · rcases List.mem_cons.mp h with h1 | h1
      · simp [h1]
      · exact List.mem_cons_of_mem _ (ih h1)
    · exact List.mem_cons_of_mem _ (ih h)

theorem mem_delSliceRemoved {l : List α} {s : Slice} {x : α}
    (hx : x ∈ delSliceRemoved l s) : x ∈ l := by
  unfold delSliceRemoved at hx
  split at hx
  · simp at hx
  · exact mem_pickIdxsFrom hx

theorem mem_setItem {l l' : List α} {i : Int} {y x : α} (h : setItem l i y = some l') (hx : x ∈ l') :
    x ∈ l ∨ x = y := by
  unfold setItem at h
  split at h
  · cases h
  · cases h; exact List.mem_or_eq_of_mem_set hx

theorem mem_getItem {l : List α} {i : Int} {y : α} (h : getItem l i = some y) : y ∈ l := by
  unfold getItem at h
  split at h
  · cases h
  · exact List.mem_of_getElem? h

theorem mem_getSlice {l xs : List α} {s : Slice} {x : α} (h : getSlice l s = .ok xs) (hx : x ∈ xs) :
    x ∈ l := by
  unfold getSlice at h
  split at h
  · cases h
  · cases h
    simp only [List.mem_filterMap] at hx
    obtain ⟨i, _, hi⟩ := hx
    exact List.mem_of_getElem? hi

theorem insertSorted_perm (le : α → α → Bool) (x : α) (l : List α) : (insertSorted le x l).Perm (x :: l) := by
  induction l with
  | nil => exact .refl _
  | cons y ys ih =>
    unfold insertSorted; split
    · exact .refl _
    · exact (ih.cons y).trans (.swap x y ys)

theorem sortBy_perm (le : α → α → Bool) (l : List α) : (sortBy le l).Perm l := by
  induction l with
  | nil => exact .refl _
  | cons x xs ih => exact (insertSorted_perm le x _).trans (ih.cons x)

theorem mem_insertSorted {le : α → α → Bool} {y x : α} {l : List α} :
    x ∈ insertSorted le y l ↔ x = y ∨ x ∈ l :=
  (insertSorted_perm le y l).mem_iff.trans List.mem_cons

theorem mem_sortBy {le : α → α → Bool} {x : α} {l : List α} : x ∈ sortBy le l ↔ x ∈ l :=
  (sortBy_perm le l).mem_iff

theorem length_sortBy (le : α → α → Bool) (l : List α) : (sortBy le l).length = l.length :=
  (sortBy_perm le l).length_eq

theorem normIndex_lt {len : Nat} {i : Int} {k : Nat} (h : normIndex len i = some k) : k < len := by
  unfold normIndex at h
  by_cases hi : i < 0
  · simp only [hi, if_true] at h
    by_cases hc : 0 ≤ i + (len : Int) ∧ i + (len : Int) < (len : Int)
    · rw [if_pos hc] at h; cases h; omega
    · rw [if_neg hc] at h; cases h
  · simp only [hi, if_false] at h
    by_cases hc : 0 ≤ i ∧ i < (len : Int)
    · rw [if_pos hc] at h; cases h; omega
    · rw [if_neg hc] at h; cases h

theorem getItem_some {l : List α} {i : Int} {x : α} (h : getItem l i = some x) :
    ∃ k, normIndex l.length i = some k ∧ l[k]? = some x := by
  unfold getItem at h
  split at h
  · cases h
  · exact ⟨_, by assumption, h⟩

theorem getItem_none {l : List α} {i : Int} (h : getItem l i = none) :
    normIndex l.length i = none := by
  unfold getItem at h
  split at h
  · assumption
  · rename_i k hk
    have := normIndex_lt hk
    simp at h
    omega

end Flatland.PyList
