/-
From the decision of `_pop_toggle` to the attribute: each transform against the "applies" table
of the specification.  `(a, p, f)` is what `_pop_toggle` returned: the attributes without the
option, proceed, forced.
-/
import Proofs.Lemmas.C19Transforms
namespace Flatland.C19.Proofs
open Flatland.Markup Flatland.C19 Flatland.C19.Spec

theorem transformDomid_skips (T : Tables) (tag : Str) (bnd : Option Bind) (st : TState) (a : Attrs) (p f : Bool)
    (hp : popToggle T "auto_domid".toList st.attrs st.ctx = .ok (a, p, f))
    (h : p = false ∨ applies T sId tag f (Dict.get? a sId).isSome = false) :
    transformDomid T tag bnd st = .ok { st with attrs := a } := by
  rw [transformDomid_eq hp]
  rcases h with h | h <;> simp only [h, Bool.false_and, Bool.and_false, Bool.false_eq_true, if_false] <;> rfl

theorem transformDomid_applies (T : Tables) (tag : Str) (bnd : Option Bind) (st : TState) (a : Attrs) (f : Bool)
    (raw idv : Str) (fmt : CVal)
    (hp : popToggle T "auto_domid".toList st.attrs st.ctx = .ok (a, true, f))
    (h : applies T sId tag f (Dict.get? a sId).isSome = true)
    (hraw : generateRawDomid tag a bnd = .ok (some raw))
    (hfmt : st.ctx.getItem "domid_format".toList = .ok fmt) (hid : formatDomid fmt raw = .ok idv) :
    transformDomid T tag bnd st = .ok { st with attrs := Dict.set a sId (.text idv) } := by
  rw [transformDomid_eq hp, h, genId_of hraw hfmt hid]; rfl

/-- a `<label>` loses its `value` even when the transform is skipped -/
theorem transformFor_skips (T : Tables) (tag : Str) (bnd : Option Bind) (st : TState) (a : Attrs) (p f : Bool)
    (hp : popToggle T "auto_for".toList st.attrs st.ctx = .ok (a, p, f))
    (h : p = false ∨ bnd = none ∨ applies T sFor tag f (Dict.get? a sFor).isSome = false) :
    transformFor T tag bnd st = .ok { st with attrs := if tag = sLabel then Dict.erase a sValue else a } := by
  rw [transformFor_eq hp]
  rcases h with h | h | h <;>
    simp only [h, Option.isSome_none, Bool.false_and, Bool.and_false, Bool.false_eq_true, if_false] <;> rfl

theorem transformFor_applies (T : Tables) (tag : Str) (b : Bind) (st : TState) (a : Attrs) (f : Bool)
    (raw idv : Str) (fmt : CVal)
    (hp : popToggle T "auto_for".toList st.attrs st.ctx = .ok (a, true, f))
    (h : applies T sFor tag f (Dict.get? a sFor).isSome = true)
    (hraw : generateRawDomid tag a (some b) = .ok (some raw))
    (hfmt : st.ctx.getItem "domid_format".toList = .ok fmt) (hid : formatDomid fmt raw = .ok idv) :
    transformFor T tag (some b) st = .ok { st with attrs :=
      (if tag = sLabel then Dict.erase (Dict.set a sFor (.text idv)) sValue else Dict.set a sFor (.text idv)) } := by
  rw [transformFor_eq hp, h, genId_of hraw hfmt hid]; rfl

theorem transformTabindex_skips (T : Tables) (tag : Str) (bnd : Option Bind) (st : TState) (a : Attrs) (p f : Bool)
    (n : Int) (hp : popToggle T "auto_tabindex".toList st.attrs st.ctx = .ok (a, p, f))
    (hn : st.ctx.getItem sTabindex = .ok (.int n))
    (h : p = false ∨ n = 0 ∨ applies T sTabindex tag f (Dict.get? a sTabindex).isSome = false) :
    transformTabindex T tag bnd st = .ok { st with attrs := a } := by
  rw [transformTabindex_eq hp hn, if_neg]
  rintro ⟨hw, h0⟩
  rcases h with h | h | h <;> simp_all

theorem transformTabindex_applies (T : Tables) (tag : Str) (bnd : Option Bind) (st : TState) (a : Attrs) (f : Bool)
    (n : Int) (hp : popToggle T "auto_tabindex".toList st.attrs st.ctx = .ok (a, true, f))
    (hn : st.ctx.getItem sTabindex = .ok (.int n)) (h0 : n ≠ 0)
    (h : applies T sTabindex tag f (Dict.get? a sTabindex).isSome = true) :
    ∃ st', transformTabindex T tag bnd st = .ok st' ∧
      st'.attrs = Dict.set a sTabindex (.text (intRepr n)) := by
  rw [transformTabindex_eq hp hn, if_pos ⟨by rw [h]; rfl, h0⟩]
  exact ⟨_, rfl, rfl⟩

theorem transformValue_skips (T : Tables) (tag : Str) (bnd : Option Bind) (st : TState) (a : Attrs) (p f : Bool)
    (hp : popToggle T "auto_value".toList st.attrs st.ctx = .ok (a, p, f))
    (h : p = false ∨ bnd = none ∨ (f = false ∧ T.autoTag sValue tag = false)) :
    transformValue T tag bnd st = .ok { st with attrs := a } := by
  unfold transformValue
  simp only [bind, Except.bind, pure, Except.pure]
  rw [hp]
  rcases h with rfl | rfl | ⟨rfl, h2⟩
  · cases bnd <;> rfl
  · rfl
  · cases bnd with
    | none => rfl
    | some b => cases p <;> simp [h2]

/-- a forced `value` on a `<label>` does not survive: the for-transform removes `value` from labels -/
theorem label_value_dropped {T : Tables} {bnd : Option Bind} {st st' : TState}
    (hnd : (Dict.keys st.attrs).Nodup) (h : transformFor T sLabel bnd st = .ok st') :
    Dict.get? st'.attrs sValue = none := by
  suffices hs : Ok (transformFor T sLabel bnd st) fun st' => Dict.get? st'.attrs sValue = none from hs _ h
  have hn := Dict.nodup_erase st.attrs "auto_for".toList hnd
  unfold transformFor
  refine Ok.popToggle fun p forced => ?_
  simp only [if_true, Ok.ite_iff, Ok.pure_iff, Ok.bind_iff, Dict.get?_erase_self _ _ hn, implies_true, and_true]
  refine fun _ _ => Ok.of_forall fun raw => ?_
  cases raw <;> simp only [Ok.pure_iff, Ok.bind_iff, Ok.true, Dict.get?_erase_self _ _ hn,
    Dict.get?_erase_self _ _ (Dict.nodup_set _ _ _ hn)]

end Flatland.C19.Proofs
