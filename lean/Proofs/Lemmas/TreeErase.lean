/-
Elements with identities and stored parent pointers erased (`erase`), and the fact that `set`, construction and
`from_defaults` do not look at them (`setNode_indep`, `fromDefaults_indep`): runs on elements that agree up to
ids / parents, with any id counters, give elements that agree up to ids / parents and the same flag or exception.
`sig` (what `Element.__eq__` compares) factors through the erasure; this is what makes "the adapted value of a
plain argument" well defined for container member schemas (C09).
-/
import Flatland.Tree
import Proofs.Lemmas.TreeHdr
namespace Flatland.Tree
open Flatland.PyList

mutual
/-- forget ids, stored parents and the constructor keyword overrides -/
def erase : Node → Node
  | .mk i s kids => .mk { id := 0, parent := none, key := i.key, val := i.val, u := i.u } s (eraseL kids)
def eraseL : List Node → List Node
  | [] => []
  | k :: ks => erase k :: eraseL ks
end

theorem eraseL_eq_map (ks : List Node) : eraseL ks = ks.map erase := by
  induction ks with
  | nil => rfl
  | cons k ks ih => simp [eraseL, ih]

@[simp] theorem eraseL_nil : eraseL [] = [] := rfl
@[simp] theorem eraseL_cons (k : Node) (ks : List Node) : eraseL (k :: ks) = erase k :: eraseL ks := rfl

@[simp] theorem eraseL_append (a b : List Node) : eraseL (a ++ b) = eraseL a ++ eraseL b := by
  simp [eraseL_eq_map]

theorem eraseL_length {a b : List Node} (h : eraseL a = eraseL b) : a.length = b.length := by
  have := congrArg List.length h
  simpa [eraseL_eq_map] using this

theorem erase_mk (i : NInfo) (s : Schema) (kids : List Node) :
    erase (.mk i s kids) = .mk { id := 0, parent := none, key := i.key, val := i.val, u := i.u } s (eraseL kids) := by
  rw [erase]

theorem erase_eq_iff (i i' : NInfo) (s s' : Schema) (kids kids' : List Node) :
    erase (.mk i s kids) = erase (.mk i' s' kids') ↔
      i.key = i'.key ∧ i.val = i'.val ∧ i.u = i'.u ∧ s = s' ∧ eraseL kids = eraseL kids' := by
  rw [erase_mk, erase_mk]
  constructor
  · intro h
    injection h with h1 h2 h3
    injection h1 with _ _ hk hv hu
    exact ⟨hk, hv, hu, h2, h3⟩
  · rintro ⟨hk, hv, hu, hs, hl⟩
    rw [hk, hv, hu, hs, hl]

theorem erase_sch {a b : Node} (h : erase a = erase b) : a.sch = b.sch := by
  cases a; cases b; exact ((erase_eq_iff _ _ _ _ _ _).mp h).2.2.2.1

theorem erase_key {a b : Node} (h : erase a = erase b) : a.key = b.key := by
  cases a; cases b; exact ((erase_eq_iff _ _ _ _ _ _).mp h).1

theorem erase_kids {a b : Node} (h : erase a = erase b) : eraseL a.kids = eraseL b.kids := by
  cases a; cases b; exact ((erase_eq_iff _ _ _ _ _ _).mp h).2.2.2.2

@[simp] theorem erase_withParent (n : Node) (p : Option Nat) : erase (n.withParent p) = erase n := by
  cases n; simp [Node.withParent, erase_mk, Node.ni, Node.sch, Node.kids]

theorem erase_withKids {a b : Node} (h : erase a = erase b) {ks ks' : List Node} (hk : eraseL ks = eraseL ks') :
    erase (a.withKids ks) = erase (b.withKids ks') := by
  cases a; cases b
  obtain ⟨h1, h2, h3, h4, _⟩ := (erase_eq_iff _ _ _ _ _ _).mp h
  simp only [Node.withKids, Node.ni, Node.sch]
  exact (erase_eq_iff _ _ _ _ _ _).mpr ⟨h1, h2, h3, h4, hk⟩

theorem erase_of_ni {a b x y : Node} (ha : a.ni = x.ni ∧ a.sch = x.sch) (hb : b.ni = y.ni ∧ b.sch = y.sch)
    (h : erase x = erase y) (hk : eraseL a.kids = eraseL b.kids) : erase a = erase b := by
  rw [node_eta a, node_eta b, ha.1, ha.2, hb.1, hb.2]
  cases x; cases y
  exact erase_withKids h hk

theorem erase_mkSlot (id id' lst lst' nm : Nat) {el el' : Node} (h : erase el = erase el') :
    erase (mkSlot id lst nm el) = erase (mkSlot id' lst' nm el') := by
  simp only [mkSlot, erase_mk, eraseL_cons, eraseL_nil, erase_withParent, h]

mutual
theorem sig_erase : (n : Node) → sig (erase n) = sig n
  | .mk i s kids => by
    rw [erase_mk, sig, sig]
    rw [sigFirst_erase kids, sigL_erase kids, sigKV_erase kids]
theorem sigFirst_erase : (ks : List Node) → sigFirst (eraseL ks) = sigFirst ks
  | [] => rfl
  | k :: ks => by rw [eraseL_cons, sigFirst, sigFirst, sig_erase k]
theorem sigL_erase : (ks : List Node) → sigL (eraseL ks) = sigL ks
  | [] => rfl
  | k :: ks => by rw [eraseL_cons, sigL, sigL, sig_erase k, sigL_erase ks]
theorem sigKV_erase : (ks : List Node) → sigKV (eraseL ks) = sigKV ks
  | [] => rfl
  | k :: ks => by
    rw [eraseL_cons, sigKV, sigKV, sig_erase k, sigKV_erase ks]
    cases k; rfl
end

theorem sig_of_erase {a b : Node} (h : erase a = erase b) : sig a = sig b := by
  rw [← sig_erase a, ← sig_erase b, h]

mutual
theorem blank_erase : (s : Schema) → ∀ (p p' : Option Nat) (k : Str) (n n' : Nat),
    erase (blank s p k n).1 = erase (blank s p' k n').1
  | .mk info dflt subs => by
    intro p p' k n n'
    rw [blank, blank]
    cases hk : info.kind <;> simp only [erase_mk, eraseL_nil]
    · rw [blankFields_erase subs n n' false (n + 1) (n' + 1)]
    · split
      · simp only [erase_mk]
        rw [blankFields_erase subs n n' true (n + 1) (n' + 1)]
      · simp only [erase_mk, eraseL_nil]
theorem blankFields_erase : (subs : List Schema) → ∀ (pid pid' : Nat) (b : Bool) (n n' : Nat),
    eraseL (blankFields subs pid b n).1 = eraseL (blankFields subs pid' b n').1
  | [] => by intro _ _ _ _ _; rfl
  | f :: fs => by
    intro pid pid' b n n'
    rw [blankFields, blankFields]
    split
    · exact blankFields_erase fs pid pid' b n n'
    · simp only [eraseL_cons]
      rw [blank_erase f (some pid) (some pid') f.key n n', blankFields_erase fs pid pid' b _ _]
end

theorem attachAll_kids (es : List Node) : ∀ (es' : List Node) (lst lst' : Node) (n n' : Nat),
    lst.sch = lst'.sch → eraseL lst.kids = eraseL lst'.kids → eraseL es = eraseL es' →
    eraseL (attachAll lst es n).1.kids = eraseL (attachAll lst' es' n').1.kids := by
  induction es with
  | nil =>
    intro es' lst lst' n n' _ hl he
    cases es' with
    | nil => exact hl
    | cons _ _ => simp at he
  | cons e es ih =>
    intro es' lst lst' n n' hs hl he
    cases es' with
    | nil => simp at he
    | cons e' es' =>
      simp only [eraseL_cons, List.cons.injEq] at he
      have hkind : lst.kind = lst'.kind := by unfold Node.kind; rw [hs]
      have hlen : lst.kids.length = lst'.kids.length := eraseL_length hl
      rw [attachAll, attachAll]
      by_cases hk : lst.kind = .list
      · have hk' : lst'.kind = .list := hkind ▸ hk
        simp only [hk, hk', if_true]
        apply ih _ _ _ _ _ (by cases lst; cases lst'; exact hs) _ he.2
        cases lst; cases lst'
        simp only [Node.withKids, Node.kids] at hl hlen ⊢
        rw [eraseL_append, eraseL_append, hl, hlen]
        simp only [eraseL_cons, eraseL_nil]
        rw [erase_mkSlot n n' _ _ _ he.1]
      · have hk' : ¬ lst'.kind = .list := hkind ▸ hk
        simp only [hk, hk', if_false]
        apply ih _ _ _ _ _ (by cases lst; cases lst'; exact hs) _ he.2
        cases lst; cases lst'
        simp only [Node.withKids, Node.kids] at hl ⊢
        rw [eraseL_append, eraseL_append, hl]
        simp only [eraseL_cons, eraseL_nil, erase_withParent, he.1]

theorem attachAll_erase (es es' : List Node) (lst lst' : Node) (n n' : Nat)
    (hl : erase lst = erase lst') (he : eraseL es = eraseL es') :
    erase (attachAll lst es n).1 = erase (attachAll lst' es' n').1 :=
  erase_of_ni (attachAll_ni es lst n) (attachAll_ni es' lst' n') hl
    (attachAll_kids es es' lst lst' n n' (erase_sch hl) (erase_kids hl) he)

theorem erase_key_eq (c : Node) : (erase c).key = c.key := by cases c; rfl

theorem findKid_eraseL (kids : List Node) (k : Str) : findKid (eraseL kids) k = (findKid kids k).map erase := by
  induction kids with
  | nil => rfl
  | cons c cs ih =>
    simp only [eraseL_cons, findKid, List.find?_cons, erase_key_eq] at ih ⊢
    split
    · rfl
    · exact ih

theorem replaceKid_eraseL (kids : List Node) (k : Str) (new : Node) :
    eraseL (replaceKid kids k new) = replaceKid (eraseL kids) k (erase new) := by
  induction kids with
  | nil => rfl
  | cons c cs ih =>
    simp only [replaceKid, List.map_cons, eraseL_cons, erase_key_eq] at ih ⊢
    rw [ih]
    split <;> rfl

def SetIndep (raw : Raw) : Prop :=
  ∀ (a b : Node) (pol : Option Policy) (n n' : Nat), erase a = erase b →
    erase (setNode a raw pol n).node = erase (setNode b raw pol n').node ∧
    (setNode a raw pol n).res = (setNode b raw pol n').res

theorem buildItems_indep (m : Schema) (xs : List Raw) (h : ∀ x ∈ xs, SetIndep x) : ∀ (n n' : Nat),
    eraseL (buildItems m xs n).1 = eraseL (buildItems m xs n').1 ∧
    (buildItems m xs n).2.2 = (buildItems m xs n').2.2 := by
  induction xs with
  | nil => intro n n'; exact ⟨rfl, rfl⟩
  | cons x xs ih =>
    intro n n'
    have hb := blank_erase m none none [] n n'
    have hs := h x (by simp) (blank m none [] n).1 (blank m none [] n').1 none (blank m none [] n).2
      (blank m none [] n').2 hb
    have ih' := ih (fun y hy => h y (by simp [hy]))
      (setNode (blank m none [] n).1 x none (blank m none [] n).2).next
      (setNode (blank m none [] n').1 x none (blank m none [] n').2).next
    rw [buildItems, buildItems]
    dsimp only
    rw [← hs.2]
    cases (setNode (blank m none [] n).1 x none (blank m none [] n).2).res with
    | error e => exact ⟨rfl, rfl⟩
    | ok c =>
      dsimp only
      rw [← ih'.2]
      cases (buildItems m xs (setNode (blank m none [] n).1 x none (blank m none [] n).2).next).2.2 with
      | error e => exact ⟨rfl, rfl⟩
      | ok c' =>
        dsimp only
        rw [eraseL_cons, eraseL_cons, hs.1, ih'.1]
        exact ⟨rfl, rfl⟩

theorem setPairs_indep (subs : List Schema) (kvs : List (Str × Raw)) (h : ∀ p ∈ kvs, SetIndep p.2) :
    ∀ (pid pid' : Nat) (kids kids' : List Node) (n n' : Nat), eraseL kids = eraseL kids' →
      eraseL (setPairs pid subs kids kvs n).1 = eraseL (setPairs pid' subs kids' kvs n').1 ∧
      (setPairs pid subs kids kvs n).2.2 = (setPairs pid' subs kids' kvs n').2.2 := by
  induction kvs with
  | nil => intro pid pid' kids kids' n n' hE; exact ⟨hE, rfl⟩
  | cons kv rest ih =>
    intro pid pid' kids kids' n n' hE
    obtain ⟨k, v⟩ := kv
    have hv : SetIndep v := h (k, v) (by simp)
    have ih' := ih (fun p hp => h p (by simp [hp]))
    rw [setPairs, setPairs]
    cases hf : fieldFor subs k with
    | none => exact ih' pid pid' kids kids' n n' hE
    | some f =>
      dsimp only
      have hfk : (findKid kids k).map erase = (findKid kids' k).map erase := by
        rw [← findKid_eraseL, ← findKid_eraseL, hE]
      cases hc : findKid kids k with
      | some c =>
        cases hc' : findKid kids' k with
        | none => rw [hc, hc'] at hfk; cases hfk
        | some c' =>
          rw [hc, hc'] at hfk
          simp only [Option.map_some, Option.some.injEq] at hfk
          have hs := hv c c' none n n' hfk
          have hrep : eraseL (replaceKid kids k (setNode c v none n).node) =
              eraseL (replaceKid kids' k (setNode c' v none n').node) := by
            rw [replaceKid_eraseL, replaceKid_eraseL, hE, hs.1]
          dsimp only
          rw [← hs.2]
          cases (setNode c v none n).res with
          | error e => exact ⟨hrep, rfl⟩
          | ok b =>
            dsimp only
            have := ih' pid pid' _ _ (setNode c v none n).next (setNode c' v none n').next hrep
            exact ⟨this.1, by rw [this.2]⟩
      | none =>
        cases hc' : findKid kids' k with
        | some c' => rw [hc, hc'] at hfk; cases hfk
        | none =>
          have hb : erase ((blank f none k n).1.withParent (some pid)) =
              erase ((blank f none k n').1.withParent (some pid')) := by
            rw [erase_withParent, erase_withParent]; exact blank_erase f none none k n n'
          have hs := hv _ _ none (blank f none k n).2 (blank f none k n').2 hb
          have happ : eraseL (kids ++ [(setNode ((blank f none k n).1.withParent (some pid)) v none (blank f none k n).2).node]) =
              eraseL (kids' ++ [(setNode ((blank f none k n').1.withParent (some pid')) v none (blank f none k n').2).node]) := by
            rw [eraseL_append, eraseL_append, hE]
            simp only [eraseL_cons, eraseL_nil, hs.1]
          dsimp only
          rw [← hs.2]
          cases (setNode ((blank f none k n).1.withParent (some pid)) v none (blank f none k n).2).res with
          | error e => exact ⟨happ, rfl⟩
          | ok b =>
            dsimp only
            have := ih' pid pid' _ _
              (setNode ((blank f none k n).1.withParent (some pid)) v none (blank f none k n).2).next
              (setNode ((blank f none k n').1.withParent (some pid')) v none (blank f none k n').2).next happ
            exact ⟨this.1, by rw [this.2]⟩

theorem resetL_erase (s : Schema) (id id' n n' : Nat) :
    eraseL (if s.kind = .dict then blankFields s.subs id false n
      else if s.info.minreq then blankFields s.subs id true n else ([], n)).1 =
    eraseL (if s.kind = .dict then blankFields s.subs id' false n'
      else if s.info.minreq then blankFields s.subs id' true n' else ([], n')).1 := by
  split
  · exact blankFields_erase _ _ _ _ _ _
  · split
    · exact blankFields_erase _ _ _ _ _ _
    · rfl

theorem mapSetKvs_ni (i : NInfo) (s : Schema) (kvs : List (Str × Raw)) (pol : Option Policy) (n : Nat) :
    (mapSetKvs i s kvs pol n).node.ni = i ∧ (mapSetKvs i s kvs pol n).node.sch = s := by
  unfold mapSetKvs dictPrep
  dsimp only
  cases policyCheck (pol.getD s.info.policy) s.subs kvs <;> exact ⟨rfl, rfl⟩

theorem mapSetKvs_kids (i i' : NInfo) (s : Schema) (kvs : List (Str × Raw)) (h : ∀ p ∈ kvs, SetIndep p.2)
    (pol : Option Policy) (n n' : Nat) :
    eraseL (mapSetKvs i s kvs pol n).node.kids = eraseL (mapSetKvs i' s kvs pol n').node.kids ∧
    (mapSetKvs i s kvs pol n).res = (mapSetKvs i' s kvs pol n').res := by
  unfold mapSetKvs dictPrep
  dsimp only
  have hr := resetL_erase s i.id i'.id n n'
  cases policyCheck (pol.getD s.info.policy) s.subs kvs with
  | error e => exact ⟨hr, rfl⟩
  | ok u =>
    dsimp only
    exact setPairs_indep s.subs kvs h i.id i'.id _ _
      (if s.kind = .dict then blankFields s.subs i.id false n
        else if s.info.minreq then blankFields s.subs i.id true n else ([], n)).2
      (if s.kind = .dict then blankFields s.subs i'.id false n'
        else if s.info.minreq then blankFields s.subs i'.id true n' else ([], n')).2 hr

theorem seqSet_ni (i : NInfo) (s : Schema) (raw : Raw) (n : Nat) :
    (seqSet i s raw n).node.ni = i ∧ (seqSet i s raw n).node.sch = s := by
  unfold seqSet
  cases s.member with
  | none => exact ⟨rfl, rfl⟩
  | some m =>
    dsimp only
    cases raw with
    | list xs =>
      dsimp only
      cases (buildItems m xs n).2.2 with
      | ok conv => exact attachAll_ni _ _ _
      | error e => cases e <;> exact ⟨rfl, rfl⟩
    | none => exact ⟨rfl, rfl⟩
    | int _ => exact ⟨rfl, rfl⟩
    | str _ => exact ⟨rfl, rfl⟩
    | dict _ => exact ⟨rfl, rfl⟩
    | pairs _ => exact ⟨rfl, rfl⟩

theorem seqSet_kids (i i' : NInfo) (s : Schema) (raw : Raw) (h : ∀ xs, raw = .list xs → ∀ x ∈ xs, SetIndep x)
    (n n' : Nat) :
    eraseL (seqSet i s raw n).node.kids = eraseL (seqSet i' s raw n').node.kids ∧
    (seqSet i s raw n).res = (seqSet i' s raw n').res := by
  unfold seqSet
  cases s.member with
  | none => exact ⟨rfl, rfl⟩
  | some m =>
    dsimp only
    cases raw with
    | list xs =>
      have hb := buildItems_indep m xs (h xs rfl) n n'
      dsimp only
      rw [← hb.2]
      cases (buildItems m xs n).2.2 with
      | ok conv => exact ⟨attachAll_kids _ _ _ _ _ _ rfl rfl hb.1, rfl⟩
      | error e => cases e <;> exact ⟨rfl, rfl⟩
    | none => exact ⟨rfl, rfl⟩
    | int _ => exact ⟨rfl, rfl⟩
    | str _ => exact ⟨rfl, rfl⟩
    | dict _ => exact ⟨rfl, rfl⟩
    | pairs _ => exact ⟨rfl, rfl⟩

theorem setIndep_core (raw : Raw) (hl : ∀ xs, raw = .list xs → ∀ x ∈ xs, SetIndep x)
    (hd : ∀ kvs, toPairs raw = some (some kvs) → ∀ p ∈ kvs, SetIndep p.2) : SetIndep raw := by
  intro a b pol n n' hE
  cases a with
  | mk i s kids =>
  cases b with
  | mk i' s' kids' =>
  obtain ⟨hk, hv, hu, hs, hkids⟩ := (erase_eq_iff _ _ _ _ _ _).mp hE
  subst hs
  cases hkind : s.kind with
  | integer | string =>
    unfold setNode
    simp only [hkind]
    rcases adaptScalar _ raw with _ | ⟨v, u, ok⟩
    · exact ⟨hE, rfl⟩
    · exact ⟨(erase_eq_iff _ _ _ _ _ _).mpr ⟨hk, rfl, rfl, rfl, hkids⟩, rfl⟩
  | slot =>
    unfold setNode
    simp only [hkind]
    exact ⟨hE, trivial⟩
  | list | array | multi =>
    have hs : s.kind = .list ∨ s.kind = .array ∨ s.kind = .multi := by simp [hkind]
    rw [setNode_seq _ _ _ _ _ _ hs, setNode_seq _ _ _ _ _ _ hs]
    have hkk := seqSet_kids i i' s raw hl n n'
    exact ⟨erase_of_ni (x := .mk i s kids) (y := .mk i' s kids') (seqSet_ni i s raw n) (seqSet_ni i' s raw n') hE hkk.1,
      hkk.2⟩
  | dict | sparse =>
    have hs : s.kind = .dict ∨ s.kind = .sparse := by simp [hkind]
    rw [setNode_map _ _ _ _ _ _ hs, setNode_map _ _ _ _ _ _ hs]
    cases htp : toPairs raw with
    | none => exact ⟨hE, rfl⟩
    | some o =>
      cases o with
      | none => exact ⟨hE, rfl⟩
      | some kvs =>
        have hkk := mapSetKvs_kids i i' s kvs (hd kvs htp) pol n n'
        exact ⟨erase_of_ni (x := .mk i s kids) (y := .mk i' s kids') (mapSetKvs_ni i s kvs pol n)
          (mapSetKvs_ni i' s kvs pol n') hE hkk.1, hkk.2⟩

theorem setNode_indep : (raw : Raw) → SetIndep raw := Raw.induction setIndep_core

def FDIndep (s : Schema) : Prop :=
  ∀ (p p' : Option Nat) (k : Str) (n n' : Nat),
    erase (fromDefaults s p k n).node = erase (fromDefaults s p' k n').node ∧
    (fromDefaults s p k n).res = (fromDefaults s p' k n').res

theorem defaultSlotsWith_indep (mk mk' : Nat → SetR)
    (h : ∀ nx nx', erase (mk nx).node = erase (mk' nx').node ∧ (mk nx).res = (mk' nx').res)
    (lst lst' : Nat) (k : Nat) : ∀ (idx n n' : Nat),
    eraseL (defaultSlotsWith mk lst k idx n).1 = eraseL (defaultSlotsWith mk' lst' k idx n').1 ∧
    (defaultSlotsWith mk lst k idx n).2.2 = (defaultSlotsWith mk' lst' k idx n').2.2 := by
  induction k with
  | zero => intro idx n n'; exact ⟨rfl, rfl⟩
  | succ k ih =>
    intro idx n n'
    have hm := h (n + 1) (n' + 1)
    rw [defaultSlotsWith, defaultSlotsWith]
    dsimp only
    rw [← hm.2]
    cases (mk (n + 1)).res with
    | error e =>
      dsimp only
      rw [eraseL_cons, eraseL_cons, erase_mkSlot n n' lst lst' idx hm.1]
      exact ⟨rfl, rfl⟩
    | ok b =>
      dsimp only
      have := ih (idx + 1) (mk (n + 1)).next (mk' (n' + 1)).next
      rw [eraseL_cons, eraseL_cons, erase_mkSlot n n' lst lst' idx hm.1, this.1]
      exact ⟨rfl, this.2⟩

theorem defaultFields_indep (fs : List Schema) (h : ∀ f ∈ fs, FDIndep f) : ∀ (pid pid' : Nat) (b : Bool) (n n' : Nat),
    eraseL (defaultFields fs pid b n).1 = eraseL (defaultFields fs pid' b n').1 ∧
    (defaultFields fs pid b n).2.2 = (defaultFields fs pid' b n').2.2 := by
  induction fs with
  | nil => intro _ _ _ _ _; exact ⟨rfl, rfl⟩
  | cons f fs ih =>
    intro pid pid' b n n'
    have ih' := ih (fun g hg => h g (by simp [hg]))
    have hf := h f (by simp) (some pid) (some pid') f.key n n'
    rw [defaultFields, defaultFields]
    split
    · exact ih' pid pid' b n n'
    · dsimp only
      rw [← hf.2]
      cases (fromDefaults f (some pid) f.key n).res with
      | error e =>
        dsimp only
        cases b with
        | true =>
          simp only [if_true, eraseL_cons]
          rw [blank_erase f (some pid) (some pid') f.key _ (fromDefaults f (some pid') f.key n').next,
            blankFields_erase fs pid pid' true _
              (blank f (some pid') f.key (fromDefaults f (some pid') f.key n').next).2]
          exact ⟨rfl, trivial⟩
        | false =>
          simp only [Bool.false_eq_true, if_false, eraseL_cons]
          rw [hf.1, blankFields_erase fs pid pid' false _ (fromDefaults f (some pid') f.key n').next]
          exact ⟨rfl, trivial⟩
      | ok c =>
        dsimp only
        have := ih' pid pid' b (fromDefaults f (some pid) f.key n).next (fromDefaults f (some pid') f.key n').next
        rw [eraseL_cons, eraseL_cons, hf.1, this.1]
        exact ⟨rfl, this.2⟩

theorem fd_core (info : SInfo) (dflt : Raw) (subs : List Schema) (hsubs : ∀ f ∈ subs, FDIndep f) :
    FDIndep (.mk info dflt subs) := by
  intro p p' k n n'
  have hb := blank_erase (.mk info dflt subs) p p' k n n'
  unfold fromDefaults
  dsimp only
  -- the two runs differ only in the blank elements they start from
  generalize blank (.mk info dflt subs) p k n = B at hb ⊢
  generalize blank (.mk info dflt subs) p' k n' = B' at hb ⊢
  have hset (d : Raw) := setNode_indep d B.1 B'.1 none B.2 B'.2 hb
  have hfields (b : Bool) := defaultFields_indep subs hsubs B.1.id B'.1.id b B.2 B'.2
  cases info.kind with
  | integer | string => exact hset dflt
  | slot => exact ⟨hb, rfl⟩
  | list =>
    cases dflt with
    | none => exact ⟨hb, rfl⟩
    | int c =>
      cases subs with
      | nil => exact ⟨hb, rfl⟩
      | cons m rest =>
        have := defaultSlotsWith_indep (fun nx => fromDefaults m none [] nx) (fun nx => fromDefaults m none [] nx)
          (fun nx nx' => hsubs m (by simp) none none [] nx nx') B.1.id B'.1.id c.toNat 0 B.2 B'.2
        exact ⟨erase_withKids hb this.1, this.2⟩
    | str _ | list _ | dict _ | pairs _ => exact hset _
  | array | multi =>
    cases dflt with
    | list xs =>
      cases subs with
      | nil => exact ⟨hb, rfl⟩
      | cons m rest =>
        have hbi := buildItems_indep m xs (fun x _ => setNode_indep x) B.2 B'.2
        dsimp only
        rw [← hbi.2]
        cases (buildItems m xs B.2).2.2 with
        | ok _ => exact ⟨attachAll_erase _ _ _ _ _ _ hb hbi.1, rfl⟩
        | error _ => exact ⟨hb, rfl⟩
    | none | int _ | str _ | dict _ | pairs _ => exact ⟨hb, rfl⟩
  | dict =>
    cases dflt with
    | none => exact ⟨erase_withKids hb (hfields false).1, (hfields false).2⟩
    | int _ | str _ | list _ | dict _ | pairs _ => exact hset _
  | sparse =>
    cases dflt with
    | none =>
      dsimp only
      split
      · exact ⟨erase_withKids hb (hfields true).1, (hfields true).2⟩
      · exact ⟨erase_withKids hb rfl, rfl⟩
    | int _ | str _ | list _ | dict _ | pairs _ => exact hset _

theorem fromDefaults_indep : (s : Schema) → FDIndep s :=
  Schema.induction fun
    | .mk info dflt subs, h => fd_core info dflt subs h

end Flatland.Tree
