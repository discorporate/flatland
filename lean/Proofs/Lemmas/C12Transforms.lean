/-
Symbolic evaluation of the transforms for the control kinds of C12.
`Enabled/Disabled`: what `_pop_toggle` answers for a tag that carries no option of its own.
-/
import Flatland.C12
import Proofs.Lemmas.C19Transforms
namespace Flatland.C12.Proofs
open Flatland.Markup Flatland.C12 Flatland.C19.Proofs

/-- with no option on the tag, the transform is applied (not forced) -/
def Enabled (T : Tables) (ctx : Ctx) (key : Str) : Prop :=
  ∀ attrs : Attrs, Dict.get? attrs key = none → popToggle T key attrs ctx = .ok (Dict.erase attrs key, true, false)

/-- with no option on the tag, the transform is skipped -/
def Disabled (T : Tables) (ctx : Ctx) (key : Str) : Prop :=
  ∀ attrs : Attrs, Dict.get? attrs key = none → popToggle T key attrs ctx = .ok (Dict.erase attrs key, false, false)

theorem Enabled.pop {T : Tables} {ctx : Ctx} {key : Str} (h : Enabled T ctx key) {attrs : Attrs}
    (hno : Dict.get? attrs key = none) : popToggle T key attrs ctx = .ok (attrs, true, false) := by
  have := h attrs hno
  rwa [Dict.erase_absent _ _ hno] at this

theorem Disabled.pop {T : Tables} {ctx : Ctx} {key : Str} (h : Disabled T ctx key) {attrs : Attrs}
    (hno : Dict.get? attrs key = none) : popToggle T key attrs ctx = .ok (attrs, false, false) := by
  have := h attrs hno
  rwa [Dict.erase_absent _ _ hno] at this

/-- `get?` of a key other than the ones a step touches -/
macro "frame_leaves" h:ident hs:ident : tactic =>
  `(tactic| (repeat' split at $h:ident) <;> first
      | (simp at $h:ident; done)
      | (simp only [pure, Except.pure, Except.ok.injEq] at $h:ident; subst $h:ident; simp only [$hs:ident, toggleAttr];
         (repeat' split) <;>
         simp only [Dict.get?_set_other _ _ _ _ (by assumption), Dict.get?_erase_other _ _ _ (by assumption)]))

theorem transformName_frame {T : Tables} {tag : Str} {bnd : Option Bind} {st st' : TState} (k : Str)
    (h : transformName T tag bnd st = .ok st') (h1 : k ≠ sName) (h2 : k ≠ "auto_name".toList) :
    Dict.get? st'.attrs k = Dict.get? st.attrs k :=
  (transformName_ok _ _ _ _ _ h).1.get?_erase h2 (by simp [h1]) (by simp)

theorem transformValue_frame {T : Tables} {tag : Str} {bnd : Option Bind} {st st' : TState} (k : Str)
    (h : transformValue T tag bnd st = .ok st') (h1 : k ≠ sValue) (h2 : k ≠ "auto_value".toList)
    (h3 : k ≠ sChecked) (h4 : k ≠ sSelected) :
    Dict.get? st'.attrs k = Dict.get? st.attrs k :=
  (transformValue_ok _ _ _ _ _ h).1.get?_erase h2 (by simp [h1, h3, h4]) (by simp [h3, h4])

/-- names the transforms may write or delete: the generated attributes and the six options -/
def touchKeys : List Str := generatedKeys ++ optionKeys

/-- an attribute whose name is none of the generated ones (name, value, id, for, tabindex, checked, selected)
    nor an option reaches the serialiser exactly as the author gave it — whatever the tag, the bind and the context -/
theorem transform_frame {T : Tables} {tag : Str} {bnd : Option Bind} {st st6 : TState} (k : Str)
    (hk : k ∉ touchKeys) (h : transform T tag bnd st = .ok st6) :
    Dict.get? st6.attrs k = Dict.get? st.attrs k := by
  simp only [touchKeys, generatedKeys, List.mem_append, List.mem_cons, List.not_mem_nil, or_false, not_or] at hk
  refine (transform_consumes T tag bnd).get? h hk.2 (by simp [hk.1]) fun hm => ?_
  split at hm <;> simp_all

theorem sType_not_touched : sType ∉ touchKeys := by decide +kernel

/-- attributes a browser reads from a control; none of the later transforms writes them -/
def controlKeys : List Str := [sName, sValue, sType, sChecked, sSelected]

theorem later_frame {T : Tables} {tag : Str} {bnd : Option Bind} {s2 s6 : TState} (k : Str)
    (hk : k ∈ controlKeys) (hl : tag ≠ sLabel) (h : transformLater T tag bnd s2 = .ok s6) :
    Dict.get? s6.attrs k = Dict.get? s2.attrs k ∧ s6.contents = s2.contents := by
  have hne : ∀ k ∈ controlKeys,
      k ∉ ["auto_domid".toList, "auto_for".toList, "auto_tabindex".toList, "auto_filter".toList] ∧
      k ∉ [sId, sFor, sTabindex] := by decide +kernel
  exact ⟨(later_consumes T tag bnd).get? h (hne k hk).1 (hne k hk).2 (by simp [hl]), later_contents h⟩

theorem transformName_on (T : Tables) (tag : Str) (b : Bind) (st : TState)
    (hen : Enabled T st.ctx "auto_name".toList) (hopt : Dict.get? st.attrs "auto_name".toList = none)
    (hname : b.flatName ≠ []) (hno : Dict.get? st.attrs sName = none) (htag : T.autoTag sName tag = true) :
    transformName T tag (some b) st = .ok { st with attrs := Dict.set st.attrs sName (.text b.flatName) } := by
  have hne : b.flatName.isEmpty = false := by simpa using hname
  rw [transformName_decision T tag (some b) st _ _ _ (hen.pop hopt)]
  simp only [hne, Flatland.C19.Spec.applies, hno, htag, Option.isSome_none, Bool.not_false, Bool.and_self, Bool.or_true, if_true]

/-- what the value transform looks up, under the `name` the name transform has just set -/
theorem named_autoValue (a : Attrs) (v : Val) :
    Dict.get? (Dict.set a sName v) "auto_value".toList = Dict.get? a "auto_value".toList :=
  Dict.get?_set_other _ _ _ _ (by decide +kernel)

theorem named_type (a : Attrs) (v : Val) : Dict.get? (Dict.set a sName v) sType = Dict.get? a sType :=
  Dict.get?_set_other _ _ _ _ (by decide +kernel)

theorem named_value (a : Attrs) (v : Val) : Dict.get? (Dict.set a sName v) sValue = Dict.get? a sValue :=
  Dict.get?_set_other _ _ _ _ (by decide +kernel)

/-- `Bind.matches` is `current in bind` for an Array and `current == bind.u` otherwise: on a literal it answers equality
    with the text, or membership of the literal wrapped as a member element; it raises only on a `current` that is no string -/
theorem matches_scalar (T : Tables) (b : Bind) (hkind : ∀ s ms, b.kind ≠ .array s ms) (l : Str) :
    b.matches T (some (.text l)) = .ok (l == b.u) := by
  unfold Bind.matches
  cases hk : b.kind with
  | scalar => rfl
  | boolean t => rfl
  | array s ms => exact absurd hk (hkind s ms)

theorem matches_array (T : Tables) (b : Bind) (strip : Bool) (ms : List (Option Str)) (hkind : b.kind = .array strip ms)
    (l : Str) : b.matches T (some (.text l)) = .ok (ms.contains (some (if strip then T.strip l else l))) := by
  unfold Bind.matches; rw [hkind]; rfl

theorem matches_total (T : Tables) (b : Bind) (cur : Option Val) (h : ∀ v, cur = some v → ∃ s, v = .text s) :
    ∃ m, b.matches T cur = .ok m := by
  unfold Bind.matches
  cases cur with
  | none => cases b.kind <;> exact ⟨_, rfl⟩
  | some v => obtain ⟨s, rfl⟩ := h v rfl; cases b.kind <;> exact ⟨_, rfl⟩

/-- an `<input>` type whose value attribute is the element's text -/
def textLike (ty : Val) : Bool :=
  !(ty.eqStr "radio".toList || ty.eqStr "checkbox".toList || ty.eqStr "password".toList ||
    ty.eqStr "file".toList || ty.eqStr "image".toList)

theorem transformValue_textlike (T : Tables) (b : Bind) (st : TState)
    (hen : Enabled T st.ctx "auto_value".toList) (hopt : Dict.get? st.attrs "auto_value".toList = none)
    (hty : textLike ((Dict.get? st.attrs sType).getD (.text [])).lowerKw = true)
    (hno : Dict.get? st.attrs sValue = none) (htag : T.autoTag sValue sInput = true) :
    transformValue T sInput (some b) st = .ok { st with attrs := Dict.set st.attrs sValue (.text b.u) } := by
  simp only [textLike, Bool.not_eq_true', Bool.or_eq_false_iff] at hty
  obtain ⟨⟨⟨⟨t1, t2⟩, t3⟩, t4⟩, t5⟩ := hty
  unfold transformValue
  simp only [bind, Except.bind, pure, Except.pure]
  rw [hen.pop hopt]
  simp only [Bool.not_true, Bool.false_eq_true, ↓reduceIte, htag, Bool.not_false, Bool.and_false, t1, t2, t3, t4, t5,
    Bool.or_self, Bool.or_false, hno, Option.isNone_none]

theorem transformValue_plain (T : Tables) (tag : Str) (b : Bind) (st : TState)
    (hen : Enabled T st.ctx "auto_value".toList) (hopt : Dict.get? st.attrs "auto_value".toList = none)
    (h1 : tag ≠ sInput) (h2 : tag ≠ sOption) (h3 : tag ≠ sTextarea)
    (hno : Dict.get? st.attrs sValue = none) (htag : T.autoTag sValue tag = true) :
    transformValue T tag (some b) st = .ok { st with attrs := Dict.set st.attrs sValue (.text b.u) } := by
  unfold transformValue
  simp only [bind, Except.bind, pure, Except.pure]
  rw [hen.pop hopt]
  simp only [Bool.not_true, Bool.false_eq_true, ↓reduceIte, htag, Bool.not_false, Bool.and_false,
    h1, h2, h3, hno, Option.isNone_none, Bool.or_false]

theorem transformValue_textarea (T : Tables) (b : Bind) (st : TState)
    (hen : Enabled T st.ctx "auto_value".toList) (hopt : Dict.get? st.attrs "auto_value".toList = none)
    (hc : st.contents = none) (htag : T.autoTag sValue sTextarea = true) :
    transformValue T sTextarea (some b) st =
      .ok { st with contents := some (.markup (Flatland.C11.markupEscape T.textChain b.u)) } := by
  unfold transformValue
  simp only [bind, Except.bind, pure, Except.pure]
  rw [hen.pop hopt]
  have e1 : sTextarea ≠ sInput := by decide +kernel
  have e2 : sTextarea ≠ sOption := by decide +kernel
  simp only [Bool.not_true, Bool.false_eq_true, ↓reduceIte, htag, Bool.not_false, Bool.and_false,
    e1, e2, hc, Option.isNone_none, Bool.or_false]

theorem transformValue_check_gen (T : Tables) (b : Bind) (st : TState) (ty lit : Val)
    (hen : Enabled T st.ctx "auto_value".toList) (hopt : Dict.get? st.attrs "auto_value".toList = none)
    (hty : Dict.get? st.attrs sType = some ty)
    (hck : (ty.lowerKw.eqStr "radio".toList || ty.lowerKw.eqStr "checkbox".toList) = true)
    (hlit : Dict.get? st.attrs sValue = some lit) (m : Bool) (hm : b.matches T (some lit) = .ok m)
    (htag : T.autoTag sValue sInput = true) :
    transformValue T sInput (some b) st =
      .ok { st with attrs := toggleAttr st.attrs sChecked m } := by
  unfold transformValue
  simp only [bind, Except.bind, pure, Except.pure]
  rw [hen.pop hopt]
  simp only [Bool.not_true, Bool.false_eq_true, ↓reduceIte, htag, Bool.not_false, Bool.and_false,
    hty, Option.getD_some, hck, hlit]
  simp only [ite_self, hm]

theorem transformName_skip (T : Tables) (tag : Str) (bnd : Option Bind) (st : TState)
    (hen : Enabled T st.ctx "auto_name".toList) (hopt : Dict.get? st.attrs "auto_name".toList = none)
    (htag : T.autoTag sName tag = false) :
    transformName T tag bnd st = .ok st := by
  rw [transformName_decision T tag bnd st _ _ _ (hen.pop hopt)]
  cases bnd <;> simp only [Flatland.C19.Spec.applies, htag, Bool.and_false, Bool.or_false, Bool.false_eq_true, if_false]

theorem transformValue_option (T : Tables) (b : Bind) (st : TState) (lit : Val) (m : Bool)
    (hen : Enabled T st.ctx "auto_value".toList) (hopt : Dict.get? st.attrs "auto_value".toList = none)
    (hlit : Dict.get? st.attrs sValue = some lit) (hm : b.matches T (some lit) = .ok m)
    (htag : T.autoTag sValue sOption = true) :
    transformValue T sOption (some b) st = .ok { st with attrs := toggleAttr st.attrs sSelected m } := by
  unfold transformValue
  simp only [bind, Except.bind, pure, Except.pure]
  rw [hen.pop hopt]
  have e1 : sOption ≠ sInput := by decide +kernel
  simp only [Bool.not_true, Bool.false_eq_true, ↓reduceIte, htag, Bool.not_false, Bool.and_false, e1, hlit, hm]

theorem transformValue_boolcheck (T : Tables) (b : Bind) (st : TState) (ty : Val) (tru : Str)
    (hen : Enabled T st.ctx "auto_value".toList) (hopt : Dict.get? st.attrs "auto_value".toList = none)
    (hty : Dict.get? st.attrs sType = some ty) (hck : ty.lowerKw.eqStr "checkbox".toList = true)
    (hno : Dict.get? st.attrs sValue = none) (hkind : b.kind = .boolean tru)
    (htag : T.autoTag sValue sInput = true) :
    transformValue T sInput (some b) st =
      .ok { st with attrs := toggleAttr (Dict.set st.attrs sValue (.text tru)) sChecked (tru == b.u) } := by
  have hm := matches_scalar T b (by rw [hkind]; nofun) tru
  unfold transformValue
  simp only [bind, Except.bind, pure, Except.pure]
  rw [hen.pop hopt]
  simp only [Bool.not_true, Bool.false_eq_true, ↓reduceIte, htag, Bool.not_false, Bool.and_false,
    hty, Option.getD_some, hck, Bool.or_true, hno, hkind, hm]

end Flatland.C12.Proofs
