/-
End-to-end (C12 ∘ C02 ∘ C01): dropping pairs whose value is `''`.

A form does not post the `(key, '')` pair of an unchecked Boolean.  `DropE ps ps'`: `ps'` is `ps`
with some pairs of value `''` left out.  `drop_setFlat`: for a `dropSafe` schema (dense Dicts,
pruning Lists, scalar kinds that read `''` as blank) and pairs in which no key occurs twice
(`HNodup`), `from_flat` builds the same tree from both.

* scalar: first exact match wins, no match = untouched; with at most one match, losing it leaves the
  blank leaf, and the lost pair would have set the leaf from `''` — equal exactly when the kind
  reads `''` as blank;
* dense Dict: a fresh Dict holds every field, blank, so the loop is `set_flat` of each field's share on a
  blank member whether the share is empty or not (`setFlat_dense_blank`, `setFields_blank_congr`);
* pruning List: pairs with an empty value are skipped before the index recogniser runs.
-/
import Proofs.Lemmas.EndToEndHNodup
import Flatland.Spec.EndToEnd
namespace Flatland.EndToEnd.Proofs
open Flatland.Flat Flatland.Flat.Spec Flatland.Flat.Proofs Flatland.EndToEnd

/-- `l'` is `l` with some pairs of value `''` left out -/
inductive DropE {α : Type} : List (α × Str) → List (α × Str) → Prop
  | nil : DropE [] []
  | keep (p : α × Str) {l l' : List (α × Str)} : DropE l l' → DropE (p :: l) (p :: l')
  | drop (a : α) {l l' : List (α × Str)} : DropE l l' → DropE ((a, []) :: l) l'

namespace DropE
variable {α β γ : Type}

theorem refl : ∀ l : List (α × Str), DropE l l
  | [] => .nil
  | p :: l => .keep p (refl l)

theorem sublist {l l' : List (α × Str)} (h : DropE l l') : l'.Sublist l := by
  induction h with
  | nil => exact .slnil
  | keep p _ ih => exact ih.cons_cons p
  | drop a _ ih => exact ih.cons _

theorem eq_nil {l' : List (α × Str)} (h : DropE ([] : List (α × Str)) l') : l' = [] := by
  cases h; rfl

theorem filterMap (f : α × Str → Option (β × Str)) (hf : ∀ p q, f p = some q → q.2 = p.2)
    {l l' : List (α × Str)} (h : DropE l l') : DropE (l.filterMap f) (l'.filterMap f) := by
  induction h with
  | nil => exact .nil
  | keep p _ ih =>
    simp only [List.filterMap_cons]
    cases f p with
    | none => exact ih
    | some q => exact .keep q ih
  | drop a _ ih =>
    simp only [List.filterMap_cons]
    cases hfa : f (a, []) with
    | none => exact ih
    | some q =>
      have := hf _ _ hfa
      obtain ⟨k, v⟩ := q
      simp only at this
      subst this
      exact .drop k ih

theorem filter (p : α × Str → Bool) {l l' : List (α × Str)} (h : DropE l l') :
    DropE (l.filter p) (l'.filter p) := by
  rw [← List.filterMap_eq_filter]
  exact h.filterMap _ fun x q hq => by rw [(Option.guard_eq_some_iff.mp hq).1]

theorem filterMap_eq (g : α × Str → Option γ) (hg : ∀ a, g (a, []) = none)
    {l l' : List (α × Str)} (h : DropE l l') : l.filterMap g = l'.filterMap g := by
  induction h with
  | nil => rfl
  | keep p _ ih => simp only [List.filterMap_cons, ih]
  | drop a _ ih => simp only [List.filterMap_cons, hg a, ih]

theorem append_empty (a : List (α × Str)) : ∀ d : List (α × Str), (∀ x ∈ d, x.2 = []) → DropE (a ++ d) a := by
  induction a with
  | nil =>
    intro d hd
    induction d with
    | nil => exact .nil
    | cons x d ih =>
      obtain ⟨k, v⟩ := x
      have : v = [] := hd (k, v) (by simp)
      subst this
      exact .drop k (ih (fun y hy => hd y (List.mem_cons_of_mem _ hy)))
  | cons p a ih => intro d hd; exact .keep p (ih d hd)

theorem find (P : α × Str → Bool) {l l' : List (α × Str)} (h : DropE l l')
    (hl : (l.filter P).length ≤ 1) :
    l.find? P = l'.find? P ∨ ∃ a, l.find? P = some (a, []) ∧ l'.find? P = none := by
  induction h with
  | nil => exact Or.inl rfl
  | keep p _ ih =>
    by_cases hp : P p = true
    · left; simp [hp]
    · have hp' : P p = false := by simpa using hp
      simp only [List.filter_cons, hp', Bool.false_eq_true, if_false] at hl
      simp only [List.find?_cons, hp']
      exact ih hl
  | @drop a l l' hd ih =>
    by_cases hp : P (a, []) = true
    · right
      refine ⟨a, by simp [hp], ?_⟩
      simp only [List.filter_cons, hp, if_true, List.length_cons] at hl
      have h0 : l.filter P = [] := List.length_eq_zero_iff.mp (by omega)
      rw [List.find?_eq_none]
      intro x hx
      have hx' : x ∈ l := hd.sublist.subset hx
      have := List.filter_eq_nil_iff.mp h0 x hx'
      simpa using this
    · have hp' : P (a, []) = false := by simpa using hp
      simp only [List.filter_cons, hp', Bool.false_eq_true, if_false] at hl
      simp only [List.find?_cons, hp']
      exact ih hl

end DropE

theorem dropE_possibles (sep : Str) (name : Option Str) {ps ps' : Pairs} (h : DropE ps ps') :
    DropE (possibles sep name ps) (possibles sep name ps') := by
  rw [possibles_eq_filterMap, possibles_eq_filterMap]
  refine h.filterMap _ fun p q hq => ?_
  simp only [stripPair, Option.bind_eq_some_iff, Option.map_eq_some_iff] at hq
  obtain ⟨_, _, _, _, rfl⟩ := hq
  rfl

theorem dropE_wrap {l l' : List (Str × Str)} (h : DropE l l') : DropE (wrap l) (wrap l') := by
  unfold wrap
  rw [← List.filterMap_eq_map]
  exact h.filterMap _ fun x q hq => by cases hq; rfl

theorem dropSafeL_iff (env : Env) (fs : List Schema) :
    dropSafeL env fs = true ↔ ∀ f ∈ fs, dropSafe env f = true := andL_iff rfl (fun _ _ => rfl) fs

theorem drop_setFlat (env : Env) (sep : Str) : ∀ s : Schema, dropSafe env s = true → wf s = true →
    ∀ ps ps' : Pairs, HNodup env sep s ps → DropE ps ps' →
      setFlat env sep s (blank s) ps = setFlat env sep s (blank s) ps' := by
  intro s
  induction s using schema_ind with
  | hleaf name o k =>
    intro hd _ ps ps' hn h
    simp only [dropSafe, beq_iff_eq] at hd
    simp only [HNodup] at hn
    simp only [setFlat, blank]
    rcases h.find (fun p => p.1 == name) hn with e | ⟨a, e1, e2⟩
    · rw [e]
    · rw [e1, e2]; simp [hd]
  | hjoined name o k m =>
    intro hd _ ps ps' hn h
    simp only [dropSafe, Bool.and_eq_true, beq_iff_eq, List.isEmpty_iff] at hd
    simp only [HNodup] at hn
    simp only [setFlat, blank]
    rcases h.find (fun p => p.1 == name) hn with e | ⟨a, e1, e2⟩
    · rw [e]
    · rw [e1, e2]; simp [hd.1, hd.2]
  | hdict name o mode fields ih =>
    intro hd hw ps ps' hn h
    simp only [dropSafe, Bool.and_eq_true, decide_eq_true_eq, dropSafeL_iff] at hd
    obtain ⟨rfl, hdl⟩ := hd
    obtain ⟨hnd, hsome, hwf⟩ := wf_dict hw
    simp only [HNodup, hnodupFields_iff] at hn
    rw [setFlat_dense_blank, setFlat_dense_blank,
      setFields_blank_congr env sep fields hnd hsome _ (lookup_blankFields fields hnd hsome) fun f hf =>
        ih f hf (hdl f hf) (hwf f hf) _ _ (hn f hf) (dropE_wrap ((dropE_possibles sep name h).filter _))]
  | hcompound _ _ _ _ _ => intro hd; simp [dropSafe] at hd
  | harray _ _ _ _ _ => intro hd; simp [dropSafe] at hd
  | hlist name o prune mx member _ =>
    intro hd _ ps ps' _ h
    simp only [dropSafe] at hd
    subst hd
    have hi : indexesOf env sep name true ps = indexesOf env sep name true ps' :=
      h.filterMap_eq _ (by intro a; simp)
    have hg : ∀ i, groupOf env sep name true i ps = groupOf env sep name true i ps' :=
      fun i => h.filterMap_eq _ (by intro a; simp)
    simp only [setFlat_list, hi, hg]

theorem drop_fields (env : Env) (sep : Str) : ∀ fs : List Schema, dropSafeL env fs = true → wfL fs = true →
    ∀ f ∈ fs, ∀ ps ps' : Pairs, HNodup env sep f ps → DropE ps ps' →
      setFlat env sep f (blank f) ps = setFlat env sep f (blank f) ps' :=
  fun fs hd hw f hf => drop_setFlat env sep f ((dropSafeL_iff env fs).mp hd f hf) (wf_of_mem hw f hf)

end Flatland.EndToEnd.Proofs
