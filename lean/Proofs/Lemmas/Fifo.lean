/-
First-in-first-out work-list loops, `loop (x :: q) = out x ++ loop (q ++ kids x)`: the breadth-first walks of the
models (`Flat.bfsFlat`, `C07Tree.bfs`, `C08.reach`, `C05.descend`; `C07Tree.codeLoop` and `C08.acLoop` with a `seen` set of
identities, `IsSeenLoop`) are instances.  Such a loop emits level by level (`IsLoop.level`), is the only solution of the level
equation (`IsLoop.eq_of_level`), and two loops related by a map on items and a map on outputs stay related (`IsLoop.sim`).
An instance supplies its two unfolding equations and the fact that makes it terminate (`Steps`).
-/
import Proofs.Lemmas.ListBasic
namespace Flatland.Fifo
open Flatland.Lists

universe u v
variable {α : Type u} {β : Type v}

structure IsLoop (out : α → List β) (kids : α → List α) (loop : List α → List β) : Prop where
  nil : loop [] = []
  cons : ∀ x q, loop (x :: q) = out x ++ loop (q ++ kids x)

def Levels (kids : α → List α) (m : List α → Nat) : Prop :=
  ∀ x q, m ((x :: q).flatMap kids) < m (x :: q)

section
variable {out : α → List β} {kids : α → List α} {loop : List α → List β}

theorem IsLoop.append (h : IsLoop out kids loop) (q r : List α) :
    loop (q ++ r) = q.flatMap out ++ loop (r ++ q.flatMap kids) := by
  induction q generalizing r with
  | nil => simp
  | cons x q ih =>
    simp only [List.cons_append, h.cons, List.flatMap_cons]
    rw [List.append_assoc, ih]
    simp [List.append_assoc]

theorem IsLoop.level (h : IsLoop out kids loop) (q : List α) :
    loop q = q.flatMap out ++ loop (q.flatMap kids) := by
  have := h.append q []
  simpa using this

theorem level_ind {m : List α → Nat} (hm : Levels kids m) {P : List α → Prop} (nil : P [])
    (level : ∀ x q, P ((x :: q).flatMap kids) → P (x :: q)) (q : List α) : P q := by
  induction h : m q using Nat.strongRecOn generalizing q with
  | _ n ih =>
    cases q with
    | nil => exact nil
    | cons x q => exact level x q (ih _ (by rw [← h]; exact hm x q) _ rfl)

/-- how a `levelOrder` written level by level is shown to be the queue loop -/
theorem IsLoop.eq_of_level (h : IsLoop out kids loop) {m : List α → Nat} (hm : Levels kids m)
    {F : List α → List β} (hnil : F [] = [])
    (hlev : ∀ x q, F (x :: q) = (x :: q).flatMap out ++ F ((x :: q).flatMap kids)) (q : List α) :
    loop q = F q := by
  induction q using level_ind hm with
  | nil => rw [h.nil, hnil]
  | level x q ih => rw [h.level, hlev, ih]

theorem IsLoop.sim {α' β' : Type} {out' : α' → List β'} {kids' : α' → List α'} {loop' : List α' → List β'}
    (h : IsLoop out kids loop) (h' : IsLoop out' kids' loop') {m : List α → Nat} (hm : Levels kids m)
    (f : α → α') (g : β → β') (I : α → Prop)
    (hout : ∀ a, I a → out' (f a) = (out a).map g)
    (hkids : ∀ a, I a → kids' (f a) = (kids a).map f)
    (hI : ∀ a, I a → ∀ c ∈ kids a, I c) (q : List α) (hq : ∀ a ∈ q, I a) :
    loop' (q.map f) = (loop q).map g := by
  induction q using level_ind hm with
  | nil => simp [h.nil, h'.nil]
  | level x q ih =>
    have hq' : ∀ c ∈ (x :: q).flatMap kids, I c := by
      intro c hc
      obtain ⟨a, ha, hca⟩ := List.mem_flatMap.mp hc
      exact hI a (hq a ha) c hca
    have e1 : ((x :: q).map f).flatMap out' = ((x :: q).flatMap out).map g := by
      rw [List.flatMap_map, List.map_flatMap]
      exact flatMap_congr' _ _ _ (fun a ha => hout a (hq a ha))
    have e2 : ((x :: q).map f).flatMap kids' = ((x :: q).flatMap kids).map f := by
      rw [List.flatMap_map, List.map_flatMap]
      exact flatMap_congr' _ _ _ (fun a ha => hkids a (hq a ha))
    rw [h'.level, h.level (x :: q), e1, e2, ih hq', List.map_append]

end

def Steps (kids : α → List α) (m : List α → Nat) : Prop :=
  ∀ x q, m (q ++ kids x) < m (x :: q)

theorem Steps.front {kids : α → List α} {m : List α → Nat} (hm : Steps kids m) :
    ∀ q r : List α, m (r ++ q.flatMap kids) + q.length ≤ m (q ++ r)
  | [], r => by simp
  | x :: q, r => by
    have h1 := hm x (q ++ r)
    have h2 := Steps.front hm q (r ++ kids x)
    simp only [List.append_assoc] at h1 h2
    simp only [List.flatMap_cons, List.cons_append, List.length_cons]
    omega

theorem Steps.levels {kids : α → List α} {m : List α → Nat} (hm : Steps kids m) : Levels kids m := by
  intro x q
  have := hm.front (x :: q) []
  simp only [List.nil_append, List.append_nil, List.length_cons] at this
  omega

theorem step_ind {kids : α → List α} {m : List α → Nat} (hm : Steps kids m) {P : List α → Prop} (nil : P [])
    (step : ∀ x q, P (q ++ kids x) → P (x :: q)) (q : List α) : P q := by
  induction h : m q using Nat.strongRecOn generalizing q with
  | _ n ih =>
    cases q with
    | nil => exact nil
    | cons x q => exact step x q (ih _ (by rw [← h]; exact hm x q) _ rfl)

section
variable {kids : α → List α} {F : List α → List β} {own : α → List β}

theorem level_append_perm {m : List α → Nat} (hm : Levels kids m) (hnil : F [] = [])
    (hlevel : ∀ q, F q = q.flatMap own ++ F (q.flatMap kids)) (a b : List α) :
    (F (a ++ b)).Perm (F a ++ F b) := by
  generalize hq : a ++ b = q
  induction q using level_ind hm generalizing a b with
  | nil =>
    obtain ⟨rfl, rfl⟩ := List.append_eq_nil_iff.mp hq
    simp [hnil]
  | level it q ih =>
    have := ih (a.flatMap kids) (b.flatMap kids) (by rw [← hq, List.flatMap_append])
    rw [← hq, List.flatMap_append] at this
    rw [← hq, hlevel (a ++ b), hlevel a, hlevel b]
    simp only [List.flatMap_append]
    refine List.Perm.trans (List.Perm.append_left _ this) ?_
    simp only [List.append_assoc]
    apply List.Perm.append_left
    rw [← List.append_assoc, ← List.append_assoc]
    apply List.Perm.append_right
    exact List.perm_append_comm

theorem level_perm_flatMap {m : List α → Nat} (hm : Levels kids m) (hnil : F [] = [])
    (hlevel : ∀ q, F q = q.flatMap own ++ F (q.flatMap kids)) (q : List α) :
    (F q).Perm (q.flatMap (fun it => F [it])) := by
  induction q with
  | nil => simp [hnil]
  | cons it q ih =>
    refine (level_append_perm hm hnil hlevel [it] q).trans ?_
    rw [List.flatMap_cons]
    exact List.Perm.append_left _ ih
end

structure IsSeenLoop (id : α → Nat) (out : α → List β) (kids : α → List α)
    (sloop : List Nat → List α → List β) : Prop where
  nil : ∀ seen, sloop seen [] = []
  cons : ∀ seen x q, sloop seen (x :: q) =
    if seen.contains (id x) then sloop seen q else out x ++ sloop (id x :: seen) (q ++ kids x)

/-- the `seen` test never fires when the plain walk meets every identity once and none of the
    `seen` ones: the loop with `seen` is the plain loop -/
theorem IsSeenLoop.eq_loop {id : α → Nat} {out : α → List β} {kids : α → List α}
    {sloop : List Nat → List α → List β} {loop : List α → List β} {walk : List α → List α}
    (hs : IsSeenLoop id out kids sloop) (h : IsLoop out kids loop)
    (hw : IsLoop (fun x => [x]) kids walk) {m : List α → Nat} (hm : Steps kids m) (q : List α) :
    ∀ seen : List Nat, (∀ x ∈ walk q, id x ∉ seen) → ((walk q).map id).Nodup →
      sloop seen q = loop q := by
  induction q using step_ind hm with
  | nil => intro seen _ _; rw [hs.nil, h.nil]
  | step e q ih =>
    intro seen hseen hn
    rw [hw.cons] at hseen hn
    rw [hs.cons, h.cons]
    have he : seen.contains (id e) = false := by
      have := hseen e (by simp)
      simpa using this
    simp only [he, Bool.false_eq_true, if_false]
    congr 1
    simp only [List.singleton_append, List.map_cons, List.nodup_cons, List.mem_map, not_exists,
      not_and] at hn
    refine ih _ ?_ hn.2
    intro x hx hmem
    rcases List.mem_cons.mp hmem with h1 | h1
    · exact hn.1 x hx h1
    · exact hseen x (by simp [hx]) h1

end Flatland.Fifo
