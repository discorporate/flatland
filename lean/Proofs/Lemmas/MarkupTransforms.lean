/-
What one transform can do to the state of a tag call: it consumes its option, then writes text under
names it generates and deletes names (`Edits`), sets the contents (value) or the counter (tabindex).
One characterisation `transformX_ok` per transform, stated with `Ok x Q` (every result of `x`
satisfies `Q`), and the transforms in sequence: `Consumes`, closed under `>>=`.
-/
import Proofs.Lemmas.MarkupDict
import Proofs.Lemmas.ExceptBasic
import Flatland.Markup.Generator
import Flatland.C12.Form
namespace Flatland.Markup
open Flatland.C11 (markupEscape transformKeys orderPairs)

theorem bind_eq_ok {ε α β : Type} {x : Except ε α} {f : α → Except ε β} {b : β} :
    x >>= f = .ok b ↔ ∃ a, x = .ok a ∧ f a = .ok b :=
  Ex.bind_eq_ok_iff

theorem pure_eq_ok {α : Type} {a b : α} : (pure a : Except PyErr α) = .ok b ↔ a = b :=
  ⟨fun h => by cases h; rfl, fun h => by rw [h]; rfl⟩

/-- every result of `x` satisfies `Q`; nothing is said when `x` raises: `Ex.Ok` at the generator's error type -/
abbrev Ok {α : Type} (x : Except PyErr α) (Q : α → Prop) : Prop := Ex.Ok x Q

namespace Ok
variable {α β : Type} {Q : α → Prop}

theorem pure_iff {a : α} : Ok (pure a) Q ↔ Q a := Ex.Ok.pure_iff

theorem throw (e : PyErr) : Ok (throw e : Except PyErr α) Q := Ex.Ok.throw e

theorem bind_iff {x : Except PyErr β} {f : β → Except PyErr α} : Ok (x >>= f) Q ↔ Ok x fun b => Ok (f b) Q :=
  Ex.Ok.bind_iff

theorem ite_iff {c : Prop} [Decidable c] {x y : Except PyErr α} :
    Ok (if c then x else y) Q ↔ (c → Ok x Q) ∧ (¬c → Ok y Q) := Ex.Ok.ite_iff

theorem of_forall {x : Except PyErr α} (h : ∀ a, Q a) : Ok x Q := Ex.Ok.of_forall h

theorem true (x : Except PyErr α) : Ok x fun _ => True := Ex.Ok.true x

end Ok

/-- `b` comes from `a` by writing text values under names in `ws` and deleting names in `es` -/
inductive Edits (ws es : List Str) : Attrs → Attrs → Prop
  | refl (a : Attrs) : Edits ws es a a
  | set {a b : Attrs} (k s : Str) (hk : k ∈ ws) : Edits ws es a b → Edits ws es a (Dict.set b k (.text s))
  | erase {a b : Attrs} (k : Str) (hk : k ∈ es) : Edits ws es a b → Edits ws es a (Dict.erase b k)

namespace Edits
variable {ws es : List Str} {a b : Attrs}

theorem toggle (k : Str) (on : Bool) (hw : k ∈ ws) (he : k ∈ es) (h : Edits ws es a b) :
    Edits ws es a (toggleAttr b k on) := by
  unfold toggleAttr; split
  · exact .set k k hw h
  · exact .erase k he h

theorem get? (h : Edits ws es a b) {k : Str} (hw : k ∉ ws) (he : k ∉ es) : Dict.get? b k = Dict.get? a k := by
  induction h with
  | refl => rfl
  | set k' s hk _ ih => rw [Dict.get?_set_other _ _ _ _ (fun e => hw (by rw [e]; exact hk)), ih]
  | erase k' hk _ ih => rw [Dict.get?_erase_other _ _ _ (fun e => he (by rw [e]; exact hk)), ih]

theorem get?_erase {a : Attrs} {key k : Str} (h : Edits ws es (Dict.erase a key) b) (hk : k ≠ key) (hw : k ∉ ws)
    (he : k ∉ es) : Dict.get? b k = Dict.get? a k := by
  rw [h.get? hw he, Dict.get?_erase_other _ _ _ hk]

theorem nodup (h : Edits ws es a b) (hn : (Dict.keys a).Nodup) : (Dict.keys b).Nodup := by
  induction h with
  | refl => exact hn
  | set k s _ _ ih => exact Dict.nodup_set _ k _ ih
  | erase k _ _ ih => exact Dict.nodup_erase _ k ih

theorem mono {ws' es' : List Str} (hw : ws ⊆ ws') (he : es ⊆ es') (h : Edits ws es a b) : Edits ws' es' a b := by
  induction h with
  | refl => exact .refl _
  | set k s hk _ ih => exact .set k s (hw hk) ih
  | erase k hk _ ih => exact .erase k (he hk) ih

theorem trans {c : Attrs} (h1 : Edits ws es a b) (h2 : Edits ws es b c) : Edits ws es a c := by
  induction h2 with
  | refl => exact h1
  | set k s hk _ ih => exact .set k s hk ih
  | erase k hk _ ih => exact .erase k hk ih

theorem none (h : Edits ws es a b) {k : Str} (hw : k ∉ ws) (hn : Dict.get? a k = none) : Dict.get? b k = none := by
  induction h with
  | refl => exact hn
  | set k' s hk _ ih => rw [Dict.get?_set_other _ _ _ _ (fun e : k = k' => hw (e ▸ hk))]; exact ih
  | erase k' _ _ ih => exact Dict.get?_erase_none _ k k' ih

theorem of_erase {key : Str} (h : Edits ws es (Dict.erase a key) b) : Edits ws (key :: es) a b :=
  (Edits.erase key (List.mem_cons_self ..) (.refl a)).trans (h.mono (fun _ h => h) (List.subset_cons_self ..))

end Edits

theorem get?_toggle_other (a : Attrs) {k k' : Str} (on : Bool) (h : k' ≠ k) :
    Dict.get? (toggleAttr a k on) k' = Dict.get? a k' := by
  unfold toggleAttr; split
  · exact Dict.get?_set_other _ _ _ _ h
  · exact Dict.get?_erase_other _ _ _ h

theorem get?_toggle_self {a : Attrs} (k : Str) (on : Bool) (hn : (Dict.keys a).Nodup) :
    Dict.get? (toggleAttr a k on) k = if on then some (.text k) else none := by
  unfold toggleAttr; split
  · exact Dict.get?_set_self ..
  · exact Dict.get?_erase_self _ _ hn

/-- the contents are what the author gave, or the escaped text of the bound element -/
def ContentsOK (T : Tables) (bnd : Option Bind) (c0 c : Option Val) : Prop :=
  c = c0 ∨ ∃ b, bnd = some b ∧ c = some (.markup (markupEscape T.textChain b.u))

theorem ContentsOK.refl (T : Tables) (bnd : Option Bind) (c : Option Val) : ContentsOK T bnd c c := Or.inl rfl

theorem ContentsOK.escaped (T : Tables) (b : Bind) (c : Option Val) :
    ContentsOK T (some b) c (some (.markup (markupEscape T.textChain b.u))) := Or.inr ⟨b, rfl, rfl⟩

theorem ContentsOK.trans {T : Tables} {bnd : Option Bind} {c0 c1 c2 : Option Val} (h1 : ContentsOK T bnd c0 c1)
    (h2 : ContentsOK T bnd c1 c2) : ContentsOK T bnd c0 c2 := by
  rcases h2 with rfl | h2
  · exact h1
  · exact Or.inr h2

/-- the tabindex transform either leaves the context alone or hands out the positive counter
    value `n` (as the `tabindex` attribute) and stores `n + 1` -/
def TabStep (c c' : Ctx) (attrs' : Attrs) : Prop :=
  c' = c ∨ ∃ n : Int, n > 0 ∧ c.getItem sTabindex = .ok (.int n) ∧
    c.setItem sTabindex (.int (n + 1)) = .ok c' ∧ Dict.get? attrs' sTabindex = some (.text (intRepr n))

theorem TabStep.refl (c : Ctx) (attrs : Attrs) : TabStep c c attrs := Or.inl rfl

variable {T : Tables} {tag : Str} {bnd : Option Bind} {st : TState}

theorem popToggle_ok (T : Tables) (key : Str) (attrs : Attrs) (ctx : Ctx) :
    Ok (popToggle T key attrs ctx) fun r => r.1 = Dict.erase attrs key := by
  unfold popToggle
  simp only
  split
  · refine Ok.bind_iff.mpr (Ok.of_forall fun _ => Ok.bind_iff.mpr (Ok.of_forall fun v1 => ?_))
    repeat' split
    all_goals first | exact Ok.pure_iff.mpr rfl | exact Ok.throw _
  · refine Ok.bind_iff.mpr (Ok.of_forall fun v1 => ?_)
    repeat' split
    all_goals first | exact Ok.pure_iff.mpr rfl | exact Ok.throw _

theorem Ok.popToggle {α : Type} {Q : α → Prop} {key : Str} {f : Attrs × Bool × Bool → Except PyErr α}
    (h : ∀ p forced, Ok (f (Dict.erase st.attrs key, p, forced)) Q) :
    Ok (popToggle T key st.attrs st.ctx >>= f) Q := by
  refine Ok.bind_iff.mpr fun r hr => ?_
  obtain ⟨a, p, forced⟩ := r
  cases popToggle_ok T key st.attrs st.ctx _ hr
  exact h p forced

theorem transformName_ok (T : Tables) (tag : Str) (bnd : Option Bind) (st : TState) :
    Ok (transformName T tag bnd st) fun st' =>
      Edits [sName] [] (Dict.erase st.attrs "auto_name".toList) st'.attrs ∧
      st'.contents = st.contents ∧ st'.ctx = st.ctx := by
  unfold transformName
  refine Ok.popToggle fun p forced => ?_
  cases bnd with
  | none => exact Ok.pure_iff.mpr ⟨.refl _, rfl, rfl⟩
  | some b =>
    simp only [Ok.ite_iff, Ok.pure_iff, Edits.refl, Edits.set, List.mem_cons, true_or, and_self, implies_true]

theorem transformValue_ok (T : Tables) (tag : Str) (bnd : Option Bind) (st : TState) :
    Ok (transformValue T tag bnd st) fun st' =>
      Edits [sValue, sChecked, sSelected] [sChecked, sSelected] (Dict.erase st.attrs "auto_value".toList) st'.attrs ∧
      ContentsOK T bnd st.contents st'.contents ∧ st'.ctx = st.ctx := by
  unfold transformValue
  refine Ok.popToggle fun p forced => ?_
  cases bnd with
  | none => exact Ok.pure_iff.mpr ⟨.refl _, .refl .., rfl⟩
  | some b =>
    simp only [Ok.ite_iff, Ok.pure_iff, Ok.bind_iff, Ok.true, Edits.refl, Edits.set, Edits.toggle, ContentsOK.refl,
      ContentsOK.escaped, List.mem_cons, true_or, or_true, and_self, implies_true, true_and, and_true]
    -- left: the checkbox/radio branch, where `value` may first be filled from a Boolean's `true`
    refine fun _ _ _ _ => Ok.of_forall fun on => .toggle _ on (by simp) (by simp) ?_
    split
    · split
      · exact .set _ _ (by simp) (.refl _)
      · exact .refl _
    · exact .refl _

theorem transformDomid_ok (T : Tables) (tag : Str) (bnd : Option Bind) (st : TState) :
    Ok (transformDomid T tag bnd st) fun st' =>
      Edits [sId] [] (Dict.erase st.attrs "auto_domid".toList) st'.attrs ∧
      st'.contents = st.contents ∧ st'.ctx = st.ctx := by
  unfold transformDomid
  refine Ok.popToggle fun p forced => ?_
  simp only [Ok.ite_iff, Ok.pure_iff, Ok.bind_iff, Edits.refl, and_self, implies_true, and_true, true_and]
  refine fun _ _ => Ok.of_forall fun raw => ?_
  cases raw <;>
    simp only [Ok.pure_iff, Ok.bind_iff, Ok.true, Edits.refl, Edits.set, List.mem_cons, true_or, and_self]

theorem transformFor_ok (T : Tables) (tag : Str) (bnd : Option Bind) (st : TState) :
    Ok (transformFor T tag bnd st) fun st' =>
      Edits [sFor] (if tag = sLabel then [sValue] else []) (Dict.erase st.attrs "auto_for".toList) st'.attrs ∧
      st'.contents = st.contents ∧ st'.ctx = st.ctx := by
  unfold transformFor
  refine Ok.popToggle fun p forced => ?_
  by_cases hl : tag = sLabel <;>
    simp only [hl, if_true, if_false, Ok.ite_iff, Ok.pure_iff, Ok.bind_iff, Edits.refl, Edits.erase, List.mem_cons,
      true_or, and_self, implies_true, and_true]
  all_goals
    refine fun _ _ => Ok.of_forall fun raw => ?_
    cases raw <;>
      simp only [Ok.pure_iff, Ok.bind_iff, Ok.true, Edits.refl, Edits.set, Edits.erase, List.mem_cons, true_or, and_self]

theorem transformTabindex_ok (T : Tables) (tag : Str) (bnd : Option Bind) (st : TState) :
    Ok (transformTabindex T tag bnd st) fun st' =>
      Edits [sTabindex] [] (Dict.erase st.attrs "auto_tabindex".toList) st'.attrs ∧
      st'.contents = st.contents ∧ TabStep st.ctx st'.ctx st'.attrs := by
  unfold transformTabindex
  refine Ok.popToggle fun p forced => ?_
  simp only [Ok.ite_iff, Ok.pure_iff, Ok.bind_iff, Edits.refl, TabStep.refl, and_self, implies_true, true_and]
  intro _ tv htv
  cases tv
  case int n =>
    simp only [Ok.ite_iff, Ok.pure_iff, Ok.bind_iff, Edits.refl, Edits.set, TabStep.refl, List.mem_cons, true_or,
      and_self, implies_true, true_and, and_true]
    exact fun _ _ hpos c' hc' => .inr ⟨n, hpos, htv, hc', Dict.get?_set_self ..⟩
  all_goals exact Ok.throw _

theorem transformFilters_ok (T : Tables) (tag : Str) (bnd : Option Bind) (st : TState) :
    Ok (transformFilters T tag bnd st) fun st' =>
      st'.attrs = Dict.erase st.attrs "auto_filter".toList ∧ st'.contents = st.contents ∧ st'.ctx = st.ctx := by
  unfold transformFilters
  refine Ok.popToggle fun p forced => ?_
  simp only [Ok.pure_iff, Ok.bind_iff, and_self, Ok.true]

/-- `f` consumes the options `ks` (they are deleted and, the keys being distinct, gone afterwards); apart from
    that it writes text under names in `ws`, deletes names in `es`, and leaves the contents alone or sets them
    to the escaped text -/
def Consumes (T : Tables) (bnd : Option Bind) (f : TState → Except PyErr TState) (ks ws es : List Str) : Prop :=
  ∀ st, Ok (f st) fun st' => Edits ws (ks ++ es) st.attrs st'.attrs ∧
    ((Dict.keys st.attrs).Nodup → ∀ k ∈ ks, Dict.get? st'.attrs k = none) ∧ ContentsOK T bnd st.contents st'.contents

namespace Consumes
variable {f g : TState → Except PyErr TState} {ks ws es ks' ws' es' : List Str} {st st' : TState}

theorem of_ok {key : Str} (hk : key ∉ ws)
    (h : ∀ st, Ok (f st) fun st' => Edits ws es (Dict.erase st.attrs key) st'.attrs ∧ ContentsOK T bnd st.contents st'.contents) :
    Consumes T bnd f [key] ws es := fun st st' hst =>
  have ⟨a, c⟩ := h st st' hst
  ⟨a.of_erase, fun hn _ hm => List.mem_singleton.mp hm ▸ a.none hk (Dict.get?_erase_self _ _ hn), c⟩

theorem seq (hf : Consumes T bnd f ks ws es) (hg : Consumes T bnd g ks' ws' es') (hd : ∀ k ∈ ks, k ∉ ws') :
    Consumes T bnd (fun st => f st >>= g) (ks ++ ks') (ws ++ ws') (es ++ es') := by
  intro st
  refine Ok.bind_iff.mpr fun s1 h1 s2 h2 => ?_
  obtain ⟨a1, g1, c1⟩ := hf st s1 h1
  obtain ⟨a2, g2, c2⟩ := hg s1 s2 h2
  refine ⟨(a1.mono (List.subset_append_left ..) fun k hk => ?_).trans (a2.mono (List.subset_append_right ..) fun k hk => ?_),
    fun hn k hk => ?_, c1.trans c2⟩
  · simp only [List.mem_append] at hk ⊢; exact hk.imp .inl .inl
  · simp only [List.mem_append] at hk ⊢; exact hk.imp .inr .inr
  · rcases List.mem_append.mp hk with hk | hk
    · exact a2.none (hd k hk) (g1 hn k hk)
    · exact g2 (a1.nodup hn) k hk

theorem get? (hf : Consumes T bnd f ks ws es) (h : f st = .ok st') {k : Str} (h1 : k ∉ ks) (h2 : k ∉ ws) (h3 : k ∉ es) :
    Dict.get? st'.attrs k = Dict.get? st.attrs k :=
  (hf st st' h).1.get? h2 fun hm => (List.mem_append.mp hm).elim h1 h3

theorem nodup (hf : Consumes T bnd f ks ws es) (h : f st = .ok st') (hn : (Dict.keys st.attrs).Nodup) :
    (Dict.keys st'.attrs).Nodup :=
  (hf st st' h).1.nodup hn

theorem gone (hf : Consumes T bnd f ks ws es) (h : f st = .ok st') (hn : (Dict.keys st.attrs).Nodup) :
    ∀ k ∈ ks, Dict.get? st'.attrs k = none :=
  (hf st st' h).2.1 hn

end Consumes

variable (T tag bnd)

theorem name_consumes : Consumes T bnd (transformName T tag bnd) ["auto_name".toList] [sName] [] :=
  .of_ok (by decide +kernel) fun st st' h => ⟨(transformName_ok T tag bnd st st' h).1, .inl (transformName_ok T tag bnd st st' h).2.1⟩

theorem value_consumes :
    Consumes T bnd (transformValue T tag bnd) ["auto_value".toList] [sValue, sChecked, sSelected] [sChecked, sSelected] :=
  .of_ok (by decide +kernel) fun st st' h => ⟨(transformValue_ok T tag bnd st st' h).1, (transformValue_ok T tag bnd st st' h).2.1⟩

theorem domid_consumes : Consumes T bnd (transformDomid T tag bnd) ["auto_domid".toList] [sId] [] :=
  .of_ok (by decide +kernel) fun st st' h => ⟨(transformDomid_ok T tag bnd st st' h).1, .inl (transformDomid_ok T tag bnd st st' h).2.1⟩

theorem for_consumes :
    Consumes T bnd (transformFor T tag bnd) ["auto_for".toList] [sFor] (if tag = sLabel then [sValue] else []) :=
  .of_ok (by decide +kernel) fun st st' h => ⟨(transformFor_ok T tag bnd st st' h).1, .inl (transformFor_ok T tag bnd st st' h).2.1⟩

theorem tabindex_consumes : Consumes T bnd (transformTabindex T tag bnd) ["auto_tabindex".toList] [sTabindex] [] :=
  .of_ok (by decide +kernel) fun st st' h =>
    ⟨(transformTabindex_ok T tag bnd st st' h).1, .inl (transformTabindex_ok T tag bnd st st' h).2.1⟩

theorem filters_consumes : Consumes T bnd (transformFilters T tag bnd) ["auto_filter".toList] [] [] :=
  .of_ok List.not_mem_nil fun st st' h =>
    ⟨(transformFilters_ok T tag bnd st st' h).1 ▸ .refl _, .inl (transformFilters_ok T tag bnd st st' h).2.1⟩

/-- the four transforms after name and value: none of them touches what a browser reads from a control -/
def transformLater (T : Tables) (tag : Str) (bnd : Option Bind) (st : TState) : Except PyErr TState := do
  let st ← transformDomid T tag bnd st
  let st ← transformFor T tag bnd st
  let st ← transformTabindex T tag bnd st
  transformFilters T tag bnd st

theorem later_consumes : Consumes T bnd (transformLater T tag bnd)
    ["auto_domid".toList, "auto_for".toList, "auto_tabindex".toList, "auto_filter".toList]
    [sId, sFor, sTabindex] (if tag = sLabel then [sValue] else []) := by
  have h := (domid_consumes T tag bnd).seq (((for_consumes T tag bnd).seq
    ((tabindex_consumes T tag bnd).seq (filters_consumes T tag bnd) (by decide +kernel))) (by decide +kernel))
    (by decide +kernel)
  simp only [List.append_nil, List.nil_append, List.cons_append] at h
  exact h

theorem prefix_consumes : Consumes T bnd (transformPrefix T tag bnd)
    ["auto_name".toList, "auto_value".toList, "auto_domid".toList, "auto_for".toList, "auto_tabindex".toList]
    [sName, sValue, sChecked, sSelected, sId, sFor, sTabindex]
    (sChecked :: sSelected :: if tag = sLabel then [sValue] else []) := by
  have h := (name_consumes T tag bnd).seq ((value_consumes T tag bnd).seq ((domid_consumes T tag bnd).seq
    ((for_consumes T tag bnd).seq (tabindex_consumes T tag bnd) (by decide +kernel)) (by decide +kernel))
    (by decide +kernel)) (by decide +kernel)
  simp only [List.append_nil, List.nil_append, List.cons_append] at h
  exact h

theorem transform_eq_prefix (T : Tables) (tag : Str) (bnd : Option Bind) (st : TState) :
    transform T tag bnd st = (transformPrefix T tag bnd st).bind (transformFilters T tag bnd) := by
  show _ = transformPrefix T tag bnd st >>= transformFilters T tag bnd
  simp only [transform, transformPrefix, bind_assoc]

theorem transform_consumes : Consumes T bnd (transform T tag bnd)
    ["auto_name".toList, "auto_value".toList, "auto_domid".toList, "auto_for".toList, "auto_tabindex".toList,
      "auto_filter".toList]
    [sName, sValue, sChecked, sSelected, sId, sFor, sTabindex]
    (sChecked :: sSelected :: if tag = sLabel then [sValue] else []) := by
  have h := (prefix_consumes T tag bnd).seq (filters_consumes T tag bnd) (by decide +kernel)
  simp only [List.append_nil, List.nil_append, List.cons_append] at h
  exact fun st => transform_eq_prefix T tag bnd st ▸ h st

variable {T tag bnd}

theorem transform_later {st6 : TState} (h : transform T tag bnd st = .ok st6) :
    ∃ s1 s2, transformName T tag bnd st = .ok s1 ∧ transformValue T tag bnd s1 = .ok s2 ∧
      transformLater T tag bnd s2 = .ok st6 := by
  have e : transform T tag bnd st =
      transformName T tag bnd st >>= fun s1 => transformValue T tag bnd s1 >>= transformLater T tag bnd := rfl
  simp only [e, bind_eq_ok] at h
  obtain ⟨s1, h1, s2, h2, h6⟩ := h
  exact ⟨s1, s2, h1, h2, h6⟩

theorem later_contents {s2 s6 : TState} (h : transformLater T tag bnd s2 = .ok s6) : s6.contents = s2.contents := by
  simp only [transformLater, bind_eq_ok] at h
  obtain ⟨s3, h3, s4, h4, s5, h5, h6⟩ := h
  rw [(transformFilters_ok _ _ _ _ _ h6).2.1, (transformTabindex_ok _ _ _ _ _ h5).2.1, (transformFor_ok _ _ _ _ _ h4).2.1,
    (transformDomid_ok _ _ _ _ _ h3).2.1]

theorem transform_prefix {st6 : TState} (h : transform T tag bnd st = .ok st6) :
    ∃ st5, transformPrefix T tag bnd st = .ok st5 ∧ transformFilters T tag bnd st5 = .ok st6 := by
  rw [transform_eq_prefix] at h
  exact bind_eq_ok.mp h

theorem transformKeys_eq (kw : List (Str × Val)) :
    transformKeys kw = (kw.map fun kv => (rstripUnderscore kv.1, kv.2)).foldl (fun d p => Assoc.set d p.1 p.2) [] := by
  unfold transformKeys
  rw [List.foldl_map]
  exact congrArg (fun f => List.foldl f [] kw) (funext fun d => funext fun kv => Dict.set_eq ..)

/-- `ordered_attributes` as `Tag._open` reads it (truthiness) -/
def orderedOf (ctx : Ctx) : Except PyErr Bool :=
  ctx.getItem "ordered_attributes".toList >>= fun
    | .bool b => pure b
    | .int n => pure (n != 0)
    | .text s => pure (!s.isEmpty)
    | .markup s => pure (!s.isEmpty)
    | _ => throw .notImplementedError

theorem prepareTag_eq (T : Tables) (order : List Str) (g : Gen) (tag : Str) (bnd : Option Bind) (kw : List (Str × Val)) :
    prepareTag T order g tag bnd kw =
      transform T tag bnd ⟨transformKeys (Dict.erase kw "contents".toList), Dict.get? kw "contents".toList, g.ctx⟩ >>= fun st =>
      Flatland.C12.bodyOf st.contents >>= fun body => orderedOf st.ctx >>= fun o =>
      pure ⟨orderPairs order o st.attrs, body, st.ctx⟩ := by
  unfold prepareTag
  refine bind_congr fun st => ?_
  -- the do-block carries its continuation into each branch of the two `match`es: walk them once, here
  unfold Flatland.C12.bodyOf orderedOf
  rcases st.contents with _ | (s | s | b | _)
  case some.bool => cases b <;> first | rfl | (simp only [pure_bind, bind_assoc]; exact bind_congr fun v => by cases v <;> rfl)
  case some.maybe => rfl
  all_goals simp only [pure_bind, bind_assoc]; exact bind_congr fun v => by cases v <;> rfl

theorem prepareTag_steps {order : List Str} {g : Gen} {kwargs : List (Str × Val)} {r : TagResult}
    (hp : prepareTag T order g tag bnd kwargs = .ok r) :
    ∃ st6 o, transform T tag bnd ⟨transformKeys (Dict.erase kwargs "contents".toList),
          Dict.get? kwargs "contents".toList, g.ctx⟩ = .ok st6 ∧
      r.pairs = orderPairs order o st6.attrs ∧ Flatland.C12.bodyOf st6.contents = .ok r.contents ∧ r.ctx = st6.ctx := by
  rw [prepareTag_eq] at hp
  obtain ⟨st6, ht, hp⟩ := bind_eq_ok.mp hp
  obtain ⟨body, hb, hp⟩ := bind_eq_ok.mp hp
  obtain ⟨o, _, hp⟩ := bind_eq_ok.mp hp
  cases hp
  exact ⟨st6, o, ht, rfl, hb, rfl⟩

end Flatland.Markup
