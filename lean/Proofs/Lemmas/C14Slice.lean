/-
Facts about `pySlice` used by the compilation of bracket steps:
`[-n]` (compiled to `slice(-n, -n+1)` / `slice(-1, None)`) selects exactly the child Python's
`children[-n]` would, or nothing; the start `0` and the stride `1` that `_parse_slice` substitutes for
omitted ones do not change the selection.
-/
import Flatland.Path
import Flatland.Spec.C14
import Proofs.Lemmas.C14SliceSpec
namespace Flatland.C14.Proofs
open Flatland.Path Flatland.C14.Spec

theorem pySlice_unit (n : Nat) (a b : Option Int) (j : Int) (h0 : 0 ≤ j)
    (hst : (sliceIx n a b none).start = j) (hsp : (sliceIx n a b none).stop = j + 1) :
    pySlice n a b none = [j.toNat] := by
  rw [pySlice_interval, hst, hsp, show j + 1 = j + ((1 : Nat) : Int) from rfl, Int.toNat_add_nat h0 1,
    Nat.add_sub_cancel_left]
  rfl

theorem pySlice_empty (n : Nat) (a b : Option Int)
    (h : (sliceIx n a b none).stop ≤ (sliceIx n a b none).start) : pySlice n a b none = [] := by
  rw [pySlice_interval, Nat.sub_eq_zero_of_le (Int.toNat_le_toNat h)]
  rfl

open Flatland.PyList in
theorem adjustBound_clip (len d x : Int) (hl : 0 ≤ len) :
    adjustBound len 1 d (some x) = max 0 (min (if x < 0 then x + len else x) len) := by
  simp only [adjustBound_some, show ¬ (1 : Int) < 0 by decide, if_false]
  split
  · rw [Int.min_eq_left (by omega), Int.max_comm]
  · exact (Int.max_eq_right (Int.le_min.2 ⟨by omega, hl⟩)).symm

open Flatland.PyList in
/-- `l[i:i+1]`, or `l[-1:]`, holds `l[i]` if that exists and nothing otherwise -/
theorem pySlice_index (n : Nat) (i : Int) (b : Option Int) (hb : i = -1 → b = none)
    (hb' : i ≠ -1 → b = some (i + 1)) :
    pySlice n (some i) b none = (pyListIndex n i).toList := by
  have hn := Int.natCast_nonneg n
  have h1 : ¬ (1 : Int) < 0 := by decide
  unfold pyListIndex
  simp only
  -- both bounds are clipped to `0 … n`: the position `j` that `list.__getitem__` computes, and `j + 1`
  have hst : (sliceIx n (some i) b none).start = max 0 (min (if i < 0 then i + n else i) n) := by
    simp only [sliceIx, Option.getD_none, h1, if_false, adjustBound_clip _ _ _ hn]
  have hsp : (sliceIx n (some i) b none).stop = max 0 (min ((if i < 0 then i + n else i) + 1) n) := by
    simp only [sliceIx, Option.getD_none, h1, if_false]
    by_cases hi : i = -1
    · rw [hb hi, hi, adjustBound_none, if_pos (by decide), Int.add_right_comm,
        show (-1 : Int) + 1 = 0 from rfl, Int.zero_add, Int.min_self, Int.max_eq_right hn]
    · rw [hb' hi, adjustBound_clip _ _ _ hn]
      by_cases hneg : i < 0
      · rw [if_pos hneg, if_pos (by omega), Int.add_right_comm]
      · rw [if_neg hneg, if_neg (by omega)]
  generalize (if i < 0 then i + n else i) = j at hst hsp ⊢
  by_cases hv : 0 ≤ j ∧ j < n
  · rw [if_pos hv]
    refine pySlice_unit n _ _ j hv.1 ?_ ?_
    · rw [hst, Int.min_eq_left (Int.le_of_lt hv.2), Int.max_eq_right hv.1]
    · rw [hsp, Int.min_eq_left (Int.add_one_le_of_lt hv.2),
        Int.max_eq_right (Int.add_nonneg hv.1 (by decide))]
  · rw [if_neg hv]
    refine pySlice_empty n _ _ ?_
    rw [hst, hsp]
    by_cases h0 : j < 0
    · have h0' := Int.add_one_le_of_lt h0
      rw [Int.min_eq_left (Int.le_trans h0' hn), Int.max_eq_left h0']
      exact Int.le_max_left _ _
    · have hj : (n : Int) ≤ j := Int.not_lt.1 (fun h => hv ⟨Int.not_lt.1 h0, h⟩)
      rw [Int.min_eq_right (Int.le_trans hj (Int.le_add_of_nonneg_right (by decide))),
        Int.min_eq_right hj]
      exact Int.le_refl _

/-- the two arguments `_parse_slice` gives `slice()` for `[-k]` -/
def negA (k : Nat) : Option Int := some (-(k : Int))
def negB (k : Nat) : Option Int := if k = 1 then none else some (-(k : Int) + 1)

/-- `[-k]` selects what `children[-k]` is, or nothing (`[-0]` is `children[0]`) -/
theorem pySlice_negidx (n k : Nat) :
    pySlice n (negA k) (negB k) none = (pyListIndex n (-(k : Int))).toList :=
  pySlice_index n (-(k : Int)) (negB k) (fun h => if_pos (by omega)) (fun h => if_neg (by omega))

theorem pySlice_start_zero (n : Nat) (b : Option Int) :
    pySlice n (some 0) b none = pySlice n none b none := by
  unfold pySlice
  simp only [Option.getD_none, show (1 : Int) > 0 by decide, if_true, Int.lt_irrefl, if_false,
    Int.min_eq_left (Int.natCast_nonneg n)]

theorem pySlice_stride_one (n : Nat) (a b : Option Int) :
    pySlice n a b (some 1) = pySlice n a b none := rfl

end Flatland.C14.Proofs
