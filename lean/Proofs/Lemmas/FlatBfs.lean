/-
The queue loop of `flatten` (model `bfsFlat`) as a `Fifo` loop: level order, induction over the levels of the
queue, and the output as a permutation of the per-item outputs.
-/
import Flatland.Flat
import Proofs.Lemmas.Fifo
namespace Flatland.Flat

def ownPair (sep : Str) (it : QItem) : List (Str × Str) :=
  if it.2.fl then [(joinSep sep (namePath it.1 it.2), it.2.u)] else []

def pushed (it : QItem) : List QItem :=
  if it.2.cfl then childItems it.1 it.2 else []

/-- `element.flatten(sep)` for an element whose ancestors contribute the names `p` -/
def flattenAt (sep : Str) (p : List Str) (n : FNode) : List (Str × Str) :=
  ownPair sep (p, n) ++ bfsFlat sep (pushed (p, n))

theorem flattenNode_eq (sep : Str) (n : FNode) : flattenNode sep n = flattenAt sep [] n := by
  unfold flattenNode flattenAt ownPair pushed
  simp only
  congr 1
  split <;> simp [bfsFlat]

theorem kidsFrom_zipIdx (p : List Str) (s : Bool) (i : Nat) (ks : List FNode) :
    kidsFrom p s i ks = (ks.zipIdx i).map (fun kj => ((if s then p ++ [natStr kj.2] else p), kj.1)) := by
  induction ks generalizing i with
  | nil => rfl
  | cons k ks ih => simp [kidsFrom, ih, List.zipIdx_cons]

theorem kidsFrom_noslots (p : List Str) (i : Nat) (ks : List FNode) :
    kidsFrom p false i ks = ks.map (fun k => (p, k)) := by
  conv => rhs; rw [← List.zipIdx_map_fst i ks]
  rw [kidsFrom_zipIdx, List.map_map]
  rfl

theorem kidsFrom_append (p : List Str) (s : Bool) (i : Nat) (a b : List FNode) :
    kidsFrom p s i (a ++ b) = kidsFrom p s i a ++ kidsFrom p s (i + a.length) b := by
  simp only [kidsFrom_zipIdx, List.zipIdx_append, List.map_append]

theorem bfsFlat_nil (sep : Str) : bfsFlat sep [] = [] := by rw [bfsFlat]

theorem bfsFlat_cons (sep : Str) (it : QItem) (q : List QItem) :
    bfsFlat sep (it :: q) = ownPair sep it ++ bfsFlat sep (q ++ pushed it) := by
  obtain ⟨p, n⟩ := it
  rw [bfsFlat]; rfl

theorem flattenNode_eq_bfsFlat (sep : Str) (n : FNode) : flattenNode sep n = bfsFlat sep [([], n)] := by
  rw [flattenNode_eq, bfsFlat_cons]; rfl

theorem qsize_pushed_lt (it : QItem) : qsize (pushed it) < qsize [it] := by
  obtain ⟨p, n⟩ := it
  obtain ⟨name, fl, cfl, u, slots, kids⟩ := n
  simp only [pushed, qsize, FNode.size]
  split
  · simp [childItems, qsize_kidsFrom, FNode.kids]
  · simp [qsize]; omega

theorem qsize_cons (it : QItem) (q : List QItem) : qsize (it :: q) = qsize [it] + qsize q := by
  obtain ⟨p, n⟩ := it; simp [qsize]

theorem qsize_flatMap_pushed (q : List QItem) :
    qsize (q.flatMap pushed) + q.length ≤ qsize q := by
  induction q with
  | nil => simp [qsize]
  | cons it q ih =>
    have h := qsize_pushed_lt it
    simp only [List.flatMap_cons, qsize_append, List.length_cons]
    rw [qsize_cons it q]
    omega

theorem bfsFlat_isLoop (sep : Str) : Fifo.IsLoop (ownPair sep) pushed (bfsFlat sep) :=
  ⟨bfsFlat_nil sep, bfsFlat_cons sep⟩

theorem qsize_levels : Fifo.Levels pushed qsize := fun it q => by
  have := qsize_flatMap_pushed (it :: q)
  simp only [List.length_cons] at this
  omega

theorem level_ind {P : List QItem → Prop} (nil : P [])
    (level : ∀ it q, P ((it :: q).flatMap pushed) → P (it :: q)) (q : List QItem) : P q :=
  Fifo.level_ind qsize_levels nil level q

theorem bfsFlat_append (sep : Str) (q r : List QItem) :
    bfsFlat sep (q ++ r) = q.flatMap (ownPair sep) ++ bfsFlat sep (r ++ q.flatMap pushed) :=
  (bfsFlat_isLoop sep).append q r

theorem bfsFlat_level (sep : Str) (q : List QItem) :
    bfsFlat sep q = q.flatMap (ownPair sep) ++ bfsFlat sep (q.flatMap pushed) :=
  (bfsFlat_isLoop sep).level q

theorem level_append_perm {β} {F : List QItem → List β} {own : QItem → List β} (hnil : F [] = [])
    (hlevel : ∀ q, F q = q.flatMap own ++ F (q.flatMap pushed)) (a b : List QItem) :
    (F (a ++ b)).Perm (F a ++ F b) :=
  Fifo.level_append_perm qsize_levels hnil hlevel a b

theorem level_perm_flatMap {β} {F : List QItem → List β} {own : QItem → List β} (hnil : F [] = [])
    (hlevel : ∀ q, F q = q.flatMap own ++ F (q.flatMap pushed)) (q : List QItem) :
    (F q).Perm (q.flatMap (fun it => F [it])) :=
  Fifo.level_perm_flatMap qsize_levels hnil hlevel q

theorem bfsFlat_single (sep : Str) (it : QItem) :
    bfsFlat sep [it] = flattenAt sep it.1 it.2 := by
  rw [bfsFlat_cons]; rfl

theorem bfsFlat_perm_flatMap (sep : Str) (q : List QItem) :
    (bfsFlat sep q).Perm (q.flatMap (fun it => flattenAt sep it.1 it.2)) := by
  simp only [← bfsFlat_single]
  exact level_perm_flatMap (bfsFlat_nil sep) (bfsFlat_level sep) q

end Flatland.Flat
