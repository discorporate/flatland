/-
C01 with SparseDicts: mappings whose members are any subset of the declared fields in any order (Dict, Compound,
SparseDict in both `minimum_fields` settings — one proof for all).  One declared field (`own_field`,
`field_roundtripS`), then the `for schema in self.field_schema` loop in closed form (`setFields_closed`).
-/
import Flatland.Spec.C01Sparse
import Proofs.Lemmas.C01PDict
namespace Flatland.Flat.Proofs
open Flatland.Flat Flatland.Flat.Spec

variable {env : Env} {sep : Str} {T : Str → Prop}

/- `confined_filter` (Proofs/C02Confined) is false of SparseDicts (KF-C02-b); the round trip needs only the element's
   own first test `reach` and `reach_filter` (both Proofs/C02Confined, every schema and state).  Under `SepSafe` a key
   whose first token is a sibling's name fails that test (`reach_other_head`). -/

theorem reach_compound (env : Env) (sep : Str) (nm : Option Str) (o : Bool) (k : Nat) (fs : List Schema)
    (key : Key) : reach env sep (.compound nm o k fs) key = reach env sep (.dict nm o .dense fs) key := by
  simp only [reach]

theorem reach_other_head (hs : SepSafe env sep T) (f : Schema) (x : Str) (hfn : f.name = some x)
    (hx : T x) (t : Str) (ht : T t) (hne : t ≠ x) (rest : List Str) :
    reach env sep f (some (joinSep sep (t :: rest))) = false := by
  have hxne := hs.tok_ne x hx
  have hnoeq : joinSep sep (t :: rest) ≠ x := fun he => hne (joinSep_eq_tok hs hx rest he).2
  have hnopre : isPrefix (x ++ sep) (joinSep sep (t :: rest)) = false :=
    Bool.eq_false_iff.mpr fun hp => hne (prefix_tok_sep hs hx ht rest hp).1.symm
  cases f with
  | leaf n o k => simp only [Schema.name] at hfn; subst hfn; simpa [reach] using hnoeq
  | joined n o k m => simp only [Schema.name] at hfn; subst hfn; simpa [reach] using hnoeq
  | dict n o mode fields => simp only [Schema.name] at hfn; subst hfn; simp [reach, stripName, hnopre]
  | compound n o k fields => simp only [Schema.name] at hfn; subst hfn; simp [reach, stripName, hnopre]
  | list n o prune mx member =>
    simp only [Schema.name] at hfn; subst hfn
    simp [reach, listAddr, truthy_some hxne, hnopre]
  | array n o prune member =>
    simp only [Schema.name] at hfn; subst hfn
    simp only [reach, truthy_some hxne, Bool.not_true, Bool.false_eq_true, if_false, Option.getD_some,
      arrayAddrNamed]
    unfold arrayRemainder
    by_cases hp : isPrefix x (joinSep sep (t :: rest)) = true
    · simp only [hp, if_true]
      obtain ⟨r, hr⟩ := (isPrefix_iff _ _).mp hp
      rw [hr, List.drop_left]
      by_cases hps : isPrefix sep r = true
      · exfalso
        obtain ⟨r2, hr2⟩ := (isPrefix_iff _ _).mp hps
        have : isPrefix (x ++ sep) (joinSep sep (t :: rest)) = true := by
          rw [hr, hr2, ← List.append_assoc]; exact isPrefix_append _ _
        rw [hnopre] at this; cases this
      · simp only [hps, Bool.false_eq_true, if_false]
        by_cases hre : r.isEmpty = true
        · exfalso
          have : r = [] := by simpa using hre
          rw [this, List.append_nil] at hr
          exact hnoeq hr
        · simp [hre]
    · simp [hp]

/-- the general round-trip statement for one schema, SparseDicts included -/
def RTS (env : Env) (sep : Str) (s : Schema) : Prop :=
  ∀ (u : Bool) (e : Elem), OkS env s e →
    setFlat env sep s (blank s) (toKeys sep ((relFlat (resolve env s e)).filter (keepP u)))
      = prS env sep u s e

/-- members resolved in insertion order, each against the field its key names -/
def kidsS (env : Env) (fields : List Schema) : List (Str × Elem) → List FNode
  | [] => []
  | (k, e) :: ms =>
    (match (findField k fields).map (fun f => resolve env f e) with
      | some n => [n]
      | none => []) ++ kidsS env fields ms

theorem resolveMembers_kidsS (env : Env) (fields : List Schema) (any ms : List (Str × Elem)) :
    resolveMembers env fields any ms = kidsS env fields ms := by
  induction ms with
  | nil => simp [resolveMembers, kidsS]
  | cons m ms ih =>
    obtain ⟨k, e⟩ := m
    simp only [resolveMembers, kidsS, resolveOne_eq, ih]
    cases findField k fields <;> rfl

theorem resolve_compoundS (env : Env) (nm : Option Str) (o : Bool) (k : Nat) (fields : List Schema)
    (ms : List (Str × Elem)) :
    resolve env (.compound nm o k fields) (.dict ms)
      = .mk nm true true (env.compose k (usOf env fields ms)) false (kidsS env fields ms) := by
  unfold resolve
  simp only [membersOf, resolveMembers_kidsS, uOf]

theorem resolve_dictS (env : Env) (nm : Option Str) (o : Bool) (mode : DictMode) (fields : List Schema)
    (ms : List (Str × Elem)) :
    resolve env (.dict nm o mode fields) (.dict ms) = .mk nm false true [] false (kidsS env fields ms) := by
  unfold resolve
  simp only [membersOf, resolveMembers_kidsS]

theorem kidsS_append (env : Env) (fields : List Schema) (a b : List (Str × Elem)) :
    kidsS env fields (a ++ b) = kidsS env fields a ++ kidsS env fields b := by
  induction a with
  | nil => rfl
  | cons m ms ih =>
    obtain ⟨k, e⟩ := m
    simp only [List.cons_append, kidsS, ih, List.append_assoc]

theorem findField_someS {k : Str} {fields : List Schema} {f : Schema} (h : findField k fields = some f) :
    f ∈ fields ∧ f.name = some k := by
  rw [findField_eq] at h
  exact ⟨List.mem_of_find?_eq_some h, by simpa using List.find?_some h⟩

/-- a test that runs over the declared fields and looks each one's member up by key holds iff it
    holds of every member under its own field -/
theorem fieldsAll_iff {X : Schema → Elem → Bool} {XMs : List Schema → List (Str × Elem) → Bool}
    (hnil : ∀ ms, XMs [] ms = true)
    (hcons : ∀ f fs ms, XMs (f :: fs) ms = ((lookup (f.name.getD []) ms).all (X f) && XMs fs ms))
    (fs : List Schema) (ms : List (Str × Elem)) :
    XMs fs ms = true ↔ ∀ f ∈ fs, ∀ e, lookup (f.name.getD []) ms = some e → X f e = true := by
  induction fs with
  | nil => simp [hnil]
  | cons g gs ih =>
    rw [hcons, Bool.and_eq_true, ih, List.forall_mem_cons]
    refine and_congr_left fun _ => ?_
    cases lookup (g.name.getD []) ms <;> simp

theorem kidsS_mem {env : Env} {fields : List Schema} {ms : List (Str × Elem)} {k : FNode}
    (hk : k ∈ kidsS env fields ms) :
    ∃ p ∈ ms, ∃ f, findField p.1 fields = some f ∧ k = resolve env f p.2 := by
  induction ms with
  | nil => simp [kidsS] at hk
  | cons m ms ih =>
    obtain ⟨key, e⟩ := m
    simp only [kidsS, List.mem_append] at hk
    rcases hk with hk | hk
    · cases hf : findField key fields with
      | none => simp [hf] at hk
      | some f =>
        simp only [hf, Option.map_some, List.mem_singleton] at hk
        exact ⟨(key, e), by simp, f, hf, hk⟩
    · obtain ⟨p, hp, f, h1, h2⟩ := ih hk
      exact ⟨p, List.mem_cons_of_mem _ hp, f, h1, h2⟩

theorem OkSAny_iff (env : Env) (fields : List Schema) (k : Str) (e : Elem) :
    OkSAny env fields k e ↔ ∃ f ∈ fields, f.name = some k ∧ OkS env f e := by
  induction fields with
  | nil => simp [OkSAny]
  | cons g gs ih =>
    simp only [OkSAny, ih, List.mem_cons]
    constructor
    · rintro (⟨h1, h2⟩ | ⟨f, hf, h1, h2⟩)
      · exact ⟨g, Or.inl rfl, h1, h2⟩
      · exact ⟨f, Or.inr hf, h1, h2⟩
    · rintro ⟨f, rfl | hf, h1, h2⟩
      · exact Or.inl ⟨h1, h2⟩
      · exact Or.inr ⟨f, hf, h1, h2⟩

theorem okS_leaf_inv {nm : Option Str} {o : Bool} {k : Nat} {e : Elem} (h : OkS env (.leaf nm o k) e) :
    ∃ t, e = .leaf t ∧ env.norm k t = t := by
  cases e with
  | leaf t => exact ⟨t, rfl, h⟩
  | _ => simp [OkS, OkP] at h

theorem okS_joined_inv {nm : Option Str} {o : Bool} {k : Nat} {m : Schema} {e : Elem}
    (h : OkS env (.joined nm o k m) e) :
    ∃ t ms, e = .joined t ms ∧ env.norm k t = t ∧
      (ms = (env.joinedMembers k t).map Elem.leaf ∨ (t = [] ∧ ms = [])) := by
  cases e with
  | joined t ms => exact ⟨t, ms, rfl, h⟩
  | _ => simp [OkS, OkP] at h

theorem okS_array_inv {nm : Option Str} {o p : Bool} {member : Schema} {e : Elem}
    (h : OkS env (.array nm o p member) e) :
    ∃ ms, e = .array ms ∧ (∃ n o k, member = .leaf n o k) ∧ ∀ x ∈ ms, OkP env member x := by
  cases e with
  | array ms => exact ⟨ms, rfl, h⟩
  | _ => simp [OkS, OkP] at h

theorem okS_list_inv {nm : Option Str} {o p : Bool} {mx : Nat} {member : Schema} {e : Elem}
    (h : OkS env (.list nm o p mx member) e) :
    ∃ ms, e = .list ms ∧ ms.length ≤ mx ∧ (∀ i, i < ms.length → (natStr i).length ≤ env.maxDigits) ∧
      ∀ x ∈ ms, OkS env member x := by
  cases e with
  | list ms => exact ⟨ms, rfl, by simpa only [OkS] using h⟩
  | _ => simp [OkS] at h

theorem okS_dict_inv {nm : Option Str} {o : Bool} {mode : DictMode} {fields : List Schema} {e : Elem}
    (h : OkS env (.dict nm o mode fields) e) :
    ∃ ms, e = .dict ms ∧ (ms.map (·.1)).Nodup ∧ ∀ p ∈ ms, OkSAny env fields p.1 p.2 := by
  cases e with
  | dict ms => exact ⟨ms, rfl, by simpa only [OkS] using h⟩
  | _ => simp [OkS] at h

theorem okS_compound (nm : Option Str) (o : Bool) (k : Nat) (fields : List Schema) (e : Elem) :
    OkS env (.compound nm o k fields) e ↔ OkS env (.dict nm o .dense fields) e := by
  cases e <;> simp [OkS]

theorem kidsS_names {fields : List Schema} (htok : ∀ g ∈ fields, ∃ x, g.name = some x ∧ T x)
    {ms : List (Str × Elem)} {k : FNode} (hk : k ∈ kidsS env fields ms) :
    ∃ y, k.name = some y ∧ T y ∧ ∃ e, (y, e) ∈ ms := by
  obtain ⟨p, hp, f, hf, rfl⟩ := kidsS_mem hk
  obtain ⟨hmem, hname⟩ := findField_someS hf
  obtain ⟨x, hx, hTx⟩ := htok f hmem
  rw [hname] at hx
  injection hx with hx
  subst hx
  exact ⟨p.1, by rw [resolve_name, hname], hTx, p.2, hp⟩

theorem lookup_some_split {k : Str} {e : Elem} {ms : List (Str × Elem)} (h : lookup k ms = some e) :
    ∃ a b, ms = a ++ (k, e) :: b ∧ ∀ p ∈ a, p.1 ≠ k := by
  obtain ⟨a, b, rfl, ha⟩ := Assoc.get_eq_some_iff.1 ((lookup_eq k ms).symm.trans h)
  exact ⟨a, b, rfl, Assoc.not_mem_keys_iff.1 ha⟩

theorem lookup_of_mem_nodup {k : Str} {e : Elem} {ms : List (Str × Elem)}
    (hn : (ms.map (·.1)).Nodup) (h : (k, e) ∈ ms) : lookup k ms = some e :=
  (lookup_eq k ms).trans ((Assoc.mem_iff_get hn).1 h)

theorem mem_of_lookup {k : Str} {e : Elem} {ms : List (Str × Elem)} (h : lookup k ms = some e) : (k, e) ∈ ms :=
  Assoc.mem_of_get ((lookup_eq k ms).symm.trans h)

theorem okS_member_lookup {fields : List Schema} (hnd : (namesOf fields).Nodup)
    {ms : List (Str × Elem)} (hmem : ∀ p ∈ ms, OkSAny env fields p.1 p.2) {f : Schema} (hf : f ∈ fields)
    {nm : Str} (hname : f.name = some nm) {e : Elem} (hl : lookup nm ms = some e) : OkS env f e := by
  obtain ⟨a, b, hab, _⟩ := lookup_some_split hl
  obtain ⟨g, hg, hgn, hgo⟩ := (OkSAny_iff env fields nm e).mp (hmem (nm, e) (by rw [hab]; simp))
  have := findField_unique hnd hg hgn
  rw [findField_unique hnd hf hname] at this
  injection this with this
  subst this
  exact hgo

theorem lookup_none_keys {k : Str} {ms : List (Str × Elem)} (h : lookup k ms = none) : ∀ p ∈ ms, p.1 ≠ k :=
  Assoc.not_mem_keys_iff.1 (Assoc.get_eq_none_iff.1 ((lookup_eq k ms).symm.trans h))

theorem lookup_none_of_keys {k : Str} {ms : List (Str × Elem)} (h : ∀ p ∈ ms, p.1 ≠ k) : lookup k ms = none :=
  (lookup_eq k ms).trans (Assoc.get_eq_none_iff.2 (Assoc.not_mem_keys_iff.2 h))

section field
variable (hs : SepSafe env sep T)
include hs

/-- What `Mapping._set_flat` hands to the declared field `f` — every stripped key that
    merely starts with its name — is, after the field's own first test, the own output of the member
    held under that name: a sibling's pairs fail the test. -/
theorem own_field (fields : List Schema) (hnd : (namesOf fields).Nodup)
    (htok : ∀ g ∈ fields, ∃ x, g.name = some x ∧ T x)
    (ms : List (Str × Elem)) (hkeys : (ms.map (·.1)).Nodup)
    (f : Schema) (hf : f ∈ fields) (nm : Str) (hname : f.name = some nm) (u : Bool) :
    (wrap ((((bfsPath ((kidsS env fields ms).map (fun k => (([], k) : QItem)))).filter (keepP u)).map
        (joinPair sep)).filter (fun p => isPrefix nm p.1))).filter (fun p => reach env sep f p.1)
      = (match lookup nm ms with
          | some e => toKeys sep ((relFlat (resolve env f e)).filter (keepP u))
          | none => []).filter (fun p => reach env sep f p.1) := by
  obtain ⟨nm', hnm', hT⟩ := htok f hf
  rw [hname] at hnm'
  have : nm' = nm := by injection hnm' with h; exact h.symm
  subst this
  have hkids : ∀ k ∈ kidsS env fields ms, ∃ y, k.name = some y ∧ T y := by
    intro k hk
    obtain ⟨y, h1, h2, _⟩ := kidsS_names htok hk
    exact ⟨y, h1, h2⟩
  -- selection: after the field's own first test only the member's own pairs are left
  rw [field_select (reach env sep f) nm' (fun t ht hne ext => reach_other_head hs f nm' hname hT t ht hne ext)
    _ hkids (keepP u)]
  have hother : ∀ l : List (Str × Elem), (∀ p ∈ l, p.1 ≠ nm') →
      ∀ it ∈ (kidsS env fields l).map (fun k => (([], k) : QItem)),
        ((namePath it.1 it.2).head? == some nm') = false := by
    intro l hl it hit
    obtain ⟨k, hk, rfl⟩ := List.mem_map.mp hit
    obtain ⟨y, hy, _, e', hye⟩ := kidsS_names htok hk
    have := hl (y, e') hye
    simp [namePath, hy, this]
  cases hl : lookup nm' ms with
  | none =>
    have hfil : ((kidsS env fields ms).map (fun k => (([], k) : QItem))).filter
        (fun it => (namePath it.1 it.2).head? == some nm') = [] :=
      List.filter_eq_nil_iff.mpr fun it hit => by simp [hother ms (lookup_none_keys hl) it hit]
    rw [hfil, bfsPath_nil]
    rfl
  | some e =>
    obtain ⟨a, b, hab, hna⟩ := lookup_some_split hl
    have hnb : ∀ p ∈ b, p.1 ≠ nm' := by
      intro p hp heq
      rw [hab, List.map_append, List.map_cons] at hkeys
      have h1 := (List.nodup_append.mp hkeys).2.1
      simp only [List.nodup_cons] at h1
      exact h1.1 (heq ▸ List.mem_map_of_mem hp)
    have hfil : ((kidsS env fields ms).map (fun k => (([], k) : QItem))).filter
        (fun it => (namePath it.1 it.2).head? == some nm') = [([], resolve env f e)] := by
      rw [hab, kidsS_append]
      simp only [kidsS, findField_unique hnd hf hname, Option.map_some, List.singleton_append,
        List.map_append, List.map_cons]
      exact Lists.filter_unique _ _ _ _ (by simp [namePath, resolve_name, hname]) (hother a hna) (hother b hnb)
    rw [hfil]
    have hrel_ne : ∀ p ∈ (relFlat (resolve env f e)).filter (keepP u), p.1 ≠ [] := by
      intro p hp
      obtain ⟨it, hit, ext, he⟩ := bfsPath_mem _ p (List.mem_filter.mp hp).1
      rw [List.mem_singleton.mp hit] at he
      simp [he, namePath, resolve_name, hname]
    exact congrArg _ (toKeys_eq_wrap sep _ hrel_ne).symm

/-- The pairs the `startswith` filter hands to a declared field rebuild the member
    held under that key (to its own `prS`), or a blank element when there is none. -/
theorem field_roundtripS (fields : List Schema) (hnd : (namesOf fields).Nodup)
    (htok : ∀ g ∈ fields, ∃ x, g.name = some x ∧ T x)
    (ms : List (Str × Elem)) (hkeys : (ms.map (·.1)).Nodup)
    (hmem : ∀ p ∈ ms, OkSAny env fields p.1 p.2)
    (f : Schema) (hf : f ∈ fields) (nm : Str) (hname : f.name = some nm)
    (hrt : RTS env sep f) (u : Bool) :
    setFlat env sep f (blank f)
      (wrap ((((bfsPath ((kidsS env fields ms).map (fun k => (([], k) : QItem)))).filter (keepP u)).map
        (joinPair sep)).filter (fun p => isPrefix nm p.1)))
    = (match lookup nm ms with
        | some e => prS env sep u f e
        | none => blank f) := by
  rw [reach_filter, own_field hs fields hnd htok ms hkeys f hf nm hname u, ← reach_filter]
  cases hl : lookup nm ms with
  | none => exact setFlat_blank_nil env sep f
  | some e => exact hrt u e (okS_member_lookup hnd hmem hf hname hl)

end field

/-- `prSPick` with the rebuilt value of a field abstracted -/
def pickV (req : Schema → Bool) (keys : List (Str × Str)) (V : Schema → Elem) (first : Bool) :
    List Schema → List (Str × Elem)
  | [] => []
  | f :: fs =>
    if first then
      (if req f then (f.name.getD [], if touched keys f then V f else blank f) :: pickV req keys V first fs
        else pickV req keys V first fs)
    else
      (if !req f && touched keys f then (f.name.getD [], V f) :: pickV req keys V first fs
        else pickV req keys V first fs)

def pickSel (req : Schema → Bool) (keys : List (Str × Str)) (first : Bool) (f : Schema) : Bool :=
  if first then req f else (!req f && touched keys f)

def vOf (K : List (Str × Str)) (V : Schema → Elem) (f : Schema) : Elem :=
  if touched K f then V f else blank f

theorem pickV_eq (req : Schema → Bool) (keys : List (Str × Str)) (V : Schema → Elem) (first : Bool)
    (fs : List Schema) :
    pickV req keys V first fs = (fs.filter (pickSel req keys first)).map (fun f => (nmOf f, vOf keys V f)) := by
  induction fs with
  | nil => rfl
  | cons f fs ih =>
    cases first <;> cases hr : req f <;> cases ht : touched keys f <;>
      simp [pickV, pickSel, vOf, nmOf, hr, ht, ih]

theorem blankSel_keys (req : Schema → Bool) (fs : List Schema) (hsome : ∀ g ∈ fs, g.name.isSome) :
    ∀ p ∈ blankSel req fs, some p.1 ∈ namesOf fs := by
  intro p hp
  rw [blankSel_eq] at hp
  obtain ⟨f, hf, rfl⟩ := List.mem_map.mp hp
  have hf := (List.mem_filter.mp hf).1
  exact (name_eq_nmOf hsome hf) ▸ mem_namesOf hf

theorem touched_eq (keys : List (Str × Str)) (f : Schema) :
    touched keys f = !(keys.filter (fun p => isPrefix (f.name.getD []) p.1)).isEmpty := by
  unfold touched
  induction keys with
  | nil => rfl
  | cons a as ih =>
    simp only [List.any_cons, List.filter_cons]
    cases h : isPrefix (f.name.getD []) a.1 with
    | true => simp
    | false => simpa using ih

theorem setFields_closedAux (env : Env) (sep : Str) (all : List Schema) (hnd : (namesOf all).Nodup)
    (hsome : ∀ g ∈ all, g.name.isSome) (req : Schema → Bool) (poss : List (Str × Str))
    (V : Schema → Elem)
    (hV : ∀ f ∈ all, touched poss f = true →
      setFlat env sep f (blank f) (wrap (poss.filter (fun p => isPrefix (f.name.getD []) p.1))) = V f) :
    ∀ (fs done : List Schema) (R O : List (Str × Elem)), all = done ++ fs →
      (∀ p ∈ R ++ O, some p.1 ∈ namesOf done) →
      setFields env sep fs (R ++ (blankSel req fs ++ O)) poss
        = (R ++ pickV req poss V true fs) ++ (O ++ pickV req poss V false fs) := by
  intro fs
  induction fs with
  | nil =>
    intro done R O _ _
    simp [setFields, blankSel, pickV]
  | cons f fs ih =>
    intro done R O hall hRO
    have hfmem : f ∈ all := by rw [hall]; simp
    have hfs : f.name = some (f.name.getD []) := name_eq_nmOf hsome hfmem
    generalize hnf : f.name.getD [] = nf at hfs
    have hnd' : (namesOf done ++ f.name :: namesOf fs).Nodup := by
      have := hnd; rw [hall, namesOf_append] at this; simpa [namesOf] using this
    obtain ⟨_, hnd2, hdisj⟩ := List.nodup_append.mp hnd'
    simp only [List.nodup_cons] at hnd2
    have hRO' : ∀ p ∈ R ++ O, p.1 ≠ nf := by
      intro p hp heq
      have h1 := hRO p hp
      exact hdisj (some p.1) h1 f.name (by simp) (by rw [hfs, heq])
    have hR' : ∀ p ∈ R, p.1 ≠ nf := fun p hp => hRO' p (by simp [hp])
    have hO' : ∀ p ∈ O, p.1 ≠ nf := fun p hp => hRO' p (by simp [hp])
    have hB' : ∀ p ∈ blankSel req fs, p.1 ≠ nf := by
      intro p hp heq
      have h1 := blankSel_keys req fs (fun g hg => hsome g (by rw [hall]; simp [hg])) p hp
      apply hnd2.1
      rw [hfs, ← heq]; exact h1
    have hdone' : ∀ (x : Str × Elem) (R2 O2 : List (Str × Elem)), x.1 = nf →
        (∀ p ∈ R2 ++ O2, p ∈ R ++ O ∨ p = x) → ∀ p ∈ R2 ++ O2, some p.1 ∈ namesOf (done ++ [f]) := by
      intro x R2 O2 hx h p hp
      rw [namesOf_append]
      rcases h p hp with h1 | rfl
      · exact List.mem_append_left _ (hRO p h1)
      · apply List.mem_append_right; simp [namesOf, hfs, hx]
    have hall' : all = (done ++ [f]) ++ fs := by rw [hall]; simp
    rw [setFields_cons, hnf]
    have htq := touched_eq poss f
    rw [hnf] at htq
    have hVf := hV f hfmem
    rw [hnf] at hVf
    generalize hacc : poss.filter (fun p => isPrefix nf p.1) = accum at htq hVf
    cases ht : touched poss f with
    | false =>
      have hemp : accum.isEmpty = true := by rw [ht] at htq; simpa using htq.symm
      have hstep : stepM env sep f (R ++ (blankSel req (f :: fs) ++ O)) accum
          = R ++ (blankSel req (f :: fs) ++ O) := by
        unfold stepM; simp [hemp]
      rw [hstep]
      cases hr : req f with
      | true =>
        have := ih (done ++ [f]) (R ++ [(nf, blank f)]) O hall'
          (hdone' (nf, blank f) _ _ rfl (by
            intro p hp
            simp only [List.mem_append, List.mem_singleton] at hp ⊢
            rcases hp with (h | h) | h
            · exact Or.inl (Or.inl h)
            · exact Or.inr h
            · exact Or.inl (Or.inr h)))
        simp only [blankSel, hr, if_true, hnf, pickV, ht, Bool.false_eq_true, if_false,
          Bool.not_true, Bool.false_and] at this ⊢
        simpa [List.append_assoc] using this
      | false =>
        have := ih (done ++ [f]) R O hall'
          (hdone' (nf, blank f) _ _ rfl (fun p hp => Or.inl hp))
        simp only [blankSel, hr, if_false, Bool.false_eq_true, pickV, ht, Bool.not_false,
          Bool.true_and, if_true] at this ⊢
        exact this
    | true =>
      have hne : accum.isEmpty = false := by rw [ht] at htq; simpa using htq.symm
      have hv := hVf ht
      cases hr : req f with
      | true =>
        have hlook : lookup nf (R ++ (blankSel req (f :: fs) ++ O)) = some (blank f) := by
          rw [lookup_append_skip nf R _ hR']
          simp [blankSel, hr, hnf, lookup]
        have hstep : stepM env sep f (R ++ (blankSel req (f :: fs) ++ O)) accum
            = (R ++ [(nf, V f)]) ++ (blankSel req fs ++ O) := by
          unfold stepM
          simp only [hne, Bool.false_eq_true, if_false, hnf, hlook, hv]
          rw [replace_append_skip nf _ R _ hR']
          simp [blankSel, hr, hnf, replace]
        rw [hstep]
        have := ih (done ++ [f]) (R ++ [(nf, V f)]) O hall'
          (hdone' (nf, V f) _ _ rfl (by
            intro p hp
            simp only [List.mem_append, List.mem_singleton] at hp ⊢
            rcases hp with (h | h) | h
            · exact Or.inl (Or.inl h)
            · exact Or.inr h
            · exact Or.inl (Or.inr h)))
        rw [this]
        simp [pickV, hr, ht, hnf, List.append_assoc]
      | false =>
        have hlook : lookup nf (R ++ (blankSel req (f :: fs) ++ O)) = none := by
          apply lookup_none_of_keys
          intro p hp
          simp only [blankSel, hr, Bool.false_eq_true, if_false, List.mem_append] at hp
          rcases hp with h | h | h
          · exact hR' p h
          · exact hB' p h
          · exact hO' p h
        have hstep : stepM env sep f (R ++ (blankSel req (f :: fs) ++ O)) accum
            = R ++ (blankSel req fs ++ (O ++ [(nf, V f)])) := by
          unfold stepM
          simp only [hne, Bool.false_eq_true, if_false, hnf, hlook, hv]
          simp [blankSel, hr, List.append_assoc]
        rw [hstep]
        have := ih (done ++ [f]) R (O ++ [(nf, V f)]) hall'
          (hdone' (nf, V f) _ _ rfl (by
            intro p hp
            simp only [List.mem_append, List.mem_singleton] at hp ⊢
            rcases hp with h | h | h
            · exact Or.inl (Or.inl h)
            · exact Or.inl (Or.inr h)
            · exact Or.inr h))
        rw [this]
        simp [pickV, hr, ht, hnf, List.append_assoc]

/-- Started from the minimum members of a fresh mapping, the
    `for schema in self.field_schema` loop leaves the minimum members first (each rebuilt when
    touched), then the other touched fields — both in declaration order. -/
theorem setFields_closed (env : Env) (sep : Str) (all : List Schema) (hnd : (namesOf all).Nodup)
    (hsome : ∀ g ∈ all, g.name.isSome) (req : Schema → Bool) (poss : List (Str × Str))
    (V : Schema → Elem)
    (hV : ∀ f ∈ all, touched poss f = true →
      setFlat env sep f (blank f) (wrap (poss.filter (fun p => isPrefix (f.name.getD []) p.1))) = V f) :
    setFields env sep all (blankSel req all) poss
      = pickV req poss V true all ++ pickV req poss V false all := by
  have := setFields_closedAux env sep all hnd hsome req poss V hV all [] [] [] rfl (by simp)
  simpa using this

theorem keys_nodupP {fields : List Schema} {ms : List (Str × Elem)} (hok : OkPFields env fields ms)
    (hnd : (namesOf fields).Nodup) : (ms.map (·.1)).Nodup := by
  apply nodup_of_map_some
  rw [List.map_map]
  exact (okFields_keysP env fields ms hok) ▸ hnd

theorem okSAny_of_okPFields_of (env : Env) (fs : List Schema) (ms : List (Str × Elem))
    (hf : ∀ f ∈ fs, ∀ e, OkP env f e → OkS env f e) (h : OkPFields env fs ms) :
    ∀ p ∈ ms, OkSAny env fs p.1 p.2 := by
  induction fs generalizing ms with
  | nil =>
    cases ms with
    | nil => simp
    | cons _ _ => simp [OkPFields] at h
  | cons f fs ih =>
    cases ms with
    | nil => simp
    | cons m ms =>
      obtain ⟨k, e⟩ := m
      simp only [OkPFields] at h
      intro p hp
      simp only [OkSAny]
      rcases List.mem_cons.mp hp with rfl | hp
      · exact Or.inl ⟨h.1, hf f (List.mem_cons_self ..) e h.2.1⟩
      · exact Or.inr (ih ms (fun g hg => hf g (List.mem_cons_of_mem _ hg)) h.2.2 p hp)

theorem okS_of_okP (env : Env) : ∀ s : Schema, wf s = true → ∀ e : Elem, OkP env s e → OkS env s e := by
  intro s
  induction s using schema_ind_mapping with
  | hleaf n o k => intro _ e h; simpa only [OkS] using h
  | hjoined n o k m => intro _ e h; simpa only [OkS] using h
  | harray n o p m _ => intro _ e h; simpa only [OkS] using h
  | hlist nm o p mx member ih =>
    intro hw e h
    cases e with
    | list ms =>
      simp only [OkP] at h
      simp only [wf] at hw
      simp only [OkS]
      exact ⟨h.1, h.2.1, fun x hx => ih hw x (h.2.2 x hx)⟩
    | _ => simp [OkP] at h
  | hdict nm o mode fields ih =>
    intro hw e h
    cases e with
    | dict ms =>
      simp only [OkP] at h
      obtain ⟨hnd, _, hwf⟩ := wf_dict hw
      simp only [OkS]
      exact ⟨keys_nodupP h.2 hnd, okSAny_of_okPFields_of env fields ms (fun f hf => ih f hf (hwf f hf)) h.2⟩
    | _ => simp [OkP] at h
  | hcompound nm o k fields ih =>
    intro hw e h
    have : OkP env (.dict nm o .dense fields) e := by
      cases e with
      | dict ms => exact ⟨rfl, h⟩
      | _ => simp [OkP] at h
    exact (okS_compound nm o k fields e).mpr (ih hw e this)

end Flatland.Flat.Proofs
