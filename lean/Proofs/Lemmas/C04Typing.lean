/- what `adapt` can return per kind, and totality of `set` (C04) -/
import Proofs.Lemmas.C04Str
import Flatland.Spec.C04
namespace Flatland.Scalar
open Flatland.Scalar Flatland.Scalar.Spec

/-- the values other than None that `adapt` of a kind makes of `x` (`adapt_adapts`: None comes of None only): of the
    kind's type, having passed its checks.  An opaque value comes out of the conversion table; a time of day (Date) or
    microseconds (Time, DateTime) that the text form drops are there only when the input itself was taken. -/
def Adapts (E : Env) : Kind → Native → Native → Prop
  | .string b, _, v => ∃ s, v = .str s ∧ (b = true → strip E.T s = s)
  | .integer sg _, _, v => ∃ i, v = .int i ∧ intFits E.T i = true ∧ (sg = true ∨ 0 ≤ i)
  | .float _, _, v => ∃ y t, E.conv false y = some (some t) ∧ v = .float t
  | .decimal _, _, v => ∃ y t, E.conv true y = some (some t) ∧ v = .decimal t
  | .boolean _ _ _ _, _, v => ∃ b, v = .bool b
  | .date _, x, v => (∃ y m d, v = .date y m d ∧ validDate y m d = true) ∨
      (∃ y m d h mi s us, v = .datetime y m d h mi s us ∧ x = v ∧ validDate y m d = true)
  | .time _, x, v => ∃ h mi s us, v = .time h mi s us ∧ validTime h mi s = true ∧ (us = 0 ∨ x = v)
  | .datetime _, x, v =>
      ∃ y m d h mi s us, v = .datetime y m d h mi s us ∧ validDate y m d = true ∧ validTime h mi s = true ∧ (us = 0 ∨ x = v)
  | .constrained c vd, x, v => Adapts E c x v ∧ vd.holds v = true

theorem checkSigned_some (s : Bool) (n : Option Bool) (v w : Native) (h : checkSigned s n v = some w) : w = v := by
  unfold checkSigned at h
  split at h
  · simpa using h.symm
  · split at h <;> simp at h
    exact h.symm

theorem checkSigned_some' (s n : Bool) (v w : Native) (h : checkSigned s (some n) v = some w) :
    w = v ∧ (s = true ∨ n = false) := by
  unfold checkSigned at h
  split at h
  · rename_i hs; exact ⟨by simpa using h.symm, Or.inl hs⟩
  · cases n <;> simp at h
    exact ⟨h.symm, Or.inr rfl⟩

theorem intFits_bool (T : Tables) (hT : T.OK) (b : Bool) : intFits T (if b then 1 else 0) = true := by
  have hm : 1 ≤ T.maxDigits := by have := hT.2.2.2.2.1; omega
  have : 1 < 10 ^ T.maxDigits := Nat.one_lt_pow (by omega) (by omega)
  cases b <;> simp [intFits] <;> omega

theorem adaptTok_cases (E : Env) (dec sg : Bool) (x : Native) (v : Native) (h : adaptTok E dec sg x = .ok (some v)) :
    ∃ t, E.conv dec x = some (some t) ∧ v = (if dec then .decimal t else .float t) := by
  unfold adaptTok at h
  split at h
  · cases h
  · cases h
  · rename_i t ht
    exact ⟨t, ht, checkSigned_some _ _ _ _ (Except.ok.inj h)⟩

theorem adaptTemporalText_value (T : Tables) (w : Nat) (s : Str) (v : Native) (h : adaptTemporalText T w s = some v) :
    (w = 0 → ∃ y m d, v = .date y m d ∧ validDate y m d = true) ∧
    (w = 1 → ∃ h mi s, v = .time h mi s 0 ∧ validTime h mi s = true) ∧
    (2 ≤ w → ∃ y m d h mi s, v = .datetime y m d h mi s 0 ∧ validDate y m d = true ∧ validTime h mi s = true) := by
  unfold adaptTemporalText at h
  split at h
  · refine ⟨fun _ => ?_, by omega, by omega⟩
    split at h
    · split at h
      · rename_i y m d _ hv
        simp at h; exact ⟨y, m, d, h.symm, hv⟩
      · simp at h
    · simp at h
  · refine ⟨by omega, fun _ => ?_, by omega⟩
    split at h
    · split at h
      · rename_i a b c _ hv
        simp at h; exact ⟨a, b, c, h.symm, hv⟩
      · simp at h
    · simp at h
  · rename_i h0 h1
    refine ⟨fun hw => absurd hw h0, fun hw => absurd hw h1, fun _ => ?_⟩
    split at h
    · split at h
      · rename_i y m d a b c _ hv
        simp at h
        simp only [Bool.and_eq_true] at hv
        exact ⟨y, m, d, a, b, c, h.symm, hv.1, hv.2⟩
      · simp at h
    · simp at h

theorem adapt_constrained_some {E : Env} {c : Kind} {vd : Valid} {x v : Native}
    (h : adapt E (.constrained c vd) x = .ok (some v)) : adapt E c x = .ok (some v) ∧ vd.holds v = true := by
  simp only [adapt] at h
  split at h
  · cases h
  · cases h
  · rename_i w hw
    split at h
    · cases h; exact ⟨hw, ‹_›⟩
    · cases h

theorem adapt_adapts (E : Env) (hT : E.T.OK) (k : Kind) (x v : Native) (hx : NoHuge E.T x = true)
    (hwf : Native.WF x = true) (h : adapt E k x = .ok (some v)) : x = .none ∧ v = .none ∨ Adapts E k x v := by
  induction k generalizing v with
  | string b =>
    have strip_ok : ∀ s, b = true → strip E.T (if b = true then strip E.T s else s) = if b = true then strip E.T s else s :=
      fun s hb => by simp only [hb, if_true, strip_idem]
    simp only [adapt] at h
    split at h
    · cases h; exact Or.inl ⟨rfl, rfl⟩
    · cases h; exact Or.inr ⟨_, rfl, strip_ok _⟩
    · split at h <;> cases h
      exact Or.inr ⟨_, rfl, strip_ok _⟩
  | integer sg w =>
    have signed : ∀ i : Int, checkSigned sg (some (decide (i < 0))) (.int i) = some v → intFits E.T i = true →
        x = .none ∧ v = .none ∨ Adapts E (.integer sg w) x v := by
      intro i hc hi
      obtain ⟨rfl, hs⟩ := checkSigned_some' _ _ _ _ hc
      exact Or.inr ⟨i, rfl, hi, by simpa using hs⟩
    simp only [adapt] at h
    split at h
    · cases h; exact Or.inl ⟨rfl, rfl⟩
    · split at h
      · cases h
      · rename_i i hi
        exact signed i (Except.ok.inj h) (pyIntOfStr_fits E.T _ i hi)
    · exact signed _ (Except.ok.inj h) hx
    · cases h
      exact Or.inr ⟨_, rfl, intFits_bool E.T hT _, Or.inr (by split <;> decide)⟩
    · split at h
      · cases h
      · rename_i i hi
        exact signed i (Except.ok.inj h) (by simpa [NoHuge, hi] using hx)
    · split at h
      · cases h
      · rename_i i hi
        exact signed i (Except.ok.inj h) (by simpa [NoHuge, hi] using hx)
    · cases h
  | float sg =>
    simp only [adapt] at h
    split at h
    case h_1 => cases h; exact Or.inl ⟨rfl, rfl⟩
    all_goals first
      | cases h
      | (obtain ⟨t, hc, ht⟩ := adaptTok_cases _ _ _ _ _ h; exact Or.inr ⟨_, t, hc, ht⟩)
  | decimal sg =>
    simp only [adapt] at h
    split at h
    case h_1 => cases h; exact Or.inl ⟨rfl, rfl⟩
    all_goals first
      | cases h
      | (obtain ⟨t, hc, ht⟩ := adaptTok_cases _ _ _ _ _ h; exact Or.inr ⟨_, t, hc, ht⟩)
  | boolean tr fl ts fs =>
    simp only [adapt] at h
    split at h
    · cases h; exact Or.inl ⟨rfl, rfl⟩
    · split at h
      · cases h; exact Or.inr ⟨_, rfl⟩
      · split at h <;> cases h
        exact Or.inr ⟨_, rfl⟩
    · cases h; exact Or.inr ⟨_, rfl⟩
  | date b =>
    simp only [adapt] at h
    split at h
    · cases h; exact Or.inl ⟨rfl, rfl⟩
    · cases h; exact Or.inr (Or.inl ⟨_, _, _, rfl, hwf⟩)
    · cases h
      simp only [Native.WF, Bool.and_eq_true] at hwf
      exact Or.inr (Or.inr ⟨_, _, _, _, _, _, _, rfl, rfl, hwf.1.1⟩)
    · exact Or.inr (Or.inl ((adaptTemporalText_value _ _ _ _ (Except.ok.inj h)).1 rfl))
    · cases h
  | time b =>
    simp only [adapt] at h
    split at h
    · cases h; exact Or.inl ⟨rfl, rfl⟩
    · cases h
      simp only [Native.WF, Bool.and_eq_true] at hwf
      exact Or.inr ⟨_, _, _, _, rfl, hwf.1, Or.inr rfl⟩
    · obtain ⟨a, b, c, hv, hvt⟩ := (adaptTemporalText_value _ _ _ _ (Except.ok.inj h)).2.1 rfl
      exact Or.inr ⟨a, b, c, 0, hv, hvt, Or.inl rfl⟩
    · cases h
  | datetime b =>
    simp only [adapt] at h
    split at h
    · cases h; exact Or.inl ⟨rfl, rfl⟩
    · cases h
      simp only [Native.WF, Bool.and_eq_true] at hwf
      exact Or.inr ⟨_, _, _, _, _, _, _, rfl, hwf.1.1, hwf.1.2, Or.inr rfl⟩
    · obtain ⟨y, m, d, a, b, c, hv, hvd, hvt⟩ := (adaptTemporalText_value _ _ _ _ (Except.ok.inj h)).2.2 (Nat.le_refl 2)
      exact Or.inr ⟨y, m, d, a, b, c, 0, hv, hvd, hvt, Or.inl rfl⟩
    · cases h
  | constrained c vd ih =>
    obtain ⟨hc, hh⟩ := adapt_constrained_some h
    exact (ih v hc).imp id fun hv => ⟨hv, hh⟩

theorem pyStr_ok (T : Tables) (x : Native) (hx : NoHuge T x = true) : ∃ s, pyStr T x = .ok s := by
  cases x <;> simp only [pyStr] <;> try exact ⟨_, rfl⟩
  case int i => simp only [NoHuge] at hx; simp [pyFmtInt, hx]
  case bool b => cases b <;> exact ⟨_, rfl⟩

theorem adaptTok_ne_error (E : Env) (hE : EnvTotal E) (dec s : Bool) (x : Native) :
    ∃ ov, adaptTok E dec s x = .ok ov := by
  unfold adaptTok
  cases h : E.conv dec x with
  | none => exact absurd h (hE dec x)
  | some o => cases o <;> exact ⟨_, rfl⟩

theorem adapt_ok (E : Env) (hE : EnvTotal E) (k : Kind) (x : Native) (hx : NoHuge E.T x = true) :
    ∃ ov, adapt E k x = .ok ov := by
  induction k with
  | string b =>
    simp only [adapt]
    split
    · exact ⟨_, rfl⟩
    · exact ⟨_, rfl⟩
    · obtain ⟨s, hs⟩ := pyStr_ok E.T _ hx
      rw [hs]
      exact ⟨_, rfl⟩
  | integer sg w =>
    simp only [adapt]
    split <;> first | exact ⟨_, rfl⟩ | (split <;> exact ⟨_, rfl⟩)
  | float sg =>
    simp only [adapt]
    split <;> first | exact ⟨_, rfl⟩ | exact adaptTok_ne_error E hE _ _ _
  | decimal sg =>
    simp only [adapt]
    split <;> first | exact ⟨_, rfl⟩ | exact adaptTok_ne_error E hE _ _ _
  | boolean tr fl ts fs =>
    simp only [adapt]
    split
    · exact ⟨_, rfl⟩
    · split
      · exact ⟨_, rfl⟩
      · split <;> exact ⟨_, rfl⟩
    · exact ⟨_, rfl⟩
  | date b => simp only [adapt]; split <;> exact ⟨_, rfl⟩
  | time b => simp only [adapt]; split <;> exact ⟨_, rfl⟩
  | datetime b => simp only [adapt]; split <;> exact ⟨_, rfl⟩
  | constrained c vd ih =>
    obtain ⟨ov, hov⟩ := ih
    simp only [adapt, hov]
    cases ov with
    | none => exact ⟨_, rfl⟩
    | some v => simp only []; split <;> exact ⟨_, rfl⟩

theorem uOfValue_constrained (E : Env) (c : Kind) (vd : Valid) (v : Native) :
    uOfValue E (.constrained c vd) v = uOfValue E c v := by
  cases v <;> rfl

theorem uOfValue_ok (E : Env) (k : Kind) (x v : Native) (hv : Adapts E k x v) : ∃ u, uOfValue E k v = .ok u := by
  induction k with
  | string b => obtain ⟨s, rfl, _⟩ := hv; exact ⟨_, rfl⟩
  | integer sg w =>
    obtain ⟨i, rfl, hi, _⟩ := hv
    exact ⟨fmtInt w i, by simp only [uOfValue, serialize, pyFmtInt, hi, if_true]⟩
  | float sg => obtain ⟨_, t, _, rfl⟩ := hv; exact ⟨_, rfl⟩
  | decimal sg => obtain ⟨_, t, _, rfl⟩ := hv; exact ⟨_, rfl⟩
  | boolean tr fl ts fs => obtain ⟨b, rfl⟩ := hv; exact ⟨_, rfl⟩
  | date b => rcases hv with ⟨y, m, d, rfl, _⟩ | ⟨y, m, d, a, b', c, u, rfl, _⟩ <;> exact ⟨_, rfl⟩
  | time b => obtain ⟨a, b', c, u, rfl, _⟩ := hv; exact ⟨_, rfl⟩
  | datetime b => obtain ⟨y, m, d, a, b', c, u, rfl, _⟩ := hv; exact ⟨_, rfl⟩
  | constrained c vd ih => rw [uOfValue_constrained]; exact ih hv.1

theorem uOfFailed_ok (T : Tables) (x : Native) (hx : NoHuge T x = true) : ∃ u, uOfFailed T x = .ok u := by
  cases x <;> simp only [uOfFailed] <;> first | exact ⟨_, rfl⟩ | exact pyStr_ok T _ hx

theorem set_total (E : Env) (hT : E.T.OK) (hE : EnvTotal E) (k : Kind) (x : Native)
    (hx : NoHuge E.T x = true) (hwf : Native.WF x = true) : ∃ r, setScalar E k x = .ok r := by
  obtain ⟨ov, hov⟩ := adapt_ok E hE k x hx
  unfold setScalar
  rw [hov]
  cases ov with
  | some v =>
    obtain ⟨u, hu⟩ := (adapt_adapts E hT k x v hx hwf hov).elim (fun h => h.2 ▸ ⟨[], rfl⟩) (uOfValue_ok E k x v)
    simp only [hu]; exact ⟨_, rfl⟩
  | none =>
    obtain ⟨u, hu⟩ := uOfFailed_ok E.T x hx
    simp only [hu]; exact ⟨_, rfl⟩

end Flatland.Scalar
