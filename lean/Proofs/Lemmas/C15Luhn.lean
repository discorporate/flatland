/-
Luhn: the two-digits-per-round loop of `luhn10_check` computes the textbook per-digit sum.
-/
import Flatland.C15
import Flatland.Spec.C15
namespace Flatland.C15.Proofs
open Flatland.C15 Flatland.C15.Spec

theorem doubled_eq : ∀ d < 10, d * 2 / 10 + d * 2 % 10 = doubled d := by decide

theorem digits_zero : digits 0 = [] := by
  rw [digits]; simp

theorem digits_pos (n : Nat) (h : n ≠ 0) : digits n = n % 10 :: digits (n / 10) := by
  rw [digits]; simp [h]

theorem luhnSum_digits (n : Nat) (hn : n ≠ 0) :
    luhnSum (digits n) = n % 10 + doubled (n / 10 % 10) + luhnSum (digits (n / 100)) := by
  rw [digits_pos n hn]
  by_cases h10 : n / 10 = 0
  · rw [show n / 100 = 0 by omega, h10, digits_zero]; rfl
  · rw [digits_pos (n / 10) h10, Nat.div_div_eq_div_mul]; rfl

/-- for every number, the loop that consumes two decimal digits per round adds exactly the
    textbook Luhn sum of its digits -/
theorem luhn_pairs_eq_digits (n : Nat) : ∀ s, luhnLoop n s = s + luhnSum (digits n) := by
  induction n using Nat.strongRecOn with
  | _ n ih =>
    intro s
    rw [luhnLoop]
    by_cases hn : n = 0
    · subst hn; rw [dif_pos rfl, digits_zero]; rfl
    · rw [dif_neg hn, ih (n / 100) (by omega), luhnSum_digits n hn,
        Nat.mod_mod_of_dvd n (by decide : 10 ∣ 100),
        show n % 100 / 10 = n / 10 % 10 from Nat.mod_mul_right_div_self n 10 10,
        doubled_eq (n / 10 % 10) (Nat.mod_lt _ (by decide))]
      omega

theorem luhn10Check_eq (n : Int) :
    luhn10Check n = (decide (0 ≤ n) && luhnSpec (digits n.toNat)) := by
  unfold luhn10Check luhnSpec
  by_cases h : n < 0
  · have : ¬ (0 ≤ n) := by omega
    simp [h, this]
  · have : 0 ≤ n := by omega
    simp [h, this, luhn_pairs_eq_digits]

example : luhn10Check 79927398713 = true := by
  simp [luhn10Check_eq, luhnSpec, digits_pos, digits_zero, luhnSum, doubled]
example : luhn10Check 79927398710 = false := by
  simp [luhn10Check_eq, luhnSpec, digits_pos, digits_zero, luhnSum, doubled]
example : luhn10Check (-5) = false := by decide

end Flatland.C15.Proofs
