/-
The insertion-ordered dictionaries of the markup models: `Dict.get?`, `set`, `erase` are the generic
`Assoc.get`, `set`, `erase` (`get?_eq`, `set_eq`, `erase_eq`), and the laws are transported from `Lemmas/Assoc`.
-/
import Flatland.Markup.Basic
import Proofs.Lemmas.Assoc
namespace Flatland.Markup.Dict
open Flatland.Markup
variable {β : Type}

@[simp] theorem get?_nil (k : Str) : get? ([] : Dict β) k = none := rfl

theorem get?_cons (k' : Str) (v : β) (d : Dict β) (k : Str) :
    get? ((k', v) :: d) k = if k' = k then some v else get? d k := rfl

theorem get?_eq (d : Dict β) (k : Str) : get? d k = Assoc.get d k :=
  Assoc.get_unique get? (fun _ => rfl) get?_cons d k

theorem set_eq (d : Dict β) (k : Str) (v : β) : set d k v = Assoc.set d k v := by
  induction d with
  | nil => rfl
  | cons p r ih => simp only [set, Assoc.set, ih]

theorem erase_eq (d : Dict β) (k : Str) : erase d k = Assoc.erase d k := by
  induction d with
  | nil => rfl
  | cons p r ih => simp only [erase, Assoc.erase, ih]

theorem get?_set_self (d : Dict β) (k : Str) (v : β) : get? (set d k v) k = some v := by
  rw [get?_eq, set_eq, Assoc.get_set_self]

theorem get?_set_other (d : Dict β) (k k' : Str) (v : β) (h : k' ≠ k) :
    get? (set d k v) k' = get? d k' := by
  rw [get?_eq, set_eq, get?_eq, Assoc.get_set_ne d v h.symm]

theorem get?_set (d : Dict β) (k k' : Str) (v : β) :
    get? (set d k v) k' = if k' = k then some v else get? d k' := by
  rw [get?_eq, set_eq, get?_eq, Assoc.get_set]; simp only [eq_comm]

theorem get?_erase_other (d : Dict β) (k k' : Str) (h : k' ≠ k) :
    get? (erase d k) k' = get? d k' := by
  rw [get?_eq, erase_eq, get?_eq, Assoc.get_erase_ne d h.symm]

theorem get?_eq_none_iff (d : Dict β) (k : Str) : get? d k = none ↔ k ∉ keys d := by
  rw [get?_eq]; exact Assoc.get_eq_none_iff

theorem get?_erase_none (d : Dict β) (k k' : Str) (h : get? d k = none) : get? (erase d k') k = none := by
  rw [get?_eq_none_iff] at h ⊢
  exact fun hm => h (((erase_eq d k' ▸ Assoc.erase_sublist d k').map _).subset hm)

theorem nodup_erase (d : Dict β) (k : Str) (h : (keys d).Nodup) : (keys (erase d k)).Nodup := by
  rw [erase_eq]; exact Assoc.nodup_erase h k

theorem get?_erase_self (d : Dict β) (k : Str) (h : (keys d).Nodup) : get? (erase d k) k = none := by
  rw [get?_eq, erase_eq]; exact Assoc.get_erase_self h k

theorem nodup_set (d : Dict β) (k : Str) (v : β) (h : (keys d).Nodup) : (keys (set d k v)).Nodup := by
  rw [set_eq]; exact Assoc.nodup_set h k v

theorem mem_keys_set (d : Dict β) (k x : Str) (v : β) : x ∈ keys (set d k v) ↔ x ∈ keys d ∨ x = k := by
  rw [set_eq, or_comm]; exact Assoc.mem_keys_set

theorem contains_iff (d : Dict β) (k : Str) : contains d k = true ↔ k ∈ keys d := by
  rw [contains, get?_eq]; exact Assoc.isSome_get_iff

theorem mem_of_get? {d : Dict β} {k : Str} {v : β} (h : get? d k = some v) : (k, v) ∈ d :=
  Assoc.mem_of_get (get?_eq d k ▸ h)

theorem mem_iff_get? {d : Dict β} (hn : (keys d).Nodup) {k : Str} {v : β} : (k, v) ∈ d ↔ get? d k = some v := by
  rw [get?_eq]; exact Assoc.mem_iff_get hn

theorem not_mem_of_get?_none {d : Dict β} {k : Str} (h : get? d k = none) (v : β) : (k, v) ∉ d :=
  fun hm => (get?_eq_none_iff d k).mp h (List.mem_map.mpr ⟨(k, v), hm, rfl⟩)

theorem mem_erase {d : Dict β} {k : Str} {kv : Str × β} (h : kv ∈ erase d k) : kv ∈ d :=
  (erase_eq d k ▸ Assoc.erase_sublist d k).subset h

theorem mem_set {d : Dict β} {k : Str} {v : β} {kv : Str × β} (h : kv ∈ set d k v) : kv = (k, v) ∨ kv ∈ d :=
  Assoc.mem_set (set_eq d k v ▸ h)

theorem erase_absent (d : Dict β) (k : Str) (h : get? d k = none) : erase d k = d := by
  rw [erase_eq]; exact Assoc.erase_of_not_mem ((get?_eq_none_iff d k).mp h)

theorem get?_foldl_set_absent (ss : List (Str × β)) (d : Dict β) {k : Str} (h : ss.any (fun kv => kv.1 == k) = false) :
    get? (ss.foldl (fun d kv => set d kv.1 kv.2) d) k = get? d k := by
  induction ss generalizing d with
  | nil => rfl
  | cons s rest ih =>
    simp only [List.any_cons, Bool.or_eq_false_iff, beq_eq_false_iff_ne, ne_eq] at h
    exact (ih _ h.2).trans (get?_set_other d s.1 k s.2 fun e => h.1 e.symm)

theorem get?_foldl_erase_none (ds : List Str) (d : Dict β) {k : Str} (h : get? d k = none) :
    get? (ds.foldl erase d) k = none := by
  induction ds generalizing d with
  | nil => exact h
  | cons x rest ih => exact ih _ (get?_erase_none d k x h)

end Flatland.Markup.Dict
