/-
Lemmas for C11: a sequential `.replace` chain is a simultaneous character substitution when no
replacement text contains a later pattern; consequences for forbidden characters and decoding.
Generic in the chain; instantiated on the generated tables in `Proofs/C11.lean`.
-/
import Flatland.C11
import Proofs.Lemmas.Assoc
namespace Flatland.C11.Proofs
open Flatland.C11 Flatland.Markup

/-- simultaneous substitution: the first chain entry whose pattern is `x` -/
def substOf : Chain → Char → Str
  | [], x => [x]
  | (c, r) :: rest, x => if x = c then r else substOf rest x

def keys (ch : Chain) : List Char := ch.map (·.1)

/-- decidable side condition: no replacement text contains a pattern that is applied later -/
def Good : Chain → Bool
  | [] => true
  | (_, r) :: rest => r.all (fun y => !(keys rest).contains y) && Good rest

theorem replaceAll_eq_flatMap (c : Char) (r s : Str) :
    replaceAll c r s = s.flatMap (fun x => if x = c then r else [x]) := by
  induction s with
  | nil => rfl
  | cons x xs ih => simp [replaceAll, ih]

theorem substOf_eq (ch : Chain) (x : Char) : substOf ch x = (Assoc.get ch x).getD [x] := by
  induction ch with
  | nil => rfl
  | cons p rest ih =>
    obtain ⟨c, r⟩ := p
    by_cases h : x = c
    · subst h; rw [substOf, if_pos rfl, Assoc.get_cons_self]; rfl
    · rw [substOf, if_neg h, Assoc.get_cons_ne (Ne.symm h), ih]

theorem substOf_not_key (ch : Chain) (x : Char) (h : x ∉ keys ch) : substOf ch x = [x] := by
  rw [substOf_eq, Assoc.get_eq_none_iff.2 h]; rfl

theorem flatMap_subst_id (ch : Chain) (r : Str) (h : ∀ y ∈ r, y ∉ keys ch) :
    r.flatMap (substOf ch) = r := by
  induction r with
  | nil => rfl
  | cons y ys ih =>
    simp only [List.flatMap_cons]
    rw [substOf_not_key ch y (h y (by simp)), ih (fun z hz => h z (by simp [hz]))]
    rfl

theorem chain_simultaneous (ch : Chain) (h : Good ch = true) (s : Str) :
    escapeChain ch s = s.flatMap (substOf ch) := by
  induction ch generalizing s with
  | nil => simp [escapeChain, substOf]
  | cons p rest ih =>
    obtain ⟨c, r⟩ := p
    simp only [Good, Bool.and_eq_true, List.all_eq_true] at h
    rw [escapeChain, ih h.2, replaceAll_eq_flatMap, List.flatMap_assoc]
    congr 1
    funext x
    by_cases hx : x = c
    · simp only [hx, if_true, substOf]
      apply flatMap_subst_id
      intro y hy
      have := h.1 y hy
      simpa using this
    · simp [hx, substOf]

theorem substOf_cases (ch : Chain) (x : Char) :
    (x ∉ keys ch ∧ substOf ch x = [x]) ∨ (∃ p ∈ ch, p.1 = x ∧ substOf ch x = p.2) := by
  rw [substOf_eq]
  cases h : Assoc.get ch x with
  | none => exact .inl ⟨Assoc.get_eq_none_iff.1 h, rfl⟩
  | some r => exact .inr ⟨(x, r), Assoc.mem_of_get h, rfl, rfl⟩

/-- `c` is a pattern of the chain and no replacement text contains it -/
def Forbidden (ch : Chain) (c : Char) : Bool :=
  (keys ch).contains c && ch.all (fun p => !p.2.contains c)

theorem forbidden_not_in_subst (ch : Chain) (c : Char) (h : Forbidden ch c = true) (x : Char) :
    c ∉ substOf ch x := by
  simp only [Forbidden, Bool.and_eq_true, List.contains_iff_mem, List.all_eq_true] at h
  rcases substOf_cases ch x with ⟨h1, h2⟩ | ⟨p, hp, _, h2⟩
  · rw [h2]; simp; intro hc; exact h1 (hc ▸ h.1)
  · rw [h2]; have := h.2 p hp; simpa using this

theorem forbidden_not_in_escape (ch : Chain) (c : Char) (hg : Good ch = true)
    (h : Forbidden ch c = true) (s : Str) : c ∉ escapeChain ch s := by
  rw [chain_simultaneous ch hg]
  simp only [List.mem_flatMap, not_exists, not_and]
  intro x _
  exact forbidden_not_in_subst ch c h x

/-- what a character-reference decoder must satisfy to invert the chain -/
structure DecoderOK (ch : Chain) (dec : Str → Str) : Prop where
  nil : dec [] = []
  ent : ∀ p ∈ ch, ∀ rest, dec (p.2 ++ rest) = p.1 :: dec rest
  plain : ∀ x rest, x ∉ keys ch → dec (x :: rest) = x :: dec rest

theorem decode_subst (ch : Chain) (dec : Str → Str) (ok : DecoderOK ch dec) (s : Str) :
    dec (s.flatMap (substOf ch)) = s := by
  induction s with
  | nil => simpa using ok.nil
  | cons x xs ih =>
    simp only [List.flatMap_cons]
    rcases substOf_cases ch x with ⟨h1, h2⟩ | ⟨p, hp, h1, h2⟩
    · rw [h2]; simp only [List.cons_append, List.nil_append]; rw [ok.plain x _ h1, ih]
    · rw [h2, ok.ent p hp, ih, h1]

theorem decode_escape (ch : Chain) (dec : Str → Str) (hg : Good ch = true) (ok : DecoderOK ch dec)
    (s : Str) : dec (escapeChain ch s) = s := by
  rw [chain_simultaneous ch hg]; exact decode_subst ch dec ok s

theorem escapeChain_nil (ch : Chain) : escapeChain ch [] = [] := by
  induction ch with
  | nil => rfl
  | cons p rest ih => obtain ⟨c, r⟩ := p; simp [escapeChain, replaceAll, ih]

theorem decodeRefs_plain (x : Char) (rest : Str) (hx : x ≠ '&') :
    decodeRefs (x :: rest) = x :: decodeRefs rest := by
  rw [decodeRefs]; simp [hx]

theorem decodeRefs_nil : decodeRefs [] = [] := by rw [decodeRefs]

theorem decodeRefs_amp (rest : Str) : decodeRefs ("&amp;".toList ++ rest) = '&' :: decodeRefs rest := by
  show decodeRefs ('&' :: 'a' :: 'm' :: 'p' :: ';' :: rest) = _
  rw [decodeRefs]; simp [takeEntity, entityChar]

end Flatland.C11.Proofs
