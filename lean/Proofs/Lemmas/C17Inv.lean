import Proofs.Lemmas.C17State
import Proofs.Lemmas.C17Layer
import Proofs.Lemmas.ListBasic
/-!
`WF` under each kind of change to the store: a class added (`WF_extend`, over the class table after `addClass`), a dict
object replaced, an instance replaced or added.
-/
namespace Flatland.C17.Proofs
open Flatland.C17 Flatland.C17.Spec

theorem mroOf_addClass (σ : State) (tail : List ClassId) (own : Option DescId) (c : ClassId) :
    (addClass σ tail own).mroOf c
      = if c = σ.classes.length then σ.classes.length :: tail else σ.mroOf c := by
  simp only [State.mroOf, addClass, Lists.getElem?_append_singleton]
  by_cases e : c = σ.classes.length <;> simp [e]

theorem ownOf_addClass (σ : State) (tail : List ClassId) (own : Option DescId) (c : ClassId) :
    (addClass σ tail own).ownOf c = if c = σ.classes.length then own else σ.ownOf c := by
  simp only [State.ownOf, addClass, Lists.getElem?_append_singleton]
  by_cases e : c = σ.classes.length <;> simp [e]

theorem length_addClass (σ : State) (tail : List ClassId) (own : Option DescId) :
    (addClass σ tail own).classes.length = σ.classes.length + 1 := by simp [addClass]

theorem mroOf_ge (σ : State) (c : ClassId) (h : σ.classes.length ≤ c) : σ.mroOf c = [] := by
  simp [State.mroOf, List.getElem?_eq_none h]

theorem ownOf_ge (σ : State) (c : ClassId) (h : σ.classes.length ≤ c) : σ.ownOf c = none := by
  simp [State.ownOf, List.getElem?_eq_none h]

/-- the ids in a dict object's key are below `nd` (descriptors) and `n` (classes): what `WF.key_lt` asks of a key -/
def KeyOK (nd n : Nat) : FrameKey → Prop
  | .init d => d < nd
  | .cls d c => d < nd ∧ c < n

theorem WF_extend (σ : State) (hwf : WF σ) (tail : List ClassId) (own : Option DescId)
    (nd : Nat) (frames : AList FrameKey Frame)
    (htail : ∀ x ∈ tail, x < σ.classes.length) (hnd : tail.Nodup)
    (hle : σ.ndesc ≤ nd) (hown : ∀ d, own = some d → d < nd)
    (hkeys : ∀ key f, (key, f) ∈ frames → KeyOK nd (σ.classes.length + 1) key) :
    WF { addClass σ tail own with ndesc := nd, frames := frames } := by
  have hm : ∀ c, State.mroOf { addClass σ tail own with ndesc := nd, frames := frames } c
      = (addClass σ tail own).mroOf c := fun c => mroOf_congr rfl c
  have ho : ∀ c, State.ownOf { addClass σ tail own with ndesc := nd, frames := frames } c
      = (addClass σ tail own).ownOf c := fun c => ownOf_congr rfl c
  have hlen : State.classes { addClass σ tail own with ndesc := nd, frames := frames }
      = σ.classes ++ [⟨σ.classes.length :: tail, own⟩] := rfl
  refine ⟨?_, ?_, ?_, ?_, ?_, ?_⟩
  · intro c x hx
    rw [hm, mroOf_addClass] at hx
    rw [hlen, List.length_append, List.length_singleton]
    split at hx
    · rcases List.mem_cons.1 hx with rfl | h
      · exact Nat.lt_succ_self _
      · exact Nat.lt_succ_of_lt (htail x h)
    · exact Nat.lt_succ_of_lt (hwf.mro_lt c x hx)
  · intro c hc
    rw [hlen, List.length_append, List.length_singleton] at hc
    rw [hm, mroOf_addClass]
    split
    · rename_i e; exact ⟨tail, by rw [e]⟩
    · rename_i e; exact hwf.mro_head c (Nat.lt_of_le_of_ne (Nat.le_of_lt_succ hc) e)
  · intro c
    rw [hm, mroOf_addClass]
    split
    · exact List.nodup_cons.2 ⟨fun h => Nat.lt_irrefl _ (htail _ h), hnd⟩
    · exact hwf.mro_nodup c
  · intro c d h
    rw [ho, ownOf_addClass] at h
    show d < nd
    split at h
    · exact hown d h
    · exact Nat.lt_of_lt_of_le (hwf.own_lt c d h) hle
  · intro key f h
    have := hkeys key f h
    rw [hlen, List.length_append, List.length_singleton]
    cases key with
    | init d => exact this
    | cls d c => exact this
  · intro i x h
    rw [hlen, List.length_append, List.length_singleton]
    exact Nat.lt_succ_of_lt (hwf.inst_lt i x h)

theorem keyOK_mono (σ : State) (hwf : WF σ) (nd : Nat) (hle : σ.ndesc ≤ nd) (key : FrameKey) (f : Frame)
    (h : (key, f) ∈ σ.frames) : KeyOK nd (σ.classes.length + 1) key := by
  have := hwf.key_lt key f h
  cases key with
  | init d => exact Nat.lt_of_lt_of_le this hle
  | cls d c => exact ⟨Nat.lt_of_lt_of_le this.1 hle, Nat.lt_succ_of_lt this.2⟩

theorem WF_addClass (σ : State) (hwf : WF σ) (tail : List ClassId) (own : Option DescId)
    (htail : ∀ x ∈ tail, x < σ.classes.length) (hnd : tail.Nodup)
    (hown : ∀ d, own = some d → d < σ.ndesc) : WF (addClass σ tail own) :=
  WF_extend σ hwf tail own σ.ndesc σ.frames htail hnd (Nat.le_refl _) hown
    (fun key f h => keyOK_mono σ hwf σ.ndesc (Nat.le_refl _) key f h)

theorem WF_usingPropsStep (σ : State) (hwf : WF σ) (p : ClassId) (init : List (Key × Val)) :
    WF (usingPropsStep σ p init) := by
  unfold usingPropsStep
  apply WF_extend σ hwf (σ.mroOf p) (some σ.ndesc) (σ.ndesc + 1)
  · exact fun x hx => hwf.mro_lt p x hx
  · exact hwf.mro_nodup p
  · exact Nat.le_succ _
  · intro d h; simp only [Option.some.injEq] at h; subst h; exact Nat.lt_succ_self _
  · intro key f h
    rcases mem_set _ _ _ _ h with e | h
    · simp only [Prod.mk.injEq] at e; rw [e.1]; exact Nat.lt_succ_self _
    · exact keyOK_mono σ hwf _ (Nat.le_succ _) key f h

theorem WF_setFrame (σ : State) (hwf : WF σ) (key : FrameKey) (f : Frame)
    (hk : KeyOK σ.ndesc σ.classes.length key) : WF (σ.setFrame key f) where
  mro_lt := hwf.mro_lt
  mro_head := hwf.mro_head
  mro_nodup := hwf.mro_nodup
  own_lt := hwf.own_lt
  key_lt := by
    intro key' f' h
    rcases mem_set _ _ _ _ h with e | h
    · simp only [Prod.mk.injEq] at e; rw [e.1]; exact hk
    · exact hwf.key_lt key' f' h
  inst_lt := hwf.inst_lt

theorem WF_setInst (σ : State) (hwf : WF σ) (i : InstId) (y : Inst)
    (hy : y.cls < σ.classes.length) : WF (setInst σ i y) where
  mro_lt := hwf.mro_lt
  mro_head := hwf.mro_head
  mro_nodup := hwf.mro_nodup
  own_lt := hwf.own_lt
  key_lt := hwf.key_lt
  inst_lt := by
    intro j x h
    simp only [setInst] at h
    by_cases e : i = j
    · subst e
      rcases Nat.lt_or_ge i σ.insts.length with hl | hl
      · rw [List.getElem?_set_self hl] at h
        simp only [Option.some.injEq] at h; subst h; exact hy
      · rw [List.getElem?_eq_none (by simp; omega)] at h; simp at h
    · rw [List.getElem?_set_ne e] at h
      exact hwf.inst_lt j x h

theorem WF_addInst (σ : State) (hwf : WF σ) (y : Inst) (hy : y.cls < σ.classes.length) :
    WF { σ with insts := σ.insts ++ [y] } where
  mro_lt := hwf.mro_lt
  mro_head := hwf.mro_head
  mro_nodup := hwf.mro_nodup
  own_lt := hwf.own_lt
  key_lt := hwf.key_lt
  inst_lt := by
    intro j x h
    simp only [Lists.getElem?_append_singleton] at h
    split at h
    · simp only [Option.some.injEq] at h; subst h; exact hy
    · exact hwf.inst_lt j x h

theorem descOf_owner (σ : State) (c : ClassId) (d : DescId) (h : σ.descOf c = some d) :
    ∃ x ∈ σ.mroOf c, σ.ownOf x = some d := by
  unfold State.descOf at h
  obtain ⟨x, hx, hox⟩ := List.exists_of_findSome?_eq_some h
  exact ⟨x, hx, hox⟩

theorem baseKey_lt (σ : State) (hwf : WF σ) (v : ClassId) (d : DescId)
    (hv : v < σ.classes.length) (hd : σ.descOf v = some d) : KeyOK σ.ndesc σ.classes.length (σ.baseKey v d) := by
  obtain ⟨x, _, hox⟩ := descOf_owner σ v d hd
  have hlt := hwf.own_lt x d hox
  unfold State.baseKey
  by_cases ho : σ.owns v d = true
  · simp only [ho, if_true]; exact hlt
  · simp only [ho, Bool.false_eq_true, if_false]; exact ⟨hlt, hv⟩

theorem descOf_ext (σ σ' : State) (w : ClassId) (hm : σ'.mroOf w = σ.mroOf w)
    (ho : ∀ x ∈ σ.mroOf w, σ'.ownOf x = σ.ownOf x) : σ'.descOf w = σ.descOf w := by
  unfold State.descOf
  rw [hm]
  exact Lists.findSome?_ext _ _ _ ho

end Flatland.C17.Proofs
