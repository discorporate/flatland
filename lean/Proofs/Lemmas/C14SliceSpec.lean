/-
C14, `pySlice_spec`: the model's `pySlice` (a filter over `range n`, the "set-builder" reading) is the
index arithmetic of CPython's slicing (PySlice_Unpack + PySlice_AdjustIndices, written out in
`Flatland.PyList.adjust` / `adjustBound`), for all lengths and all start / stop / step:
`pySlice n a b c = [start + k*step | k in range(count)]`.  `Flatland.PyList` is the reference `list` of
C08–C10 (validated there against the real `list` type); `getSlice_eq_pySlice` connects the two slice functions.

Which integers a progression holds is settled once, over `Int` (`mem_progression`); a descending
progression is an ascending one negated.  Both sides of `pySlice_spec` are then lists of naturals
sorted the same way with the same members.
-/
import Flatland.Path
import Flatland.PyList
import Proofs.Lemmas.ListBasic
namespace Flatland.C14.Proofs
open Flatland.Path Flatland.PyList

/-- number of terms of the progression `start, start + step, …` before `stop` (`step > 0`) —
    the return value of `PySlice_AdjustIndices` -/
def countUp (start stop step : Int) : Nat :=
  if start < stop then ((stop - start - 1) / step + 1).toNat else 0

def countDown (start stop step : Int) : Nat :=
  if stop < start then ((start - stop - 1) / (-step) + 1).toNat else 0

theorem lt_countUp (start stop step : Int) (hs : 0 < step) (k : Nat) :
    k < countUp start stop step ↔ start + k * step < stop := by
  have hk : 0 ≤ (k : Int) * step := Int.mul_nonneg (Int.natCast_nonneg k) (Int.le_of_lt hs)
  have hdiv : (k : Int) ≤ (stop - start - 1) / step ↔ (k : Int) * step ≤ stop - start - 1 :=
    Int.le_ediv_iff_mul_le hs
  unfold countUp
  by_cases h : start < stop
  · rw [if_pos h, Int.lt_toNat, Int.lt_add_one_iff, hdiv]; omega
  · rw [if_neg h]; omega

theorem countDown_eq_countUp (start stop step : Int) :
    countDown start stop step = countUp (-start) (-stop) (-step) := by
  unfold countDown countUp
  rw [show -stop - -start - 1 = start - stop - 1 by omega]
  simp only [Int.neg_lt_neg_iff]

/-- the slice length is `max 0 (ceil ((stop - start) / step))`, written with floor division:
    `ceil (x / s) = (x + s - 1) / s` for `s > 0` -/
theorem countUp_eq_ceil (start stop step : Int) (hs : 0 < step) :
    countUp start stop step = ((stop - start + step - 1) / step).toNat := by
  by_cases hlt : start < stop
  · rw [countUp, if_pos hlt, show stop - start + step - 1 = (stop - start - 1) + 1 * step by omega,
      Int.add_mul_ediv_right _ _ (Int.ne_of_gt hs)]
  · have : (stop - start + step - 1) / step < 0 + 1 := Int.ediv_lt_of_lt_mul hs (by omega)
    rw [countUp, if_neg hlt, Int.toNat_of_nonpos (Int.le_of_lt_add_one this)]

theorem countDown_eq_ceil (start stop step : Int) (hs : step < 0) :
    countDown start stop step = ((start - stop + (-step) - 1) / (-step)).toNat := by
  rw [countDown_eq_countUp, countUp_eq_ceil _ _ _ (by omega),
    show -stop - -start + -step - 1 = start - stop + -step - 1 by omega]

theorem countUp_one (start stop : Int) : countUp start stop 1 = (stop - start).toNat := by
  rw [countUp_eq_ceil _ _ _ (by decide), Int.add_sub_cancel, Int.ediv_one]

theorem mem_progression (start stop step : Int) (hs : 0 < step) (x : Int) :
    (start ≤ x ∧ x < stop ∧ (x - start) % step = 0) ↔
      ∃ k : Nat, k < countUp start stop step ∧ x = start + k * step := by
  constructor
  · rintro ⟨h1, h2, h3⟩
    have hq : (x - start) / step * step = x - start := Int.ediv_mul_cancel (Int.dvd_of_emod_eq_zero h3)
    have hq0 : 0 ≤ (x - start) / step := Int.ediv_nonneg (Int.sub_nonneg_of_le h1) (Int.le_of_lt hs)
    have e : start + (x - start) = x := by omega
    refine ⟨((x - start) / step).toNat, ?_, ?_⟩
    · rw [lt_countUp _ _ _ hs, Int.toNat_of_nonneg hq0, hq, e]; exact h2
    · rw [Int.toNat_of_nonneg hq0, hq, e]
  · rintro ⟨k, hk, rfl⟩
    rw [lt_countUp _ _ _ hs] at hk
    have : 0 ≤ (k : Int) * step := Int.mul_nonneg (Int.natCast_nonneg k) (Int.le_of_lt hs)
    refine ⟨Int.le_add_of_nonneg_right this, hk, ?_⟩
    rw [Int.add_comm, Int.add_sub_cancel, Int.mul_emod_left]

theorem mem_progression_down (start stop step : Int) (hs : step < 0) (x : Int) :
    (stop < x ∧ x ≤ start ∧ (start - x) % (-step) = 0) ↔
      ∃ k : Nat, k < countDown start stop step ∧ x = start + k * step := by
  have h := mem_progression (-start) (-stop) (-step) (Int.neg_pos_of_neg hs) (-x)
  rw [show -x - -start = start - x by omega] at h
  rw [countDown_eq_countUp]
  constructor
  · rintro ⟨h1, h2, h3⟩
    obtain ⟨k, hk, e⟩ := h.1 ⟨Int.neg_le_neg h2, Int.neg_lt_neg h1, h3⟩
    rw [Int.mul_neg, ← Int.neg_add] at e
    exact ⟨k, hk, Int.neg_inj.1 e⟩
  · rintro ⟨k, hk, rfl⟩
    have := h.2 ⟨k, hk, by rw [Int.mul_neg, Int.neg_add]⟩
    exact ⟨Int.lt_of_neg_lt_neg this.2.1, Int.le_of_neg_le_neg this.1, this.2.2⟩

theorem filter_up (n : Nat) (start stop s : Int) (h0 : 0 ≤ start) (hs : 0 < s) (hstop : stop ≤ n) :
    (List.range n).filter
        (fun (i : Nat) => decide (start ≤ (i : Int) ∧ (i : Int) < stop ∧ ((i : Int) - start) % s = 0))
      = indices ⟨start, stop, s, countUp start stop s⟩ := by
  have hpos : ∀ k : Nat, 0 ≤ start + (k : Int) * s := fun k =>
    Int.add_nonneg h0 (Int.mul_nonneg (Int.natCast_nonneg k) (Int.le_of_lt hs))
  apply Lists.pairwise_ext (r := (· < ·)) (fun _ _ => Nat.lt_asymm)
  · exact List.pairwise_lt_range.filter _
  · rw [indices, List.pairwise_map]
    refine List.pairwise_lt_range.imp ?_
    intro a b hab
    have h1 : start + (a : Int) * s < start + (b : Int) * s :=
      Int.add_lt_add_left (Int.mul_lt_mul_of_pos_right (Int.ofNat_lt.2 hab) hs) start
    exact (Int.toNat_lt_toNat (Int.lt_of_le_of_lt (hpos a) h1)).2 h1
  · intro x
    simp only [List.mem_filter, List.mem_range, decide_eq_true_eq, indices, List.mem_map,
      mem_progression _ _ _ hs]
    constructor
    · rintro ⟨_, k, hk, hx⟩
      exact ⟨k, hk, by rw [← hx, Int.toNat_natCast]⟩
    · rintro ⟨k, hk, rfl⟩
      have := (mem_progression start stop s hs _).2 ⟨k, hk, rfl⟩
      rw [Int.toNat_of_nonneg (hpos k)]
      exact ⟨(Int.toNat_lt (hpos k)).2 (Int.lt_of_lt_of_le this.2.1 hstop), k, hk, rfl⟩

theorem filter_down (n : Nat) (start stop s : Int) (hstart : start < n) (hs : s < 0) (hstop : -1 ≤ stop) :
    (List.range n).reverse.filter
        (fun (i : Nat) => decide (stop < (i : Int) ∧ (i : Int) ≤ start ∧ (start - (i : Int)) % (-s) = 0))
      = indices ⟨start, stop, s, countDown start stop s⟩ := by
  have hpos : ∀ k : Nat, k < countDown start stop s → 0 ≤ start + (k : Int) * s := fun k hk =>
    Int.add_one_le_of_lt
      (Int.lt_of_le_of_lt hstop ((mem_progression_down start stop s hs _).2 ⟨k, hk, rfl⟩).1)
  apply Lists.pairwise_ext (r := (· > ·)) (fun _ _ => Nat.lt_asymm)
  · exact (List.pairwise_reverse.2 List.pairwise_lt_range).filter _
  · rw [indices, List.pairwise_map]
    refine List.pairwise_lt_range.imp_of_mem ?_
    intro a b _ hb hab
    have h1 : start + (b : Int) * s < start + (a : Int) * s :=
      Int.add_lt_add_left (Int.mul_lt_mul_of_neg_right (Int.ofNat_lt.2 hab) hs) start
    exact (Int.toNat_lt_toNat (Int.lt_of_le_of_lt (hpos b (List.mem_range.1 hb)) h1)).2 h1
  · intro x
    simp only [List.mem_filter, List.mem_reverse, List.mem_range, decide_eq_true_eq, indices, List.mem_map,
      mem_progression_down _ _ _ hs]
    constructor
    · rintro ⟨_, k, hk, hx⟩
      exact ⟨k, hk, by rw [← hx, Int.toNat_natCast]⟩
    · rintro ⟨k, hk, rfl⟩
      have := (mem_progression_down start stop s hs _).2 ⟨k, hk, rfl⟩
      rw [Int.toNat_of_nonneg (hpos k hk)]
      exact ⟨(Int.toNat_lt (hpos k hk)).2 (Int.lt_of_le_of_lt this.2.1 hstart), k, hk, rfl⟩

/-- `slice(a, b, c).indices(n)` together with the slice length, for `c ≠ 0`: the start and stop
    bounds adjusted as `PySlice_AdjustIndices` does (`PyList.adjustBound`: omitted → the end the
    direction starts from / runs to; negative → `+ n`, clamped at `0` resp. `-1`; too large →
    clamped at `n` resp. `n - 1`) -/
def sliceIx (n : Nat) (a b c : Option Int) : Ix :=
  let step := c.getD 1
  let len : Int := n
  let start := adjustBound len step (if step < 0 then len - 1 else 0) a
  let stop := adjustBound len step (if step < 0 then -1 else len) b
  ⟨start, stop, step, if step < 0 then countDown start stop step else countUp start stop step⟩

theorem getD_one_ne_zero {c : Option Int} (hc : c ≠ some 0) : c.getD 1 ≠ 0 := by
  cases c with
  | none => decide
  | some v => exact fun h => hc (congrArg some h)

theorem adjust_eq_sliceIx (n : Nat) (a b c : Option Int) (hc : c ≠ some 0) :
    adjust n ⟨a, b, c⟩ = some (sliceIx n a b c) := by
  simp only [adjust, sliceIx, getD_one_ne_zero hc, if_false, countUp, countDown]

/-- zero step: `slice.indices` raises `ValueError` -/
theorem sliceIx_zero_step (n : Nat) (a b : Option Int) : adjust n ⟨a, b, some 0⟩ = none := by
  simp [adjust]

theorem adjustBound_none (len step d : Int) : adjustBound len step d none = d := rfl

theorem clamp_eq (len x lo hi : Int) (hlo : -1 ≤ lo) (hlo' : lo ≤ 0) (hhi : len - 1 ≤ hi) (hhi' : hi ≤ len) :
    (if x < 0 then (if x + len < 0 then lo else x + len) else if x ≥ len then hi else x)
      = if x < 0 then max (x + len) lo else min x hi := by
  by_cases hx : x < 0
  · rw [if_pos hx, if_pos hx]
    by_cases h : x + len < 0
    · rw [if_pos h, Int.max_eq_right (Int.le_trans (Int.le_sub_one_of_lt h) hlo)]
    · rw [if_neg h, Int.max_eq_left (Int.le_trans hlo' (Int.not_lt.1 h))]
  · rw [if_neg hx, if_neg hx]
    by_cases h : x ≥ len
    · rw [if_pos h, Int.min_eq_right (Int.le_trans hhi' h)]
    · rw [if_neg h, Int.min_eq_left (Int.le_trans (Int.le_sub_one_of_lt (Int.not_le.1 h)) hhi)]

/-- `adjustBound` written as `pySlice` writes its bounds -/
theorem adjustBound_eq (len step d : Int) (a : Option Int) :
    adjustBound len step d a = match a with
      | none => d
      | some x => if x < 0 then max (x + len) (if step < 0 then -1 else 0)
                  else min x (if step < 0 then len - 1 else len) := by
  cases a with
  | none => rfl
  | some x =>
    by_cases hs : step < 0
    · simp only [adjustBound, hs, if_true]
      exact clamp_eq len x (-1) (len - 1) (Int.le_refl _) (by decide) (Int.le_refl _)
        (Int.sub_le_self _ (by decide))
    · simp only [adjustBound, hs, if_false]
      exact clamp_eq len x 0 len (by decide) (Int.le_refl _) (Int.sub_le_self _ (by decide))
        (Int.le_refl _)

theorem adjustBound_some (len step d x : Int) :
    adjustBound len step d (some x) =
      if x < 0 then max (x + len) (if step < 0 then -1 else 0)
      else min x (if step < 0 then len - 1 else len) :=
  adjustBound_eq len step d (some x)

theorem adjustBound_range (len step d : Int) (a : Option Int)
    (hd : (if step < 0 then -1 else 0) ≤ d ∧ d ≤ (if step < 0 then len - 1 else len)) :
    (if step < 0 then -1 else 0) ≤ adjustBound len step d a ∧
      adjustBound len step d a ≤ (if step < 0 then len - 1 else len) := by
  cases a with
  | none => exact hd
  | some x => rw [adjustBound_some]; omega

theorem pySlice_up (n : Nat) (a b c : Option Int) (h : 0 < c.getD 1) :
    pySlice n a b c = (List.range n).filter (fun (i : Nat) =>
      decide ((sliceIx n a b c).start ≤ (i : Int) ∧ (i : Int) < (sliceIx n a b c).stop
        ∧ ((i : Int) - (sliceIx n a b c).start) % (sliceIx n a b c).step = 0)) := by
  have hneg : ¬ c.getD 1 < 0 := Int.not_lt.2 (Int.le_of_lt h)
  unfold pySlice
  simp only [sliceIx, adjustBound_eq, gt_iff_lt, h, hneg, if_true, if_false]
  -- the two sides differ only in the name of the auxiliary matcher
  rfl

theorem pySlice_down (n : Nat) (a b c : Option Int) (h : c.getD 1 < 0) :
    pySlice n a b c = (List.range n).reverse.filter (fun (i : Nat) =>
      decide ((sliceIx n a b c).stop < (i : Int) ∧ (i : Int) ≤ (sliceIx n a b c).start
        ∧ ((sliceIx n a b c).start - (i : Int)) % (-(sliceIx n a b c).step) = 0)) := by
  have hpos : ¬ 0 < c.getD 1 := Int.not_lt.2 (Int.le_of_lt h)
  unfold pySlice
  simp only [sliceIx, adjustBound_eq, gt_iff_lt, h, hpos, if_true, if_false]
  rfl

/-- for every length and every start / stop / nonzero step the model's
    `pySlice` is the progression `start, start + step, …` (`count` terms) of the adjusted indices. -/
theorem pySlice_spec (n : Nat) (a b c : Option Int) (hc : c ≠ some 0) :
    pySlice n a b c = indices (sliceIx n a b c) := by
  have hn := Int.natCast_nonneg n
  have h1 := adjustBound_range n (c.getD 1) (if c.getD 1 < 0 then (n : Int) - 1 else 0) a
  have h2 := adjustBound_range n (c.getD 1) (if c.getD 1 < 0 then -1 else (n : Int)) b
  by_cases hneg : c.getD 1 < 0
  · rw [pySlice_down n a b c hneg]
    simp only [sliceIx, hneg, if_true] at h1 h2 ⊢
    exact filter_down n _ _ _ (Int.lt_of_le_sub_one (h1 ⟨Int.le_sub_one_of_lt hn, Int.le_refl _⟩).2) hneg
      (h2 ⟨Int.le_refl _, Int.le_sub_one_of_lt hn⟩).1
  · have hpos : 0 < c.getD 1 := Int.lt_iff_le_and_ne.2 ⟨Int.not_lt.1 hneg, (getD_one_ne_zero hc).symm⟩
    rw [pySlice_up n a b c hpos]
    simp only [sliceIx, hneg, if_false] at h1 h2 ⊢
    exact filter_up n _ _ _ (h1 ⟨Int.le_refl _, hn⟩).1 hpos (h2 ⟨hn, Int.le_refl _⟩).2

theorem pySlice_lt (n : Nat) (a b c : Option Int) : ∀ i ∈ pySlice n a b c, i < n := by
  intro i hi
  unfold pySlice at hi
  simp only at hi
  split at hi
  · exact List.mem_range.1 (List.mem_filter.1 hi).1
  · exact List.mem_range.1 (List.mem_reverse.1 (List.mem_filter.1 hi).1)

theorem pySlice_getElem? (n : Nat) (a b c : Option Int) (hc : c ≠ some 0) (k : Nat) :
    (pySlice n a b c)[k]? =
      if k < (sliceIx n a b c).count
      then some ((sliceIx n a b c).start + (k : Int) * (sliceIx n a b c).step).toNat else none := by
  rw [pySlice_spec n a b c hc, indices, List.getElem?_map]
  by_cases h : k < (sliceIx n a b c).count
  · rw [List.getElem?_range h]; simp [h]
  · rw [List.getElem?_eq_none (by simpa using h)]; simp [h]

theorem pySlice_length (n : Nat) (a b c : Option Int) (hc : c ≠ some 0) :
    (pySlice n a b c).length = (sliceIx n a b c).count := by
  rw [pySlice_spec n a b c hc, indices, List.length_map, List.length_range]

theorem pySlice_descending (n : Nat) (a b c : Option Int) (h : c.getD 1 < 0) :
    (pySlice n a b c).Pairwise (· > ·) := by
  rw [pySlice_down n a b c h]
  exact (List.pairwise_reverse.2 List.pairwise_lt_range).filter _

/-- `list[a:b:c]` of the reference list (`PyList.getSlice`) is the list of the elements at the
    indexes `pySlice` selects; a zero step is the `ValueError` -/
theorem getSlice_eq_pySlice {α : Type} (l : List α) (a b c : Option Int) :
    getSlice l ⟨a, b, c⟩ =
      if c = some 0 then .error .valueError
      else .ok ((pySlice l.length a b c).filterMap (fun i => l[i]?)) := by
  by_cases hc : c = some 0
  · subst hc; rw [if_pos rfl, getSlice, sliceIx_zero_step]
  · rw [if_neg hc, getSlice, adjust_eq_sliceIx _ _ _ _ hc, pySlice_spec _ _ _ _ hc]

theorem pySlice_nodup (n : Nat) (a b c : Option Int) : (pySlice n a b c).Nodup := by
  unfold pySlice
  simp only
  split
  · exact List.nodup_range.filter _
  · exact (List.pairwise_reverse.2 (List.nodup_range.imp Ne.symm)).filter _

theorem indices_eq_pySlice {len : Nat} {s : Slice} {ix : Ix} (h : adjust len s = some ix) :
    indices ix = pySlice len s.start s.stop s.step := by
  cases s with | mk a b c =>
  have hc : c ≠ some 0 := fun e => by subst e; rw [sliceIx_zero_step] at h; cases h
  rw [adjust_eq_sliceIx _ _ _ _ hc] at h
  rw [← Option.some.inj h, pySlice_spec _ _ _ _ hc]

/-- no selected index is dropped by the `filterMap` of `getSlice_eq_pySlice` -/
theorem pySlice_filterMap_length {α : Type} (l : List α) (a b c : Option Int) :
    ((pySlice l.length a b c).filterMap (fun i => l[i]?)).length = (pySlice l.length a b c).length := by
  have h := pySlice_lt l.length a b c
  generalize pySlice l.length a b c = is at h
  induction is with
  | nil => rfl
  | cons i r ih =>
    have hi : i < l.length := h i (by simp)
    rw [List.filterMap_cons, List.getElem?_eq_getElem hi]
    simp only [List.length_cons]
    rw [ih (fun j hj => h j (by simp [hj]))]

theorem filterMap_range_drop_take {α : Type} (l : List α) (S : Nat) : ∀ cnt : Nat,
    ((List.range cnt).map (fun k => S + k)).filterMap (fun i => l[i]?) = (l.drop S).take cnt
  | 0 => rfl
  | cnt + 1 => by
    rw [List.range_succ, List.map_append, List.filterMap_append, filterMap_range_drop_take l S cnt,
      List.take_add_one, List.getElem?_drop, List.map_singleton, List.filterMap_cons]
    cases l[S + cnt]? <;> rfl

theorem pySlice_interval (n : Nat) (a b : Option Int) :
    pySlice n a b none =
      (List.range ((sliceIx n a b none).stop.toNat - (sliceIx n a b none).start.toNat)).map
        (fun k => (sliceIx n a b none).start.toNat + k) := by
  have h0 := (adjustBound_range n 1 0 a (by omega)).1
  rw [pySlice_spec _ _ _ _ (by simp), indices]
  simp only [sliceIx, Option.getD_none, show ¬ (1 : Int) < 0 by decide, if_false, countUp_one] at h0 ⊢
  obtain ⟨m, hm⟩ := Int.eq_ofNat_of_zero_le h0
  simp only [hm, Int.toNat_sub', Int.toNat_natCast, Int.mul_one, ← Int.natCast_add]

/-- `l[a:b]` is `drop start` of `take stop` -/
theorem pySlice_step_one {α : Type} (l : List α) (a b : Option Int) :
    (pySlice l.length a b none).filterMap (fun i => l[i]?)
      = (l.take (sliceIx l.length a b none).stop.toNat).drop (sliceIx l.length a b none).start.toNat := by
  rw [pySlice_interval, filterMap_range_drop_take, List.drop_take]

theorem pySlice_rev_all (n : Nat) : pySlice n none none (some (-1)) = (List.range n).reverse := by
  rw [pySlice_down _ _ _ _ (by decide), List.filter_eq_self]
  intro i hi
  have := List.mem_range.1 (List.mem_reverse.1 hi)
  simp only [sliceIx, adjustBound_none, Option.getD_some, show (-1 : Int) < 0 by decide, if_true,
    decide_eq_true_eq, show (-(-1 : Int)) = 1 by decide, Int.emod_one, and_true]
  omega

/-- `l[::-1]` is `reverse` -/
theorem pySlice_reverse {α : Type} (l : List α) :
    (pySlice l.length none none (some (-1))).filterMap (fun i => l[i]?) = l.reverse := by
  rw [pySlice_rev_all, List.filterMap_reverse]
  have := filterMap_range_drop_take l 0 l.length
  simp only [Nat.zero_add, List.map_id', List.drop_zero, List.take_length] at this
  rw [this]

/-- `l[:]` is `l` -/
theorem pySlice_all {α : Type} (l : List α) :
    (pySlice l.length none none none).filterMap (fun i => l[i]?) = l := by
  rw [pySlice_step_one]
  simp [sliceIx, adjustBound]

example : pySlice 5 (some (-4)) none (some 2) = [1, 3] := by decide
example : sliceIx 5 (some (-4)) none (some 2) = ⟨1, 5, 2, 2⟩ := by decide
example : pySlice 5 (some 9) (some (-9)) (some (-2)) = [4, 2, 0] := by decide
example : sliceIx 5 (some 9) (some (-9)) (some (-2)) = ⟨4, -1, -2, 3⟩ := by decide
example : getSlice [10, 11, 12, 13, 14] ⟨some 9, some (-9), some (-2)⟩ = .ok [14, 12, 10] := by
  rw [getSlice_eq_pySlice, if_neg (by decide)]; exact congrArg _ (by decide)
example : getSlice [10, 11, 12] ⟨none, none, some 0⟩ = .error .valueError := by
  rw [getSlice_eq_pySlice, if_pos rfl]

end Flatland.C14.Proofs
