/-
C14, the work list.  The FIFO work list of `PathExpression.__call__` computes the depth-first reading of
an operation list with the precedence of errors made explicit (`denOrd`: smaller slice depth first,
sequence order within one depth): `work_level_gen`.  Where only one kind of error can arise (`Uni`) the
precedence is immaterial and `denOrd` forgets to the plain depth-first reading `denOps` (`denOrd_forget_of_uni'`).
-/
import Flatland.Path
import Flatland.Spec.C14
import Proofs.Lemmas.ExceptBasic
namespace Flatland.C14.Proofs
open Flatland.Path Flatland.C14.Spec

instance {ε α : Type} [DecidableEq ε] [DecidableEq α] : DecidableEq (Except ε α) := fun a b =>
  match a, b with
  | .ok x, .ok y => if h : x = y then isTrue (by rw [h]) else isFalse (fun h' => h (Except.ok.inj h'))
  | .error x, .error y => if h : x = y then isTrue (by rw [h]) else isFalse (fun h' => h (Except.error.inj h'))
  | .ok _, .error _ => isFalse (fun h => by cases h)
  | .error _, .ok _ => isFalse (fun h => by cases h)

def andThen {α β : Type} (x : Except Err α) (k : α → Except Err β) : Except Err β :=
  match x with
  | .error e => .error e
  | .ok a => k a

@[simp] theorem andThen_ok {α β : Type} (a : α) (k : α → Except Err β) : andThen (.ok a) k = k a := rfl
@[simp] theorem andThen_error {α β : Type} (e : Err) (k : α → Except Err β) :
    andThen (.error e) k = .error e := rfl

def OnlyErr {α : Type} (e0 : Err) (x : Except Err α) : Prop := ∀ e, x = .error e → e = e0

theorem andThen_eq_bind {α β : Type} (x : Except Err α) (k : α → Except Err β) : andThen x k = x >>= k := by
  cases x <;> rfl

theorem flatMapM_eq {α β : Type} (f : α → Except Err (List β)) (xs : List α) : flatMapM f xs = Ex.flatMapM f xs := by
  induction xs with
  | nil => rfl
  | cons x xs ih =>
    rw [flatMapM, ih, Ex.flatMapM_cons]
    cases f x with
    | error e => rfl
    | ok ys => cases Ex.flatMapM f xs <;> rfl

theorem flatMapM_cons {α β : Type} (f : α → Except Err (List β)) (x : α) (xs : List α) :
    flatMapM f (x :: xs) = andThen (f x) (fun ys => andThen (flatMapM f xs) (fun zs => .ok (ys ++ zs))) := by
  simp only [flatMapM_eq, andThen_eq_bind]; rfl

@[simp] theorem flatMapM_nil {α β : Type} (f : α → Except Err (List β)) : flatMapM f [] = .ok [] := rfl

theorem flatMapM_singleton {α β : Type} (f : α → Except Err (List β)) (x : α) :
    flatMapM f [x] = f x := by
  rw [flatMapM_eq]; exact Ex.flatMapM_singleton f x

theorem flatMapM_append {α β : Type} (f : α → Except Err (List β)) (xs ys : List α) :
    flatMapM f (xs ++ ys)
      = andThen (flatMapM f xs) (fun a => andThen (flatMapM f ys) (fun b => .ok (a ++ b))) := by
  simp only [flatMapM_eq, andThen_eq_bind]; exact Ex.flatMapM_append f xs ys

theorem flatMapM_error {α β : Type} (f : α → Except Err (List β)) {e : Err} (xs : List α)
    (h : flatMapM f xs = .error e) : ∃ x ∈ xs, f x = .error e :=
  Ex.flatMapM_eq_error (flatMapM_eq f xs ▸ h)

theorem flatMapM_onlyErr {α β : Type} {e0 : Err} (f : α → Except Err (List β)) (xs : List α)
    (hf : ∀ a, OnlyErr e0 (f a)) : OnlyErr e0 (flatMapM f xs) :=
  flatMapM_eq f xs ▸ Ex.Fails.flatMapM fun a _ => hf a

theorem flatMapM_pure {α : Type} (xs : List α) : flatMapM (fun x => (.ok [x] : Except Err (List α))) xs = .ok xs := by
  rw [flatMapM_eq]; exact Ex.flatMapM_pure xs

theorem flatMapM_congr_ok {α β : Type} (f g : α → Except Err (List β)) (xs : List α) (r : List β)
    (hfg : ∀ x ∈ xs, ∀ y, f x = .ok y → g x = .ok y) (h : flatMapM f xs = .ok r) : flatMapM g xs = .ok r := by
  rw [flatMapM_eq] at h ⊢; exact Ex.flatMapM_congr_ok hfg h

/-- bind law of `flatMapM`; the two sides meet errors in a different order, so it needs all
    errors to be the same -/
theorem flatMapM_bind {α β γ : Type} {e0 : Err} (f : α → Except Err (List β)) (g : β → Except Err (List γ))
    (hf : ∀ a, OnlyErr e0 (f a)) (hg : ∀ b, OnlyErr e0 (g b)) (xs : List α) :
    flatMapM (fun a => andThen (f a) (flatMapM g)) xs = andThen (flatMapM f xs) (flatMapM g) := by
  induction xs with
  | nil => rfl
  | cons x xs ih =>
    rw [flatMapM_cons, flatMapM_cons, ih]
    cases hx : f x with
    | error e => rfl
    | ok ys =>
      simp only [andThen_ok]
      cases hxs : flatMapM f xs with
      | error e =>
        have he := flatMapM_onlyErr f xs hf e hxs
        subst he
        simp only [andThen_error]
        cases hys : flatMapM g ys with
        | error e' =>
          have := flatMapM_onlyErr g ys hg e' hys
          subst this; rfl
        | ok _ => rfl
      | ok zs =>
        simp only [andThen_ok]
        rw [flatMapM_append]

def Op.stepOk : Op → Bool
  | .slice _ _ (some c) => c != 0
  | _ => true

def NoZero (ops : List Op) : Bool := ops.all Op.stepOk

theorem NoZero.tail {o : Op} {r : List Op} (h : NoZero (o :: r) = true) : NoZero r = true :=
  ((Bool.and_eq_true _ _).mp h).2

/-- `LookupError` comes from a strict lookup only, `ValueError` from a slice step written as 0 only -/
theorem denOps_error (root : Node) (strict : Bool) : ∀ (ops : List Op) (el : Pos) (e : Err),
    denOps root strict ops el = .error e →
      (e = .lookup ∧ strict = true ∧ ∃ d, Op.name d ∈ ops) ∨ (e = .value ∧ NoZero ops = false)
  | [], el, e, h => by cases h
  | .top :: r, el, e, h => denOps_error root strict r [] e h |>.imp
      (fun ⟨h1, h2, d, hd⟩ => ⟨h1, h2, d, List.mem_cons_of_mem _ hd⟩) id
  | .up :: r, el, e, h => denOps_error root strict r _ e h |>.imp
      (fun ⟨h1, h2, d, hd⟩ => ⟨h1, h2, d, List.mem_cons_of_mem _ hd⟩) id
  | .here :: r, el, e, h => denOps_error root strict r _ e h |>.imp
      (fun ⟨h1, h2, d, hd⟩ => ⟨h1, h2, d, List.mem_cons_of_mem _ hd⟩) id
  | .name d :: r, el, e, h => by
    simp only [denOps] at h
    split at h
    · exact denOps_error root strict r _ e h |>.imp
        (fun ⟨h1, h2, d, hd⟩ => ⟨h1, h2, d, List.mem_cons_of_mem _ hd⟩) id
    · cases strict with
      | false => cases h
      | true => cases h; exact Or.inl ⟨rfl, rfl, d, List.mem_cons_self⟩
  | .slice a b c :: r, el, e, h => by
    simp only [denOps] at h
    split at h
    · next hc =>
      cases h
      have hc' : c = some 0 := by simpa using hc
      subst hc'
      exact Or.inr ⟨rfl, rfl⟩
    · obtain ⟨x, _, hx⟩ := flatMapM_error _ _ h
      refine (denOps_error root strict r x e hx).imp
        (fun ⟨h1, h2, d, hd⟩ => ⟨h1, h2, d, List.mem_cons_of_mem _ hd⟩) (fun ⟨h1, h2⟩ => ⟨h1, ?_⟩)
      show (Op.stepOk _ && NoZero r) = false
      rw [h2, Bool.and_false]

/-- the situations in which every error of an evaluation is the same one: no zero stride
    (only `LookupError`), or non-strict lookups (only `ValueError`).  With strict lookups AND a zero
    stride, which of the two is raised first depends on the order of evaluation. -/
def Uni (strict : Bool) (ops : List Op) : Prop := NoZero ops = true ∨ strict = false

theorem Uni.tail {strict : Bool} {o : Op} {r : List Op} (h : Uni strict (o :: r)) : Uni strict r :=
  h.imp NoZero.tail id

def errOf (strict : Bool) : Err := if strict then .lookup else .value

theorem denOps_onlyErr (root : Node) (strict : Bool) (ops : List Op) (hu : Uni strict ops) (el : Pos) :
    OnlyErr (errOf strict) (denOps root strict ops el) := by
  intro e h
  rcases denOps_error root strict ops el e h with ⟨he, hs, _⟩ | ⟨he, hz⟩
  · rw [he, hs]; rfl
  · rcases hu with hu | hu
    · rw [hu] at hz; cases hz
    · rw [he, hu]; rfl

def afterSlice : List Op → Option (List Op)
  | [] => none
  | .slice _ _ _ :: r => some r
  | _ :: r => afterSlice r

theorem runCtx_after (root : Node) (strict : Bool) :
    ∀ (ops : List Op) (el : Pos) (r : CtxRes), runCtx root strict ops el = .ok r →
      match r with
      | .found _ => afterSlice ops = none
      | .spawn rest _ => afterSlice ops = some rest
      | .dead => True
  | [], el, r, h => by cases h; rfl
  | .top :: r, _, _, h => runCtx_after root strict r [] _ h
  | .up :: r, el, _, h => runCtx_after root strict r el.dropLast _ h
  | .here :: r, el, _, h => runCtx_after root strict r el _ h
  | .name d :: r, el, res, h => by
    simp only [runCtx] at h
    cases hi : indexAt root el d with
    | some i => rw [hi] at h; exact runCtx_after root strict r _ _ h
    | none => rw [hi] at h; cases strict <;> cases h; trivial
  | .slice a b c :: r, el, res, h => by
    simp only [runCtx] at h
    split at h <;> cases h
    rfl

theorem afterSlice_length : ∀ (ops rest : List Op), afterSlice ops = some rest → rest.length < ops.length
  | [], rest, h => by cases h
  | .slice _ _ _ :: r, rest, h => by cases h; exact Nat.lt_succ_self _
  | .top :: r, rest, h => Nat.lt_succ_of_lt (afterSlice_length r rest h)
  | .up :: r, rest, h => Nat.lt_succ_of_lt (afterSlice_length r rest h)
  | .here :: r, rest, h => Nat.lt_succ_of_lt (afterSlice_length r rest h)
  | .name _ :: r, rest, h => Nat.lt_succ_of_lt (afterSlice_length r rest h)

theorem work_cons (root : Node) (strict : Bool) (ops : List Op) (el : Pos) (q : List Ctx) :
    work root strict ((ops, el) :: q) =
      match runCtx root strict ops el with
      | .error e => .error e
      | .ok (.found p) => andThen (work root strict q) (fun ps => .ok (p :: ps))
      | .ok .dead => work root strict q
      | .ok (.spawn rest kids) => work root strict (q ++ kids.map (fun k => (rest, k))) := by
  rw [work]
  split <;> rename_i h <;> simp only [h]
  · cases work root strict q <;> rfl

def GeDepth (m : Nat) : Ranked → Prop
  | .ok _ => True
  | .err d _ => m ≤ d

theorem GeDepth.mono {m n : Nat} (h : m ≤ n) : ∀ r : Ranked, GeDepth n r → GeDepth m r
  | .ok _, _ => trivial
  | .err _ _, hd => Nat.le_trans h hd

theorem merge_geDepth (m : Nat) : ∀ a b : Ranked, GeDepth m a → GeDepth m b → GeDepth m (a.merge b)
  | .ok _, .ok _, _, _ => trivial
  | .ok _, .err _ _, _, hb => hb
  | .err _ _, .ok _, ha, _ => ha
  | .err d e, .err d' e', ha, hb => by
    simp only [Ranked.merge]
    split
    · exact hb
    · exact ha

theorem flatMapR_geDepth (m : Nat) (f : Pos → Ranked) (hf : ∀ x, GeDepth m (f x)) :
    ∀ xs : List Pos, GeDepth m (flatMapR f xs)
  | [] => trivial
  | x :: xs => merge_geDepth m _ _ (hf x) (flatMapR_geDepth m f hf xs)

theorem merge_assoc : ∀ a b c : Ranked, (a.merge b).merge c = a.merge (b.merge c)
  | .ok _, .ok _, .ok _ => by simp only [Ranked.merge, List.append_assoc]
  | .ok _, .ok _, .err _ _ => rfl
  | .ok _, .err _ _, .ok _ => rfl
  | .err _ _, .ok _, .ok _ => rfl
  | .ok _, .err d e, .err d' e' => by
    by_cases h : d' < d <;> simp [Ranked.merge, h]
  | .err d e, .ok _, .err d' e' => rfl
  | .err d e, .err d' e', .ok _ => by
    by_cases h : d' < d <;> simp [Ranked.merge, h]
  | .err d e, .err d' e', .err d'' e'' => by
    simp only [Ranked.merge]
    by_cases h1 : d' < d <;> by_cases h2 : d'' < d' <;> by_cases h3 : d'' < d <;>
      simp only [h1, h2, h3, if_true, if_false] <;> first | rfl | omega

theorem merge_ok_nil : ∀ r : Ranked, r.merge (.ok []) = r
  | .ok l => by simp only [Ranked.merge, List.append_nil]
  | .err _ _ => rfl

theorem flatMapR_singleton (f : Pos → Ranked) (x : Pos) : flatMapR f [x] = f x :=
  merge_ok_nil (f x)

theorem flatMapR_append (f : Pos → Ranked) : ∀ xs ys : List Pos,
    flatMapR f (xs ++ ys) = (flatMapR f xs).merge (flatMapR f ys)
  | [], ys => by
    simp only [List.nil_append, flatMapR]
    cases flatMapR f ys <;> rfl
  | x :: xs, ys => by
    simp only [List.cons_append, flatMapR, flatMapR_append f xs ys, merge_assoc]

theorem merge_eq_ok {a b : Ranked} {r : List Pos} (h : a.merge b = .ok r) : ∃ p q, a = .ok p ∧ b = .ok q ∧ r = p ++ q := by
  cases a with
  | ok p =>
    cases b with
    | ok q => exact ⟨p, q, rfl, rfl, (Ranked.ok.inj h).symm⟩
    | err _ _ => cases h
  | err d e =>
    cases b with
    | ok _ => cases h
    | err d' e' => simp only [Ranked.merge] at h; split at h <;> cases h

/-- a successful `flatMapR` is a `flatMap` -/
theorem flatMapR_eq_ok {f : Pos → Ranked} : ∀ {xs r : List Pos}, flatMapR f xs = .ok r →
    (∀ x ∈ xs, f x = .ok ((f x).forget.toOption.getD [])) ∧ r = xs.flatMap (fun x => (f x).forget.toOption.getD [])
  | [], _, h => ⟨nofun, (Ranked.ok.inj h).symm⟩
  | x :: xs, _, h => by
    obtain ⟨p, q, hp, hq, rfl⟩ := merge_eq_ok h
    obtain ⟨hg, rfl⟩ := flatMapR_eq_ok hq
    refine ⟨fun y hy => ?_, by rw [List.flatMap_cons, hp]; rfl⟩
    rcases List.mem_cons.1 hy with rfl | hy
    · rw [hp]; rfl
    · exact hg y hy

theorem merge_err_left {d : Nat} {e : Err} : ∀ r : Ranked, GeDepth d r → (Ranked.err d e).merge r = .err d e
  | .ok _, _ => rfl
  | .err _ _, h => by simp only [Ranked.merge]; rw [if_neg (Nat.not_lt.2 h)]

theorem merge_err_right {d : Nat} {e : Err} : ∀ r : Ranked, GeDepth (d + 1) r → r.merge (.err d e) = .err d e
  | .ok _, _ => rfl
  | .err _ _, h => if_pos h

theorem merge_nil_left (r : Ranked) : (Ranked.ok []).merge r = r := by cases r <;> rfl

theorem forget_merge_cons (p : Pos) (r : Ranked) :
    ((Ranked.ok [p]).merge r).forget = andThen r.forget (fun ps => .ok (p :: ps)) := by cases r <;> rfl

theorem denOrd_of_runCtx (root : Node) (strict : Bool) :
    ∀ (ops : List Op) (d : Nat) (el : Pos),
      denOrd root strict ops d el =
        match runCtx root strict ops el with
        | .error e => .err d e
        | .ok (.found p) => .ok [p]
        | .ok .dead => .ok []
        | .ok (.spawn rest kids) => flatMapR (denOrd root strict rest (d + 1)) kids
  | [], _, el => by simp [denOrd, runCtx]
  | .top :: r, d, _ => denOrd_of_runCtx root strict r d []
  | .up :: r, d, el => denOrd_of_runCtx root strict r d el.dropLast
  | .here :: r, d, el => denOrd_of_runCtx root strict r d el
  | .name s :: r, d, el => by
    simp only [denOrd, runCtx]
    cases hi : indexAt root el s with
    | some i => simp only []; exact denOrd_of_runCtx root strict r d _
    | none => cases strict <;> simp
  | .slice a b c :: r, d, el => by
    simp only [denOrd, runCtx]
    split <;> rfl

theorem denOrd_geDepth (root : Node) (strict : Bool) :
    ∀ (ops : List Op) (d : Nat) (el : Pos), GeDepth d (denOrd root strict ops d el)
  | [], d, el => trivial
  | .top :: r, d, _ => denOrd_geDepth root strict r d []
  | .up :: r, d, el => denOrd_geDepth root strict r d el.dropLast
  | .here :: r, d, el => denOrd_geDepth root strict r d el
  | .name s :: r, d, el => by
    simp only [denOrd]
    split
    · exact denOrd_geDepth root strict r d _
    · split
      · exact Nat.le_refl d
      · trivial
  | .slice a b c :: r, d, el => by
    simp only [denOrd]
    split
    · exact Nat.le_refl d
    · exact GeDepth.mono (Nat.le_succ d) _
        (flatMapR_geDepth (d + 1) _ (fun k => denOrd_geDepth root strict r (d + 1) k) _)

theorem work_nil (root : Node) (strict : Bool) : work root strict [] = .ok [] := by simp [work]

/-- While the loop is inside one level the queue is `A ++ B`: `A` = the elements of the level still to run
    (all with the same `ops`, slice depth `d`), `B` = what the elements already run have spawned (all with
    the ops after the slice, depth `d + 1`).  In sequence order the children `B` come before the elements
    `A`, while an error of `A`'s own run (depth `d`) comes before every error below `B` (depth > `d`): the
    queue reads as `(R B).merge (R A)`.  `ih` = the reading of the next level; `rest` = the ops after the
    slice, if `ops` has one (otherwise nothing is ever spawned: `B = []`). -/
theorem work_queue (root : Node) (strict : Bool) (ops rest : List Op) (d : Nat)
    (hrest : ∀ r, afterSlice ops = some r → r = rest)
    (ih : ∀ B : List Pos, (afterSlice ops = none → B = []) →
      work root strict (B.map (fun k => (rest, k))) = (flatMapR (denOrd root strict rest (d + 1)) B).forget) :
    ∀ A B : List Pos, (afterSlice ops = none → B = []) →
      work root strict (A.map (fun el => (ops, el)) ++ B.map (fun k => (rest, k)))
        = ((flatMapR (denOrd root strict rest (d + 1)) B).merge (flatMapR (denOrd root strict ops d) A)).forget := by
  intro A
  induction A with
  | nil => intro B hB; rw [List.map_nil, List.nil_append, flatMapR, merge_ok_nil]; exact ih B hB
  | cons el A ihA =>
    intro B hB
    have hA := flatMapR_geDepth d _ (denOrd_geDepth root strict ops d) A
    have hB' := flatMapR_geDepth (d + 1) _ (denOrd_geDepth root strict rest (d + 1)) B
    rw [List.map_cons, List.cons_append, work_cons, flatMapR, denOrd_of_runCtx]
    cases hr : runCtx root strict ops el with
    | error e => simp only [merge_err_left _ hA, merge_err_right _ hB']; rfl
    | ok r =>
      have hs := runCtx_after root strict ops el r hr
      cases r with
      | dead => simp only [merge_nil_left]; exact ihA B hB
      | found p =>
        rw [hB hs]
        simp only [ihA [] (fun _ => rfl), flatMapR, merge_nil_left, forget_merge_cons]
      | spawn rest' kids =>
        cases hrest _ hs
        simp only [List.append_assoc, ← List.map_append, ihA (B ++ kids) (fun h => by rw [hs] at h; cases h),
          flatMapR_append, merge_assoc]

theorem work_level_gen (root : Node) (strict : Bool) (ops : List Op) (d : Nat) (els : List Pos) :
    work root strict (els.map (fun el => (ops, el))) = (flatMapR (denOrd root strict ops d) els).forget := by
  have key := work_queue root strict ops ((afterSlice ops).getD []) d (fun r h => by rw [h]; rfl)
    (fun B hB =>
      match ha : afterSlice ops with
      | none => by rw [hB ha]; exact work_nil root strict
      | some rest => work_level_gen root strict rest (d + 1) B)
    els [] (fun _ => rfl)
  rwa [List.map_nil, List.append_nil, flatMapR, merge_nil_left] at key
termination_by ops.length
decreasing_by exact afterSlice_length ops rest ha

theorem flatMapR_forget_onlyErr (e0 : Err) (f : Pos → Ranked) (hf : ∀ x, OnlyErr e0 (f x).forget) :
    ∀ xs : List Pos, (flatMapR f xs).forget = flatMapM (fun x => (f x).forget) xs
  | [] => rfl
  | x :: xs => by
    have ih := flatMapR_forget_onlyErr e0 f hf xs
    have hx := hf x
    have hxs : OnlyErr e0 (flatMapR f xs).forget := by
      rw [ih]; exact flatMapM_onlyErr _ xs hf
    simp only [flatMapR, flatMapM]
    rw [← ih]
    cases hfx : f x with
    | ok a =>
      cases hr : flatMapR f xs with
      | ok b => rfl
      | err d e => rfl
    | err d e =>
      rw [hfx] at hx
      cases hr : flatMapR f xs with
      | ok b => rfl
      | err d' e' =>
        rw [hr] at hxs
        have h1 : e = e0 := hx e rfl
        have h2 : e' = e0 := hxs e' rfl
        subst h1; subst h2
        simp only [Ranked.merge]
        split <;> rfl

theorem denOrd_forget_of_uni' (root : Node) (strict : Bool) :
    ∀ (ops : List Op), Uni strict ops → ∀ (d : Nat) (el : Pos),
      (denOrd root strict ops d el).forget = denOps root strict ops el
  | [], _, d, el => rfl
  | .top :: r, hu, d, el => denOrd_forget_of_uni' root strict r hu.tail d []
  | .up :: r, hu, d, el => denOrd_forget_of_uni' root strict r hu.tail d _
  | .here :: r, hu, d, el => denOrd_forget_of_uni' root strict r hu.tail d _
  | .name s :: r, hu, d, el => by
    simp only [denOrd, denOps]
    cases indexAt root el s with
    | some i => exact denOrd_forget_of_uni' root strict r hu.tail d _
    | none => cases strict <;> rfl
  | .slice a b c :: r, hu, d, el => by
    simp only [denOrd, denOps]
    split
    · rfl
    · have hfun : (fun x => (denOrd root strict r (d + 1) x).forget) = denOps root strict r :=
        funext (fun x => denOrd_forget_of_uni' root strict r hu.tail (d + 1) x)
      rw [flatMapR_forget_onlyErr (errOf strict) _
        (fun x => by rw [denOrd_forget_of_uni' root strict r hu.tail (d + 1) x]
                     exact denOps_onlyErr root strict r hu.tail x), hfun]

end Flatland.C14.Proofs
