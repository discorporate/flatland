/-
`sig` (the `(value, u)` an element compares by) is blind to ids, parent pointers, keys and
renumbering; wrapping a plain value by a scalar member schema yields the adapted value.
-/
import Flatland.Tree
import Proofs.Lemmas.TreeHdr
namespace Flatland.Tree
open Flatland.PyList

@[simp] theorem sig_withParent (n : Node) (p : Option Nat) : sig (n.withParent p) = sig n := by
  cases n with
  | mk i s kids => simp [Node.withParent, sig, Node.ni, Node.sch, Node.kids]

@[simp] theorem sig_withKey (n : Node) (k : Str) : sig (n.withKey k) = sig n := by
  cases n with
  | mk i s kids => simp [Node.withKey, sig, Node.ni, Node.sch, Node.kids]

@[simp] theorem sig_mkSlot (id lst nm : Nat) (el : Node) : sig (mkSlot id lst nm el) = sig el := by
  simp [mkSlot, sig, slotSchema, Schema.kind, Schema.info, sigFirst]

theorem sig_slot (i : NInfo) (s : Schema) (el : Node) (rest : List Node) (h : s.kind = .slot) :
    sig (.mk i s (el :: rest)) = sig el := by
  simp [sig, h, sigFirst]

theorem map_sig_renumberFrom (k : Nat) (l : List Node) : (renumberFrom k l).map sig = l.map sig :=
  map_renumberFrom sig_withKey k l

@[simp] theorem map_sig_renumber (l : List Node) : (renumber l).map sig = l.map sig :=
  map_sig_renumberFrom 0 l

@[simp] theorem length_renumberFrom (k : Nat) (l : List Node) : (renumberFrom k l).length = l.length := by
  simpa only [List.length_map] using congrArg List.length (map_renumberFrom (f := fun _ => ()) (fun _ _ => rfl) k l)

@[simp] theorem length_renumber (l : List Node) : (renumber l).length = l.length := length_renumberFrom 0 l

theorem map_key_renumberFrom (k : Nat) (l : List Node) :
    (renumberFrom k l).map Node.key = (List.range' k l.length).map (fun j => (toString j).toList) := by
  induction l generalizing k with
  | nil => rfl
  | cons x xs ih =>
    rw [renumberFrom, List.map_cons, ih, List.length_cons, List.range'_succ, List.map_cons]
    -- with the key left in place `rfl` evaluates `toString k`
    generalize (toString k).toList = t
    cases x; rfl

theorem map_key_renumber (l : List Node) :
    (renumber l).map Node.key = (List.range l.length).map (fun j => (toString j).toList) := by
  rw [renumber, map_key_renumberFrom, List.range_eq_range']

def ScalarSchema (m : Schema) : Prop := m.kind = .integer ∨ m.kind = .string

theorem sig_scalar {x : Node} (h : ScalarSchema x.sch) : sig x = .sc x.ni.val x.ni.u := by
  cases x with
  | mk i s kids => unfold sig; rcases h with h | h <;> simp [Node.sch] at h <;> simp [h, Node.ni]

/-- what `Scalar.set` does with the outcome of adaptation -/
def scalarSetOf (el : Node) (next : Nat) : Option (Val × Str × Bool) → SetR
  | some (v, u, ok) => ⟨el.withScalar v u, next, .ok ok⟩
  | none => ⟨el, next, .error .unsupported⟩

theorem setNode_scalar_eq (el : Node) (hk : ScalarSchema el.sch) (raw : Raw) (pol : Option Policy) (next : Nat) :
    setNode el raw pol next = scalarSetOf el next (adaptScalar el.sch.kind raw) := by
  cases el with
  | mk i s kids =>
    simp only [Node.sch] at hk ⊢
    unfold setNode
    rcases hk with hk | hk <;> simp only [hk] <;> cases adaptScalar _ raw <;> rfl

theorem setNode_scalar (el : Node) (hk : el.sch.kind = .integer ∨ el.sch.kind = .string) (raw : Raw)
    (pol : Option Policy) (next : Nat) (v : Val) (u : Str) (ok : Bool)
    (ha : adaptScalar el.sch.kind raw = some (v, u, ok)) :
    (setNode el raw pol next).res = .ok ok ∧ (setNode el raw pol next).next = next ∧
      sig (setNode el raw pol next).node = .sc v u ∧ (setNode el raw pol next).node.kids = el.kids := by
  rw [setNode_scalar_eq el hk, ha]
  cases el; exact ⟨rfl, rfl, sig_scalar (x := Node.mk _ _ _) hk, rfl⟩

theorem blank_scalar (m : Schema) (hm : ScalarSchema m) (p : Option Nat) (k : Str) (next : Nat) :
    blank m p k next = (.mk { id := next, parent := p, key := k } m [], next + 1) := by
  cases m with
  | mk info dflt subs =>
    have hk : info.kind = .integer ∨ info.kind = .string := hm
    unfold blank
    rcases hk with hk | hk <;> simp [hk]

/-- `member_schema(value=raw)` for a scalar member schema: a fresh detached element holding the
    adapted `(value, u)` -/
theorem construct_scalar (m : Schema) (hm : ScalarSchema m) (raw : Raw) (parent : Option Nat) (key : Str)
    (next : Nat) (v : Val) (u : Str) (ok : Bool) (ha : adaptScalar m.kind raw = some (v, u, ok)) :
    ∃ w, construct m raw parent key next = (.ok w, next + 1) ∧ sig w = .sc v u ∧
      w.hdr = (next, parent, m, key, none, none) ∧ w.kids = [] := by
  have hs := setNode_scalar (.mk { id := next, parent := parent, key := key } m []) hm raw none (next + 1) v u ok ha
  obtain ⟨h1, h2, h3, h4⟩ := hs
  refine ⟨(setNode (.mk { id := next, parent := parent, key := key } m []) raw none (next + 1)).node, ?_, h3, ?_, h4⟩
  · unfold construct
    simp only [blank_scalar m hm, h1, h2]
  · rw [setNode_hdr]; rfl

end Flatland.Tree
