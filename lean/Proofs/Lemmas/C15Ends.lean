/-
How a validator call ends.  Every `validate` of the C15 model ends in one of three ways: an
exception, `return True`, or `return self.note_error(…)` at one of the few call sites of its class
(`sites`).  `verdict_ends` reads this off the text of `verdict` once; the call-site fact behind the
message theorems and "a note exactly when the verdict is False" are its two projections, so a class
is compared with its documentation on the returned Boolean alone (`answer`).
-/
import Flatland.C15
import Flatland.Spec.C15
import Proofs.Lemmas.C15Email
namespace Flatland.C15.Proofs
open Flatland.C16 Flatland.C15

/-- the `note_error` call sites of each class: (message attribute, keyword names) -/
def sites : V → List (String × List Str)
  | .present => [("missing", [])]
  | .isTrue => [("false", [])]
  | .isFalse => [("true", [])]
  | .converted => [("incorrect", [])]
  | .valueIn _ | .valueInText _ => [("fail", [])]
  | .shorterThan _ => [("exceeded", [])]
  | .longerThan _ => [("short", [])]
  | .lengthBetween _ _ => [("breached", [])]
  | .valueLessThan _ | .valueAtMost _ | .valueGreaterThan _ | .valueAtLeast _ => [("failure", [])]
  | .valueBetween _ _ _ => [("failure_inclusive", []), ("failure_exclusive", [])]
  | .mapEqual _ => [("unequal", ["labels".toList, "last_label".toList])]
  | .notDuplicated => [("failure", ["position".toList, "container_label".toList])]
  | .hasAtLeast _ | .hasAtMost _ => [("failure", ["child_label".toList])]
  | .hasBetween _ _ => [("exact", ["child_label".toList]), ("range", ["child_label".toList])]
  | .setWithKnownFields => [("unexpected", ["unexpected".toList, "n_unexpected".toList])]
  | .setWithAllFields =>
    let kw := ["n_missing".toList, "missing".toList, "n_unexpected".toList, "unexpected".toList]
    [("both", kw), ("missing", kw), ("unexpected", kw)]
  | .luhn10 | .isEmail _ => [("invalid", [])]
  | .urlValidator _ _ => [("bad_format", []), ("blocked_scheme", []), ("blocked_part", [])]
  | .httpURL _ _ _ => [("bad_format", []), ("required_part", []), ("forbidden_part", [])]
  | .urlCanonicalizer _ => [("bad_format", [])]

/-- `r` is an exception, `pass`, or `fail` at one of the call sites `S` -/
inductive Ends (S : List (String × List Str)) : Except Raise Verdict → Prop
  | error {r} : Ends S (.error r)
  | pass : Ends S C15.pass
  | fail {k i} (h : (k, i.map (·.1)) ∈ S) : Ends S (C15.fail k i)

namespace Ends
variable {S : List (String × List Str)}

theorem ite {c} [Decidable c] {a b} (ha : Ends S a) (hb : Ends S b) :
    Ends S (if c then a else b) := by
  split
  · exact ha
  · exact hb

theorem fail_ite {c} [Decidable c] {k₁ k₂ i} (h₁ : Ends S (C15.fail k₁ i))
    (h₂ : Ends S (C15.fail k₂ i)) : Ends S (C15.fail (if c then k₁ else k₂) i) := by
  split
  · exact h₁
  · exact h₂

theorem bind {α} {x : Except Raise α} {f} (h : ∀ a, Ends S (f a)) : Ends S (x >>= f) := by
  cases x with
  | error r => exact error
  | ok a => exact h a

theorem site {r b n} (h : Ends S r) (hr : r = .ok (b, some n)) : (n.key, n.info.map (·.1)) ∈ S := by
  cases h with
  | error => cases hr
  | pass => cases hr
  | fail h => cases hr; exact h

theorem noted {r d note} (h : Ends S r) (hr : r = .ok (d, note)) : d = true ↔ note = none := by
  cases h with
  | error => cases hr
  | pass => cases hr; simp
  | fail h => cases hr; simp

end Ends

theorem urlPartsLoop_ends {S} (h : ("blocked_part", []) ∈ S) (allowed u parts) :
    Ends S (urlPartsLoop allowed u parts) := by
  induction parts with
  | nil => exact .pass
  | cons part rest ih => exact .ite (.fail h) ih

theorem httpPartsLoop_ends {S} (hb : ("bad_format", []) ∈ S) (hr : ("required_part", []) ∈ S)
    (hf : ("forbidden_part", []) ∈ S) (req forb p parts) :
    Ends S (httpPartsLoop req forb p parts) := by
  induction parts with
  | nil => exact .pass
  | cons part rest ih =>
    unfold httpPartsLoop
    split
    · exact .fail hb
    · exact .error
    · exact .ite (.fail hr) (.ite (.fail hf) ih)

theorem verdict_ends (v : V) (e : View) : Ends (sites v) (verdict v e) := by
  cases v with
  | present | isTrue | isFalse | valueIn _ | valueInText _ | shorterThan _ | longerThan _
  | lengthBetween _ _ =>
    exact .ite (.fail List.mem_cons_self) .pass
  | converted => exact .ite .pass (.fail List.mem_cons_self)
  | valueLessThan _ | valueAtMost _ | valueGreaterThan _ | valueAtLeast _ =>
    exact .ite (.fail List.mem_cons_self) (.bind fun _ => .ite (.fail List.mem_cons_self) .pass)
  | valueBetween _ _ _ =>
    refine .ite (.ite (.fail List.mem_cons_self) ?_) (.ite (.fail (.tail _ List.mem_cons_self)) ?_)
    · split
      · exact .error
      · exact .ite (.fail List.mem_cons_self) .pass
    · split
      · exact .error
      · exact .ite (.fail (.tail _ List.mem_cons_self)) .pass
  | mapEqual _ =>
    refine .bind fun elements => ?_
    cases elements with
    | nil => exact .error
    | cons first rest => exact .ite .pass (.bind fun _ => .fail List.mem_cons_self)
  | notDuplicated => exact .ite .error (.ite (.fail List.mem_cons_self) .pass)
  | hasAtLeast _ => exact .ite .error (.ite .pass (.ite (.fail List.mem_cons_self) .pass))
  | hasAtMost _ => exact .ite .error (.ite (.fail List.mem_cons_self) .pass)
  | hasBetween _ _ =>
    exact .ite .error (.ite .pass
      (.fail_ite (.fail List.mem_cons_self) (.fail (.tail _ List.mem_cons_self))))
  | setWithKnownFields =>
    simp only [verdict]
    split
    case h_6 => exact .ite .pass (.fail List.mem_cons_self)
    all_goals exact .pass
  | setWithAllFields =>
    simp only [verdict]
    split
    case h_6 =>
      exact .ite .pass (.fail_ite (.fail List.mem_cons_self) (.fail_ite
        (.fail (.tail _ List.mem_cons_self)) (.fail (.tail _ (.tail _ List.mem_cons_self)))))
    all_goals exact .pass
  | luhn10 =>
    simp only [verdict]
    split
    · exact .fail List.mem_cons_self
    · split
      · exact .ite .pass (.fail List.mem_cons_self)
      · exact .error
  | isEmail nl =>
    cases hv : e.value with
    | str addr => rw [verdict_isEmail_str nl e addr hv]; exact .ite .pass (.fail List.mem_cons_self)
    | none => simp only [verdict, hv]; exact .fail List.mem_cons_self
    | _ => simp only [verdict, hv]; exact .error
  | urlValidator s a =>
    simp only [verdict]
    split
    · exact .fail List.mem_cons_self
    · unfold urlValidate
      split
      · exact .error
      · exact .fail List.mem_cons_self
      · exact .ite (.fail (.tail _ List.mem_cons_self)) (.ite (.fail (.tail _ List.mem_cons_self))
          (urlPartsLoop_ends (.tail _ (.tail _ List.mem_cons_self)) _ _ _))
    · exact .fail List.mem_cons_self
  | httpURL ap r f =>
    simp only [verdict]
    split
    · exact .pass
    · unfold httpValidate
      split
      · exact .error
      · exact .fail List.mem_cons_self
      · exact .error
      · exact httpPartsLoop_ends List.mem_cons_self (.tail _ List.mem_cons_self)
          (.tail _ (.tail _ List.mem_cons_self)) _ _ _ _
    · exact .error
  | urlCanonicalizer d =>
    refine .ite .pass ?_
    split
    · split
      · exact .error
      · exact .fail List.mem_cons_self
      · exact .pass
    · exact .error

def answer (r : Except Raise Verdict) : Except Raise Bool := r.map (·.1)

@[simp] theorem answer_pass : answer pass = .ok true := rfl
@[simp] theorem answer_fail (k i) : answer (fail k i) = .ok false := rfl
@[simp] theorem answer_error (r) : answer (.error r) = .error r := rfl

theorem answer_ite {c} [Decidable c] (a b) :
    answer (if c then a else b) = if c then answer a else answer b := apply_ite ..

theorem answer_test {c} [Decidable c] {k i} :
    answer (if c then fail k i else pass) = .ok (!decide c) := by
  by_cases h : c <;> simp [h]

theorem answer_unless (b : Bool) {k i} : answer (if !b then fail k i else pass) = .ok b := by
  cases b <;> rfl

theorem answer_when (b : Bool) {k i} : answer (if b then fail k i else pass) = .ok (!b) := by
  cases b <;> rfl

theorem answer_if (b : Bool) {k i} : answer (if b then pass else fail k i) = .ok b := by
  cases b <;> rfl

/-- `if not (a op b): return self.note_error(…)` with a comparison that may raise -/
theorem answer_bind_test (op : Except Raise Bool) {k i} :
    answer (op >>= fun r => if !r then fail k i else pass) = op := by
  cases op with
  | error r => rfl
  | ok b => cases b <;> rfl

end Flatland.C15.Proofs
