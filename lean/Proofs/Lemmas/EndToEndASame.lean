/-
END TO END / C02 — for CANONICAL pair lists the plain per-key reading of stability is enough (`asame_flatten`): against
an element's own flat pairs, every `KRel`-related list (the same multiset, the pairs of every key in the same relative
order) is `ASame`.  For ARBITRARY pair lists this is false — `order_free_stable_full_fails`: `l_0` / `l_00` are two keys
of one Array's member list; on canonical output every index has one spelling.  "`ASame` against every `KRel`-related
list" follows `_set_flat` down the schema (`asame_descent`): `KRel` survives every stripping step because on canonical
keys every step is injective (`krel_possibles`, `krel_groupOf` with `own_group_inj`); at an Array the own output has
ONE key, so the two lists are equal (`krel_eq_of_const_key`).
-/
import Proofs.Lemmas.EndToEndKRel
namespace Flatland.Flat.Proofs
open Flatland.Flat Flatland.Flat.Spec Flatland.EndToEnd

theorem krel_groupOf (env : Env) (sep : Str) (nm : Option Str) (prune : Bool) (i : Nat) {A B : Pairs}
    (hinj : ∀ p ∈ A, ∀ q ∈ A, ∀ p' q', p' ∈ groupOf env sep nm prune i [p] →
      q' ∈ groupOf env sep nm prune i [q] → p'.1 = q'.1 → p.1 = q.1)
    (h : KRel A B) : KRel (groupOf env sep nm prune i A) (groupOf env sep nm prune i B) := by
  unfold groupOf at hinj ⊢
  apply krel_filterMap _ _ h
  intro p hp q hq p' q' hgp hgq
  exact hinj p hp q hq p' q' (List.mem_filterMap.mpr ⟨p, by simp, hgp⟩) (List.mem_filterMap.mpr ⟨q, by simp, hgq⟩)

theorem asame_descent (env : Env) (sep : Str) :
    Descent env sep (fun s _ A => ∀ B : Pairs,
      KRel (A.filter (fun p => reach env sep s p.1)) (B.filter (fun p => reach env sep s p.1)) →
      ASame env sep s A B) where
  congr_reach s _ A A' h hA' B hR := asame_congr_reach env sep s A A' B B h rfl (hA' B (h ▸ hR))
  nil s _ B hR :=
    asame_congr_reach env sep s [] [] B [] rfl (by rw [krel_nil_right hR]; rfl) (asame_refl env sep s [])
  leaf nm o k _ A _ B _ := by simp only [ASame]
  joined nm o k m _ A _ B _ := by simp only [ASame]
  array nm o prune member ms A k0 _ hk B hR := by
    have heq := krel_eq_of_const_key hR k0 (fun p hp => hk p (List.mem_filter.mp hp).1)
    exact asame_congr_reach env sep _ A A B A rfl heq.symm (asame_refl env sep _ A)
  dict nm o mode fields ms A h B hR := by
    simp only [reach] at hR
    have h2 := krel_possibles sep nm hR
    rw [possibles_filter, possibles_filter] at h2
    simp only [ASame, asameFields_iff]
    exact fun f hf => h f hf _ (krel_filter _ (krel_wrap (krel_filter _ h2)))
  compound nm o k fields ms A h B hR := by
    rw [asame_compound]
    exact h B (by simpa only [reach_compound] using hR)
  list nm o prune mx member ms A hinj h B hR := by
    simp only [reach] at hR
    simp only [ASame]
    intro i
    have h1 := krel_groupOf env sep nm prune i
      (fun p hp q hq => hinj i p (List.mem_filter.mp hp).1 q (List.mem_filter.mp hq).1) hR
    rw [groupOf_filter, groupOf_filter] at h1
    exact h i _ (krel_filter _ h1)

/-- what the induction carries for one schema: against the element's own surviving pairs, every list
    that is `KRel`-related to them (after the element's own first test) is `ASame` -/
def HAS (env : Env) (sep : Str) (s : Schema) : Prop :=
  ∀ (u : Bool) (e : Elem), OkS env s e → ∀ B : Pairs,
    KRel ((toKeys sep ((relFlat (resolve env s e)).filter (keepP u))).filter (fun p => reach env sep s p.1))
      (B.filter (fun p => reach env sep s p.1)) →
    ASame env sep s (toKeys sep ((relFlat (resolve env s e)).filter (keepP u))) B

variable {env : Env} {sep : Str}

section main
variable (root : Schema) (hs : SepSafe env sep (Tok root)) (henv : EnvOK env)
include hs henv

theorem has_fields : ∀ fs : List Schema, (∀ t ∈ namesL fs, t ∈ names root) → wfL fs = true →
    ∀ f ∈ fs, HAS env sep f :=
  (asame_descent env sep).own_fields root hs henv

end main

/-- Canonical keys, the per-key reading is enough: against the flat pairs of a conforming element,
    every list with the same pairs in which the pairs of every KEY keep their relative order hands every
    Array its member-yielding pairs in the same order (`ASame`). -/
theorem asame_flatten (env : Env) (sep : Str) (s : Schema) (e : Elem)
    (hs : SepSafe env sep (Tok s)) (henv : EnvOK env) (hw : wf s = true)
    (hroot : rootOK s = true) (hok : OkS env s e) (ps' : List (Str × Str))
    (hR : KRel (flatten env sep s e) ps') :
    ASame env sep s (wrap (flatten env sep s e)) (wrap ps') :=
  (asame_descent env sep).flatten henv s e hs hw hroot hok _ (krel_filter _ (krel_wrap hR))

end Flatland.Flat.Proofs
