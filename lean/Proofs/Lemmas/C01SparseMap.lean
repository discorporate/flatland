/-
C01 with SparseDicts: a mapping (Dict, Compound, SparseDict) whose fields all round-trip does so
itself — `rts_mapping`.
-/
import Proofs.Lemmas.C01SparseDict
namespace Flatland.Flat.Proofs
open Flatland.Flat Flatland.Flat.Spec

variable {env : Env} {sep : Str} {T : Str → Prop}

/-- the local `v` of `prSPick` -/
def valS (env : Env) (sep : Str) (u : Bool) (ms : List (Str × Elem)) (f : Schema) : Elem :=
  match lookup (f.name.getD []) ms with
  | some e => prS env sep u f e
  | none => blank f

theorem prSPick_eq (env : Env) (sep : Str) (u : Bool) (req : Schema → Bool) (keys : List (Str × Str))
    (ms : List (Str × Elem)) (first : Bool) (fs : List Schema) :
    prSPick env sep u req keys ms first fs = pickV req keys (valS env sep u ms) first fs := by
  induction fs with
  | nil => simp [prSPick, pickV]
  | cons f fs ih =>
    simp only [prSPick, pickV, ih, valS]
    cases lookup (f.name.getD []) ms <;> rfl

theorem prS_leaf (u : Bool) (nm : Option Str) (o : Bool) (k : Nat) (e : Elem) :
    prS env sep u (.leaf nm o k) e = e := by
  rw [prS, pr]

/-- the pruning keeps a JoinedString's text (a dropped text is the empty one); only the members depend
    on whether its pair survives -/
theorem pr_joined (u : Bool) (nm : Option Str) (o : Bool) (k : Nat) (m : Schema) (t : Str) (ms : List Elem) :
    pr env u (.joined nm o k m) (.joined t ms)
      = .joined t (if u && t.isEmpty then [] else (env.joinedMembers k t).map Elem.leaf) := by
  simp only [pr]
  split
  · rename_i h
    simp only [Bool.and_eq_true, List.isEmpty_iff] at h
    rw [h.2]
  · rfl

theorem prS_joined (u : Bool) (nm : Option Str) (o : Bool) (k : Nat) (m : Schema) (t : Str) (ms : List Elem) :
    prS env sep u (.joined nm o k m) (.joined t ms)
      = .joined t (if u && t.isEmpty then [] else (env.joinedMembers k t).map Elem.leaf) := by
  rw [prS, pr_joined]

theorem okP_joined {u : Bool} {nm : Option Str} {o : Bool} {k : Nat} {m : Schema} {t : Str}
    (hn : env.norm k t = t) :
    OkP env (.joined nm o k m)
      (.joined t (if u && t.isEmpty then [] else (env.joinedMembers k t).map Elem.leaf)) := by
  refine ⟨hn, ?_⟩
  split
  · rename_i h
    simp only [Bool.and_eq_true, List.isEmpty_iff] at h
    exact Or.inr ⟨h.2, rfl⟩
  · exact Or.inl rfl

theorem prS_array (u : Bool) (nm : Option Str) (o p : Bool) (member : Schema) (ms : List Elem) :
    prS env sep u (.array nm o p member) (.array ms)
      = .array (ms.filter (fun m => emitsB env (u || arrayPrunes nm p member) member m)) := by
  rw [prS, pr]

theorem prS_dict (u : Bool) (nm : Option Str) (o : Bool) (mode : DictMode) (fields : List Schema)
    (ms : List (Str × Elem)) :
    prS env sep u (.dict nm o mode fields) (.dict ms)
      = .dict (pickV (isReq mode) (innerPairs env sep u fields ms) (valS env sep u ms) true fields
          ++ pickV (isReq mode) (innerPairs env sep u fields ms) (valS env sep u ms) false fields) := by
  simp only [prS]
  rw [prSPick_eq, prSPick_eq]

theorem prS_compound (u : Bool) (nm : Option Str) (o : Bool) (k : Nat) (fields : List Schema) (e : Elem) :
    prS env sep u (.compound nm o k fields) e = prS env sep u (.dict nm o .dense fields) e := by
  cases e <;> rfl

theorem valS_cases {P : Elem → Prop} {u : Bool} {ms : List (Str × Elem)} {f : Schema} (hb : P (blank f))
    (hp : ∀ e, lookup (f.name.getD []) ms = some e → P (prS env sep u f e)) : P (valS env sep u ms f) := by
  unfold valS
  cases hl : lookup (f.name.getD []) ms with
  | none => exact hb
  | some e => exact hp e hl

theorem relFlat_anon_dict (env : Env) (o : Bool) (mode : DictMode) (fields : List Schema)
    (ms : List (Str × Elem)) :
    relFlat (resolve env (.dict none o mode fields) (.dict ms))
      = bfsPath ((kidsS env fields ms).map (fun k => (([], k) : QItem))) := by
  rw [resolve_dictS, relFlat_eq]
  simp only [ownPath, FNode.fl, Bool.false_eq_true, if_false, List.nil_append, pushed, FNode.cfl,
    if_true, childItems, FNode.slots, FNode.kids, namePath, FNode.name, Option.toList]
  rw [kidsFrom_noslots]

/-- the keys the spec tests `touched` on are the keys `possibles` hands to the field loop -/
theorem innerPairs_eq (env : Env) (sep : Str) (u : Bool) (fields : List Schema) (ms : List (Str × Elem)) :
    innerPairs env sep u fields ms
      = ((bfsPath ((kidsS env fields ms).map (fun k => (([], k) : QItem)))).filter (keepP u)).map
          (joinPair sep) := by
  unfold innerPairs
  rw [flatten_eq_relFlat, relFlat_anon_dict, List.filter_map]
  rfl

section mapping
variable (hs : SepSafe env sep T)
include hs

/-- A Dict, Compound or SparseDict (`req` = which fields a fresh one is created with)
    whose fields all round-trip does so itself, from any conforming state: any subset of the fields
    in any order. -/
theorem rts_mapping (nm : Option Str) (hnm : ∀ x, nm = some x → T x) (fields : List Schema)
    (hnd : (namesOf fields).Nodup) (htok : ∀ g ∈ fields, ∃ x, g.name = some x ∧ T x)
    (hrt : ∀ f ∈ fields, RTS env sep f) (req : Schema → Bool)
    (ms : List (Str × Elem)) (hkeys : (ms.map (·.1)).Nodup)
    (hmem : ∀ p ∈ ms, OkSAny env fields p.1 p.2) (u : Bool)
    (own : List PPair) (hown : own = [] ∨ ∃ t, own = [(nm.toList, t)])
    (L : List PPair)
    (hLdef : L = bfsPath ((kidsS env fields ms).map (fun k => ((nm.toList, k) : QItem))))
    (poss : List (Str × Str))
    (hpdef : poss = possibles sep nm (toKeys sep ((own ++ L).filter (keepP u)))) :
    (if poss.isEmpty then Elem.dict (blankSel req fields)
     else Elem.dict (setFields env sep fields (blankSel req fields) poss))
      = Elem.dict (prSPick env sep u req (innerPairs env sep u fields ms) ms true fields
          ++ prSPick env sep u req (innerPairs env sep u fields ms) ms false fields) := by
  have hposs : poss = ((bfsPath ((kidsS env fields ms).map (fun k => (([], k) : QItem)))).filter
      (keepP u)).map (joinPair sep) := by
    rw [hpdef, hLdef]
    exact own_possibles hs nm _ (fun _ hk => (kidsS_names htok hk).imp fun _ h => h.1) u own hown
  have hsome : ∀ g ∈ fields, g.name.isSome := by
    intro g hg
    obtain ⟨x, hx, _⟩ := htok g hg
    simp [hx]
  have hfold := setFields_closed env sep fields hnd hsome req poss (valS env sep u ms) (by
    intro f hf _
    obtain ⟨x, hx, _⟩ := htok f hf
    have h := field_roundtripS hs fields hnd htok ms hkeys hmem f hf x hx (hrt f hf) u
    rw [← hposs] at h
    simp only [hx, Option.getD_some, valS]
    rw [h]
    cases lookup x ms <;> rfl)
  rw [prSPick_eq, prSPick_eq, innerPairs_eq, ← hposs, ← hfold]
  split
  · rename_i hemp
    have : poss = [] := by simpa using hemp
    rw [this, setFields_nil]
  · rfl

end mapping

end Flatland.Flat.Proofs
