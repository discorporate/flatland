/-
Identity accounting for the shared tree model.  `cnt a n` = how often identity `a` occurs in the subtree `n`
(`cntL` for a list of subtrees).  Every constructor and mutator of the model satisfies the accounting inequality
(Proofs/C08IdsBuild.lean, Proofs/C08IdsStep.lean)

    cnt a out ≤ cnt a in + (occurrences of `a` in the Element arguments) + ind next next' a

where `ind next next' a` is 1 exactly for the identities the call hands out (`next ≤ a < next'`); from it,
identities stay unique and below the counter.  Here: the vocabulary of counting, and of `kok`
(Flatland/Spec/C08.lean), on which uniqueness depends in a mapping.
-/
import Flatland.C08
import Flatland.Spec.C08
import Proofs.Lemmas.PyListMem
import Proofs.Lemmas.TreeCtx
namespace Flatland.C08.Proofs
open Flatland.Tree Flatland.PyList Flatland.C08 Flatland.C08.Spec

def own (a i : Nat) : Nat := if i = a then 1 else 0
def ind (lo hi a : Nat) : Nat := if lo ≤ a ∧ a < hi then 1 else 0

theorem ind_self (n a : Nat) : ind n n a = 0 := by unfold ind; split <;> omega
theorem ind_le_one (lo hi a : Nat) : ind lo hi a ≤ 1 := by unfold ind; split <;> omega
theorem own_le_one (a i : Nat) : own a i ≤ 1 := by unfold own; split <;> omega
theorem ind_add (a : Nat) {lo mid hi : Nat} (h1 : lo ≤ mid) (h2 : mid ≤ hi) :
    ind lo mid a + ind mid hi a = ind lo hi a := by
  unfold ind; split <;> split <;> split <;> omega
theorem own_eq_ind (a i : Nat) : own a i = ind i (i + 1) a := by
  unfold own ind; split <;> split <;> omega
theorem ind_mono (a : Nat) {lo lo' hi hi' : Nat} (h1 : lo' ≤ lo) (h2 : hi ≤ hi') : ind lo hi a ≤ ind lo' hi' a := by
  unfold ind; split <;> split <;> omega
theorem ind_pos {lo hi a : Nat} (h : 0 < ind lo hi a) : lo ≤ a ∧ a < hi := by
  unfold ind at h; split at h
  · assumption
  · omega
theorem ind_eq_zero_of_lt {lo hi a : Nat} (h : a < lo) : ind lo hi a = 0 := by
  unfold ind; split <;> omega
theorem own_pos {a i : Nat} (h : 0 < own a i) : i = a := by
  unfold own at h; split at h
  · assumption
  · omega
theorem own_self (a : Nat) : own a a = 1 := by simp [own]

def cnt (a : Nat) (n : Node) : Nat := (ids n).count a
def cntL (a : Nat) (l : List Node) : Nat := ((nodesL l).map Node.id).count a


theorem cnt_eq (a : Nat) (n : Node) : cnt a n = own a n.id + cntL a n.kids := by
  unfold cnt cntL ids own
  rw [nodes_eq, List.map_cons, List.count_cons]
  simp only [beq_iff_eq]; omega

@[simp] theorem cntL_nil (a : Nat) : cntL a [] = 0 := by simp [cntL, nodesL]

theorem cntL_cons (a : Nat) (k : Node) (ks : List Node) : cntL a (k :: ks) = cnt a k + cntL a ks := by
  unfold cntL cnt ids
  rw [nodesL, List.map_append, List.count_append]

theorem cntL_append (a : Nat) (x y : List Node) : cntL a (x ++ y) = cntL a x + cntL a y := by
  unfold cntL; rw [nodesL_append, List.map_append, List.count_append]

theorem cntL_singleton (a : Nat) (k : Node) : cntL a [k] = cnt a k := by rw [cntL_cons, cntL_nil]; rfl

theorem cnt_mk (a : Nat) (i : NInfo) (s : Schema) (ks : List Node) : cnt a (.mk i s ks) = own a i.id + cntL a ks :=
  cnt_eq a _

theorem cnt_withKids (a : Nat) (n : Node) (ks : List Node) : cnt a (n.withKids ks) = own a n.id + cntL a ks := by
  cases n; exact cnt_eq a _
theorem cnt_withParent (a : Nat) (n : Node) (p : Option Nat) : cnt a (n.withParent p) = cnt a n := by
  cases n; rw [cnt_eq, cnt_eq]; rfl
theorem cnt_withKey (a : Nat) (n : Node) (k : Str) : cnt a (n.withKey k) = cnt a n := by
  cases n; rw [cnt_eq, cnt_eq]; rfl
theorem cnt_withScalar (a : Nat) (n : Node) (v : Val) (u : Str) : cnt a (n.withScalar v u) = cnt a n := by
  cases n; rw [cnt_eq, cnt_eq]; rfl

theorem cnt_mkSlot (a id lst nm : Nat) (e : Node) : cnt a (mkSlot id lst nm e) = own a id + cnt a e := by
  unfold mkSlot; rw [cnt_mk, cntL_singleton, cnt_withParent]

theorem mem_ids_iff (a : Nat) (n : Node) : a ∈ ids n ↔ 0 < cnt a n := by
  unfold cnt; exact List.count_pos_iff.symm

theorem cnt_le_of_nodup {n : Node} (h : (ids n).Nodup) (a : Nat) : cnt a n ≤ 1 :=
  List.nodup_iff_count.mp h a

theorem nodup_of_cnt {n : Node} (h : ∀ a, cnt a n ≤ 1) : (ids n).Nodup := List.nodup_iff_count.mpr h

/-- a list operation that only rearranges keeps every count: all the accounting asks of one -/
theorem cntL_perm (a : Nat) {l l' : List Node} (h : l.Perm l') : cntL a l = cntL a l' := by
  induction h with
  | nil => rfl
  | cons x _ ih => rw [cntL_cons, cntL_cons, ih]
  | swap x y l => simp only [cntL_cons]; omega
  | trans _ _ ih1 ih2 => exact ih1.trans ih2

theorem cntL_sublist {l1 l2 : List Node} (h : l1.Sublist l2) (a : Nat) : cntL a l1 ≤ cntL a l2 := by
  induction h with
  | slnil => exact Nat.le_refl _
  | cons x _ ih => rw [cntL_cons]; omega
  | cons_cons x _ ih => rw [cntL_cons, cntL_cons]; omega

theorem cnt_le_cntL {a : Nat} {l : List Node} {x : Node} (h : x ∈ l) : cnt a x ≤ cntL a l := by
  have := cntL_sublist (List.singleton_sublist.mpr h) a
  rwa [cntL_singleton] at this

theorem cntL_renumberFrom (a k : Nat) (l : List Node) : cntL a (renumberFrom k l) = cntL a l := by
  induction l generalizing k with
  | nil => rfl
  | cons x xs ih => rw [renumberFrom, cntL_cons, cntL_cons, cnt_withKey, ih]

theorem cntL_renumber (a : Nat) (l : List Node) : cntL a (renumber l) = cntL a l := cntL_renumberFrom a 0 l

theorem swfL_iff (l : List Schema) : swfL l = true ↔ ∀ f ∈ l, swf f = true := by
  induction l with
  | nil => simp [swfL]
  | cons f fs ih => simp [swfL, ih]

theorem kokL_iff (l : List Node) : kokL l = true ↔ ∀ k ∈ l, kok k = true := by
  induction l with
  | nil => simp [kokL]
  | cons f fs ih => simp [kokL, ih]

theorem swf_iff (s : Schema) : swf s = true ↔
    (isMap s.kind = true → (s.subs.map Schema.key).Nodup) ∧ ∀ f ∈ s.subs, swf f = true := by
  cases s with
  | mk info d subs =>
    rw [swf, Bool.and_eq_true, swfL_iff]
    simp only [Schema.kind, Schema.info, Schema.subs, Bool.or_eq_true, Bool.not_eq_true', decide_eq_true_eq]
    constructor
    · rintro ⟨h1, h2⟩; refine ⟨fun hm => ?_, h2⟩; rcases h1 with h | h; (· rw [h] at hm; cases hm); exact h
    · rintro ⟨h1, h2⟩; refine ⟨?_, h2⟩
      cases hm : isMap info.kind
      · exact .inl rfl
      · exact .inr (h1 hm)

theorem kok_iff (n : Node) : kok n = true ↔
    swf n.sch = true ∧ (isMap n.kind = true → (n.kids.map Node.key).Nodup) ∧ ∀ k ∈ n.kids, kok k = true := by
  cases n with
  | mk i s kids =>
    rw [kok, Bool.and_eq_true, Bool.and_eq_true, kokL_iff]
    simp only [Node.kind, Node.sch, Node.kids, Bool.or_eq_true, Bool.not_eq_true', decide_eq_true_eq]
    constructor
    · rintro ⟨⟨h0, h1⟩, h2⟩; refine ⟨h0, fun hm => ?_, h2⟩; rcases h1 with h | h; (· rw [h] at hm; cases hm); exact h
    · rintro ⟨h0, h1, h2⟩; refine ⟨⟨h0, ?_⟩, h2⟩
      cases hm : isMap s.kind
      · exact .inl rfl
      · exact .inr (h1 hm)

theorem kok_withParent (n : Node) (p : Option Nat) : kok (n.withParent p) = kok n := by cases n; rfl
theorem kok_withKey (n : Node) (k : Str) : kok (n.withKey k) = kok n := by cases n; rfl
theorem kok_withScalar (n : Node) (v : Val) (u : Str) : kok (n.withScalar v u) = kok n := by cases n; rfl

theorem swf_slot : swf slotSchema = true := by decide

theorem kok_mkSlot (id lst nm : Nat) (e : Node) (h : kok e = true) : kok (mkSlot id lst nm e) = true := by
  unfold mkSlot
  rw [kok_iff]
  refine ⟨swf_slot, fun hm => by simp [Node.kind, Node.sch, slotSchema, Schema.kind, Schema.info, isMap] at hm, ?_⟩
  intro k hk
  simp only [Node.kids, List.mem_singleton] at hk
  rw [hk, kok_withParent]; exact h

theorem kokL_renumberFrom (k : Nat) (l : List Node) (h : kokL l = true) : kokL (renumberFrom k l) = true := by
  induction l generalizing k with
  | nil => rfl
  | cons x xs ih =>
    rw [kokL, Bool.and_eq_true] at h
    rw [renumberFrom, kokL, kok_withKey, h.1, ih _ h.2]; rfl

theorem kokL_append {x y : List Node} : kokL (x ++ y) = true ↔ kokL x = true ∧ kokL y = true := by
  simp only [kokL_iff, List.mem_append]
  constructor
  · intro h; exact ⟨fun k hk => h k (.inl hk), fun k hk => h k (.inr hk)⟩
  · rintro ⟨h1, h2⟩ k (hk | hk)
    · exact h1 k hk
    · exact h2 k hk

theorem kokL_sub {l l' : List Node} (h : kokL l = true) (hs : ∀ x ∈ l', x ∈ l) : kokL l' = true :=
  (kokL_iff _).mpr (fun x hx => (kokL_iff _).mp h x (hs x hx))

theorem perm_swap_ends {α : Type} (x y : α) (l : List α) : (x :: l ++ [y]).Perm (y :: l ++ [x]) :=
  (((List.perm_append_singleton y l).cons x).trans (List.Perm.swap y x l)).trans
    ((List.perm_append_singleton x l).symm.cons y)

/-- exactly the old child leaves and `new` enters, said as a permutation for `cntL_perm` -/
theorem perm_replaceKid (kids : List Node) (key : Str) (new child : Node)
    (hk : (kids.map Node.key).Nodup) (hc : findKid kids key = some child) :
    (replaceKid kids key new ++ [child]).Perm (kids ++ [new]) := by
  obtain ⟨a, b, rfl, hr⟩ := replaceKid_split hk hc
  rw [hr, List.append_assoc, List.append_assoc]
  exact (perm_swap_ends new child b).append_left a

end Flatland.C08.Proofs
