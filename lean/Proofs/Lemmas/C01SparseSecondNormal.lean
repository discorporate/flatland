/-
C01 with SparseDicts, second clause groundwork: what `from_flat(flatten(e))` rebuilds (`prS`) holds the
members of every mapping in normal order (`sparseNormal`: minimum members first, then declaration
order) — whatever the state it was rebuilt from; so does a fresh element.
-/
import Proofs.Lemmas.C01SparseSecondOk
namespace Flatland.Flat.Proofs
open Flatland.Flat Flatland.Flat.Spec

variable {env : Env} {sep : Str}

theorem fieldIdx_le (k : Str) (fs : List Schema) : fieldIdx k fs ≤ fs.length := by
  induction fs with
  | nil => simp [fieldIdx]
  | cons f fs ih =>
    simp only [fieldIdx, List.length_cons]
    split <;> omega

theorem fieldIdx_pairwise (fs : List Schema) (hnd : (namesOf fs).Nodup)
    (hsome : ∀ g ∈ fs, g.name.isSome) :
    fs.Pairwise (fun f g => fieldIdx (nmOf f) fs < fieldIdx (nmOf g) fs) := by
  induction fs with
  | nil => exact List.Pairwise.nil
  | cons g gs ih =>
    simp only [namesOf, List.nodup_cons] at hnd
    have hsome' : ∀ x ∈ gs, x.name.isSome := fun x hx => hsome x (List.mem_cons_of_mem _ hx)
    have hg : g.name = some (nmOf g) := name_eq_nmOf hsome (List.mem_cons_self ..)
    have hother : ∀ f ∈ gs, fieldIdx (nmOf f) (g :: gs) = fieldIdx (nmOf f) gs + 1 := by
      intro f hf
      have hne : g.name ≠ some (nmOf f) := by
        intro heq
        apply hnd.1
        rw [heq, ← name_eq_nmOf hsome' hf]
        exact mem_namesOf hf
      simp only [fieldIdx, hne, if_false]
    have hself : fieldIdx (nmOf g) (g :: gs) = 0 := by
      simp only [fieldIdx, hg, if_true]
    apply List.Pairwise.cons
    · intro f hf
      rw [hself, hother f hf]; omega
    · refine List.Pairwise.imp_of_mem ?_ (ih hnd.2 hsome')
      intro a b ha hb hab
      rw [hother a ha, hother b hb]; omega

theorem memberRank_field {fields : List Schema} (hnd : (namesOf fields).Nodup)
    (hsome : ∀ g ∈ fields, g.name.isSome) (req : Schema → Bool) {f : Schema} (hf : f ∈ fields) :
    memberRank req fields (nmOf f)
      = (if req f then 0 else fields.length + 1) + fieldIdx (nmOf f) fields := by
  unfold memberRank
  rw [findField_unique hnd hf (name_eq_nmOf hsome hf)]

theorem rankSorted_pick (fields : List Schema) (hnd : (namesOf fields).Nodup)
    (hsome : ∀ g ∈ fields, g.name.isSome) (req : Schema → Bool) (keys : List (Str × Str))
    (V : Schema → Elem) :
    rankSorted req fields (pickV req keys V true fields ++ pickV req keys V false fields) = true := by
  unfold rankSorted
  rw [decide_eq_true_eq]
  rw [List.map_append, pickV_eq, pickV_eq, List.map_map, List.map_map]
  have hpw := fieldIdx_pairwise fields hnd hsome
  have hA := hpw.sublist (List.filter_sublist (p := pickSel req keys true))
  have hB := hpw.sublist (List.filter_sublist (p := pickSel req keys false))
  have hrA : ∀ f ∈ fields.filter (pickSel req keys true),
      memberRank req fields (nmOf f) = fieldIdx (nmOf f) fields := by
    intro f hf
    obtain ⟨hf1, hf2⟩ := List.mem_filter.mp hf
    simp only [pickSel, if_true] at hf2
    rw [memberRank_field hnd hsome req hf1, hf2]; simp
  have hrB : ∀ f ∈ fields.filter (pickSel req keys false),
      memberRank req fields (nmOf f) = fields.length + 1 + fieldIdx (nmOf f) fields := by
    intro f hf
    obtain ⟨hf1, hf2⟩ := List.mem_filter.mp hf
    simp only [pickSel, Bool.false_eq_true, if_false, Bool.and_eq_true, Bool.not_eq_true'] at hf2
    rw [memberRank_field hnd hsome req hf1, hf2.1]; simp
  apply List.pairwise_append.mpr
  refine ⟨?_, ?_, ?_⟩
  · rw [List.pairwise_map]
    refine List.Pairwise.imp_of_mem ?_ hA
    intro a b ha hb hab
    simp only [Function.comp]
    rw [hrA a ha, hrA b hb]; exact hab
  · rw [List.pairwise_map]
    refine List.Pairwise.imp_of_mem ?_ hB
    intro a b ha hb hab
    simp only [Function.comp]
    rw [hrB a ha, hrB b hb]; omega
  · intro a ha b hb
    obtain ⟨f, hf, rfl⟩ := List.mem_map.mp ha
    obtain ⟨g, hg, rfl⟩ := List.mem_map.mp hb
    simp only [Function.comp]
    rw [hrA f hf, hrB g hg]
    have := fieldIdx_le (nmOf f) fields
    omega

theorem sparseNormalMs_iff (fs : List Schema) (ms : List (Str × Elem)) :
    sparseNormalMs fs ms = true
      ↔ ∀ f ∈ fs, ∀ e, lookup (f.name.getD []) ms = some e → sparseNormal f e = true :=
  fieldsAll_iff (fun _ => rfl)
    (fun f fs ms => by rw [sparseNormalMs]; cases lookup (f.name.getD []) ms <;> rfl) fs ms

theorem normal_pick (fields : List Schema) (hnd : (namesOf fields).Nodup)
    (hsome : ∀ g ∈ fields, g.name.isSome) (req : Schema → Bool) (keys : List (Str × Str))
    (V : Schema → Elem) (hV : ∀ f ∈ fields, sparseNormal f (V f) = true)
    (hB : ∀ f ∈ fields, sparseNormal f (blank f) = true) :
    (rankSorted req fields (pickV req keys V true fields ++ pickV req keys V false fields)
      && sparseNormalMs fields (pickV req keys V true fields ++ pickV req keys V false fields)) = true := by
  rw [Bool.and_eq_true]
  refine ⟨rankSorted_pick fields hnd hsome req keys V, (sparseNormalMs_iff _ _).mpr fun f hf e hl => ?_⟩
  rw [(lookup_pick fields hnd hsome req keys V hf hl).2]
  split
  · exact hV f hf
  · exact hB f hf

theorem sparseNormal_compound (nm : Option Str) (o : Bool) (k : Nat) (fields : List Schema) (e : Elem) :
    sparseNormal (.compound nm o k fields) e = sparseNormal (.dict nm o .dense fields) e := by
  cases e <;> rfl

theorem sparseNormal_blank : ∀ s : Schema, wf s = true → sparseNormal s (blank s) = true := by
  intro s
  induction s using schema_ind_mapping with
  | hleaf nm o k => intro _; simp [sparseNormal]
  | hjoined nm o k m => intro _; simp [sparseNormal]
  | hdict nm o mode fields ih =>
    intro hw
    obtain ⟨hnd, hsome, hwf⟩ := wf_dict hw
    have hB : ∀ f ∈ fields, sparseNormal f (blank f) = true := fun f hf =>
      ih f hf (hwf f hf)
    rw [blank_dict_members, blankSel_eq_pick (isReq mode) blank fields]
    simp only [sparseNormal]
    exact normal_pick fields hnd hsome (isReq mode) [] blank hB hB
  | hcompound nm o k fields ih =>
    intro hw
    rw [sparseNormal_compound]
    exact ih hw
  | hlist nm o p mx member ih => intro _; simp [blank, sparseNormal]
  | harray nm o p member ih => intro _; simp [sparseNormal]

theorem prS_sparseNormal_any : ∀ s : Schema, wf s = true →
    ∀ (u : Bool) (e : Elem), sparseNormal s (prS env sep u s e) = true := by
  intro s
  induction s using schema_ind_mapping with
  | hleaf nm o k => intro _ u e; simp [sparseNormal]
  | hjoined nm o k m => intro _ u e; simp [sparseNormal]
  | hdict nm o mode fields ih =>
    intro hw u e
    cases e with
    | dict ms =>
      obtain ⟨hnd, hsome, hwf⟩ := wf_dict hw
      have hB : ∀ f ∈ fields, sparseNormal f (blank f) = true := fun f hf =>
        sparseNormal_blank f (hwf f hf)
      rw [prS_dict]
      simp only [sparseNormal]
      exact normal_pick fields hnd hsome _ _ _
        (fun f hf => valS_cases (P := fun x => sparseNormal f x = true) (hB f hf)
          fun e' _ => ih f hf (hwf f hf) u e') hB
    | _ => simp [prS, sparseNormal]
  | hcompound nm o k fields ih =>
    intro hw u e
    rw [prS_compound, sparseNormal_compound]
    exact ih hw u e
  | hlist nm o p mx member ih =>
    intro hw u e
    simp only [wf] at hw
    cases e with
    | list ms =>
      simp only [prS]
      split
      · simp only [sparseNormal]
        apply List.all_eq_true.mpr
        intro x hx
        obtain ⟨m, _, rfl⟩ := List.mem_map.mp hx
        exact ih hw true m
      · simp only [sparseNormal]
        apply List.all_eq_true.mpr
        intro x hx
        obtain ⟨m, _, rfl⟩ := List.mem_map.mp hx
        cases hem : emitsB env u member m with
        | true => simp only [if_true]; exact ih hw u m
        | false =>
          simp only [Bool.false_eq_true, if_false]
          exact sparseNormal_blank member hw
    | _ => simp [prS, sparseNormal]
  | harray nm o p member ih => intro _ u e; simp [sparseNormal]

/-- the form the C01 check audits by name; its hypothesis `OkS` is not needed -/
theorem prS_sparseNormal : ∀ s : Schema, wf s = true →
    ∀ (u : Bool) (e : Elem), OkS env s e → sparseNormal s (prS env sep u s e) = true :=
  fun s hw u e _ => prS_sparseNormal_any s hw u e

end Flatland.Flat.Proofs
