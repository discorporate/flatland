/-
C01: what a mapping's first step (`possibles`: strip the mapping's own name) makes of the mapping's
own flat pairs, dense members resolved in declaration order, and the first token of every path a
root emits (so that there the own pairs are `flatten`'s output, `own_root`).
-/
import Proofs.Lemmas.C01PLeaves
namespace Flatland.Flat.Proofs
open Flatland.Flat Flatland.Flat.Spec

variable {env : Env} {sep : Str} {T : Str → Prop}

theorem okFields_keysP (env : Env) : ∀ (fs : List Schema) (ms : List (Str × Elem)), OkPFields env fs ms →
    ms.map (fun p => some p.1) = namesOf fs :=
  okPFields_ind rfl (fun f fs k e ms hk _ _ ih => by simp only [List.map_cons, namesOf, hk, ih])

theorem okFields_appendP (env : Env) (a : List Schema) (ma : List (Str × Elem)) (b : List Schema)
    (mb : List (Str × Elem)) (ha : OkPFields env a ma) (hb : OkPFields env b mb) :
    OkPFields env (a ++ b) (ma ++ mb) :=
  okPFields_ind (Q := fun a ma => OkPFields env (a ++ b) (ma ++ mb)) hb
    (fun _ _ _ _ _ hk he _ ih => ⟨hk, he, ih⟩) a ma ha

theorem resKids_namesP (env : Env) : ∀ (fs : List Schema) (ms : List (Str × Elem)), OkPFields env fs ms →
    ∀ k ∈ resKids env fs ms, k.name ∈ namesOf fs :=
  okPFields_ind (fun k hk => by simp [resKids] at hk) (fun f fs key e ms _ _ _ ih k hk => by
    simp only [resKids, List.mem_cons] at hk
    rcases hk with rfl | hk
    · simp [namesOf, resolve_name]
    · simp only [namesOf, List.mem_cons]
      exact Or.inr (ih k hk))

theorem possibles_of_kidsP (nm : Option Str) (L : List PPair) (hL : ∀ p ∈ L, p.1 ≠ []) :
    possibles sep nm (toKeys sep (L.map (pre nm.toList))) = L.map (joinPair sep) := by
  cases nm with
  | none =>
    have hid : pre ((none : Option Str).toList) = id := by
      funext x; simp [pre]
    rw [hid, List.map_id]
    exact possibles_anon L hL
  | some x => exact possibles_named x L hL

section field
variable (hs : SepSafe env sep T)
include hs

/-- the own pair of a compound is not read back -/
theorem possibles_ownP (nm : Option Str) (u : Str) (rest : Pairs) :
    possibles sep nm ((tokKey sep nm.toList, u) :: rest) = possibles sep nm rest := by
  cases nm with
  | none => simp [possibles, tokKey]
  | some x =>
    have hlen : isPrefix (x ++ sep) x = false := by
      apply isPrefix_longer
      have := hs.sep_ne
      cases hsep : sep with
      | nil => exact absurd hsep this
      | cons c r => simp
    simp [possibles, tokKey, joinSep, hlen]

/-- `own` is the mapping's own pair, if it emits one (a Compound) -/
theorem own_possibles (nm : Option Str) (kids : List FNode)
    (hk : ∀ k ∈ kids, ∃ y, k.name = some y) (u : Bool)
    (own : List PPair) (hown : own = [] ∨ ∃ t, own = [(nm.toList, t)]) :
    possibles sep nm (toKeys sep ((own ++ bfsPath (kids.map (fun k => ((nm.toList, k) : QItem)))).filter (keepP u)))
      = ((bfsPath (kids.map (fun k => (([], k) : QItem)))).filter (keepP u)).map (joinPair sep) := by
  have hne : ∀ p ∈ (bfsPath (kids.map (fun k => (([], k) : QItem)))).filter (keepP u), p.1 ≠ [] := by
    intro p hp
    obtain ⟨it, hit, ext, he⟩ := bfsPath_mem _ p (List.mem_filter.mp hp).1
    obtain ⟨k, hk', rfl⟩ := List.mem_map.mp hit
    obtain ⟨y, hy⟩ := hk k hk'
    rw [he]
    simp [namePath, hy]
  rw [map_pair_shift, bfsPath_shift', List.filter_append, filter_keepP_pre]
  rcases hown with rfl | ⟨t, rfl⟩
  · simp only [List.filter_nil, List.nil_append]
    exact possibles_of_kidsP nm _ hne
  · simp only [List.filter_cons, List.filter_nil]
    split
    · simp only [toKeys, List.singleton_append, List.map_cons]
      rw [possibles_ownP hs]
      exact possibles_of_kidsP nm _ hne
    · simp only [List.nil_append]
      exact possibles_of_kidsP nm _ hne

end field

theorem relFlat_root_ne (env : Env) (s : Schema) (e : Elem) (hroot : rootOK s = true) :
    ∀ p ∈ relFlat (resolve env s e), p.1 ≠ [] := by
  intro p hp
  cases hsn : s.name with
  | some x =>
    obtain ⟨it, hit, ext, he⟩ := bfsPath_mem _ p hp
    rw [List.mem_singleton.mp hit] at he
    simp [he, namePath, resolve_name, hsn]
  | none =>
    -- an anonymous container: paths start with a member's name or index
    cases s with
    | leaf nm o k => simp [rootOK, Schema.name] at hroot hsn; simp [hsn] at hroot
    | joined nm o k m => simp [rootOK, Schema.name] at hroot hsn; simp [hsn] at hroot
    | compound nm o k fs => simp [rootOK, Schema.name] at hroot hsn; simp [hsn] at hroot
    | dict nm o mode fields =>
      simp only [Schema.name] at hsn; subst hsn
      unfold resolve at hp
      rw [relFlat_mk, kidsFrom_noslots] at hp
      simp only [Bool.false_eq_true, if_false, if_true, List.nil_append] at hp
      obtain ⟨it, hit, ext, he⟩ := bfsPath_mem _ p hp
      obtain ⟨k, hk, rfl⟩ := List.mem_map.mp hit
      obtain ⟨f, _, key, e', hfn, rfl⟩ := mem_resolveMembers hk
      simp [he, namePath, resolve_name, hfn]
    | list nm o prune mx member =>
      simp only [Schema.name] at hsn; subst hsn
      unfold resolve at hp
      rw [relFlat_mk, kidsFrom_slots] at hp
      simp only [Bool.false_eq_true, if_false, if_true, List.nil_append] at hp
      obtain ⟨it, hit, ext, he⟩ := bfsPath_mem _ p hp
      obtain ⟨it0, hit0, rfl⟩ := List.mem_map.mp hit
      obtain ⟨j, _, hj⟩ := mem_slots 0 _ it0 hit0
      simp [he, namePath, shift, hj]
    | array nm o prune member =>
      simp only [Schema.name] at hsn; subst hsn
      simp only [rootOK, Option.isSome_none, Bool.false_or] at hroot
      unfold resolve at hp
      rw [relFlat_mk, kidsFrom_noslots, resolveList_eq_map] at hp
      simp only [Bool.false_eq_true, if_false, if_true, List.nil_append] at hp
      obtain ⟨it, hit, ext, he⟩ := bfsPath_mem _ p hp
      obtain ⟨k, hk, rfl⟩ := List.mem_map.mp hit
      obtain ⟨m, _, rfl⟩ := List.mem_map.mp hk
      obtain ⟨y, hy⟩ := Option.isSome_iff_exists.mp hroot
      simp [he, namePath, resolve_name, hy]

theorem own_root (env : Env) (sep : Str) (s : Schema) (e : Elem) (hroot : rootOK s = true) :
    wrap (flatten env sep s e) = toKeys sep ((relFlat (resolve env s e)).filter (keepP false)) := by
  rw [flatten_eq_relFlat, ← toKeys_eq_wrap sep _ (relFlat_root_ne env s e hroot), filter_keepP_false]

end Flatland.Flat.Proofs
