/-
END TO END — from "no Array / MultiValue with two or more members" (`narrowB`) to C02's hereditary "no key twice"
(`HNodup`) on an element's own flat pairs (`hnodup_flatten`).

`HNodup` of `flatten` output does not follow from key distinctness alone (KF-C02-a: `l_0_s` / `l_00_s`); it needs the
keys to be the CANONICAL paths of the schema: `HNodup`, guarded by `narrowB`, follows `_set_flat` down the schema
(`hnodup_descent`), so it holds of every element's own pairs (`Descent.own`, Lemmas/EndToEndOwn.lean).  The guard is
used at an Array only: at most one member, so at most one pair.  `hnodup_perm` carries `HNodup` across the permutation
`flatten e ~ formPairs t ++ uncheckedPairs t` (document order vs breadth-first order).  The second half does the same
for `HNodupA` without the guard (`hnodupA_flatten`).
-/
import Proofs.Lemmas.EndToEndOwn
namespace Flatland.Flat.Proofs
open Flatland.Flat Flatland.Flat.Spec Flatland.EndToEnd

theorem hnodup_perm (env : Env) (sep : Str) : ∀ (s : Schema) (ps ps' : Pairs),
    HNodup env sep s ps → ps.Perm ps' → HNodup env sep s ps' := by
  intro s
  induction s using schema_ind_mapping with
  | hleaf name o k | hjoined name o k m =>
    intro ps ps' h hp
    simp only [HNodup] at h ⊢
    rw [← (hp.filter _).length_eq]; exact h
  | hdict name o mode fields ih =>
    intro ps ps' h hp
    simp only [HNodup, hnodupFields_iff] at h ⊢
    exact fun f hf => ih f hf _ _ (h f hf) (wrap_perm ((possibles_perm sep name hp).filter _))
  | hcompound name o k fields ih => simpa only [hnodup_compound] using ih
  | hlist name o prune mx member ih =>
    intro ps ps' h hp
    simp only [HNodup] at h ⊢
    exact fun i => ih _ _ (h i) (groupOf_perm env sep name prune i hp)
  | harray name o prune member _ =>
    intro ps ps' h hp
    rw [hnodup_array] at h ⊢
    rw [← (hp.filterMap _).length_eq]; exact h

theorem hnodupFields_perm (env : Env) (sep : Str) : ∀ (fs : List Schema) (poss poss' : List (Str × Str)),
    HNodupFields env sep fs poss → poss.Perm poss' → HNodupFields env sep fs poss' :=
  fun fs poss poss' h hp => (hnodupFields_iff env sep poss' fs).mpr fun f hf =>
    hnodup_perm env sep f _ _ ((hnodupFields_iff env sep poss fs).mp h f hf) (wrap_perm (hp.filter _))

theorem hnodup_nil (env : Env) (sep : Str) : ∀ s : Schema, HNodup env sep s [] := by
  intro s
  induction s using schema_ind_mapping with
  | hleaf _ _ _ | hjoined _ _ _ _ => simp [HNodup]
  | hdict name o mode fields ih =>
    simp only [HNodup, possibles_nil, hnodupFields_iff, List.filter_nil]; exact ih
  | hcompound name o k fields ih => rwa [hnodup_compound]
  | hlist name o prune mx member ih => simp only [HNodup]; exact fun _ => ih
  | harray name o prune member _ => rw [hnodup_array]; exact Nat.zero_le 1

theorem hnodupFields_nil (env : Env) (sep : Str) : ∀ fs : List Schema, HNodupFields env sep fs [] :=
  fun fs => (hnodupFields_iff env sep [] fs).mpr fun f _ => hnodup_nil env sep f

theorem hnodup_reach (env : Env) (sep : Str) (s : Schema) (ps : Pairs) :
    HNodup env sep s (ps.filter (fun p => reach env sep s p.1)) ↔ HNodup env sep s ps := by
  cases s with
  | leaf name o k | joined name o k m => simp only [HNodup, reach, List.filter_filter, Bool.and_self]
  | dict name o mode fields | compound name o k fields => simp only [HNodup, reach, possibles_filter]
  | list name o prune mx member => simp only [HNodup, reach, groupOf_filter]
  | array name o prune member =>
    rw [hnodup_array, hnodup_array, arrayPass_reach]

/-- a state of the wrong shape holds no Array -/
theorem narrowB_leaf (s : Schema) (t : Str) : narrowB s (.leaf t) = true := by
  cases s <;> rfl

theorem narrowMs_mem : ∀ (fs : List Schema) (ms : List (Str × Elem)), narrowMs fs ms = true →
    ∀ f ∈ fs, narrowB f ((lookup (f.name.getD []) ms).getD (.leaf [])) = true
  | [], _, _ => by intro f hf; simp at hf
  | g :: gs, ms, h => by
    simp only [narrowMs, Bool.and_eq_true] at h
    intro f hf
    rcases List.mem_cons.mp hf with rfl | hf
    · cases hl : lookup (f.name.getD []) ms with
      | some e => simpa only [hl, Option.getD_some] using h.1
      | none => exact narrowB_leaf f []
    · exact narrowMs_mem gs ms h.2 f hf

theorem hnodup_descent (env : Env) (sep : Str) :
    Descent env sep (fun s e A => narrowB s e = true → HNodup env sep s A) where
  congr_reach s _ A A' h hA' hn := by
    rw [← hnodup_reach, h, hnodup_reach]; exact hA' hn
  nil s _ _ := hnodup_nil env sep s
  leaf nm o k _ A h _ := by
    simp only [HNodup]; exact Nat.le_trans (List.length_filter_le _ _) h
  joined nm o k m _ A h _ := by
    simp only [HNodup]; exact Nat.le_trans (List.length_filter_le _ _) h
  array nm o prune member ms A _ hlen _ hn := by
    simp only [narrowB, decide_eq_true_eq] at hn
    rw [hnodup_array]
    exact Nat.le_trans (List.length_filterMap_le _ _) (Nat.le_trans hlen hn)
  dict nm o mode fields ms A h hn := by
    simp only [HNodup, hnodupFields_iff]
    exact fun f hf => h f hf (narrowMs_mem fields ms hn f hf)
  compound nm o k fields ms A h hn := by rw [hnodup_compound]; exact h hn
  list nm o prune mx member ms A _ h hn := by
    simp only [narrowB, List.all_eq_true] at hn
    simp only [HNodup]
    intro i
    apply h i
    cases hi : ms[i]? with
    | some e => exact hn e (List.mem_of_getElem? hi)
    | none => exact narrowB_leaf member []

/-- the element's own surviving pairs satisfy the hereditary "no key twice" whenever no Array of the
    state has two members -/
def HNS (env : Env) (sep : Str) (s : Schema) : Prop :=
  ∀ (u : Bool) (e : Elem), OkS env s e → narrowB s e = true →
    HNodup env sep s (toKeys sep ((relFlat (resolve env s e)).filter (keepP u)))

variable {env : Env} {sep : Str}

section main
variable (root : Schema) (hs : SepSafe env sep (Tok root)) (henv : EnvOK env)
include hs henv

theorem hns_fields : ∀ fs : List Schema, (∀ t ∈ namesL fs, t ∈ names root) → wfL fs = true →
    ∀ f ∈ fs, HNS env sep f :=
  (hnodup_descent env sep).own_fields root hs henv

end main

/-- The flat pairs of an element none of whose Arrays / MultiValues holds two members
    satisfy C02's hereditary "no key twice" — in the schema's own canonical keys. -/
theorem hnodup_flatten (env : Env) (sep : Str) (s : Schema) (e : Elem)
    (hs : SepSafe env sep (Tok s)) (henv : EnvOK env) (hw : wf s = true)
    (hroot : rootOK s = true) (hok : OkS env s e) (hnar : narrowB s e = true) :
    HNodup env sep s (wrap (flatten env sep s e)) :=
  (hnodup_descent env sep).flatten henv s e hs hw hroot hok hnar

/-- … and so does every reordering of them (document order, for one) -/
theorem hnodup_flatten_perm (env : Env) (sep : Str) (s : Schema) (e : Elem)
    (hs : SepSafe env sep (Tok s)) (henv : EnvOK env) (hw : wf s = true)
    (hroot : rootOK s = true) (hok : OkS env s e) (hnar : narrowB s e = true)
    (ps : List (Str × Str)) (hp : (flatten env sep s e).Perm ps) :
    HNodup env sep s (wrap ps) :=
  hnodup_perm env sep s _ _ (hnodup_flatten env sep s e hs henv hw hroot hok hnar) (wrap_perm hp)

theorem hnodupFieldsB_all (env : Env) (sep : Str) (poss : List (Str × Str)) (fs : List Schema) :
    hnodupFieldsB env sep fs poss = true ↔
      ∀ f ∈ fs, hnodupB env sep f (wrap (poss.filter (fun p => isPrefix (f.name.getD []) p.1))) = true := by
  induction fs with
  | nil => simp [hnodupFieldsB]
  | cons f fs ih => simp [hnodupFieldsB, ih]

/-- `hnodupB` bounds the quantifier over List slots by the slots the pairs address: the others are
    handed no pairs -/
theorem hnodupB_iff (env : Env) (sep : Str) : ∀ (s : Schema) (ps : Pairs),
    hnodupB env sep s ps = true ↔ HNodup env sep s ps := by
  intro s
  induction s using schema_ind with
  | hleaf _ _ _ | hjoined _ _ _ _ => intro ps; simp [hnodupB, HNodup]
  | hdict name o m fields ih | hcompound name o k fields ih =>
    intro ps
    simp only [hnodupB, HNodup, hnodupFieldsB_all, hnodupFields_iff]
    exact forall₂_congr fun f hf => ih f hf _
  | hlist name o prune mx member ih =>
    intro ps
    simp only [hnodupB, HNodup, Bool.and_eq_true, List.all_eq_true, ih]
    refine ⟨fun h i => ?_, fun h => ⟨fun i _ => h i, hnodup_nil env sep member⟩⟩
    by_cases hi : i ∈ indexesOf env sep name prune ps
    · exact h.1 i hi
    · rw [groupOf_eq_nil env sep name prune i ps hi]; exact h.2
  | harray name o prune member _ =>
    intro ps
    simp only [hnodupB, HNodup]
    split <;> simp

theorem hnodupFieldsB_iff (env : Env) (sep : Str) : ∀ (fs : List Schema) (poss : List (Str × Str)),
    hnodupFieldsB env sep fs poss = true ↔ HNodupFields env sep fs poss :=
  fun fs poss => (hnodupFieldsB_all env sep poss fs).trans
    ((forall₂_congr fun f _ => hnodupB_iff env sep f _).trans (hnodupFields_iff env sep poss fs).symm)

theorem hnodupB_complete (env : Env) (sep : Str) : ∀ (s : Schema) (ps : Pairs),
    HNodup env sep s ps → hnodupB env sep s ps = true :=
  fun s ps => (hnodupB_iff env sep s ps).mpr

theorem hnodupFieldsB_complete (env : Env) (sep : Str) : ∀ (fs : List Schema) (poss : List (Str × Str)),
    HNodupFields env sep fs poss → hnodupFieldsB env sep fs poss = true :=
  fun fs poss => (hnodupFieldsB_iff env sep fs poss).mpr

end Flatland.Flat.Proofs

/-
`HNodupA` (C02's hereditary "no key twice" with the Arrays exempt, Proofs/C02Order.lean) of an element's own flat pairs,
WITHOUT the hypothesis `narrowB` (`hnodupA_flatten`).  `HNodupA` follows `_set_flat` down the schema as `HNodup` does;
the Array case is `True` by the definition of `HNodupA`.
-/
namespace Flatland.Flat.Proofs
open Flatland.Flat Flatland.Flat.Spec Flatland.EndToEnd

theorem hnodupA_nil (env : Env) (sep : Str) (s : Schema) : HNodupA env sep s [] :=
  hnodup_hnodupA env sep s [] (hnodup_nil env sep s)

theorem hnodupAFields_nil (env : Env) (sep : Str) : ∀ fs : List Schema, HNodupAFields env sep fs [] :=
  fun fs => hnodupFields_hnodupA env sep fs [] (hnodupFields_nil env sep fs)

theorem hnodupA_reach (env : Env) (sep : Str) (s : Schema) (ps : Pairs) :
    HNodupA env sep s (ps.filter (fun p => reach env sep s p.1)) ↔ HNodupA env sep s ps := by
  cases s with
  | leaf name o k | joined name o k m => simp only [HNodupA, reach, List.filter_filter, Bool.and_self]
  | dict name o mode fields | compound name o k fields => simp only [HNodupA, reach, possibles_filter]
  | list name o prune mx member => simp only [HNodupA, reach, groupOf_filter]
  | array name o prune member => simp only [HNodupA]

theorem hnodupA_descent (env : Env) (sep : Str) :
    Descent env sep (fun s _ A => HNodupA env sep s A) where
  congr_reach s _ A A' h hA' := by
    rw [← hnodupA_reach, h, hnodupA_reach]; exact hA'
  nil s _ := hnodupA_nil env sep s
  leaf nm o k _ A h := by
    simp only [HNodupA]; exact Nat.le_trans (List.length_filter_le _ _) h
  joined nm o k m _ A h := by
    simp only [HNodupA]; exact Nat.le_trans (List.length_filter_le _ _) h
  array nm o prune member ms A _ _ _ := by simp only [HNodupA]
  dict nm o mode fields ms A h := by
    simp only [HNodupA, hnodupAFields_iff]; exact h
  compound nm o k fields ms A h := by rw [hnodupA_compound]; exact h
  list nm o prune mx member ms A _ h := by
    simp only [HNodupA]; exact h

/-- the element's own surviving pairs satisfy the hereditary "no key of a scalar twice" -/
def HNSA (env : Env) (sep : Str) (s : Schema) : Prop :=
  ∀ (u : Bool) (e : Elem), OkS env s e →
    HNodupA env sep s (toKeys sep ((relFlat (resolve env s e)).filter (keepP u)))

variable {env : Env} {sep : Str}

section main
variable (root : Schema) (hs : SepSafe env sep (Tok root)) (henv : EnvOK env)
include hs henv

theorem hnsa_fields : ∀ fs : List Schema, (∀ t ∈ namesL fs, t ∈ names root) → wfL fs = true →
    ∀ f ∈ fs, HNSA env sep f :=
  (hnodupA_descent env sep).own_fields root hs henv

end main

/-- The flat pairs of EVERY conforming element (Arrays / MultiValues of any size) satisfy C02's
    hereditary "no key of a scalar twice" (`HNodupA`) — in the schema's own canonical keys. -/
theorem hnodupA_flatten (env : Env) (sep : Str) (s : Schema) (e : Elem)
    (hs : SepSafe env sep (Tok s)) (henv : EnvOK env) (hw : wf s = true)
    (hroot : rootOK s = true) (hok : OkS env s e) :
    HNodupA env sep s (wrap (flatten env sep s e)) :=
  (hnodupA_descent env sep).flatten henv s e hs hw hroot hok

end Flatland.Flat.Proofs
