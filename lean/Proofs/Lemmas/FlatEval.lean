/-
The simp sets `flat_eval` and `prS_eval`: what `simp` unfolds to evaluate `flatten` and `prS` on a
concrete schema and state, in witnesses and examples.
-/
import Proofs.Lemmas.FlatEvalAttr
import Flatland.Spec.C01Sparse
namespace Flatland.Flat
open Flatland.Flat.Spec

attribute [flat_eval] flatten flattenNode resolve resolveMembers resolveOne resolveList membersOf
  bfsFlat childItems kidsFrom namePath joinSep natStr digitChar FNode.fl FNode.cfl FNode.u FNode.name
  FNode.kids FNode.slots Schema.name

attribute [prS_eval] prS prSPick pr innerPairs touched isReq keepS emitsB lookup isPrefix Schema.opt
  blank blankFields blankRequired

end Flatland.Flat
