/-
C14: a step of the AST is `.`, `..`, or goes DOWN (a name, `[-n]`, a slice).  What `cancel` and `Canon`
do with a step depends on that three-way kind only.
-/
import Flatland.Spec.C14
namespace Flatland.C14.Proofs
open Flatland.C14.Spec

def _root_.Flatland.C14.Spec.Step.down : Step → Bool
  | .up => false
  | .here => false
  | _ => true

theorem Step.cases3 {P : Step → Prop} (here : P .here) (up : P .up)
    (down : ∀ s, s.down = true → P s) : ∀ s, P s
  | .here => here
  | .up => up
  | .name _ => down _ rfl
  | .negidx _ => down _ rfl
  | .slice _ _ _ => down _ rfl

theorem down_eq (s : Step) : s.down = !(s.isUp || s.isHere) := by cases s <;> rfl

section
variable {s : Step} (hd : s.down = true)
include hd

theorem down_isHere : s.isHere = false := by
  cases s with
  | here => cases hd
  | _ => rfl

theorem cancelStep_down (top : Bool) (acc : List Step) : cancelStep top acc s = s :: acc := by
  cases s with
  | here => cases hd
  | up => cases hd
  | _ => rfl

theorem cancelStep_up_down (top : Bool) (rest : List Step) : cancelStep top (s :: rest) .up = rest := by
  cases s with
  | here => cases hd
  | up => cases hd
  | _ => rfl

theorem canonFrom_down (seen : Bool) (r : List Step) : canonFrom seen (s :: r) = canonFrom true r := by
  cases s with
  | here => cases hd
  | up => cases hd
  | _ => rfl

end

end Flatland.C14.Proofs
