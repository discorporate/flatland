/-
IsEmail: the model's chain of early returns decides the documented predicate, all length
conditions being applied to the *converted* (IDN) domain.
-/
import Flatland.C15
import Flatland.Spec.C15
namespace Flatland.C15.Proofs
open Flatland.C16 Flatland.C15 Flatland.C15.Spec

/-- an early return with the message the rest fails with joins the rest's test: a chain of such
    returns is one test, the conjunction of the negated guards -/
theorem guard_fail {c : Prop} [Decidable c] {b : Bool} {k i} :
    (if c then fail k i else if b then pass else fail k i) =
      if (!decide c && b) then pass else fail k i := by
  by_cases h : c <;> simp [h]

theorem unless_fail {b : Bool} {k i} :
    (if !b then fail k i else pass) = if b then pass else fail k i := by cases b <;> rfl

theorem splitOnChar_ne_nil (c : Char) (s : Str) : splitOnChar c s ≠ [] := by
  induction s with
  | nil => simp [splitOnChar]
  | cons x xs ih =>
    simp only [splitOnChar]
    cases h : splitOnChar c xs with
    | nil => simp
    | cons w ws => simp only []; split <;> simp

theorem splitOnChar_length (c : Char) (s : Str) : (splitOnChar c s).length = s.count c + 1 := by
  induction s with
  | nil => simp [splitOnChar]
  | cons x xs ih =>
    simp only [splitOnChar]
    cases h : splitOnChar c xs with
    | nil => exact absurd h (splitOnChar_ne_nil c xs)
    | cons w ws =>
      rw [h] at ih
      simp only []
      by_cases hx : x = c
      · subst hx
        simp only [if_true, List.length_cons, List.count_cons_self] at ih ⊢
        omega
      · have : (x == c) = false := by simpa using hx
        simp only [hx, if_false, List.length_cons, List.count_cons, this] at ih ⊢
        simpa using ih

theorem split_two (c : Char) (s : Str) (h : s.count c = 1) :
    ∃ a b, splitOnChar c s = [a, b] :=
  ⟨_, _, List.eq_getElem_of_length_eq_two _ (by rw [splitOnChar_length, h])⟩

theorem blank_iff (l : Str) :
    (l.isEmpty || l.all isSpaceChar) = !(l.any (fun c => !isSpaceChar c)) := by
  rw [List.all_eq_not_any_not]; cases l <;> rfl

theorem verdict_isEmail_str (nonLocal : Bool) (e : View) (addr : Str) (hv : e.value = .str addr) :
    verdict (.isEmail nonLocal) e =
      if emailDocumented nonLocal addr e.localOk e.idna then pass else fail "invalid" := by
  simp only [verdict, hv, emailDocumented]
  by_cases hc : addr.count '@' = 1
  · obtain ⟨l, dm, hs⟩ := split_two '@' addr hc
    simp only [hs, hc, blank_iff]
    cases e.idna with
    | none => simp
    | some d =>
      have hlen : 1 ≤ (splitOnChar '.' d).length := by rw [splitOnChar_length]; omega
      -- the docstring's conjuncts, as the code tests them
      have e1 : (!decide (d.length > 253)) = decide (d.length ≤ 253) := by
        rw [← decide_not]; exact decide_eq_decide.2 (by omega)
      have e3 : (!((splitOnChar '.' d).length == 1 && nonLocal)) =
          (!nonLocal || decide (2 ≤ (splitOnChar '.' d).length)) := by
        cases nonLocal
        · simp
        · rw [Bool.and_true, Bool.not_true, Bool.false_or, Bool.eq_iff_iff]
          simp only [Bool.not_eq_true', beq_eq_false_iff_ne, decide_eq_true_eq]; omega
      have e4 : (splitOnChar '.' d).all (fun l => decide (l.length < 64)) =
          (splitOnChar '.' d).all (fun l => decide (l.length ≤ 63)) := by
        congr; funext l; exact decide_eq_decide.2 (by omega)
      simp only [unless_fail, guard_fail]
      congr 1
      simp only [e1, e3, e4, bne, Bool.decide_eq_true, Bool.not_not, Bool.and_assoc,
        beq_self_eq_true, Bool.true_and]
  · simp [hc]

theorem emailDocumented_idna {nl : Bool} {addr : Str} {lo : Option Bool} {idna : Option Str}
    (h : emailDocumented nl addr lo idna = true) :
    ∃ d, idna = some d ∧ d.length ≤ 253 ∧ ∀ l ∈ splitOnChar '.' d, l.length ≤ 63 := by
  unfold emailDocumented at h
  cases idna with
  | none => simp at h
  | some d =>
    simp only [Bool.and_eq_true, decide_eq_true_eq, List.all_eq_true] at h
    exact ⟨d, rfl, h.2.1.1.1, h.2.2⟩

end Flatland.C15.Proofs
