import Proofs.Lemmas.C17Basic
/-!
The model's frames as the specification's layers: `frameLayer` commutes with the dict operations the writes use; `items()`
lists exactly what `__getitem__` finds; and, inside the specification, recording an operation in the top layer is `dict`
semantics on the overlay (`overlay_applyOp`).
-/
namespace Flatland.C17.Proofs
open Flatland.C17 Flatland.C17.Spec

theorem frameLayer_set (f : Frame) (k : Key) (s : Slot) :
    frameLayer (AList.set f k s) = (frameLayer f).set k s := by
  funext k'
  simp only [frameLayer, Layer.set, get?_set]
  split <;> split <;> simp_all

theorem frameLayer_foldl_deleted (keys : List Key) (f : Frame) :
    frameLayer (keys.foldl (fun f k => AList.set f k .deleted) f)
      = fun k => if k ∈ keys then some .deleted else frameLayer f k := by
  induction keys generalizing f with
  | nil => simp
  | cons k0 r ih =>
    simp only [List.foldl_cons, ih, frameLayer_set]
    funext k
    simp only [Layer.set, List.mem_cons]
    split <;> split <;> simp_all

theorem foldl_layer_set (ps : List (Key × Val)) (l : Layer) (k : Key) :
    ps.foldl (fun l kv => l.set kv.1 (.val kv.2)) l k
      = ((Assoc.get ps.reverse k).map Slot.val).or (l k) := by
  induction ps generalizing l with
  | nil => rfl
  | cons p r ih =>
    obtain ⟨k0, v0⟩ := p
    simp only [List.foldl_cons, ih, Assoc.get_reverse_cons, Layer.set]
    by_cases e : k = k0
    · subst e; cases Assoc.get r.reverse k <;> simp
    · have e' : ¬ k0 = k := fun h => e h.symm
      cases Assoc.get r.reverse k <;> simp [e, e']

theorem frameLayer_update (f : Frame) (ps : List (Key × Val)) :
    frameLayer (AList.update f ((AList.ofPairs ps : Dict Val).map (fun kv => (kv.1, Slot.val kv.2))))
      = ps.foldl (fun l kv => l.set kv.1 (.val kv.2)) (frameLayer f) := by
  funext k
  have hn : (Assoc.keys ((AList.ofPairs ps : Dict Val).map fun kv => (kv.1, Slot.val kv.2))).Nodup := by
    rw [Assoc.keys, List.map_map]; exact nodup_ofPairs ps
  rw [foldl_layer_set, frameLayer, get?_update, Assoc.get_reverse_of_nodup hn, ← get?_eq, get?_map_val, get?_ofPairs]
  rfl

theorem layerOfPairs_eq (ps : List (Key × Val)) : layerOfPairs ps = frameLayer (valFrame ps) := by
  funext k
  simp only [layerOfPairs, foldl_layer_set, frameLayer, valFrame, get?_map_val, get?_ofPairs]
  cases Assoc.get ps.reverse k <;> simp [Layer.empty]

theorem get?_tItems (σ : State) (c : ClassId) (d : DescId) (k : Key) :
    AList.get? (tItems σ c d) k = (tGet σ c d k).toOption := by
  rw [tItems, get?_itemsGo, if_neg List.not_mem_nil, tGet, lookupFrames_flat, toOption_ofOpt]

theorem mem_keys_tItems (σ : State) (c : ClassId) (d : DescId) (k : Key) :
    k ∈ (tItems σ c d).map (·.1) ↔ ((tGet σ c d k).toOption).isSome := by
  rw [← get?_tItems]
  exact mem_keys_iff _ k

theorem nodup_tItems (σ : State) (c : ClassId) (d : DescId) : ((tItems σ c d).map (·.1)).Nodup :=
  nodup_itemsGo _ []

def slotOver (x : Option Slot) (b : Option Val) : Option Val :=
  match x with
  | some (.val v) => some v
  | some .deleted => none
  | none => b

theorem overlay_eq (below : Mapping) (l : Layer) (k : Key) :
    overlay below l k = slotOver (l k) (below k) := rfl

theorem clear_aux (x : Option Slot) (b : Option Val) :
    slotOver (if (slotOver x b).isSome = true then some Slot.deleted else x) b = none := by
  cases x with
  | none => cases b <;> simp [slotOver]
  | some s => cases s <;> simp [slotOver]

theorem overlay_set_val (below : Mapping) (l : Layer) (k : Key) (v : Val) :
    overlay below (l.set k (.val v)) = upd (overlay below l) k (some v) := by
  funext k'; simp only [overlay, Layer.set, upd]; by_cases e : k' = k <;> simp [e]

theorem overlay_set_deleted (below : Mapping) (l : Layer) (k : Key) :
    overlay below (l.set k .deleted) = upd (overlay below l) k none := by
  funext k'; simp only [overlay, Layer.set, upd]; by_cases e : k' = k <;> simp [e]

theorem overlay_foldl_set (below : Mapping) (ps : List (Key × Val)) (l : Layer) :
    overlay below (ps.foldl (fun l kv => l.set kv.1 (.val kv.2)) l)
      = ps.foldl (fun m kv => upd m kv.1 (some kv.2)) (overlay below l) := by
  induction ps generalizing l with
  | nil => rfl
  | cons p r ih => simp only [List.foldl_cons, ih, overlay_set_val]

/-- C17, "the mutating methods have `dict` semantics on the visible mapping", inside the specification:
    recording `o` in the view's own layer changes the overlay exactly as `o` changes a dict -/
theorem overlay_applyOp (below : Mapping) (l : Layer) (o : Op) :
    overlay below (applyOp (overlay below l) l o) = dictApply o (overlay below l) := by
  cases o <;> simp only [applyOp, dictApply, overlay_set_val, overlay_foldl_set]
  case delitem k =>
    split
    · rw [overlay_set_deleted]
    · rename_i h; funext k'; simp only [upd]; split
      · rename_i e; subst e; simpa using h
      · rfl
  case clear =>
    funext k
    simp only [overlay_eq, Mapping.empty]
    exact clear_aux (l k) (below k)
  case pop k _ =>
    split
    · rw [overlay_set_deleted]
    · rename_i h; funext k'; simp only [upd]; split
      · rename_i e; subst e; simpa using h
      · rfl
  case setdefault k dv =>
    split
    · rfl
    · rw [overlay_set_val]

end Flatland.C17.Proofs
