/-
What the transforms do to the attribute dict: option keys are consumed and never re-created
(`options_never_emitted`); each of name / id / for / tabindex as one equation given what `_pop_toggle`
returned (`transformName_decision`, `transformDomid_eq`, `transformFor_eq`, `transformTabindex_eq`); a
tag-level `on` forces the transform (`forced_*`).
-/
import Proofs.Lemmas.C19Hist
import Proofs.Lemmas.PyListMem
namespace Flatland.C19.Proofs
open Flatland.Markup Flatland.C19 Flatland.C19.Spec

/-- the only attribute names a transform ever writes -/
def generatedKeys : List Str := [sName, sValue, sId, sFor, sTabindex, sChecked, sSelected]

/-- `b` is obtained from `a` by writing generated attribute names and deleting attributes -/
inductive Reach : Attrs → Attrs → Prop
  | refl (a : Attrs) : Reach a a
  | set {a b : Attrs} (k : Str) (v : Val) (hk : k ∈ generatedKeys) : Reach a b → Reach a (Dict.set b k v)
  | erase {a b : Attrs} (k : Str) : Reach a b → Reach a (Dict.erase b k)

theorem Reach.toggle {a b : Attrs} (k : Str) (on : Bool) (hk : k ∈ generatedKeys) (h : Reach a b) :
    Reach a (toggleAttr b k on) := by
  unfold toggleAttr; split
  · exact .set k _ hk h
  · exact .erase k h

/-- leaves of a transform: the resulting attrs are reachable from the popped dict -/
macro "reach_leaves" h:ident hs:ident : tactic =>
  `(tactic| (repeat' split at $h:ident) <;> first
      | (simp at $h:ident; done)
      | (simp only [pure, Except.pure, Except.ok.injEq] at $h:ident; subst $h:ident; simp only [$hs:ident];
         repeat (first
           | exact Reach.refl _
           | apply Reach.toggle _ _ (by decide)
           | apply Reach.set _ _ (by decide)
           | apply Reach.erase)))

def optionKeys : List Str :=
  ["auto_name".toList, "auto_value".toList, "auto_domid".toList, "auto_for".toList,
   "auto_tabindex".toList, "auto_filter".toList]

/-- options never emitted, on the attribute dict: after the transforms none of the six option names is
    an attribute any more, whatever the tag, the bind, the context and the other attributes -/
theorem options_never_emitted {T : Tables} {tag : Str} {bnd : Option Bind} {st st' : TState}
    (hnd : (Dict.keys st.attrs).Nodup) (h : transform T tag bnd st = .ok st') :
    ∀ k ∈ optionKeys, Dict.get? st'.attrs k = none :=
  (transform_consumes T tag bnd).gone h hnd

theorem transformKeys_nodup (kw : List (Str × Val)) : (Dict.keys (Flatland.C11.transformKeys kw)).Nodup := by
  rw [transformKeys_eq]; exact Assoc.nodup_foldl_set _ List.nodup_nil

theorem insertBy_eq {α : Type} (lt : α → α → Bool) (x : α) (l : List α) :
    insertBy lt x l = PyList.insertSorted (fun a b => !lt b a) x l := by
  induction l with
  | nil => rfl
  | cons y ys ih => simp only [insertBy, PyList.insertSorted, ih]; by_cases h : lt y x = true <;> simp [h]

theorem sortBy_eq {α : Type} (lt : α → α → Bool) (l : List α) : sortBy lt l = PyList.sortBy (fun a b => !lt b a) l := by
  induction l with
  | nil => rfl
  | cons x xs ih => simp only [sortBy, PyList.sortBy, ih, insertBy_eq]

theorem orderPairs_perm (order : List Str) (o : Bool) (a : List (Str × Val)) :
    (Flatland.C11.orderPairs order o a).Perm a := by
  unfold Flatland.C11.orderPairs; split
  · rw [sortBy_eq]; exact PyList.sortBy_perm _ a
  · exact .refl a

theorem mem_orderPairs (order : List Str) (o : Bool) (a : List (Str × Val)) (x : Str × Val) :
    x ∈ Flatland.C11.orderPairs order o a ↔ x ∈ a :=
  (orderPairs_perm order o a).mem_iff

/-- options never emitted, on what is serialised: no `auto_*="…"` item reaches `Tag._open` -/
theorem options_never_rendered {T : Tables} {order : List Str} {g : Gen} {tag : Str} {bnd : Option Bind}
    {kwargs : List (Str × Val)} {r : TagResult} (h : prepareTag T order g tag bnd kwargs = .ok r) :
    ∀ k ∈ optionKeys, ∀ v, (k, v) ∉ r.pairs := by
  obtain ⟨st, o, ht, hp, _⟩ := prepareTag_steps h
  intro k hk v hm
  rw [hp, mem_orderPairs] at hm
  exact Dict.not_mem_of_get?_none (options_never_emitted (transformKeys_nodup _) ht k hk) v hm

/-- the guard written in the code is the applies table -/
theorem guard_eq_applies (T : Tables) (attr tag : Str) (a : Attrs) (f : Bool) :
    (f || (Dict.get? a attr).isNone && T.autoTag attr tag) = applies T attr tag f (Dict.get? a attr).isSome := by
  unfold applies; cases Dict.get? a attr <;> rfl

/-- `name` is generated iff the option is on, the tag is bound to an element with a non-empty flat
    name, and the applies table says so — otherwise only the option is consumed -/
theorem transformName_decision (T : Tables) (tag : Str) (bnd : Option Bind) (st : TState) (a : Attrs) (p f : Bool)
    (hp : popToggle T "auto_name".toList st.attrs st.ctx = .ok (a, p, f)) :
    transformName T tag bnd st = .ok { st with attrs :=
      match bnd with
      | some b => if p && !b.flatName.isEmpty && applies T sName tag f (Dict.get? a sName).isSome
                  then Dict.set a sName (.text b.flatName) else a
      | none => a } := by
  unfold transformName
  simp only [bind, Except.bind, pure, Except.pure]
  rw [hp]
  cases bnd with
  | none => rfl
  | some b =>
    simp only [guard_eq_applies]
    cases p
    · simp
    · by_cases hE : b.flatName.isEmpty = true
      · simp [hE]
      · simp only [Bool.not_eq_true] at hE
        by_cases hA : applies T sName tag f (Dict.get? a sName).isSome = true
        · simp [hE, hA]
        · simp only [Bool.not_eq_true] at hA
          simp [hE, hA]

/-- `domid_format % raw id`, when there is a raw id (the block shared by `transform_domid` and `transform_for`) -/
def domidOf (ctx : Ctx) (raw : Except PyErr (Option Str)) : Except PyErr (Option Str) :=
  raw >>= fun
    | some r => ctx.getItem "domid_format".toList >>= fun fmt => formatDomid fmt r >>= fun v => pure (some v)
    | none => pure none

def setId (a : Attrs) (attr : Str) : Option Str → Attrs
  | some v => Dict.set a attr (.text v)
  | none => a

def genId (tag : Str) (a : Attrs) (bnd : Option Bind) (ctx : Ctx) (attr : Str) : Except PyErr Attrs :=
  (domidOf ctx (generateRawDomid tag a bnd)).map (setId a attr)

theorem genId_of {tag : Str} {a : Attrs} {bnd : Option Bind} {ctx : Ctx} {attr raw v : Str} {fmt : CVal}
    (hraw : generateRawDomid tag a bnd = .ok (some raw)) (hfmt : ctx.getItem "domid_format".toList = .ok fmt)
    (hid : formatDomid fmt raw = .ok v) : genId tag a bnd ctx attr = .ok (Dict.set a attr (.text v)) := by
  simp only [genId, domidOf, hraw, hfmt, hid, bind, Except.bind, pure, Except.pure, Except.map, setId]

theorem transformDomid_eq {T : Tables} {tag : Str} {bnd : Option Bind} {st : TState} {a : Attrs} {p f : Bool}
    (hp : popToggle T "auto_domid".toList st.attrs st.ctx = .ok (a, p, f)) :
    transformDomid T tag bnd st =
      (if p && applies T sId tag f (Dict.get? a sId).isSome then genId tag a bnd st.ctx sId else pure a).map
        fun a' => { st with attrs := a' } := by
  unfold transformDomid genId domidOf
  simp only [bind, Except.bind, pure, Except.pure]
  rw [hp]
  simp only [guard_eq_applies]
  cases p
  · rfl
  · cases applies T sId tag f (Dict.get? a sId).isSome
    · rfl
    · simp only [Bool.not_true, Bool.false_eq_true, if_false, Bool.and_self, if_true]
      cases generateRawDomid tag a bnd with
      | error e => rfl
      | ok raw =>
        cases raw with
        | none => rfl
        | some r =>
          simp only
          cases st.ctx.getItem "domid_format".toList with
          | error e => rfl
          | ok fmt => simp only; cases formatDomid fmt r <;> rfl

theorem transformFor_eq {T : Tables} {tag : Str} {bnd : Option Bind} {st : TState} {a : Attrs} {p f : Bool}
    (hp : popToggle T "auto_for".toList st.attrs st.ctx = .ok (a, p, f)) :
    transformFor T tag bnd st =
      (if p && bnd.isSome && applies T sFor tag f (Dict.get? a sFor).isSome then genId tag a bnd st.ctx sFor else pure a).map
        fun a' => { st with attrs := if tag = sLabel then Dict.erase a' sValue else a' } := by
  unfold transformFor genId domidOf
  simp only [bind, Except.bind, pure, Except.pure]
  rw [hp]
  simp only [guard_eq_applies]
  cases p && bnd.isSome
  · rfl
  · cases applies T sFor tag f (Dict.get? a sFor).isSome
    · rfl
    · simp only [Bool.and_self, if_true]
      cases generateRawDomid tag a bnd with
      | error e => rfl
      | ok raw =>
        cases raw with
        | none => rfl
        | some r =>
          simp only
          cases st.ctx.getItem "domid_format".toList with
          | error e => rfl
          | ok fmt => simp only; cases formatDomid fmt r <;> rfl

theorem transformTabindex_eq {T : Tables} {tag : Str} {bnd : Option Bind} {st : TState} {a : Attrs} {p f : Bool} {n : Int}
    (hp : popToggle T "auto_tabindex".toList st.attrs st.ctx = .ok (a, p, f))
    (hn : st.ctx.getItem sTabindex = .ok (.int n)) :
    transformTabindex T tag bnd st = .ok (
      if (p && applies T sTabindex tag f (Dict.get? a sTabindex).isSome) = true ∧ n ≠ 0 then
        { attrs := Dict.set a sTabindex (.text (intRepr n)), contents := st.contents,
          ctx := if n > 0 then { st.ctx with top := Dict.set st.ctx.top sTabindex (.int (n + 1)) } else st.ctx }
      else { st with attrs := a }) := by
  unfold transformTabindex
  simp only [bind, Except.bind, pure, Except.pure]
  rw [hp]
  simp only [guard_eq_applies, hn, Ctx.setItem, getItem_has hn]
  cases p
  · rfl
  · by_cases h0 : n = 0
    · simp [h0]
    · cases applies T sTabindex tag f (Dict.get? a sTabindex).isSome
      · simp [h0]
      · by_cases hpos : n > 0 <;> simp [h0, hpos, pure, Except.pure]

/-- a tag-level `on` decides by itself: apply, forced — whatever the context says -/
theorem popToggle_forced (T : Tables) (key : Str) (attrs : Attrs) (ctx : Ctx)
    (h : T.parseTrool ((Dict.get? attrs key).getD .maybe) = .yes) :
    popToggle T key attrs ctx = .ok (Dict.erase attrs key, true, true) := by
  unfold popToggle
  simp [h, bind, Except.bind, pure, Except.pure]

/-- a tag-level `off` decides by itself, too -/
theorem popToggle_off (T : Tables) (key : Str) (attrs : Attrs) (ctx : Ctx)
    (h : T.parseTrool ((Dict.get? attrs key).getD .maybe) = .no) :
    popToggle T key attrs ctx = .ok (Dict.erase attrs key, false, false) := by
  unfold popToggle
  simp [h, bind, Except.bind, pure, Except.pure]

/-- `auto_name="on"` on the tag sets `name` to the bind's flattened name on ANY tag,
    replacing an existing `name` attribute -/
theorem forced_name (T : Tables) (tag : Str) (b : Bind) (st : TState)
    (hon : T.parseTrool ((Dict.get? st.attrs "auto_name".toList).getD .maybe) = .yes)
    (hname : b.flatName ≠ []) :
    ∃ st', transformName T tag (some b) st = .ok st' ∧
      Dict.get? st'.attrs sName = some (.text b.flatName) := by
  have hne : b.flatName.isEmpty = false := by simpa using hname
  refine ⟨_, transformName_decision T tag (some b) st _ _ _ (popToggle_forced T _ st.attrs st.ctx hon), ?_⟩
  simp only [hne, applies, Bool.not_false, Bool.and_self, Bool.true_or, if_true]
  exact Dict.get?_set_self ..

/-- `auto_domid="on"` on the tag generates `id` from the bind on ANY tag, replacing an
    existing `id` attribute (format `fmt` with exactly the conversions the model knows) -/
theorem forced_domid (T : Tables) (tag : Str) (b : Bind) (st : TState) (raw idv : Str) (fmt : CVal)
    (hon : T.parseTrool ((Dict.get? st.attrs "auto_domid".toList).getD .maybe) = .yes)
    (hraw : generateRawDomid tag (Dict.erase st.attrs "auto_domid".toList) (some b) = .ok (some raw))
    (hfmt : st.ctx.getItem "domid_format".toList = .ok fmt) (hid : formatDomid fmt raw = .ok idv) :
    ∃ st', transformDomid T tag (some b) st = .ok st' ∧ Dict.get? st'.attrs sId = some (.text idv) :=
  ⟨_, by rw [transformDomid_eq (popToggle_forced T _ st.attrs st.ctx hon), genId_of hraw hfmt hid]; rfl,
    Dict.get?_set_self ..⟩

/-- a forced `auto_value` on a tag the transform would otherwise leave alone (not input/option/textarea):
    `value` becomes the bind's text even if a `value` attribute was given.  This is the value
    transform alone: on a `<label>` the for-transform, which runs later, removes `value` again
    (`label_value_dropped` in `C19Applies.lean`), so a forced value never shows on a label. -/
theorem forced_value (T : Tables) (tag : Str) (b : Bind) (st : TState)
    (hon : T.parseTrool ((Dict.get? st.attrs "auto_value".toList).getD .maybe) = .yes)
    (h1 : tag ≠ sInput) (h2 : tag ≠ sOption) (h3 : tag ≠ sTextarea) :
    ∃ st', transformValue T tag (some b) st = .ok st' ∧ Dict.get? st'.attrs sValue = some (.text b.u) := by
  have hp := popToggle_forced T "auto_value".toList st.attrs st.ctx hon
  refine ⟨⟨Dict.set (Dict.erase st.attrs "auto_value".toList) sValue (.text b.u), st.contents, st.ctx⟩, ?_,
    by simp [Dict.get?_set_self]⟩
  unfold transformValue
  simp only [bind, Except.bind, pure, Except.pure]
  rw [hp]
  simp [h1, h2, h3]

/-- `auto_name="off"` leaves the attributes alone (only the option is consumed) -/
theorem off_name (T : Tables) (tag : Str) (bnd : Option Bind) (st : TState)
    (hoff : T.parseTrool ((Dict.get? st.attrs "auto_name".toList).getD .maybe) = .no) :
    transformName T tag bnd st = .ok { st with attrs := Dict.erase st.attrs "auto_name".toList } := by
  rw [transformName_decision T tag bnd st _ _ _ (popToggle_off T _ st.attrs st.ctx hoff)]
  cases bnd <;> rfl

end Flatland.C19.Proofs
