/-
Naturality of the CPython list functions of `Flatland/PyList.lean`: they commute with `List.map`
(they only move elements around), and the searching ones depend on the elements only through
the predicate.  `refStep_map` (Proofs/Lemmas/RefNat.lean) puts them together for the C09 refinement.
-/
import Flatland.PyList
namespace Flatland.PyList
variable {α β : Type}

theorem assign_map (f : α → β) (l : List α) (is : List Nat) (xs : List α) :
    (assign l is xs).map f = assign (l.map f) is (xs.map f) := by
  induction is generalizing l xs with
  | nil => cases xs <;> rfl
  | cons i is ih =>
    cases xs with
    | nil => rfl
    | cons x xs =>
      show (assign (l.set i x) is xs).map f = assign ((l.map f).set i (f x)) is (xs.map f)
      rw [ih, List.map_set]

theorem setSlice_map (f : α → β) (l : List α) (s : Slice) (new : List α) :
    (setSlice l s new).map (List.map f) = setSlice (l.map f) s (new.map f) := by
  unfold setSlice
  simp only [List.length_map]
  cases adjust l.length s with
  | none => rfl
  | some ix =>
    simp only
    split
    · simp [Except.map, List.map_take, List.map_drop]
    · split
      · rfl
      · simp [Except.map, assign_map]

theorem eraseIdxsFrom_map (f : α → β) (is : List Nat) (k : Nat) (l : List α) :
    (eraseIdxsFrom is k l).map f = eraseIdxsFrom is k (l.map f) := by
  induction l generalizing k with
  | nil => rfl
  | cons x xs ih => simp only [eraseIdxsFrom, List.map_cons]; split <;> simp [ih]

theorem pickIdxsFrom_map (f : α → β) (is : List Nat) (k : Nat) (l : List α) :
    (pickIdxsFrom is k l).map f = pickIdxsFrom is k (l.map f) := by
  induction l generalizing k with
  | nil => rfl
  | cons x xs ih => simp only [pickIdxsFrom, List.map_cons]; split <;> simp [ih]

theorem delSlice_map (f : α → β) (l : List α) (s : Slice) :
    (delSlice l s).map (List.map f) = delSlice (l.map f) s := by
  unfold delSlice
  simp only [List.length_map]
  cases adjust l.length s with
  | none => rfl
  | some ix => simp [Except.map, eraseIdxsFrom_map]

theorem getSlice_map (f : α → β) (l : List α) (s : Slice) :
    (getSlice l s).map (List.map f) = getSlice (l.map f) s := by
  unfold getSlice
  simp only [List.length_map]
  cases adjust l.length s with
  | none => rfl
  | some ix =>
    simp only [Except.map, List.map_filterMap, List.getElem?_map]

theorem insertAt_map (f : α → β) (l : List α) (i : Int) (x : α) :
    (insertAt l i x).map f = insertAt (l.map f) i (f x) := by
  simp [insertAt, List.map_take, List.map_drop]

theorem getItem_map (f : α → β) (l : List α) (i : Int) :
    (getItem l i).map f = getItem (l.map f) i := by
  unfold getItem
  simp only [List.length_map]
  cases normIndex l.length i <;> simp [List.getElem?_map]

theorem setItem_map (f : α → β) (l : List α) (i : Int) (x : α) :
    (setItem l i x).map (List.map f) = setItem (l.map f) i (f x) := by
  unfold setItem
  simp only [List.length_map]
  cases normIndex l.length i <;> simp [List.map_set]

theorem map_eraseIdx' (f : α → β) (l : List α) (k : Nat) :
    (l.eraseIdx k).map f = (l.map f).eraseIdx k := by
  induction l generalizing k with
  | nil => rfl
  | cons x xs ih => cases k <;> simp [List.eraseIdx, ih]

theorem delItem_map (f : α → β) (l : List α) (i : Int) :
    (delItem l i).map (List.map f) = delItem (l.map f) i := by
  unfold delItem
  simp only [List.length_map]
  cases normIndex l.length i <;> simp [map_eraseIdx']

theorem popAt_map (f : α → β) (l : List α) (i : Int) :
    (popAt l i).map (fun p => (f p.1, p.2.map f)) = popAt (l.map f) i := by
  unfold popAt
  simp only [List.length_map]
  cases normIndex l.length i with
  | none => rfl
  | some k =>
    simp only [List.getElem?_map]
    cases l[k]? <;> simp [map_eraseIdx']

theorem findIdx?_map' (f : α → β) (p : α → Bool) (q : β → Bool) (h : ∀ a, p a = q (f a)) (l : List α) :
    (l.map f).findIdx? q = l.findIdx? p := by
  rw [List.findIdx?_map, funext h]; rfl

theorem removeFirst_map (f : α → β) (p : α → Bool) (q : β → Bool) (h : ∀ a, p a = q (f a)) (l : List α) :
    (removeFirst p l).map (List.map f) = removeFirst q (l.map f) := by
  unfold removeFirst
  rw [findIdx?_map' f p q h]
  cases l.findIdx? p <;> simp [map_eraseIdx']

theorem indexOf_map (f : α → β) (p : α → Bool) (q : β → Bool) (h : ∀ a, p a = q (f a)) (l : List α) :
    indexOf q (l.map f) = indexOf p l := findIdx?_map' f p q h l

theorem countOf_map (f : α → β) (p : α → Bool) (q : β → Bool) (h : ∀ a, p a = q (f a)) (l : List α) :
    countOf q (l.map f) = countOf p l := by
  rw [countOf, List.countP_map, funext h]; rfl

theorem containsBy_map (f : α → β) (p : α → Bool) (q : β → Bool) (h : ∀ a, p a = q (f a)) (l : List α) :
    containsBy q (l.map f) = containsBy p l := by
  rw [containsBy, List.any_map, funext h]; rfl

theorem insertSorted_map (f : α → β) (le : α → α → Bool) (le' : β → β → Bool)
    (h : ∀ a b, le a b = le' (f a) (f b)) (x : α) (l : List α) :
    (insertSorted le x l).map f = insertSorted le' (f x) (l.map f) := by
  induction l with
  | nil => rfl
  | cons y ys ih =>
    simp only [insertSorted, List.map_cons, ← h]
    split <;> simp [ih]

theorem sortBy_map (f : α → β) (le : α → α → Bool) (le' : β → β → Bool)
    (h : ∀ a b, le a b = le' (f a) (f b)) (l : List α) :
    (sortBy le l).map f = sortBy le' (l.map f) := by
  induction l with
  | nil => rfl
  | cons x xs ih => simp [sortBy, insertSorted_map f le le' h, ih]

end Flatland.PyList
