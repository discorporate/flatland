/-
String-level facts about separator-joined keys of *token paths* under the `SepSafe` hypothesis:
how `startswith`, prefix stripping, exact comparison and the list-index recogniser behave on
`joinSep sep (t₁ :: t₂ :: …)` when no token contains the separator and the split at a separator is
unique.
-/
import Flatland.Flat
import Proofs.Lemmas.Decimal
namespace Flatland.Flat

/-- `SepSafe`: the hypothesis under which flat keys parse uniquely.  `Tok` is the set of tokens a
    key is made of (declared names and decimal indexes). -/
structure SepSafe (env : Env) (sep : Str) (Tok : Str → Prop) : Prop where
  sep_ne : sep ≠ []
  tok_ne : ∀ t, Tok t → t ≠ []
  no_sep : ∀ t, Tok t → ∀ a b, t ≠ a ++ sep ++ b
  split : ∀ x y, Tok x → Tok y → ∀ a b, x ++ sep ++ a = y ++ sep ++ b → x = y
  sep_head : ∀ c r, sep = c :: r → isNd env c = false

theorem joinSep_cons_cons (sep t u : Str) (q : List Str) :
    joinSep sep (t :: u :: q) = t ++ sep ++ joinSep sep (u :: q) := by
  simp [joinSep]

theorem joinSep_single (sep t : Str) : joinSep sep [t] = t := by simp [joinSep]

theorem isPrefix_iff (p s : Str) : isPrefix p s = true ↔ ∃ r, s = p ++ r := by
  unfold isPrefix
  rw [List.isPrefixOf_iff_prefix]
  constructor
  · rintro ⟨r, rfl⟩; exact ⟨r, rfl⟩
  · rintro ⟨r, rfl⟩; exact ⟨r, rfl⟩

theorem isPrefix_append (p r : Str) : isPrefix p (p ++ r) = true := (isPrefix_iff _ _).mpr ⟨r, rfl⟩

variable {env : Env} {sep : Str} {Tok : Str → Prop}

theorem prefix_tok_sep (h : SepSafe env sep Tok) {x y : Str} (hx : Tok x) (hy : Tok y) (q : List Str)
    (hp : isPrefix (x ++ sep) (joinSep sep (y :: q)) = true) : x = y ∧ q ≠ [] := by
  obtain ⟨r, hr⟩ := (isPrefix_iff _ _).mp hp
  cases q with
  | nil =>
    rw [joinSep_single] at hr
    exact absurd (by rw [hr, List.append_assoc]) (h.no_sep y hy x r)
  | cons u q =>
    rw [joinSep_cons_cons] at hr
    refine ⟨?_, by simp⟩
    have := h.split y x hy hx (joinSep sep (u :: q)) r (by rw [hr, List.append_assoc])
    exact this.symm

theorem joinSep_eq_tok (h : SepSafe env sep Tok) {x y : Str} (hx : Tok x) (q : List Str)
    (he : joinSep sep (y :: q) = x) : q = [] ∧ y = x := by
  cases q with
  | nil => rw [joinSep_single] at he; exact ⟨rfl, he⟩
  | cons u q =>
    rw [joinSep_cons_cons] at he
    exact absurd he.symm (h.no_sep x hx y _)

theorem joinSep_strip (sep x u : Str) (q : List Str) :
    (joinSep sep (x :: u :: q)).drop (x ++ sep).length = joinSep sep (u :: q) := by
  rw [joinSep_cons_cons]
  exact List.drop_left

theorem isPrefix_tok_sep_self (sep x u : Str) (q : List Str) :
    isPrefix (x ++ sep) (joinSep sep (x :: u :: q)) = true := by
  rw [joinSep_cons_cons]
  exact isPrefix_append _ _

theorem isPrefix_tok_self (sep x : Str) (q : List Str) :
    isPrefix x (joinSep sep (x :: q)) = true := by
  cases q with
  | nil => rw [joinSep_single]; exact (isPrefix_iff _ _).mpr ⟨[], by simp⟩
  | cons u q => rw [joinSep_cons_cons, List.append_assoc]; exact isPrefix_append _ _

theorem natStr_lt (n : Nat) (h : n < 10) : natStr n = [digitChar n] := by
  rw [natStr]; simp [h]

theorem natStr_ge (n : Nat) (h : ¬ n < 10) : natStr n = natStr (n / 10) ++ [digitChar (n % 10)] := by
  rw [natStr]; simp [h]

theorem natStr_eq (n : Nat) : natStr n = Nat.toDigits 10 n :=
  Dec.toDigits_unique natStr (fun n => by rw [natStr]; rfl) n

theorem natStr_ne_nil (n : Nat) : natStr n ≠ [] := natStr_eq n ▸ Nat.toDigits_ne_nil

/-- the tree and form models name slots with `toString` -/
theorem natStr_toString (n : Nat) : natStr n = (toString n).toList := by
  rw [natStr_eq, Nat.toString_eq_repr, Nat.repr]
  simp

theorem natStr_length_le (n : Nat) : (natStr n).length ≤ n + 1 := natStr_eq n ▸ Dec.length_toDigits_le n

theorem natStr_inj {i j : Nat} (h : natStr i = natStr j) : i = j :=
  Dec.toDigits_inj (natStr_eq i ▸ natStr_eq j ▸ h)

/-- the interpreter's Nd table starts with the ASCII decade -/
def EnvOK (env : Env) : Prop := ∃ rest, env.ndZeros = 48 :: rest

theorem ndVal_of_isDigit (henv : EnvOK env) {c : Char} (h : c.isDigit = true) :
    ndVal env c = some (c.toNat - 48) := by
  obtain ⟨rest, hz⟩ := henv
  have := Dec.isDigit_toNat h
  have h1 : (decide (48 ≤ c.toNat) && decide (c.toNat < 48 + 10)) = true := by simp; omega
  simp only [ndVal, hz, List.find?, h1]

theorem natStr_all_nd (henv : EnvOK env) (n : Nat) : ∀ c ∈ natStr n, isNd env c = true := by
  intro c hc
  rw [natStr_eq] at hc
  simp [isNd, ndVal_of_isDigit henv (Dec.isDigit_toDigits n c hc)]

theorem digitsVal_natStr (henv : EnvOK env) (n : Nat) : digitsVal env (natStr n) = n := by
  rw [natStr_eq, digitsVal, Dec.foldl_eq_ofDigitChars _ _ (fun c hc => by
    rw [ndVal_of_isDigit henv (Dec.isDigit_toDigits n c hc)]; rfl)]
  exact Dec.val_toDigits n

theorem matchIndex_natStr (h : SepSafe env sep Tok) (henv : EnvOK env) (i : Nat) :
    matchIndex env sep (natStr i) = some (natStr i, []) := by
  unfold matchIndex
  have hall := natStr_all_nd henv i
  have h1 : (natStr i).takeWhile (isNd env) = natStr i := by
    have := List.takeWhile_append_of_pos (l₂ := []) hall
    simpa using this
  have h2 : (natStr i).dropWhile (isNd env) = [] := by
    have := List.dropWhile_append_of_pos (l₂ := []) hall
    simpa using this
  simp only [h1, h2]
  have hne := natStr_ne_nil i
  have hsep : isPrefix sep [] = false := by
    cases hs : sep with
    | nil => exact absurd hs h.sep_ne
    | cons c r => simp [isPrefix]
  cases hn : natStr i with
  | nil => exact absurd hn hne
  | cons c cs => simp [hsep]

theorem matchIndex_natStr_sep (h : SepSafe env sep Tok) (henv : EnvOK env) (i : Nat) (rest : Str) :
    matchIndex env sep (natStr i ++ sep ++ rest) = some (natStr i, rest) := by
  unfold matchIndex
  have hall := natStr_all_nd henv i
  obtain ⟨c, r, hs⟩ : ∃ c r, sep = c :: r := by
    cases hs : sep with
    | nil => exact absurd hs h.sep_ne
    | cons c r => exact ⟨c, r, rfl⟩
  have hc := h.sep_head c r hs
  have h1 : (natStr i ++ sep ++ rest).takeWhile (isNd env) = natStr i := by
    rw [List.append_assoc, List.takeWhile_append_of_pos hall, hs]
    simp [hc]
  have h2 : (natStr i ++ sep ++ rest).dropWhile (isNd env) = sep ++ rest := by
    rw [List.append_assoc, List.dropWhile_append_of_pos hall, hs]
    simp [hc]
  simp only [h1, h2]
  have hne := natStr_ne_nil i
  cases hn : natStr i with
  | nil => exact absurd hn hne
  | cons d ds =>
    simp only [List.isEmpty_cons, Bool.false_eq_true, if_false, isPrefix_append, if_true,
      List.drop_left]

theorem split_single {c : Char} (x y a b : Str) (hx : c ∉ x) (hy : c ∉ y)
    (h : x ++ [c] ++ a = y ++ [c] ++ b) : x = y := by
  have key : ∀ (z r : Str), c ∉ z → (z ++ [c] ++ r).takeWhile (· != c) = z := fun z r hz => by
    rw [List.append_assoc, List.takeWhile_append_of_pos (fun d hd => by
      simp only [bne_iff_ne, ne_eq]; rintro rfl; exact hz hd)]
    simp
  rw [← key x a hx, h, key y b hy]

theorem sepSafe_single {Tok : Str → Prop} (c : Char) (hnd : isNd env c = false)
    (hT : ∀ t, Tok t → t ≠ [] ∧ c ∉ t) : SepSafe env [c] Tok where
  sep_ne := by simp
  tok_ne t ht := (hT t ht).1
  no_sep t ht a b heq := (hT t ht).2 (by rw [heq]; simp)
  split x y hx hy a b h := split_single x y a b (hT x hx).2 (hT y hy).2 h
  sep_head d r h := by simp only [List.cons.injEq] at h; rw [← h.1]; exact hnd

theorem natStr_token (henv : EnvOK env) {c : Char} (hnd : isNd env c = false) (i : Nat) :
    natStr i ≠ [] ∧ c ∉ natStr i :=
  ⟨natStr_ne_nil i, fun hc => by have := natStr_all_nd henv i c hc; rw [hnd] at this; cases this⟩

end Flatland.Flat
