/-
Numbers in bracket steps: `int(str(i)) == i` for signed ints, the slice language accepts every
printed bracket content, and `_parse_slice` reads it back as the op the AST compiles to.
-/
import Flatland.Path
import Flatland.Spec.C14
import Proofs.Lemmas.PathInt
namespace Flatland.C14.Proofs
open Flatland.Path Flatland.C14.Spec Flatland.Path.Lemmas Flatland.Generated.C14

/-- the decimal text of `i` is within `int()`'s digit limit -/
def IntFits (i : Int) : Prop := (natStr i.natAbs).length ≤ intMaxDigits ∨ intMaxDigits = 0

theorem intFits_zero : IntFits 0 := Or.inl (by simp [natStr_zero]; decide)

theorem isDigit_ascii (c : Char) (h : Lemmas.isAsciiDigit c = true) : isDigit c = true := by
  simp [isDigit, digitVal_ascii c h]

theorem isDigit_colon : isDigit ':' = false := by decide
theorem isDigit_minus : isDigit '-' = false := by decide
theorem isDigit_rbracket : isDigit ']' = false := by decide

theorem pyInt_neg_natStr (n : Nat) (h : (natStr n).length ≤ intMaxDigits ∨ intMaxDigits = 0) :
    pyInt ('-' :: natStr n) = some (-(n : Int)) := by
  have := pyInt_signed true (natStr n) (natStr_ne_nil n) (natStr_all_digits n) h
  rwa [digitsValue_natStr] at this

theorem pyInt_intStr (i : Int) (h : IntFits i) : pyInt (intStr i) = some i := by
  unfold intStr
  by_cases hneg : i < 0
  · rw [if_pos hneg, pyInt_neg_natStr _ h, Int.ofNat_natAbs_of_nonpos (Int.le_of_lt hneg), Int.neg_neg]
  · have h0 := Int.not_lt.1 hneg
    have e : i.toNat = i.natAbs :=
      Int.ofNat_inj.1 ((Int.toNat_of_nonneg h0).trans (Int.natAbs_of_nonneg h0).symm)
    rw [if_neg hneg, e, pyInt_natStr _ h, Int.natAbs_of_nonneg h0]

def NumChar (c : Char) : Prop := Lemmas.isAsciiDigit c = true ∨ c = '-'

theorem intStr_chars (i : Int) : ∀ c ∈ intStr i, NumChar c := by
  unfold intStr
  split
  · intro c hc
    simp only [List.mem_cons] at hc
    rcases hc with hc | hc
    · exact Or.inr hc
    · exact Or.inl (natStr_all_digits _ c hc)
  · intro c hc; exact Or.inl (natStr_all_digits _ c hc)

theorem optIntStr_chars (o : Option Int) : ∀ c ∈ optIntStr o, NumChar c := by
  cases o with
  | none => intro c hc; simp [optIntStr] at hc
  | some i => exact intStr_chars i

theorem numChar_ne (c : Char) (h : NumChar c) : c ≠ ':' ∧ c ≠ ']' ∧ c ≠ '\\' := by
  rcases h with h | h
  · exact ⟨digit_ne h (by decide), digit_ne h (by decide), digit_ne h (by decide)⟩
  · subst h; exact ⟨by decide, by decide, by decide⟩

theorem intStr_ne_nil (i : Int) : intStr i ≠ [] := by
  unfold intStr
  split
  · simp
  · exact natStr_ne_nil _

theorem intStr_isEmpty (i : Int) : (intStr i).isEmpty = false := by
  cases h : intStr i with
  | nil => exact absurd h (intStr_ne_nil i)
  | cons _ _ => rfl

theorem optIntStr_isEmpty (o : Option Int) : (optIntStr o).isEmpty = o.isNone := by
  cases o with
  | none => rfl
  | some i => exact intStr_isEmpty i

/-- one item `-?\d*` of the slice language -/
def dropItem (s : Str) : Str := (optChar '-' s).dropWhile isDigit

theorem dropWhile_digits (s rest : Str) (hall : ∀ c ∈ s, Lemmas.isAsciiDigit c = true)
    (hr : ∀ h : rest ≠ [], isDigit (rest.head h) = false) :
    (s ++ rest).dropWhile isDigit = rest := by
  rw [List.dropWhile_append_of_pos (fun c hc => isDigit_ascii c (hall c hc)), dropWhile_head_false _ _ hr]

/-- what may follow a number inside brackets -/
def ColonOrEnd (rest : Str) : Prop := rest = [] ∨ ∃ t, rest = ':' :: t

theorem colonOrEnd_head (rest : Str) (h : ColonOrEnd rest) :
    ∀ hne : rest ≠ [], isDigit (rest.head hne) = false := by
  intro hne
  rcases h with h | ⟨t, h⟩
  · exact absurd h hne
  · subst h; exact isDigit_colon

theorem dropItem_signed (neg : Bool) (s rest : Str) (hall : ∀ c ∈ s, Lemmas.isAsciiDigit c = true)
    (h : ColonOrEnd rest) : dropItem ((if neg then ['-'] else []) ++ (s ++ rest)) = rest := by
  have hopt : optChar '-' ((if neg then ['-'] else []) ++ (s ++ rest)) = s ++ rest := by
    cases neg with
    | true => rfl
    | false =>
      show optChar '-' (s ++ rest) = s ++ rest
      cases s with
      | nil => rcases h with h | ⟨t, h⟩ <;> (subst h; rfl)
      | cons c r =>
        rw [List.cons_append, optChar, if_neg]
        exact fun e => digit_ne (hall c List.mem_cons_self) (by decide) (beq_iff_eq.1 e)
  unfold dropItem
  rw [hopt]
  exact dropWhile_digits s rest hall (colonOrEnd_head rest h)

theorem dropItem_opt (o : Option Int) (rest : Str) (h : ColonOrEnd rest) :
    dropItem (optIntStr o ++ rest) = rest := by
  cases o with
  | none => exact dropItem_signed false [] rest (fun _ hc => absurd hc List.not_mem_nil) h
  | some i =>
    rw [optIntStr, intStr]
    split
    · exact dropItem_signed true _ rest (natStr_all_digits _) h
    · exact dropItem_signed false _ rest (natStr_all_digits _) h

theorem sliceLang_eq (s : Str) :
    sliceLang s = (dropItem (optChar ':' (dropItem (optChar ':' (dropItem s))))).isEmpty := rfl

theorem optChar_colon_cons (t : Str) : optChar ':' (':' :: t) = t := by simp [optChar]
theorem optChar_nil (x : Char) : optChar x [] = [] := rfl
theorem dropItem_nil : dropItem [] = [] := rfl

theorem sliceLang_two (a b : Option Int) : sliceLang (optIntStr a ++ ':' :: optIntStr b) = true := by
  rw [sliceLang_eq, dropItem_opt a _ (Or.inr ⟨_, rfl⟩), optChar_colon_cons]
  have := dropItem_opt b [] (Or.inl rfl)
  simp only [List.append_nil] at this
  rw [this, optChar_nil, dropItem_nil]
  rfl

theorem sliceLang_three (a b c : Option Int) :
    sliceLang (optIntStr a ++ ':' :: optIntStr b ++ ':' :: optIntStr c) = true := by
  have e : optIntStr a ++ ':' :: optIntStr b ++ ':' :: optIntStr c
      = optIntStr a ++ ':' :: (optIntStr b ++ ':' :: optIntStr c) := by simp
  rw [e, sliceLang_eq, dropItem_opt a _ (Or.inr ⟨_, rfl⟩), optChar_colon_cons,
    dropItem_opt b _ (Or.inr ⟨_, rfl⟩), optChar_colon_cons]
  have := dropItem_opt c [] (Or.inl rfl)
  simp only [List.append_nil] at this
  rw [this]
  rfl

theorem sliceLang_digits (s : Str) (hall : ∀ c ∈ s, Lemmas.isAsciiDigit c = true) : sliceLang s = true := by
  have h1 := dropItem_signed false s [] hall (Or.inl rfl)
  rw [List.append_nil] at h1
  rw [sliceLang_eq, show dropItem s = [] from h1]
  rfl

theorem sliceLang_neg (n : Nat) : sliceLang ('-' :: natStr n) = true := by
  have h1 := dropItem_signed true (natStr n) [] (natStr_all_digits n) (Or.inl rfl)
  rw [List.append_nil] at h1
  rw [sliceLang_eq, show dropItem ('-' :: natStr n) = [] from h1]
  rfl

theorem splitOnce_colon (A R : Str) (h : ∀ x ∈ A, x ≠ ':') : splitOnce (A ++ ':' :: R) = some (A, R) := by
  unfold splitOnce
  simp only [takeWhile_ne ':' A R h, drop_past ':' A R, List.length_append, List.length_cons,
    Nat.lt_add_right_iff_pos, Nat.zero_lt_succ, if_true]

theorem splitOnce_none (B : Str) (h : ∀ x ∈ B, x ≠ ':') : splitOnce B = none := by
  have hB : B.takeWhile (· != ':') = B := by
    have := List.takeWhile_append_of_pos (l₂ := []) (fun y hy => bne_iff_ne.2 (h y hy))
    rwa [List.append_nil, List.takeWhile_nil, List.append_nil] at this
  unfold splitOnce
  simp only [hB, Nat.lt_irrefl, if_false]

theorem optIntStr_noColon (o : Option Int) : ∀ x ∈ optIntStr o, x ≠ ':' :=
  fun x hx => (numChar_ne x (optIntStr_chars o x hx)).1

theorem splitColon2_two (a b : Option Int) :
    splitColon2 (optIntStr a ++ ':' :: optIntStr b) = [optIntStr a, optIntStr b] := by
  unfold splitColon2
  rw [splitOnce_colon _ _ (optIntStr_noColon a)]
  simp only [splitOnce_none _ (optIntStr_noColon b)]

theorem splitColon2_three (a b c : Option Int) :
    splitColon2 (optIntStr a ++ ':' :: (optIntStr b ++ ':' :: optIntStr c))
      = [optIntStr a, optIntStr b, optIntStr c] := by
  unfold splitColon2
  rw [splitOnce_colon _ _ (optIntStr_noColon a)]
  simp only [splitOnce_colon _ _ (optIntStr_noColon b)]

def OptFits : Option Int → Prop
  | none => True
  | some i => IntFits i

theorem field_default (d : Int) (a : Option Int) (h : OptFits a) :
    (if (optIntStr a).isEmpty then some d else pyInt (optIntStr a)) = some (a.getD d) := by
  cases a with
  | none => rfl
  | some i =>
    simp only [optIntStr, intStr_isEmpty, Bool.false_eq_true, if_false, pyInt_intStr i h, Option.getD_some]

theorem field_stop (b : Option Int) (h : OptFits b) :
    (if (optIntStr b).isEmpty then some (none : Option Int) else (pyInt (optIntStr b)).map some) = some b := by
  cases b with
  | none => rfl
  | some i =>
    simp only [optIntStr, intStr_isEmpty, Bool.false_eq_true, if_false, pyInt_intStr i h, Option.map_some]

theorem not_colons_of_head (s : Str) (h : s.head? ≠ some ':') : (s == [':'] || s == [':', ':']) = false := by
  cases s with
  | nil => rfl
  | cons x xs =>
    have hx : x ≠ ':' := fun e => h (by rw [e]; rfl)
    simp [hx]

theorem not_colons_cons (R : Str) (h1 : R ≠ []) (h2 : R ≠ [':']) :
    (':' :: R == [':'] || ':' :: R == [':', ':']) = false := by
  cases R with
  | nil => exact absurd rfl h1
  | cons y ys =>
    simpa using h2

theorem field_not_colons (a : Option Int) (R : Str) (h : a = none → R ≠ [] ∧ R ≠ [':']) :
    (optIntStr a ++ ':' :: R == [':'] || optIntStr a ++ ':' :: R == [':', ':']) = false := by
  cases a with
  | none => exact not_colons_cons R (h rfl).1 (h rfl).2
  | some i =>
    refine not_colons_of_head _ ?_
    cases hi : intStr i with
    | nil => exact absurd hi (intStr_ne_nil i)
    | cons x xs =>
      have hx := optIntStr_noColon (some i) x (by rw [optIntStr, hi]; exact List.mem_cons_self)
      rw [optIntStr, hi]
      exact fun e => hx (Option.some.inj e)

theorem contains_colon (A R : Str) : (A ++ ':' :: R).contains ':' = true := by simp

theorem optIntStr_ne_nil {o : Option Int} (h : o ≠ none) : optIntStr o ≠ [] := by
  cases o with
  | none => exact absurd rfl h
  | some i => exact intStr_ne_nil i

theorem optIntStr_ne_colon (o : Option Int) : optIntStr o ≠ [':'] :=
  fun e => optIntStr_noColon o ':' (by rw [e]; exact List.mem_singleton_self _) rfl

theorem parseSlice_two (a b : Option Int) (ha : OptFits a) (hb : OptFits b) :
    parseSlice (optIntStr a ++ ':' :: optIntStr b) = some (compileStep (.slice a b none)) := by
  by_cases hnn : a = none ∧ b = none
  · obtain ⟨rfl, rfl⟩ := hnn
    rfl
  · have hc := field_not_colons a (optIntStr b)
      (fun e => ⟨optIntStr_ne_nil (fun e' => hnn ⟨e, e'⟩), optIntStr_ne_colon b⟩)
    unfold parseSlice
    simp only [hc, Bool.false_eq_true, if_false, contains_colon, Bool.not_true,
      splitColon2_two, field_default 0 a ha, field_stop b hb]
    cases a with
    | some i => cases b <;> rfl
    | none =>
      cases b with
      | some j => rfl
      | none => exact absurd ⟨rfl, rfl⟩ hnn

theorem parseSlice_three (a b c : Option Int) (ha : OptFits a) (hb : OptFits b) (hc : OptFits c) :
    parseSlice (optIntStr a ++ ':' :: (optIntStr b ++ ':' :: optIntStr c))
      = some (compileStep (.slice a b (some c))) := by
  by_cases hnn : a = none ∧ b = none ∧ c = none
  · obtain ⟨rfl, rfl, rfl⟩ := hnn
    rfl
  · have hcol := field_not_colons a (optIntStr b ++ ':' :: optIntStr c) (fun ea => by
      refine ⟨fun e => absurd (List.append_eq_nil_iff.1 e).2 (List.cons_ne_nil _ _), fun e => ?_⟩
      -- `::` only if `b` and `c` are omitted as well
      cases b with
      | some j =>
        have hb' := optIntStr_ne_nil (o := some j) nofun
        cases hj : optIntStr (some j) with
        | nil => exact hb' hj
        | cons y ys => rw [hj] at e; cases ys <;> cases e
      | none =>
        cases c with
        | some k =>
          have hc' := optIntStr_ne_nil (o := some k) nofun
          cases hk : optIntStr (some k) with
          | nil => exact hc' hk
          | cons y ys => rw [hk] at e; cases e
        | none => exact hnn ⟨ea, rfl, rfl⟩)
    unfold parseSlice
    simp only [hcol, Bool.false_eq_true, if_false, contains_colon, Bool.not_true,
      splitColon2_three, field_default 0 a ha, field_stop b hb, field_default 1 c hc]
    simp only [optIntStr_isEmpty]
    cases a with
    | some i => cases b <;> rfl
    | none =>
      cases b with
      | some j => rfl
      | none =>
        cases c with
        | some k => rfl
        | none => exact absurd ⟨rfl, rfl, rfl⟩ hnn

theorem parseSlice_noColon (s : Str) (h : ∀ x ∈ s, x ≠ ':') :
    parseSlice s =
      if s.head? != some '-' then some (.name (some s))
      else match pyInt s with
        | none => none
        | some off =>
          if off == -1 then some (.slice (some off) none none)
          else some (.slice (some off) (some (off + 1)) none) := by
  have h1 := not_colons_of_head s (fun e => by
    cases s with
    | nil => cases e
    | cons x xs => exact h x List.mem_cons_self (Option.some.inj e))
  have h2 : s.contains ':' = false := by
    cases hcn : s.contains ':' with
    | false => rfl
    | true => exact absurd rfl (h _ (List.contains_iff_mem.1 hcn))
  unfold parseSlice
  simp only [h1, h2, Bool.false_eq_true, if_false, Bool.not_false, if_true]
  rfl

theorem parseSlice_digits (s : Str) (hall : ∀ c ∈ s, Lemmas.isAsciiDigit c = true) :
    parseSlice s = some (.name (some s)) := by
  rw [parseSlice_noColon s (fun x hx => digit_ne (hall x hx) (by decide)), if_pos]
  cases s with
  | nil => rfl
  | cons x xs => exact bne_iff_ne.2 (fun e => digit_ne (hall x List.mem_cons_self) (by decide) (Option.some.inj e))

theorem parseSlice_neg (n : Nat) (h : (natStr n).length ≤ intMaxDigits ∨ intMaxDigits = 0) :
    parseSlice ('-' :: natStr n) = some (compileStep (.negidx n)) := by
  have hnc : ∀ x ∈ '-' :: natStr n, x ≠ ':' := fun x hx => by
    rcases List.mem_cons.1 hx with e | hx
    · rw [e]; decide
    · exact digit_ne (natStr_all_digits n x hx) (by decide)
  rw [parseSlice_noColon _ hnc, if_neg (by simp), pyInt_neg_natStr n h]
  by_cases hn : n = 1
  · subst hn; rfl
  · have : ((-(n : Int)) == -1) = false := by
      simp only [beq_eq_false_iff_ne, ne_eq]
      omega
    simp [this, hn, compileStep]

end Flatland.C14.Proofs
