/-
Tag calls DO render on a generator whose name / value transforms are on and whose id / for / tabindex / filter transforms
are off (true of `Generator()`), whatever the tag, the control kind and the bound element: the value transform raises only
where `current in bind` does, and the four later transforms do nothing (`renders_of_quiet`).
-/
import Proofs.Lemmas.C12FormControls
namespace Flatland.C12.Proofs
open Flatland.Markup Flatland.C12 Flatland.C19.Proofs

/-- the four later transforms are switched off in the context and their settings are readable -/
structure Quiet (T : Tables) (ctx : Ctx) : Prop where
  domidOff : Disabled T ctx "auto_domid".toList
  forOff : Disabled T ctx "auto_for".toList
  tabindexOff : Disabled T ctx "auto_tabindex".toList
  filterOff : Disabled T ctx "auto_filter".toList
  filters : ∃ v, ctx.getItem "filters".toList = .ok v

theorem disabled_of_top (T : Tables) (ctx : Ctx) (key : Str) (b : Bool) (v : CVal) (t : Trool)
    (hdef : Dict.get? T.defaultContext key = some (.bool b))
    (hv : Dict.get? ctx.top key = some v) (ht : T.parseTroolC v = .ok t)
    (hres : (match t with | .yes => true | .no => false | .maybe => b) = false) :
    Disabled T ctx key :=
  popToggle_of_top_none T ctx key b v t hdef hv ht false hres

theorem fresh_quiet : Quiet Tables.current freshGen.ctx :=
  have off (key : Str) (hdef : Dict.get? Tables.current.defaultContext key = some (.bool false))
      (hv : Dict.get? freshGen.ctx.top key = some (.bool false)) : Disabled Tables.current freshGen.ctx key :=
    disabled_of_top _ _ key false (.bool false) .no hdef hv (by decide +kernel) (by decide +kernel)
  ⟨off _ (by decide +kernel) (by decide +kernel), off _ (by decide +kernel) (by decide +kernel),
   off _ (by decide +kernel) (by decide +kernel), off _ (by decide +kernel) (by decide +kernel),
   ⟨.opaque ['(', ')'], by decide +kernel⟩⟩

theorem fresh_live : Live Tables.current freshGen.ctx := ⟨fresh_enabled.1, fresh_enabled.2⟩

def laterKeys : List Str := ["auto_domid".toList, "auto_for".toList, "auto_tabindex".toList, "auto_filter".toList]

theorem domid_id (T : Tables) (tag : Str) (bnd : Option Bind) (st : TState) (h : Disabled T st.ctx "auto_domid".toList)
    (hno : Dict.get? st.attrs "auto_domid".toList = none) : transformDomid T tag bnd st = .ok st :=
  transformDomid_skips T tag bnd st _ _ _ (h.pop hno) (Or.inl rfl)

theorem for_id (T : Tables) (tag : Str) (bnd : Option Bind) (st : TState) (h : Disabled T st.ctx "auto_for".toList)
    (hno : Dict.get? st.attrs "auto_for".toList = none) (htag : tag ≠ sLabel) : transformFor T tag bnd st = .ok st := by
  rw [transformFor_skips T tag bnd st _ _ _ (h.pop hno) (Or.inl rfl), if_neg htag]

theorem tabindex_id (T : Tables) (tag : Str) (bnd : Option Bind) (st : TState)
    (h : Disabled T st.ctx "auto_tabindex".toList)
    (hno : Dict.get? st.attrs "auto_tabindex".toList = none) : transformTabindex T tag bnd st = .ok st := by
  unfold transformTabindex
  simp only [bind, Except.bind, pure, Except.pure, h.pop hno, Bool.not_false, if_true]

theorem filters_id (T : Tables) (tag : Str) (bnd : Option Bind) (st : TState)
    (h : Disabled T st.ctx "auto_filter".toList) (hf : ∃ v, st.ctx.getItem "filters".toList = .ok v)
    (hno : Dict.get? st.attrs "auto_filter".toList = none) : transformFilters T tag bnd st = .ok st := by
  obtain ⟨v, hv⟩ := hf
  unfold transformFilters
  simp only [bind, Except.bind, pure, Except.pure, h.pop hno, hv]

theorem later_ne : ∀ k ∈ laterKeys, k ≠ sValue ∧ k ≠ "auto_value".toList ∧ k ≠ sChecked ∧ k ≠ sSelected ∧ k ≠ sName ∧
    k ≠ "auto_name".toList := by decide +kernel

/-- after the name and value steps, a quiet generator adds nothing -/
theorem transform_of_steps (T : Tables) (ctx : Ctx) (hQ : Quiet T ctx) (tag : Str) (b : Bind) (kw : Attrs)
    (s1 s2 : TState) (h1 : transformName T tag (some b) ⟨kw, none, ctx⟩ = .ok s1)
    (h2 : transformValue T tag (some b) s1 = .ok s2) (hctx : s2.ctx = ctx) (htag : tag ≠ sLabel)
    (hopts : ∀ k ∈ laterKeys, Dict.get? kw k = none) :
    transform T tag (some b) ⟨kw, none, ctx⟩ = .ok s2 := by
  have hk : ∀ k ∈ laterKeys, Dict.get? s2.attrs k = none := by
    intro k hk
    have hne := later_ne k hk
    rw [transformValue_frame k h2 hne.1 hne.2.1 hne.2.2.1 hne.2.2.2.1, transformName_frame k h1 hne.2.2.2.2.1 hne.2.2.2.2.2]
    exact hopts k hk
  subst hctx
  unfold transform
  simp only [bind, Except.bind, h1, h2,
    domid_id T tag (some b) s2 hQ.domidOff (hk _ (by simp only [laterKeys, List.mem_cons, true_or])),
    for_id T tag (some b) s2 hQ.forOff (hk _ (by simp only [laterKeys, List.mem_cons, true_or, or_true])) htag,
    tabindex_id T tag (some b) s2 hQ.tabindexOff (hk _ (by simp only [laterKeys, List.mem_cons, true_or, or_true])),
    filters_id T tag (some b) s2 hQ.filterOff hQ.filters (hk _ (by simp only [laterKeys, List.mem_cons, true_or, or_true]))]

theorem later_reserved : ∀ k ∈ laterKeys, k ∈ reservedKeys ∧ sType ≠ k ∧ sValue ≠ k := by decide +kernel

/-- the tag call goes through: the six transforms succeed and leave the context as it was, and the
    contents can be printed -/
def Renders (T : Tables) (ctx : Ctx) (tag : Str) (b : Bind) (kw : Attrs) : Prop :=
  ∃ st6 body, transform T tag (some b) ⟨kw, none, ctx⟩ = .ok st6 ∧ st6.ctx = ctx ∧ bodyOf st6.contents = .ok body

theorem Renders.seen {T : Tables} {ctx : Ctx} {tag : Str} {b : Bind} {kw : Attrs} (h : Renders T ctx tag b kw) :
    ∃ s, seenOf T ctx tag b kw = .ok s := by
  obtain ⟨st6, body, ht, _, hb⟩ := h
  exact ⟨_, seenOf_of_transform ht hb⟩

def TextualValue (a : Attrs) : Prop := ∀ v, Dict.get? a sValue = some v → ∃ s, v = .text s

theorem ite_ok {α ε : Type} {Q : α → Prop} {c : Prop} [Decidable c] {x y : Except ε α}
    (hx : ∃ a, x = .ok a ∧ Q a) (hy : ∃ a, y = .ok a ∧ Q a) : ∃ a, (if c then x else y) = .ok a ∧ Q a := by
  split <;> assumption

theorem transformValue_total (T : Tables) (tag : Str) (b : Bind) (st : TState)
    (hen : Enabled T st.ctx "auto_value".toList) (hopt : Dict.get? st.attrs "auto_value".toList = none)
    (hval : TextualValue st.attrs) (hc : st.contents = none) :
    ∃ s2, transformValue T tag (some b) st = .ok s2 ∧ s2.ctx = st.ctx ∧ ∃ body, bodyOf s2.contents = .ok body := by
  have hp := hen.pop hopt
  have hget : ∀ v, (Dict.get? st.attrs sValue).getD (.text []) = v → ∃ s, v = .text s := by
    intro v hv
    cases hg : Dict.get? st.attrs sValue with
    | none => rw [hg] at hv; exact ⟨_, hv.symm⟩
    | some w => rw [hg] at hv; cases hv; exact hval w hg
  unfold transformValue
  simp only [bind, Except.bind, pure, Except.pure]
  rw [hp]
  simp only [hc]
  -- the two calls of `Bind.matches`; their arguments hold the `match`es of the do-block, which cannot be written down again
  generalize hr1 : Bind.matches T b (Prod.snd _) = r1
  generalize hr2 : Bind.matches T b (some _) = r2
  obtain ⟨m1, rfl⟩ : ∃ m, r1 = .ok m := hr1 ▸ matches_total T b _ (by
    intro v hv
    split at hv
    · split at hv
      · cases hv; exact ⟨_, rfl⟩
      · exact hval v hv
    · cases hv; exact hget _ rfl)
  obtain ⟨m2, rfl⟩ : ∃ m, r2 = .ok m := hr2 ▸ matches_total T b _ (by
    intro v hv
    cases hv
    split
    · rename_i cur hg; exact hval cur hg
    · exact ⟨_, rfl⟩)
  dsimp only
  -- every branch returns (`repeat' split` says the same and is slow to check on a goal of this size)
  repeat' apply ite_ok
  all_goals exact ⟨_, rfl, rfl, _, rfl⟩

theorem renders_of_quiet (T : Tables) (ctx : Ctx) (hL : Live T ctx) (hQ : Quiet T ctx) (tag : Str) (b : Bind) (kw : Attrs)
    (hl : tag ≠ sLabel) (hn : Dict.get? kw "auto_name".toList = none) (hv : Dict.get? kw "auto_value".toList = none)
    (hopts : ∀ k ∈ laterKeys, Dict.get? kw k = none) (hval : TextualValue kw) : Renders T ctx tag b kw := by
  have h1 := transformName_decision T tag (some b) ⟨kw, none, ctx⟩ _ _ _ (hL.nameOn.pop hn)
  have fr := fun k => transformName_frame (st := ⟨kw, none, ctx⟩) k h1
  obtain ⟨s2, h2, hctx, body, hb⟩ := transformValue_total T tag b _ hL.valueOn
    ((fr _ (by decide +kernel) (by decide +kernel)).trans hv)
    (fun v hg => hval v ((fr sValue (by decide +kernel) (by decide +kernel)).symm.trans hg)) rfl
  exact ⟨s2, body, transform_of_steps T ctx hQ tag b kw _ s2 h1 h2 hctx hl hopts, hctx, hb⟩

end Flatland.C12.Proofs
