/-
The queue loop of `flatten`, level by level.

`flatten` is breadth-first, so the output of a container is not the concatenation of its children's
outputs: the children are merged level by level.  `lvl d q` is what the queue `q` emits `d` rounds
later; the whole output is the concatenation of the levels.  Two nodes are *level-equal* (`LvlEq`)
when they emit the same pairs at every depth; this relation — unlike equality of outputs — is a
congruence for the node constructor.
-/
import Proofs.Lemmas.C01Emit
namespace Flatland.Flat.Proofs
open Flatland.Flat Flatland.Flat.Spec

/-- the pairs emitted by the elements `d` levels below the queue's items -/
def lvl : Nat → List QItem → List PPair
  | 0, q => q.flatMap ownPath
  | d + 1, q => lvl d (q.flatMap pushed)

theorem lvl_nil (d : Nat) : lvl d [] = [] := by
  induction d with
  | zero => rfl
  | succ d ih => simpa [lvl] using ih

theorem lvl_append (d : Nat) : ∀ a b : List QItem, lvl d (a ++ b) = lvl d a ++ lvl d b := by
  induction d with
  | zero => intro a b; simp [lvl]
  | succ d ih => intro a b; simp only [lvl, List.flatMap_append, ih]

theorem lvl_cons (d : Nat) (it : QItem) (q : List QItem) : lvl d (it :: q) = lvl d [it] ++ lvl d q := by
  have := lvl_append d [it] q
  simpa using this

theorem lvl_shift (π : List Str) (d : Nat) : ∀ q : List QItem,
    lvl d (q.map (shift π)) = (lvl d q).map (pre π) := by
  induction d with
  | zero =>
    intro q
    simp only [lvl, List.flatMap_map, List.map_flatMap, ownPath_shift]
    rfl
  | succ d ih =>
    intro q
    have : (q.map (shift π)).flatMap pushed = (q.flatMap pushed).map (shift π) := by
      simp only [List.flatMap_map, List.map_flatMap, pushed_shift]
    simp only [lvl, this, ih]

theorem lvl_item (d : Nat) (p : List Str) (k : FNode) :
    lvl d [(p, k)] = (lvl d [([], k)]).map (pre p) := by
  have : [((p, k) : QItem)] = [(([], k) : QItem)].map (shift p) := by simp [shift]
  rw [this, lvl_shift]

theorem qsize_eq_zero : ∀ q : List QItem, qsize q = 0 → q = []
  | [], _ => rfl
  | (p, n) :: q, h => by
    obtain ⟨name, fl, cfl, u, slots, kids⟩ := n
    simp [qsize, FNode.size] at h

theorem bfsPath_eq_levels (N : Nat) : ∀ q : List QItem, qsize q ≤ N →
    bfsPath q = (List.range N).flatMap (fun d => lvl d q) := by
  induction N with
  | zero =>
    intro q h
    have := qsize_eq_zero q (by omega)
    subst this
    simp [bfsPath_nil]
  | succ N ih =>
    intro q h
    rw [bfsPath_level]
    have hs := qsize_flatMap_pushed q
    have hle : qsize (q.flatMap pushed) ≤ N := by
      cases q with
      | nil => simp [qsize]
      | cons it q => simp only [List.length_cons] at hs; omega
    rw [ih _ hle, List.range_succ_eq_map, List.flatMap_cons, List.flatMap_map]
    rfl

theorem bfsPath_congr_levels (q q' : List QItem) (h : ∀ d, lvl d q = lvl d q') :
    bfsPath q = bfsPath q' := by
  rw [bfsPath_eq_levels (qsize q + qsize q') q (by omega),
    bfsPath_eq_levels (qsize q + qsize q') q' (by omega)]
  simp only [h]

theorem lvl_of_bfsPath_nil (q : List QItem) (h : bfsPath q = []) (d : Nat) : lvl d q = [] := by
  by_cases hd : d < qsize q + d + 1
  · rw [bfsPath_eq_levels (qsize q + d + 1) q (by omega)] at h
    exact List.flatMap_eq_nil_iff.mp h d (List.mem_range.mpr hd)
  · omega

/-- the two nodes emit the same pairs at every depth -/
def LvlEq (n n' : FNode) : Prop := ∀ d, lvl d [([], n)] = lvl d [([], n')]

/-- the node emits nothing at all -/
def LvlEmpty (n : FNode) : Prop := ∀ d, lvl d [([], n)] = []

theorem LvlEq.refl (n : FNode) : LvlEq n n := fun _ => rfl
theorem LvlEq.symm {n n' : FNode} (h : LvlEq n n') : LvlEq n' n := fun d => (h d).symm
theorem LvlEq.trans {a b c : FNode} (h1 : LvlEq a b) (h2 : LvlEq b c) : LvlEq a c :=
  fun d => (h1 d).trans (h2 d)

theorem relFlat_of_lvlEq {n n' : FNode} (h : LvlEq n n') : relFlat n = relFlat n' :=
  bfsPath_congr_levels _ _ h

theorem lvlEmpty_of_relFlat_nil {n : FNode} (h : relFlat n = []) : LvlEmpty n :=
  fun d => lvl_of_bfsPath_nil _ h d

theorem lvlEmpty_of_emitsB_false {env : Env} {s : Schema} {e : Elem} (h : emitsB env false s e = false) :
    LvlEmpty (resolve env s e) := by
  apply lvlEmpty_of_relFlat_nil
  have := (emitsB_false_iff env false s e).mp h
  rwa [filter_keepP_false] at this

theorem lvlEq_of_empty {n n' : FNode} (h : LvlEmpty n) (h' : LvlEmpty n') : LvlEq n n' :=
  fun d => by rw [h d, h' d]

def LvlEqL : List FNode → List FNode → Prop
  | [], [] => True
  | k :: ks, k' :: ks' => LvlEq k k' ∧ LvlEqL ks ks'
  | _, _ => False

theorem lvlEqL_map {α} (f g : α → FNode) : ∀ l : List α, (∀ x ∈ l, LvlEq (f x) (g x)) →
    LvlEqL (l.map f) (l.map g)
  | [], _ => trivial
  | x :: xs, h => ⟨h x (by simp), lvlEqL_map f g xs (fun y hy => h y (List.mem_cons_of_mem _ hy))⟩

theorem lvl_kidsFrom_cons (d : Nat) (p : List Str) (s : Bool) (i : Nat) (k : FNode) (ks : List FNode) :
    lvl d (kidsFrom p s i (k :: ks))
      = (lvl d [([], k)]).map (pre (if s then p ++ [natStr i] else p)) ++ lvl d (kidsFrom p s (i + 1) ks) := by
  simp only [kidsFrom]
  rw [lvl_cons, lvl_item]

theorem lvl_kidsFrom_congr (d : Nat) (p : List Str) (s : Bool) : ∀ (i : Nat) (ks ks' : List FNode),
    LvlEqL ks ks' → lvl d (kidsFrom p s i ks) = lvl d (kidsFrom p s i ks')
  | _, [], [], _ => rfl
  | _, [], _ :: _, h => by simp [LvlEqL] at h
  | _, _ :: _, [], h => by simp [LvlEqL] at h
  | i, k :: ks, k' :: ks', h => by
    simp only [LvlEqL] at h
    rw [lvl_kidsFrom_cons, lvl_kidsFrom_cons, h.1 d, lvl_kidsFrom_congr d p s (i + 1) ks ks' h.2]

theorem lvl_kidsFrom_empty (d : Nat) (p : List Str) (s : Bool) : ∀ (i : Nat) (ks : List FNode),
    (∀ k ∈ ks, LvlEmpty k) → lvl d (kidsFrom p s i ks) = []
  | _, [], _ => by simp [kidsFrom, lvl_nil]
  | i, k :: ks, h => by
    rw [lvl_kidsFrom_cons, h k (by simp) d,
      lvl_kidsFrom_empty d p s (i + 1) ks (fun x hx => h x (List.mem_cons_of_mem _ hx))]
    rfl

/-- trailing children that emit nothing can be dropped (the indexes of the others do not move) -/
theorem lvl_kidsFrom_drop_empty (d : Nat) (p : List Str) (s : Bool) (i : Nat) (ks tl : List FNode)
    (h : ∀ k ∈ tl, LvlEmpty k) : lvl d (kidsFrom p s i (ks ++ tl)) = lvl d (kidsFrom p s i ks) := by
  rw [kidsFrom_append, lvl_append, lvl_kidsFrom_empty d p s _ tl h, List.append_nil]

theorem lvl_zero_mk (nm : Option Str) (fl cfl : Bool) (t : Str) (s : Bool) (kids : List FNode) :
    lvl 0 [([], .mk nm fl cfl t s kids)] = if fl then [(nm.toList, t)] else [] := by
  cases fl <;> simp [lvl, ownPath, FNode.fl, namePath, FNode.name, FNode.u]

theorem lvl_succ_mk (d : Nat) (nm : Option Str) (fl cfl : Bool) (t : Str) (s : Bool) (kids : List FNode) :
    lvl (d + 1) [([], .mk nm fl cfl t s kids)]
      = if cfl then lvl d (kidsFrom nm.toList s 0 kids) else [] := by
  cases cfl with
  | true => simp [lvl, pushed, FNode.cfl, childItems, namePath, FNode.name, FNode.slots, FNode.kids]
  | false => simp [lvl, pushed, FNode.cfl, lvl_nil]

theorem lvlEq_mk (nm : Option Str) (fl cfl : Bool) (t : Str) (s : Bool) (kids kids' : List FNode)
    (h : ∀ d, lvl d (kidsFrom nm.toList s 0 kids) = lvl d (kidsFrom nm.toList s 0 kids')) :
    LvlEq (.mk nm fl cfl t s kids) (.mk nm fl cfl t s kids') := by
  intro d
  cases d with
  | zero => rw [lvl_zero_mk, lvl_zero_mk]
  | succ d => rw [lvl_succ_mk, lvl_succ_mk, h d]

theorem lvlEq_mk_kids (nm : Option Str) (fl cfl : Bool) (t : Str) (s : Bool) (kids kids' : List FNode)
    (h : LvlEqL kids kids') : LvlEq (.mk nm fl cfl t s kids) (.mk nm fl cfl t s kids') :=
  lvlEq_mk nm fl cfl t s kids kids' (fun d => lvl_kidsFrom_congr d _ _ 0 kids kids' h)

theorem lvlEq_mk_drop (nm : Option Str) (fl cfl : Bool) (t : Str) (s : Bool) (kids kids' tl : List FNode)
    (h : LvlEqL kids kids') (htl : ∀ k ∈ tl, LvlEmpty k) :
    LvlEq (.mk nm fl cfl t s kids) (.mk nm fl cfl t s (kids' ++ tl)) :=
  lvlEq_mk nm fl cfl t s kids (kids' ++ tl) (fun d => by
    rw [lvl_kidsFrom_drop_empty d _ _ 0 kids' tl htl]
    exact lvl_kidsFrom_congr d _ _ 0 kids kids' h)

theorem lvlEq_nocfl (nm : Option Str) (fl : Bool) (t : Str) (s s' : Bool) (kids kids' : List FNode) :
    LvlEq (.mk nm fl false t s kids) (.mk nm fl false t s' kids') := by
  intro d
  cases d with
  | zero => rw [lvl_zero_mk, lvl_zero_mk]
  | succ d => rw [lvl_succ_mk, lvl_succ_mk]; rfl

/- The positional reading of a compound's member texts. -/

/-- the texts of a mapping's members, read position by position -/
def usZip (env : Env) : List Schema → List (Str × Elem) → List (Str × Str)
  | f :: fs, (_, e) :: ms => (f.name.getD [], uOf env f e) :: usZip env fs ms
  | _, _ => []

theorem lookup_of_zip : ∀ (all : List Schema) (allMs : List (Str × Elem)),
    allMs.map (fun p => some p.1) = namesOf all → (namesOf all).Nodup →
    ∀ (f : Schema) (k : Str) (e : Elem), (f, (k, e)) ∈ all.zip allMs →
      f.name = some k ∧ lookup k allMs = some e
  | [], _, _, _, f, k, e, h => by simp at h
  | _ :: _, [], _, _, f, k, e, h => by simp at h
  | g :: gs, (k0, e0) :: ms, hk, hn, f, k, e, h => by
    simp only [List.map_cons, namesOf, List.cons.injEq] at hk
    simp only [namesOf, List.nodup_cons] at hn
    simp only [List.zip_cons_cons, List.mem_cons, Prod.mk.injEq] at h
    rcases h with ⟨rfl, rfl, rfl⟩ | h
    · exact ⟨hk.1.symm, by simp [lookup]⟩
    · have ih := lookup_of_zip gs ms hk.2 hn.2 f k e h
      refine ⟨ih.1, ?_⟩
      have hf : f ∈ gs := (List.of_mem_zip h).1
      have hne : k0 ≠ k := by
        intro hkk
        apply hn.1
        rw [← hk.1, hkk, ← ih.1]
        exact mem_namesOf hf
      simp [lookup, hne, ih.2]

theorem usOf_eq_zip_aux (env : Env) (all : List Schema) (allMs : List (Str × Elem))
    (hk : allMs.map (fun p => some p.1) = namesOf all) (hn : (namesOf all).Nodup) :
    ∀ (fs : List Schema) (ms : List (Str × Elem)), fs.length = ms.length →
      (∀ x ∈ fs.zip ms, x ∈ all.zip allMs) → usOf env fs allMs = usZip env fs ms
  | [], ms, _, _ => by cases ms <;> simp [usOf, usZip]
  | _ :: _, [], hl, _ => by simp at hl
  | f :: fs, (k, e) :: ms, hl, hsub => by
    have ih := usOf_eq_zip_aux env all allMs hk hn fs ms (by simpa using hl)
      (fun x hx => hsub x (by simp [hx]))
    have := lookup_of_zip all allMs hk hn f k e (hsub _ (by simp))
    simp only [usOf, usZip, this.1, Option.getD_some, this.2, ih]

theorem usOf_eq_zip (env : Env) (fs : List Schema) (ms : List (Str × Elem))
    (hk : ms.map (fun p => some p.1) = namesOf fs) (hn : (namesOf fs).Nodup) :
    usOf env fs ms = usZip env fs ms := by
  have hl : fs.length = ms.length := by
    have h1 := congrArg List.length hk
    rw [namesOf_map_name, List.length_map, List.length_map] at h1
    exact h1.symm
  exact usOf_eq_zip_aux env fs ms hk hn fs ms hl (fun x hx => hx)

theorem uOf_compound (env : Env) (nm : Option Str) (o : Bool) (k : Nat) (fields : List Schema)
    (ms : List (Str × Elem)) :
    uOf env (.compound nm o k fields) (.dict ms) = env.compose k (usOf env fields ms) := by
  rw [uOf]

end Flatland.Flat.Proofs
