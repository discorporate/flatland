/-
The adapted value of a plain argument, for ANY member schema: `wrapSig m r` is the `(value, u)` structure of
`member_schema(value=r)`; by `setNode_indep` it does not depend on when (with which id counter) the element is built.
`setNode_resets`: `el.set(r)` on an existing element of class `m` yields the same structure whenever `set` forgets
what the element held (`Resets`) — every case except a Dict / SparseDict handed a value that is not dict-like
(KF-C09-b).  `.value` and the value `*=` re-feeds are functions of `sig`.
-/
import Proofs.Lemmas.TreeErase
import Proofs.Lemmas.TreeSig
namespace Flatland.Tree
open Flatland.PyList

/-- `member_schema(value=r)` built with id counter 0 -/
def wrapNode (m : Schema) (r : Raw) : SetR := setNode (blank m none [] 0).1 r none (blank m none [] 0).2

def wrapSig (m : Schema) (r : Raw) : Sig := sig (wrapNode m r).node

def WrapOK (m : Schema) (r : Raw) : Prop := ∃ b, (wrapNode m r).res = .ok b

instance (m : Schema) (r : Raw) : Decidable (WrapOK m r) :=
  match h : (wrapNode m r).res with
  | .ok b => isTrue ⟨b, h⟩
  | .error e => isFalse (by intro ⟨b, hb⟩; rw [h] at hb; cases hb)

theorem wrap_plain_ok (m : Schema) (r : Raw) (h : WrapOK m r) (next : Nat) :
    ∃ w next', wrap m (.plain r) next = (.ok w, next') ∧ sig w = wrapSig m r ∧ w.sch = m := by
  obtain ⟨b, hb⟩ := h
  have hi := setNode_indep r (blank m none [] next).1 (blank m none [] 0).1 none (blank m none [] next).2
    (blank m none [] 0).2 (blank_erase m none none [] next 0)
  have hres : (setNode (blank m none [] next).1 r none (blank m none [] next).2).res = .ok b := by
    rw [hi.2]; exact hb
  refine ⟨(setNode (blank m none [] next).1 r none (blank m none [] next).2).node,
    (setNode (blank m none [] next).1 r none (blank m none [] next).2).next, ?_, sig_of_erase hi.1, ?_⟩
  · simp only [wrap, construct, hres]
  · have := setNode_hdr (blank m none [] next).1 r none (blank m none [] next).2
    have h3 : (setNode (blank m none [] next).1 r none (blank m none [] next).2).node.sch = (blank m none [] next).1.sch :=
      congrArg (fun t => t.2.2.1) this
    rw [h3]; exact (blank_ni m none [] next).2

theorem buildItems_ok (m : Schema) (xs : List Raw) (hx : ∀ r ∈ xs, WrapOK m r) (next : Nat) :
    ∃ vals n' conv, buildItems m xs next = (vals, n', .ok conv) ∧ vals.map sig = xs.map (wrapSig m) := by
  induction xs generalizing next with
  | nil => exact ⟨[], next, true, rfl, rfl⟩
  | cons r rs ih =>
    obtain ⟨w, n1, hw, hs, _⟩ := wrap_plain_ok m r (hx r (by simp)) next
    simp only [wrap, construct] at hw
    obtain ⟨vals, n', conv, hbi, hsig⟩ := ih (fun x hx' => hx x (by simp [hx'])) n1
    cases hres : (setNode (blank m none [] next).1 r none (blank m none [] next).2).res with
    | error e => rw [hres] at hw; simp at hw
    | ok c =>
      rw [hres] at hw
      simp only [Prod.mk.injEq, Except.ok.injEq] at hw
      obtain ⟨hw1, hw2⟩ := hw
      refine ⟨w :: vals, n', c && conv, ?_, by simp [hs, hsig]⟩
      rw [buildItems]
      simp only [hres, hw2, hbi, hw1]

/-- `el.set(r)` forgets what an element of class `m` held: scalars take the adapted value,
    sequences `del self[:]` first, mappings `_reset()` first — provided the value is dict-like;
    otherwise `Dict.set` returns False and leaves the fields as they were -/
def Resets (m : Schema) (r : Raw) : Prop :=
  match m.kind with
  | .integer | .string => (adaptScalar m.kind r).isSome = true
  | .list | .array | .multi => True
  | .dict | .sparse => ∃ kvs, toPairs r = some (some kvs)
  | .slot => False

theorem sig_of_ni {a b : Node} {s : Schema} (hk : s.kind ≠ .integer ∧ s.kind ≠ .string) (ha : a.sch = s) (hb : b.sch = s)
    (h : eraseL a.kids = eraseL b.kids) : sig a = sig b := by
  cases a with
  | mk i _ ks =>
  cases b with
  | mk i' _ ks' =>
  simp only [Node.sch, Node.kids] at ha hb h
  subst ha
  subst hb
  rw [← sig_erase (.mk i _ ks), ← sig_erase (.mk i' _ ks'), erase_mk, erase_mk, h]
  unfold sig
  split <;> simp_all

theorem setNode_resets (m : Schema) (r : Raw) (h : Resets m r) (el el' : Node) (he : el.sch = m) (he' : el'.sch = m)
    (pol : Option Policy) (n n' : Nat) :
    sig (setNode el r pol n).node = sig (setNode el' r pol n').node ∧
    (setNode el r pol n).res = (setNode el' r pol n').res := by
  cases el with
  | mk i s0 kids =>
  cases el' with
  | mk i' s kids' =>
  simp only [Node.sch] at he he'
  subst he
  subst he'
  unfold Resets at h
  cases hkind : s.kind with
  | integer | string =>
    have hs : s.kind = .integer ∨ s.kind = .string := by simp [hkind]
    simp only [hkind] at h
    obtain ⟨⟨v, u, ok⟩, hv⟩ := Option.isSome_iff_exists.mp h
    have h1 := setNode_scalar (.mk i s kids) hs r pol n v u ok (by simpa [Node.sch, hkind] using hv)
    have h2 := setNode_scalar (.mk i' s kids') hs r pol n' v u ok (by simpa [Node.sch, hkind] using hv)
    exact ⟨by rw [h1.2.2.1, h2.2.2.1], by rw [h1.1, h2.1]⟩
  | slot => simp [hkind] at h
  | list | array | multi =>
    have hs : s.kind = .list ∨ s.kind = .array ∨ s.kind = .multi := by simp [hkind]
    rw [setNode_seq _ _ _ _ _ _ hs, setNode_seq _ _ _ _ _ _ hs]
    have hk := seqSet_kids i i' s r (fun _ _ x _ => setNode_indep x) n n'
    exact ⟨sig_of_ni (by simp [hkind]) (seqSet_ni i s r n).2 (seqSet_ni i' s r n').2 hk.1, hk.2⟩
  | dict | sparse =>
    have hs : s.kind = .dict ∨ s.kind = .sparse := by simp [hkind]
    simp only [hkind] at h
    obtain ⟨kvs, hkvs⟩ := h
    rw [setNode_map _ _ _ _ _ _ hs, setNode_map _ _ _ _ _ _ hs]
    simp only [hkvs]
    have hk := mapSetKvs_kids i i' s kvs (fun p _ => setNode_indep p.2) pol n n'
    exact ⟨sig_of_ni (by simp [hkind]) (mapSetKvs_ni i s kvs pol n).2 (mapSetKvs_ni i' s kvs pol n').2 hk.1, hk.2⟩

/-- `lst[i] = r` on a List sets the existing member in place: same structure as a fresh
    `member_schema(value=r)` whenever `set` resets -/
theorem setNode_member (m : Schema) (r : Raw) (h : Resets m r) (hok : WrapOK m r) (el : Node) (he : el.sch = m)
    (n : Nat) :
    sig (setNode el r none n).node = wrapSig m r ∧ ∃ b, (setNode el r none n).res = .ok b := by
  have := setNode_resets m r h el (blank m none [] 0).1 he (blank_ni m none [] 0).2 none n (blank m none [] 0).2
  obtain ⟨b, hb⟩ := hok
  exact ⟨this.1, b, by rw [this.2]; exact hb⟩

theorem wrap_scalar (m : Schema) (hm : ScalarSchema m) (r : Raw) :
    (WrapOK m r ↔ (adaptScalar m.kind r).isSome = true) ∧
    (∀ v u ok, adaptScalar m.kind r = some (v, u, ok) → wrapSig m r = .sc v u) := by
  unfold WrapOK wrapSig wrapNode
  simp only [blank_scalar m hm none [] 0, setNode_scalar_eq (.mk { id := 0, parent := none, key := [] } m []) hm, Node.sch]
  cases adaptScalar m.kind r with
  | none => exact ⟨⟨fun ⟨_, h⟩ => (nomatch h), fun h => (nomatch h)⟩, fun _ _ _ h => (nomatch h)⟩
  | some t =>
    obtain ⟨v, u, ok⟩ := t
    refine ⟨⟨fun _ => rfl, fun _ => ⟨ok, rfl⟩⟩, fun v' u' ok' h => ?_⟩
    cases h; exact sig_scalar (x := Node.mk _ _ _) hm

mutual
def sigValue : Sig → Raw
  | .sc v _ => (match v with | .none => .none | .int n => .int n | .str t => .str t)
  | .seq xs => .list (sigValueL xs)
  | .map kvs => .dict (sigValueKV kvs)
def sigValueL : List Sig → List Raw
  | [] => []
  | x :: xs => sigValue x :: sigValueL xs
def sigValueKV : List (Str × Sig) → List (Str × Raw)
  | [] => []
  | (k, x) :: xs => (k, sigValue x) :: sigValueKV xs
end

mutual
theorem valueOf_sig : (n : Node) → valueOf n = sigValue (sig n)
  | .mk i s kids => by
    rw [valueOf, sig]
    cases s.kind with
    | integer => simp only [sigValue]; cases i.val <;> rfl
    | string => simp only [sigValue]; cases i.val <;> rfl
    | list => simp only [sigValue, valueL_sig kids]
    | array => simp only [sigValue, valueL_sig kids]
    | multi => exact valueFirst_sig kids
    | dict => simp only [sigValue, valueKV_sig kids]
    | sparse => simp only [sigValue, valueKV_sig kids]
    | slot => exact valueFirst_sig kids
theorem valueFirst_sig : (ks : List Node) → valueFirst ks = sigValue (sigFirst ks)
  | [] => rfl
  | k :: _ => by rw [valueFirst, sigFirst]; exact valueOf_sig k
theorem valueL_sig : (ks : List Node) → valueL ks = sigValueL (sigL ks)
  | [] => rfl
  | k :: ks => by rw [valueL, sigL, sigValueL, valueOf_sig k, valueL_sig ks]
theorem valueKV_sig : (ks : List Node) → valueKV ks = sigValueKV (sigKV ks)
  | [] => rfl
  | k :: ks => by rw [valueKV, sigKV, sigValueKV, valueOf_sig k, valueKV_sig ks]
end

mutual
/-- the value `Sequence.__imul__` re-feeds for a member (`_replica_value`), read off its
    `(value, u)` structure: the value, with the text of every scalar that could not be adapted -/
def imulRaw : Sig → Raw
  | .sc v u => (match v with | .none => if u.isEmpty then .none else .str u | .int n => .int n | .str t => .str t)
  | .seq xs => .list (imulRawL xs)
  | .map kvs => .dict (imulRawKV kvs)
def imulRawL : List Sig → List Raw
  | [] => []
  | x :: xs => imulRaw x :: imulRawL xs
def imulRawKV : List (Str × Sig) → List (Str × Raw)
  | [] => []
  | (k, x) :: xs => (k, imulRaw x) :: imulRawKV xs
end

mutual
/-- no MultiValue anywhere inside the element: a MultiValue compares (and shows as `(value, u)`) by
    its first member only, while `*=` replicates all its members — the one place where the
    `(value, u)` abstraction is too coarse to say what `*=` re-feeds -/
def noMulti : Node → Bool
  | .mk _ s kids =>
    match s.kind with
    | .integer | .string => true
    | .multi => false
    | _ => noMultiL kids
def noMultiL : List Node → Bool
  | [] => true
  | k :: ks => noMulti k && noMultiL ks
end

mutual
theorem replicaValue_sig : (n : Node) → noMulti n = true → replicaValue n = imulRaw (sig n)
  | .mk i s kids, h => by
    rw [replicaValue, sig]
    rw [noMulti] at h
    cases hk : s.kind with
    | integer => simp only [imulRaw]; cases i.val <;> rfl
    | string => simp only [imulRaw]; cases i.val <;> rfl
    | list => simp only [hk] at h; simp only [imulRaw, replicaL_sig kids h]
    | array => simp only [hk] at h; simp only [imulRaw, replicaL_sig kids h]
    | multi => simp [hk] at h
    | dict => simp only [hk] at h; simp only [imulRaw, replicaKV_sig kids h]
    | sparse => simp only [hk] at h; simp only [imulRaw, replicaKV_sig kids h]
    | slot => simp only [hk] at h; exact replicaFirst_sig kids h
theorem replicaFirst_sig : (ks : List Node) → noMultiL ks = true → replicaFirst ks = imulRaw (sigFirst ks)
  | [], _ => rfl
  | k :: _, h => by
    rw [noMultiL, Bool.and_eq_true] at h
    rw [replicaFirst, sigFirst]; exact replicaValue_sig k h.1
theorem replicaL_sig : (ks : List Node) → noMultiL ks = true → replicaL ks = imulRawL (sigL ks)
  | [], _ => rfl
  | k :: ks, h => by
    rw [noMultiL, Bool.and_eq_true] at h
    rw [replicaL, sigL, imulRawL, replicaValue_sig k h.1, replicaL_sig ks h.2]
theorem replicaKV_sig : (ks : List Node) → noMultiL ks = true → replicaKV ks = imulRawKV (sigKV ks)
  | [], _ => rfl
  | k :: ks, h => by
    rw [noMultiL, Bool.and_eq_true] at h
    rw [replicaKV, sigKV, imulRawKV, replicaValue_sig k h.1, replicaKV_sig ks h.2]
end

theorem imulValue_sig (x : Node) (h : noMulti x = true) : imulValue x = imulRaw (sig x) :=
  replicaValue_sig x h

end Flatland.Tree
