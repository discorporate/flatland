/-
Pure list facts used by the general List round trip: index lists versus element lists, and the
trailing-drop of the specification.
-/
import Proofs.Lemmas.C01PDict
import Proofs.C02Order
namespace Flatland.Flat.Proofs
open Flatland.Flat Flatland.Flat.Spec

theorem range_map_get {α} [Inhabited α] (l : List α) : (List.range l.length).map (fun i => l[i]!) = l := by
  apply List.ext_getElem
  · simp
  · intro i h1 h2
    simp only [List.length_map, List.length_range] at h1
    simp [List.getElem_map, List.getElem_range, h1]

theorem filter_range_map {α β} [Inhabited α] (l : List α) (p : α → Bool) (f : α → β) :
    ((List.range l.length).filter (fun i => p l[i]!)).map (fun i => f l[i]!) = (l.filter p).map f := by
  conv => rhs; rw [← range_map_get l]
  rw [List.filter_map, List.map_map]
  rfl

theorem pairwise_lt_filter_range (k : Nat) (P : Nat → Bool) :
    ((List.range k).filter P).Pairwise (· < ·) :=
  List.Pairwise.sublist List.filter_sublist List.pairwise_lt_range

theorem sortedDistinct_eq_filter_range (idxs : List Nat) (k : Nat) (P : Nat → Bool)
    (hlt : ∀ j ∈ idxs, j < k) (hiff : ∀ i, i < k → (i ∈ idxs ↔ P i = true)) :
    sortedDistinct idxs = (List.range k).filter P := by
  apply sorted_unique _ _ (sortedDistinct_spec idxs).1 (pairwise_lt_filter_range k P)
  intro x
  rw [(sortedDistinct_spec idxs).2 x, List.mem_filter, List.mem_range]
  constructor
  · intro hx; exact ⟨hlt x hx, (hiff x (hlt x hx)).mp hx⟩
  · rintro ⟨hx, hp⟩; exact (hiff x hx).mpr hp

theorem foldl_max_ge (l : List Nat) (a : Nat) : a ≤ l.foldl max a := by
  induction l generalizing a with
  | nil => simp
  | cons x xs ih => simp only [List.foldl_cons]; exact Nat.le_trans (Nat.le_max_left a x) (ih _)

theorem foldl_max_mem_ge (l : List Nat) (a x : Nat) (hx : x ∈ l) : x ≤ l.foldl max a := by
  induction l generalizing a with
  | nil => simp at hx
  | cons y ys ih =>
    simp only [List.foldl_cons]
    rcases List.mem_cons.mp hx with rfl | h
    · exact Nat.le_trans (Nat.le_max_right a x) (foldl_max_ge ys _)
    · exact ih _ h

theorem foldl_max_mem (l : List Nat) (h : l ≠ []) : l.foldl max 0 ∈ l := by
  have key : ∀ (l : List Nat) (a : Nat), l.foldl max a = a ∨ l.foldl max a ∈ l := by
    intro l
    induction l with
    | nil => intro a; left; rfl
    | cons x xs ih =>
      intro a
      simp only [List.foldl_cons]
      rcases ih (max a x) with h1 | h1
      · rw [h1]
        by_cases hax : a ≤ x
        · right; rw [Nat.max_eq_right hax]; simp
        · left; rw [Nat.max_eq_left (by omega)]
      · right; exact List.mem_cons_of_mem _ h1
  rcases key l 0 with h0 | h0
  · -- the maximum is 0: then 0 is the maximum of a non-empty list of naturals, so 0 ∈ l
    cases l with
    | nil => exact absurd rfl h
    | cons x xs =>
      have hx : x ≤ (x :: xs).foldl max 0 := foldl_max_mem_ge (x :: xs) 0 x (by simp)
      rw [h0] at hx
      have : x = 0 := by omega
      rw [h0, this]; simp
  · exact h0

theorem dropWhile_head {α} (f : α → Bool) : ∀ r : List α,
    r.dropWhile f = [] ∨ ∃ a t, r.dropWhile f = a :: t ∧ f a = false ∧ a ∈ r
  | [] => Or.inl rfl
  | a :: r => by
    cases h : f a with
    | true =>
      rw [List.dropWhile_cons_of_pos h]
      rcases dropWhile_head f r with h0 | ⟨b, t, hb, hfb, hm⟩
      · exact Or.inl h0
      · exact Or.inr ⟨b, t, hb, hfb, List.mem_cons_of_mem _ hm⟩
    | false =>
      rw [List.dropWhile_cons_of_neg (by simp [h])]
      exact Or.inr ⟨a, r, rfl, h, by simp⟩

theorem any_dropWhile_not {α} (p : α → Bool) : ∀ r : List α,
    (r.dropWhile (fun x => !p x)).any p = r.any p
  | [] => rfl
  | a :: r => by
    cases h : p a with
    | true => rw [List.dropWhile_cons_of_neg (by simp [h])]
    | false =>
      rw [List.dropWhile_cons_of_pos (by simp [h]), any_dropWhile_not p r]
      simp [h]

theorem any_dropTrailing {α} (p : α → Bool) (l : List α) : (dropTrailing p l).any p = l.any p := by
  unfold dropTrailing
  rw [List.any_reverse, any_dropWhile_not, List.any_reverse]

theorem dropWhile_all {α} (f : α → Bool) : ∀ l : List α, (∀ x ∈ l, f x = true) → l.dropWhile f = []
  | [], _ => rfl
  | a :: l, h => by
    rw [List.dropWhile_cons_of_pos (h a (by simp))]
    exact dropWhile_all f l (fun x hx => h x (List.mem_cons_of_mem _ hx))

theorem dropTrailing_none {α} (p : α → Bool) (l : List α) (h : ∀ x ∈ l, p x = false) :
    dropTrailing p l = [] := by
  unfold dropTrailing
  rw [dropWhile_all _ _ (fun x hx => by simp [h x (List.mem_reverse.mp hx)])]
  rfl

theorem dropTrailing_split {α} (p : α → Bool) (l : List α) :
    ∃ tl, l = dropTrailing p l ++ tl ∧ ∀ x ∈ tl, p x = false := by
  refine ⟨(l.reverse.takeWhile (fun x => !p x)).reverse, ?_, ?_⟩
  · unfold dropTrailing
    rw [← List.reverse_append, List.takeWhile_append_dropWhile, List.reverse_reverse]
  · intro x hx
    have hall := List.all_takeWhile (p := fun x => !p x) (l := l.reverse)
    have := List.all_eq_true.mp hall x (List.mem_reverse.mp hx)
    simpa using this

theorem dropTrailing_eq_self {α} {p : α → Bool} {l : List α} (h : ∀ x ∈ l, p x = true) :
    dropTrailing p l = l := by
  obtain ⟨tl, hl, htl⟩ := dropTrailing_split p l
  cases tl with
  | nil => rw [List.append_nil] at hl; exact hl.symm
  | cons x xs =>
    have h1 := htl x (by simp)
    rw [h x (by rw [hl]; simp)] at h1
    cases h1

theorem mem_of_mem_dropTrailing {α} (p : α → Bool) (l : List α) (x : α) (h : x ∈ dropTrailing p l) :
    x ∈ l := by
  obtain ⟨tl, hl, _⟩ := dropTrailing_split p l
  rw [hl]; exact List.mem_append_left _ h

theorem dropTrailing_map_idem {α β} (p : α → Bool) (q : β → Bool) (g : α → β) (l : List α)
    (h : ∀ x ∈ l, p x = true → q (g x) = true) :
    dropTrailing q ((dropTrailing p l).map g) = (dropTrailing p l).map g := by
  unfold dropTrailing
  rw [← List.map_reverse, List.reverse_reverse]
  rcases dropWhile_head (fun x => !p x) l.reverse with h0 | ⟨a, t, ha, hpa, hm⟩
  · rw [h0]; rfl
  · simp only [Bool.not_eq_false'] at hpa
    have := h a (List.mem_reverse.mp hm) hpa
    rw [ha, List.map_cons, List.dropWhile_cons_of_neg (by simp [this])]
    simp

theorem dropTrailing_eq_self_split {α} (p : α → Bool) (l tl : List α)
    (h1 : dropTrailing p l = l) (h2 : l = dropTrailing p l ++ tl) : tl = [] := by
  rw [h1] at h2
  exact List.self_eq_append_right.mp h2

theorem dropTrailing_eq_take {α} (p : α → Bool) (l : List α) :
    dropTrailing p l = l.take (dropTrailing p l).length := by
  obtain ⟨tl, h, _⟩ := dropTrailing_split p l
  generalize dropTrailing p l = D at h ⊢
  subst h
  simp

theorem dropTrailing_length_le {α} (p : α → Bool) (l : List α) : (dropTrailing p l).length ≤ l.length := by
  obtain ⟨tl, h, _⟩ := dropTrailing_split p l
  generalize dropTrailing p l = D at h ⊢
  subst h
  simp

theorem dropTrailing_last {α} [Inhabited α] (p : α → Bool) (l : List α) (h : 0 < (dropTrailing p l).length) :
    p l[(dropTrailing p l).length - 1]! = true := by
  obtain ⟨tl, hl, _⟩ := dropTrailing_split p l
  rcases dropWhile_head (fun x => !p x) l.reverse with h0 | ⟨a, t, ha, hpa, _⟩
  · simp [dropTrailing, h0] at h
  · have hD : dropTrailing p l = t.reverse ++ [a] := by simp [dropTrailing, ha]
    rw [hD] at hl ⊢
    subst hl
    simpa using hpa

theorem dropTrailing_after {α} [Inhabited α] (p : α → Bool) (l : List α) (i : Nat)
    (h1 : (dropTrailing p l).length ≤ i) (h2 : i < l.length) : p l[i]! = false := by
  obtain ⟨tl, h, htl⟩ := dropTrailing_split p l
  generalize dropTrailing p l = D at h h1
  subst h
  rw [getElem!_pos (D ++ tl) i h2, List.getElem_append_right h1]
  exact htl _ (List.getElem_mem _)

end Flatland.Flat.Proofs
