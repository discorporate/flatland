/-
What the documented pruning `pr` preserves: conformance (`OkP`) and a compound's text.
-/
import Proofs.Lemmas.C01PrList
namespace Flatland.Flat.Proofs
open Flatland.Flat Flatland.Flat.Spec

variable {env : Env}

theorem okP_pr : ∀ s : Schema, wf s = true → dense s = true →
    ∀ (u : Bool) (e : Elem), OkP env s e → OkP env s (pr env u s e) := by
  intro s hw hd u e hok
  refine okP_ind (P := fun s e => ∀ u, OkP env s (pr env u s e))
    (Q := fun fs ms => ∀ u, OkPFields env fs (prFields env u fs ms))
    ?_ ?_ ?_ ?_ ?_ ?_ ?_ ?_ s hw hd e hok u
  · intro nm o k t hok u
    exact hok
  · intro nm o k mem t ms hok _ u
    rw [pr_joined]
    exact okP_joined hok
  · intro nm o fields ms _ _ _ _ _ hQ u
    exact ⟨rfl, hQ u⟩
  · intro nm o k fields ms _ _ _ _ _ hQ u
    exact hQ u
  · intro nm o p mx member ms hw hd hlen hdig hmem ih u
    rw [pr_list u nm o p mx member ms hw hd hmem]
    have hle := length_prList_le (env := env) u p member (fun v => pr env v member) ms
    refine ⟨by omega, fun i hi => hdig i (by omega), fun x hx => ?_⟩
    obtain ⟨m, hm, rfl⟩ := mem_prList hx
    exact ih m hm _
  · intro nm o p member ms _ _ hleaf hmem _ u
    exact ⟨hleaf, fun x hx => hmem x (List.mem_filter.mp hx).1⟩
  · intro u
    trivial
  · intro f fs k e ms _ _ hk _ _ hP hQ u
    exact ⟨hk, hP u, hQ u⟩

theorem uOf_pr : ∀ s : Schema, wf s = true → dense s = true →
    ∀ (u : Bool) (e : Elem), OkP env s e → uOf env s (pr env u s e) = uOf env s e := by
  intro s hw hd u e hok
  refine okP_ind (P := fun s e => ∀ u, uOf env s (pr env u s e) = uOf env s e)
    (Q := fun fs ms => ∀ u, usZip env fs (prFields env u fs ms) = usZip env fs ms)
    ?_ ?_ ?_ ?_ ?_ ?_ ?_ ?_ s hw hd e hok u
  · intro nm o k t _ u
    rfl
  · intro nm o k mem t ms _ _ u
    rw [pr_joined]
    rfl
  · intro nm o fields ms _ _ _ _ _ _ u
    simp [uOf]
  · intro nm o k fields ms hw hd hnd _ hok hQ u
    have hok' : OkPFields env fields (prFields env u fields ms) := okP_pr _ hw hd u (.dict ms) hok
    simp only [pr]
    rw [uOf_compound, uOf_compound,
      usOf_eq_zip env fields _ (okFields_keysP env fields _ hok') hnd,
      usOf_eq_zip env fields _ (okFields_keysP env fields _ hok) hnd, hQ u]
  · intro nm o p mx member ms _ _ _ _ _ _ u
    simp only [pr]; split <;> simp [uOf]
  · intro nm o p member ms _ _ _ _ _ u
    simp [uOf]
  · intro u
    rfl
  · intro f fs k e ms _ _ _ _ _ hP hQ u
    simp only [prFields, usZip, hP u, hQ u]

end Flatland.Flat.Proofs
