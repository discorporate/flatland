/- Python `dict`, `sorted` and attribute-store lemmas used by Proofs/C20.lean and Proofs/C20Fail.lean -/
import Flatland.C20
import Proofs.Lemmas.Assoc
import Proofs.Lemmas.PyListMem
namespace Flatland.C20.Proofs
open Flatland.C20

variable {β : Type}

theorem strLt_iff (a b : Str) : strLt a b = true ↔ a.map Char.toNat < b.map Char.toNat := by
  induction a generalizing b with
  | nil => cases b <;> simp [strLt]
  | cons x xs ih =>
    cases b with
    | nil => simp [strLt]
    | cons y ys =>
      simp only [strLt, List.map_cons, List.cons_lt_cons_iff]
      split
      · simp [*]
      · split
        · rename_i h1 h2; simp; omega
        · rename_i h1 h2
          have : x.toNat = y.toNat := by omega
          simp [ih, this]

theorem strLt_irrefl (a : Str) : strLt a a = false := by
  cases h : strLt a a with
  | false => rfl
  | true => exact absurd ((strLt_iff a a).mp h) (List.lt_irrefl _)

theorem strLt_trans (a b c : Str) (h1 : strLt a b = true) (h2 : strLt b c = true) : strLt a c = true :=
  (strLt_iff a c).mpr (List.lt_trans ((strLt_iff a b).mp h1) ((strLt_iff b c).mp h2))

theorem strLt_total (a b : Str) (h1 : strLt a b = false) (h2 : strLt b a = false) : a = b := by
  have e1 : ¬ a.map Char.toNat < b.map Char.toNat := fun h => by simp [(strLt_iff a b).mpr h] at h1
  have e2 : ¬ b.map Char.toNat < a.map Char.toNat := fun h => by simp [(strLt_iff b a).mpr h] at h2
  exact (List.map_inj_right fun x y h => Char.toNat_inj.mp h).mp
    (List.le_antisymm (List.not_lt.mp e2) (List.not_lt.mp e1))

theorem lookup_eq (d : List (Str × β)) (k : Str) : lookup d k = Assoc.get d k :=
  Assoc.get_unique lookup (fun _ => rfl) (fun _ _ _ _ => rfl) d k

theorem dictSet_eq (d : List (Str × β)) (k : Str) (v : β) : dictSet d k v = Assoc.set d k v := by
  induction d with
  | nil => rfl
  | cons p r ih => simp only [dictSet, Assoc.set, ih]; split <;> simp_all

theorem dictGet_eq (d : List (Str × β)) (k : Str) : dictGet d k = Assoc.get d.reverse k :=
  Assoc.last_unique dictGet (fun _ => rfl) (fun _ _ r k => by rw [dictGet]; cases dictGet r k <;> rfl) d k

theorem foldl_dictSet_eq (ps d : List (Str × β)) :
    ps.foldl (fun d p => dictSet d p.1 p.2) d = ps.foldl (fun d p => Assoc.set d p.1 p.2) d := by
  simp only [dictSet_eq]

theorem lookup_dictSet (d : List (Str × β)) (k : Str) (v : β) (k' : Str) :
    lookup (dictSet d k v) k' = if k = k' then some v else lookup d k' := by
  rw [lookup_eq, dictSet_eq, lookup_eq]; exact Assoc.get_set d k v k'

theorem keys_dictSet_mem (d : List (Str × β)) (k : Str) (v : β) (x : Str) :
    x ∈ keys (dictSet d k v) ↔ x = k ∨ x ∈ keys d := by
  rw [dictSet_eq]; exact Assoc.mem_keys_set

theorem keys_dictSet_nodup (d : List (Str × β)) (k : Str) (v : β) (h : (keys d).Nodup) :
    (keys (dictSet d k v)).Nodup := by
  rw [dictSet_eq]; exact Assoc.nodup_set h k v

theorem lookup_foldl_dictSet (ps : List (Str × β)) (d : List (Str × β)) (k : Str) :
    lookup (ps.foldl (fun d p => dictSet d p.1 p.2) d) k =
      (match dictGet ps k with | some v => some v | none => lookup d k) := by
  rw [lookup_eq, foldl_dictSet_eq, Assoc.get_foldl_set, Assoc.get_append, dictGet_eq, lookup_eq]
  cases Assoc.get ps.reverse k <;> rfl

theorem lookup_dictOf (ps : List (Str × β)) (k : Str) : lookup (dictOf ps) k = dictGet ps k := by
  unfold dictOf
  rw [lookup_foldl_dictSet]
  cases dictGet ps k <;> simp [lookup]

theorem keys_foldl_nodup (ps d : List (Str × β)) (h : (keys d).Nodup) :
    (keys (ps.foldl (fun d p => dictSet d p.1 p.2) d)).Nodup := by
  rw [foldl_dictSet_eq]; exact Assoc.nodup_foldl_set ps h

theorem keys_dictOf_nodup (ps : List (Str × β)) : (keys (dictOf ps)).Nodup :=
  keys_foldl_nodup ps [] (by simp [keys])

theorem mem_keys_iff_lookup (d : List (Str × β)) (k : Str) :
    k ∈ keys d ↔ (lookup d k).isSome = true := by
  rw [lookup_eq]; exact Assoc.isSome_get_iff.symm

theorem dictGet_isSome (ps : List (Str × β)) (k : Str) :
    (dictGet ps k).isSome = true ↔ ∃ v, (k, v) ∈ ps := by
  rw [dictGet_eq, Assoc.isSome_get_iff, Assoc.keys, List.map_reverse, List.mem_reverse, List.mem_map]
  exact ⟨fun ⟨p, hm, e⟩ => ⟨p.2, by cases p; cases e; exact hm⟩, fun ⟨v, hm⟩ => ⟨_, hm, rfl⟩⟩

theorem dictGet_mem (ps : List (Str × β)) (k : Str) (v : β) (h : dictGet ps k = some v) :
    (k, v) ∈ ps :=
  List.mem_reverse.1 (Assoc.mem_of_get ((dictGet_eq ps k).symm.trans h))

theorem lookup_eq_dictGet_of_nodup (d : List (Str × β)) (hn : (keys d).Nodup) (k : Str) :
    lookup d k = dictGet d k := by
  rw [lookup_eq, dictGet_eq, Assoc.get_reverse_of_nodup hn]

theorem dictGet_of_nodup (ps : List (Str × β)) (hn : (keys ps).Nodup) (k : Str) (v : β)
    (h : (k, v) ∈ ps) : dictGet ps k = some v := by
  rw [dictGet_eq, Assoc.get_reverse_of_nodup hn]; exact (Assoc.mem_iff_get hn).1 h

theorem insertSorted_eq (p : Str × β) (l : List (Str × β)) :
    insertSorted p l = PyList.insertSorted (fun p q => strLt p.1 q.1) p l := by
  induction l with
  | nil => rfl
  | cons y ys ih => simp only [insertSorted, PyList.insertSorted, ih]

theorem sortByKey_eq (l : List (Str × β)) : sortByKey l = PyList.sortBy (fun p q => strLt p.1 q.1) l := by
  induction l with
  | nil => rfl
  | cons x xs ih => rw [sortByKey, List.foldr_cons, ← sortByKey, ih, insertSorted_eq]; rfl

theorem mem_insertSorted (p q : Str × β) (l : List (Str × β)) :
    q ∈ insertSorted p l ↔ q = p ∨ q ∈ l := by
  rw [insertSorted_eq]; exact PyList.mem_insertSorted

theorem mem_sortByKey (q : Str × β) (l : List (Str × β)) : q ∈ sortByKey l ↔ q ∈ l := by
  rw [sortByKey_eq]; exact PyList.mem_sortBy

def SortedKeys (l : List (Str × β)) : Prop := l.Pairwise (fun p q => strLt p.1 q.1 = true)

theorem sorted_insertSorted (p : Str × β) (l : List (Str × β)) (hs : SortedKeys l)
    (hp : ∀ q ∈ l, q.1 ≠ p.1) : SortedKeys (insertSorted p l) := by
  induction l with
  | nil => simp [insertSorted, SortedKeys]
  | cons x rest ih =>
    simp only [insertSorted]
    have hs' := List.pairwise_cons.mp hs
    split
    · rename_i hlt
      apply List.pairwise_cons.mpr
      refine ⟨?_, hs⟩
      intro q hq
      rcases List.mem_cons.mp hq with h | h
      · subst h; exact hlt
      · exact strLt_trans _ _ _ hlt (hs'.1 q h)
    · rename_i hlt
      apply List.pairwise_cons.mpr
      refine ⟨?_, ih hs'.2 (fun q hq => hp q (List.mem_cons_of_mem _ hq))⟩
      intro q hq
      rcases (mem_insertSorted p q rest).mp hq with h | h
      · subst h
        cases hxq : strLt x.1 q.1 with
        | true => rfl
        | false =>
          have := strLt_total q.1 x.1 (by simpa using hlt) hxq
          exact absurd this.symm (hp x List.mem_cons_self)
      · exact hs'.1 q h

theorem sorted_sortByKey (l : List (Str × β)) (hn : (keys l).Nodup) : SortedKeys (sortByKey l) := by
  induction l with
  | nil => simp [sortByKey, SortedKeys]
  | cons x rest ih =>
    simp only [keys, List.map_cons, List.nodup_cons] at hn
    simp only [sortByKey, List.foldr_cons]
    apply sorted_insertSorted _ _ (ih hn.2)
    intro q hq h
    have : q ∈ rest := (mem_sortByKey q rest).mp hq
    exact hn.1 (h ▸ List.mem_map_of_mem (f := (·.1)) this)

theorem set_eq_dictSet {V} (o : Obj V) (a : Str) (v : V) : o.set a v = dictSet o a (some v) := by
  induction o with
  | nil => rfl
  | cons p rest ih => simp only [Obj.set, dictSet, ih]

theorem get_eq_lookup {V} (o : Obj V) (x : Str) : o.get x = (lookup o x).join := by
  induction o with
  | nil => rfl
  | cons p rest ih => simp only [Obj.get, lookup, ih]; split <;> rfl

theorem get_set {V} (o : Obj V) (a : Str) (v : V) (x : Str) :
    (o.set a v).get x = if a = x then some v else o.get x := by
  rw [get_eq_lookup, get_eq_lookup, set_eq_dictSet, lookup_dictSet]
  split <;> rfl

theorem keys_set {V} (o : Obj V) (a : Str) (v : V) (x : Str) : x ∈ keys (o.set a v) ↔ x = a ∨ x ∈ keys o := by
  rw [set_eq_dictSet, keys_dictSet_mem]

theorem get_foldl_set {V} (m : List (Str × V)) (o : Obj V) (x : Str) :
    (m.foldl (fun o p => o.set p.1 p.2) o).get x =
      (match dictGet m x with | some v => some v | none => o.get x) := by
  induction m generalizing o with
  | nil => simp [dictGet]
  | cons p rest ih =>
    obtain ⟨pk, pv⟩ := p
    simp only [List.foldl_cons, ih, dictGet]
    cases hr : dictGet rest x with
    | some w => simp
    | none => simp only [get_set]; by_cases h : pk = x <;> simp [h]

end Flatland.C20.Proofs
