/-
What each settings call of the Generator does (model A), exactly: every one of them is all-or-nothing on one
guard, and when it goes through it is `frameUpdate` on the current frame.
-/
import Flatland.Spec.C19
import Proofs.Lemmas.MarkupDict
namespace Flatland.C19.Proofs
open Flatland.Markup Flatland.C19 Flatland.C19.Spec

theorem frameUpdate_append (f : Frame) (a b : List (Str × CVal)) :
    frameUpdate f (a ++ b) = frameUpdate (frameUpdate f a) b := by
  simp [frameUpdate, List.foldl_append]

theorem getItem_eq_ok {c : Ctx} {k : Str} {v : CVal} : c.getItem k = .ok v ↔ Dict.get? c.top k = some v := by
  unfold Ctx.getItem
  cases Dict.get? c.top k <;> simp [pure, Except.pure, throw, throwThe, MonadExceptOf.throw]

theorem getItem_has {c : Ctx} {k : Str} {v : CVal} (h : c.getItem k = .ok v) : c.has k = true := by
  simp only [Ctx.has, Dict.contains, getItem_eq_ok.mp h, Option.isSome_some]

theorem setItem_ok {c c' : Ctx} {k : Str} {v : CVal} (h : c.setItem k v = .ok c') :
    c' = { c with top := Dict.set c.top k v } ∧ c.has k = true := by
  unfold Ctx.setItem at h
  split at h
  · rename_i hk; simp [pure, Except.pure] at h; exact ⟨h.symm, hk⟩
  · simp [throw, throwThe, MonadExceptOf.throw] at h

theorem has_after_set (c : Ctx) (k k' : Str) (v : CVal) (hk : c.has k = true) :
    ({ c with top := Dict.set c.top k v } : Ctx).has k' = c.has k' := by
  simp only [Ctx.has] at *
  rw [Bool.eq_iff_iff, Dict.contains_iff, Dict.contains_iff, Dict.mem_keys_set]
  rw [Dict.contains_iff] at hk
  constructor
  · rintro (h | rfl); exact h; exact hk
  · intro h; left; exact h

/-- every name of the list is a setting the context knows: the guard of `Context.update` -/
abbrev known (c : Ctx) (kw : List (Str × CVal)) : Bool := kw.all fun kv => c.has kv.1

theorem not_known {c : Ctx} {kw : List (Str × CVal)} (h : ∃ kv ∈ kw, c.has kv.1 = false) : known c kw = false := by
  obtain ⟨kv, hkv, hf⟩ := h
  exact Bool.eq_false_iff.mpr fun hall => by rw [List.all_eq_true.mp hall kv hkv] at hf; cases hf

theorem known_of_keys {c : Ctx} {a b : List (Str × CVal)} (h : a.map (·.1) = b.map (·.1)) : known c a = known c b := by
  have : ∀ l : List (Str × CVal), known c l = (l.map (·.1)).all c.has := fun l => by
    simp only [known, List.all_map]; rfl
  rw [this, this, h]

/-- assigning a known name does not change which names are known, so the loop raises iff the guard fails -/
theorem setAll_eq : ∀ (kw : List (Str × CVal)) (c : Ctx),
    c.setAll kw = if known c kw then .ok { c with top := frameUpdate c.top kw } else .error .keyError
  | [], _ => rfl
  | (k, v) :: rest, c => by
    by_cases hk : c.has k = true
    · have hh : known { c with top := Dict.set c.top k v } rest = known c rest :=
        List.all_congr rfl fun kv => has_after_set c k kv.1 v hk
      simp only [Ctx.setAll, Ctx.setItem, known, List.all_cons, hk, if_true, Bool.true_and]
      exact (setAll_eq rest _).trans (by rw [hh]; rfl)
    · simp only [Ctx.setAll, Ctx.setItem, known, List.all_cons, hk, Bool.false_eq_true, if_false, Bool.false_and]; rfl

theorem update_eq (c : Ctx) (kw : List (Str × CVal)) :
    c.update kw = if known c kw then .ok { c with top := frameUpdate c.top kw } else .error .keyError := by
  unfold Ctx.update
  split
  · rename_i h; rw [setAll_eq, if_pos h]
  · rfl

theorem update_err {c : Ctx} {kw : List (Str × CVal)} {e : PyErr} (h : c.update kw = .error e) :
    e = .keyError := by
  rw [update_eq] at h
  split at h <;> cases h
  rfl

theorem update_known {c : Ctx} {kw : List (Str × CVal)} (h : (kw.all fun kv => c.has kv.1) = true) :
    ∃ c', c.update kw = .ok c' :=
  ⟨_, by rw [update_eq, if_pos h]⟩

theorem begin_eq (g : Gen) (s : List (Str × CVal)) :
    g.begin s = if known g.ctx s then ⟨{ g with ctx := ⟨frameUpdate g.ctx.top s, g.ctx.top :: g.ctx.below⟩ }, none⟩
      else ⟨g, some .keyError⟩ := by
  simp only [Gen.begin, Ctx.push, update_eq]
  have e : known ⟨g.ctx.top, g.ctx.top :: g.ctx.below⟩ s = known g.ctx s := rfl
  rw [e]
  cases known g.ctx s <;> rfl

theorem gen_update_eq (g : Gen) (s : List (Str × CVal)) :
    g.update s = if known g.ctx s then ⟨{ g with ctx := { g.ctx with top := frameUpdate g.ctx.top s } }, none⟩
      else ⟨g, some .keyError⟩ := by
  simp only [Gen.update, update_eq]
  cases known g.ctx s <;> rfl

theorem setItem_eq (g : Gen) (k : Str) (v : CVal) :
    g.setItem k v = if g.ctx.has k then ⟨{ g with ctx := { g.ctx with top := Dict.set g.ctx.top k v } }, none⟩
      else ⟨g, some .keyError⟩ := by
  simp only [Gen.setItem, Ctx.setItem]
  cases g.ctx.has k <;> rfl

/-- the two frames that stay are the generator's own (`Gen.init`) -/
theorem end_eq (g : Gen) :
    g.end_ = match g.ctx.below with
      | f :: f' :: rest => ⟨{ g with ctx := ⟨f, f' :: rest⟩ }, none⟩
      | _ => ⟨g, some .runtimeError⟩ := by
  obtain ⟨x, t, b⟩ := g
  rcases b with _ | ⟨f, _ | ⟨f', rest⟩⟩ <;>
    simp [Gen.end_, Ctx.depth, Ctx.pop, pure, Except.pure, throw, throwThe, MonadExceptOf.throw]

theorem setUpdates_ok (T : Tables) (c : Ctx) : ∀ {s ups : List (Str × CVal)}, setUpdates T c s = .ok ups →
    ups.map (·.1) = s.map (·.1) ∧ known c s = true
  | [], ups, h => by cases h; exact ⟨rfl, rfl⟩
  | (k, v) :: rest, ups, h => by
    simp only [setUpdates, bind, Except.bind, pure, Except.pure] at h
    split at h
    · cases h
    · rename_i hk
      cases hr : setUpdates T c rest with
      | error e => rw [hr] at h; split at h <;> (try cases hp : T.parseTroolC v <;> rw [hp] at h) <;> cases h
      | ok more =>
        rw [hr] at h
        obtain ⟨h1, h2⟩ := setUpdates_ok T c hr
        have hk' : c.has k = true := by simpa using hk
        have : ∃ v', ups = (k, v') :: more := by
          split at h
          · cases hp : T.parseTroolC v <;> rw [hp] at h <;> cases h; exact ⟨_, rfl⟩
          · cases h; exact ⟨_, rfl⟩
        obtain ⟨v', rfl⟩ := this
        exact ⟨by simp only [List.map_cons, h1], by simp only [known, List.all_cons, hk', Bool.true_and]; exact h2⟩

/-- `set()`: its second loop assigns names the first loop has checked, so it cannot raise -/
theorem set_eq (T : Tables) (g : Gen) (s : List (Str × CVal)) :
    g.set T s = match setUpdates T g.ctx s with
      | .ok ups => ⟨{ g with ctx := { g.ctx with top := frameUpdate g.ctx.top ups } }, none⟩
      | .error e => ⟨g, some e⟩ := by
  unfold Gen.set
  cases hs : setUpdates T g.ctx s with
  | error e => rfl
  | ok ups =>
    obtain ⟨hk, hkn⟩ := setUpdates_ok T g.ctx hs
    simp only [setAll_eq, known_of_keys hk, hkn, if_true]

end Flatland.C19.Proofs
