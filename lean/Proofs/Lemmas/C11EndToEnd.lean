/-
C11 through the transforms (`transform_good`): if every keyword argument of a tag call is a plain string (data or
option spelling) under a valid attribute name, then whatever the bound element's name and text are, what reaches the
serialiser is plain strings under valid names — the transforms never manufacture `Markup` — and the contents are the
author's or the escaped text.
-/
import Proofs.Lemmas.C11Parse
import Proofs.Lemmas.C19Transforms
namespace Flatland.C11.Proofs
open Flatland.C11 Flatland.Markup Flatland.C19.Proofs

/-- every attribute is a plain string under a valid name — except under the (option) keys `ks`,
    which are still to be consumed by their transforms and may hold `True/False/Maybe` -/
def GoodAttrsX (ks : List Str) (a : Attrs) : Prop :=
  ∀ kv ∈ a, kv.1 ∈ ks ∨ ((∃ s, kv.2 = Val.text s) ∧ validName kv.1 = true)

def GoodAttrs (a : Attrs) : Prop := ∀ kv ∈ a, (∃ s, kv.2 = Val.text s) ∧ validName kv.1 = true

theorem GoodAttrsX.set {ks : List Str} {a : Attrs} (h : GoodAttrsX ks a) (k s : Str) (hk : validName k = true) :
    GoodAttrsX ks (Dict.set a k (.text s)) := by
  intro kv hm
  rcases Dict.mem_set hm with rfl | hm
  · exact Or.inr ⟨⟨s, rfl⟩, hk⟩
  · exact h kv hm

theorem GoodAttrsX.erase {ks : List Str} {a : Attrs} (h : GoodAttrsX ks a) (k : Str) : GoodAttrsX ks (Dict.erase a k) :=
  fun kv hm => h kv (Dict.mem_erase hm)

theorem GoodAttrsX.toggle {ks : List Str} {a : Attrs} (h : GoodAttrsX ks a) (k : Str) (on : Bool)
    (hk : validName k = true) : GoodAttrsX ks (toggleAttr a k on) := by
  unfold toggleAttr; split
  · exact h.set k k hk
  · exact h.erase k

macro "good_leaves" h:ident hs:ident hg:ident : tactic =>
  `(tactic| (repeat' split at $h:ident) <;> first
      | (simp at $h:ident; done)
      | (simp only [pure, Except.pure, Except.ok.injEq] at $h:ident; subst $h:ident; simp only [$hs:ident];
         refine ⟨?_, ?_⟩
         · repeat (first
             | exact $hg
             | apply GoodAttrsX.toggle _ _ _ (by decide)
             | apply GoodAttrsX.set _ _ _ (by decide)
             | apply GoodAttrsX.erase)
         · first
             | exact Or.inl rfl
             | exact Or.inr ⟨_, rfl, rfl⟩))

theorem _root_.Flatland.Markup.Edits.good {ws es ks : List Str} {a b : Attrs} (hw : ∀ k ∈ ws, validName k = true)
    (h : Edits ws es a b) (hg : GoodAttrsX ks a) : GoodAttrsX ks b := by
  induction h with
  | refl => exact hg
  | set k s hk _ ih => exact ih.set k s (hw k hk)
  | erase k _ _ ih => exact ih.erase k

theorem goodX_of_gone {ks : List Str} {a : Attrs} (h : GoodAttrsX ks a) (hg : ∀ k ∈ ks, Dict.get? a k = none) :
    GoodAttrs a := fun kv hm =>
  (h kv hm).resolve_left fun hk => Dict.not_mem_of_get?_none (hg kv.1 hk) kv.2 hm

theorem transform_good {T : Tables} {tag : Str} {bnd : Option Bind} {st st6 : TState}
    (hn : (Dict.keys st.attrs).Nodup) (hg : GoodAttrsX optionKeys st.attrs) (h : transform T tag bnd st = .ok st6) :
    GoodAttrs st6.attrs ∧ ContentsOK T bnd st.contents st6.contents :=
  have ⟨a, g, c⟩ := transform_consumes T tag bnd st st6 h
  ⟨goodX_of_gone (a.good (by decide +kernel) hg) (g hn), c⟩

/-- keyword arguments of the declared domain: each is one of the six `auto_*` options (any value:
    str, True/False, Maybe) or a plain string under a name of the declared grammar
    (`[a-z][a-z0-9_:.-]*` once trailing underscores are stripped) -/
def GoodKwargs (kw : List (Str × Val)) : Prop :=
  ∀ kv ∈ kw, rstripUnderscore kv.1 ∈ optionKeys ∨
    ((∃ s, kv.2 = Val.text s) ∧ lowerName (rstripUnderscore kv.1) = true)

theorem transformKeys_good (kw : List (Str × Val)) (h : GoodKwargs kw) : GoodAttrsX optionKeys (transformKeys kw) := by
  intro x hx
  rw [transformKeys_eq] at hx
  obtain ⟨kv, hkv, rfl⟩ := List.mem_map.mp ((Assoc.mem_foldl_set _ hx).resolve_right List.not_mem_nil)
  exact (h kv hkv).imp id fun hg => ⟨hg.1, lowerName_valid hg.2⟩

theorem goodAttrs_as_text (a : List (Str × Val)) (h : GoodAttrs a) :
    ∃ attrs : List (Str × Str), a = attrs.map (fun kv => (kv.1, Val.text kv.2)) ∧
      ∀ kv ∈ attrs, validName kv.1 = true := by
  induction a with
  | nil => exact ⟨[], rfl, by simp⟩
  | cons p rest ih =>
    obtain ⟨k, v⟩ := p
    obtain ⟨attrs, ha, hv⟩ := ih (fun kv hm => h kv (by simp [hm]))
    obtain ⟨⟨s, hs⟩, hk⟩ := h (k, v) (by simp)
    simp only at hs hk
    refine ⟨(k, s) :: attrs, by simp [ha, hs], ?_⟩
    intro kv hm
    simp only [List.mem_cons] at hm
    rcases hm with rfl | hm
    · exact hk
    · exact hv kv hm

theorem goodAttrs_orderPairs (order : List Str) (o : Bool) (a : List (Str × Val)) (h : GoodAttrs a) :
    GoodAttrs (orderPairs order o a) :=
  fun kv hm => h kv ((mem_orderPairs ..).mp hm)

end Flatland.C11.Proofs
