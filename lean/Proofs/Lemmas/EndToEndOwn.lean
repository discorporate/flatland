/-
END TO END — what the steps of `_set_flat` hand down when they are run on an element's OWN flat pairs.

The keys of `flatten` output are the canonical paths of the schema, so (after the receiving schema's
own first test, `reach`):

* a mapping hands to a declared field the own pairs of the member held under that name, or nothing
  (`own_possibles`, Lemmas/C01PDict.lean; `own_field`, Lemmas/C01SparseDict.lean);
* a List hands to slot `i` the own pairs of its `i`-th member, an index beyond the members addresses
  nothing (`own_group`, Lemmas/C01PList.lean), and the slot step is injective on the keys (`own_group_inj`);
* a scalar, a JoinedString and an Array emit pairs of one key, one per member at most (`own_leaf`,
  `own_joined`, `own_array`).

`Descent.own` turns this into an induction principle: a predicate that follows `_set_flat` down the
schema (`Descent`) holds of the own pairs of every conforming element — at the root, of `flatten`'s
output (`Descent.flatten`).
-/
import Proofs.C02Order
import Proofs.C01Sparse
import Proofs.Lemmas.SchemaBelow
import Flatland.Spec.EndToEnd
namespace Flatland.Flat.Proofs
open Flatland.Flat Flatland.Flat.Spec Flatland.EndToEnd

variable {env : Env} {sep : Str} {T : Str → Prop}

theorem tokKey_append_cons (sep : Str) : ∀ (l : List Str) (t : Str) (ext ext' : List Str),
    tokKey sep ext = tokKey sep ext' → tokKey sep (l ++ t :: ext) = tokKey sep (l ++ t :: ext')
  | [], t, ext, ext', h => by
    cases ext with
    | nil =>
      cases ext' with
      | nil => rfl
      | cons a r => simp [tokKey] at h
    | cons a r =>
      cases ext' with
      | nil => simp [tokKey] at h
      | cons a' r' =>
        simp only [tokKey, Option.some.injEq] at h
        simp only [List.nil_append, tokKey, joinSep_cons_cons, h]
  | x :: l, t, ext, ext', h => by
    have ih := tokKey_append_cons sep l t ext ext' h
    cases l with
    | nil =>
      simp only [List.nil_append, tokKey, Option.some.injEq] at ih
      simp only [List.cons_append, List.nil_append, tokKey, joinSep_cons_cons, ih]
    | cons y l' =>
      simp only [List.cons_append, tokKey, Option.some.injEq] at ih
      simp only [List.cons_append, tokKey, joinSep_cons_cons, ih]

section list
variable (hs : SepSafe env sep T) (henv : EnvOK env) (nm : Option Str) (hnm : ∀ x, nm = some x → T x)
include hs henv hnm

variable (o prune : Bool) (mx : Nat) (member : Schema) (hmn : ∀ t ∈ names member, t ≠ [])
  (ms : List Elem) (hdig : ∀ i, i < ms.length → (natStr i).length ≤ env.maxDigits) (u : Bool) (i : Nat)
include hmn hdig

theorem own_group_inj :
    ∀ p ∈ toKeys sep ((relFlat (resolve env (.list nm o prune mx member) (.list ms))).filter (keepP u)),
    ∀ q ∈ toKeys sep ((relFlat (resolve env (.list nm o prune mx member) (.list ms))).filter (keepP u)),
    ∀ p' q', p' ∈ groupOf env sep nm prune i [p] → q' ∈ groupOf env sep nm prune i [q] →
      p'.1 = q'.1 → p.1 = q.1 := by
  rw [own_list_eq, filter_keepP_pre]
  have hkne : namesNEL (ms.map (resolve env member)) := by
    rw [← resolveList_eq_map]; exact resolveList_namesNE env member ms hmn
  have haddr := slots_addr hs henv nm hnm _ hkne (fun i hi => hdig i (by simpa using hi))
  have hdec : ∀ p ∈ toKeys sep (((bfsPath (kidsFrom [] true 0 (ms.map (resolve env member)))).filter
      (keepP u)).map (pre nm.toList)), ∀ p', p' ∈ groupOf env sep nm prune i [p] →
      ∃ ext, p.1 = tokKey sep (nm.toList ++ natStr i :: ext) ∧ p'.1 = tokKey sep ext := by
    intro p hp p' hg
    simp only [toKeys, List.mem_map] at hp
    obtain ⟨y, ⟨x, hx, rfl⟩, rfl⟩ := hp
    obtain ⟨j, ext, hj, hxe, hla⟩ := haddr x (List.mem_filter.mp hx).1
    simp only [pre] at hla hg ⊢
    simp only [groupOf, List.filterMap_cons, List.filterMap_nil, hla] at hg
    by_cases hpr : (prune && x.2.isEmpty) = true
    · simp [hpr] at hg
    · by_cases hji : j = i
      · subst hji
        simp only [hpr, if_false, if_true, Bool.false_eq_true] at hg
        simp only [List.mem_singleton] at hg
        subst hg
        exact ⟨ext, by rw [hxe], rfl⟩
      · simp [hpr, hji] at hg
  intro p hp q hq p' q' hgp hgq hk
  obtain ⟨ext, hp1, hp2⟩ := hdec p hp p' hgp
  obtain ⟨ext', hq1, hq2⟩ := hdec q hq q' hgq
  rw [hp1, hq1]
  exact tokKey_append_cons sep nm.toList (natStr i) ext ext' (by rw [← hp2, ← hq2, hk])

end list

theorem toKeys_filter_length_le (sep : Str) (u : Bool) (l : List PPair) :
    (toKeys sep (l.filter (keepP u))).length ≤ l.length := by
  simp only [toKeys, List.length_map]; exact List.length_filter_le _ _

theorem own_leaf (nm : Option Str) (o : Bool) (k : Nat) (e : Elem) (hok : OkS env (.leaf nm o k) e) (u : Bool) :
    (toKeys sep ((relFlat (resolve env (.leaf nm o k) e)).filter (keepP u))).length ≤ 1 := by
  obtain ⟨t, rfl, _⟩ := okS_leaf_inv hok
  rw [resolve_leaf, relFlat_leaf nm true t [] (Or.inr rfl)]
  exact toKeys_filter_length_le sep u _

theorem own_joined (nm : Option Str) (o : Bool) (k : Nat) (m : Schema) (e : Elem)
    (hok : OkS env (.joined nm o k m) e) (u : Bool) :
    (toKeys sep ((relFlat (resolve env (.joined nm o k m) e)).filter (keepP u))).length ≤ 1 := by
  obtain ⟨t, ms, rfl, _⟩ := okS_joined_inv hok
  rw [resolve_joined, relFlat_leaf nm false t _ (Or.inl rfl)]
  exact toKeys_filter_length_le sep u _

theorem own_array (nm : Option Str) (o prune : Bool) (member : Schema) (e : Elem)
    (hok : OkS env (.array nm o prune member) e) (u : Bool) :
    ∃ ms k0, e = .array ms ∧
      (toKeys sep ((relFlat (resolve env (.array nm o prune member) e)).filter (keepP u))).length ≤ ms.length ∧
      ∀ p ∈ toKeys sep ((relFlat (resolve env (.array nm o prune member) e)).filter (keepP u)), p.1 = k0 := by
  obtain ⟨ms, rfl, ⟨cn, mo, k, rfl⟩, hmem⟩ := okS_array_inv hok
  obtain ⟨_, hms, _⟩ := resolveList_leavesP env cn mo k ms hmem
  have hform := own_array_eq nm o prune cn mo k ms hmem
  refine ⟨ms, tokKey sep (nm.toList ++ cn.toList), rfl, ?_, ?_⟩
  · have hlen : ms.length = (leafTexts ms).length := by
      conv => lhs; rw [hms]
      simp
    have := toKeys_filter_length_le sep u (relFlat (resolve env (.array nm o prune (.leaf cn mo k)) (.array ms)))
    rw [hform, List.length_map] at this
    rw [hform]; omega
  · intro p hp
    rw [hform] at hp
    simp only [toKeys, List.mem_map, List.mem_filter] at hp
    obtain ⟨x, ⟨⟨t, _, rfl⟩, _⟩, rfl⟩ := hp
    rfl

theorem own_dict_eq (nm : Option Str) (o : Bool) (mode : DictMode) (fields : List Schema)
    (ms : List (Str × Elem)) :
    relFlat (resolve env (.dict nm o mode fields) (.dict ms))
      = bfsPath ((kidsS env fields ms).map (fun k => ((nm.toList, k) : QItem))) := by
  rw [resolve_dictS, relFlat_mk]
  simp only [Bool.false_eq_true, if_false, if_true, List.nil_append]
  rw [kidsFrom_noslots]

theorem own_compound_eq (nm : Option Str) (o : Bool) (k : Nat) (fields : List Schema)
    (ms : List (Str × Elem)) :
    relFlat (resolve env (.compound nm o k fields) (.dict ms))
      = [(nm.toList, uOf env (.compound nm o k fields) (.dict ms))]
        ++ bfsPath ((kidsS env fields ms).map (fun k => ((nm.toList, k) : QItem))) := by
  rw [resolve_compoundS, relFlat_mk]
  simp only [if_true, uOf]
  rw [kidsFrom_noslots]

/-- `C s e A` follows `_set_flat` down the schema: it only looks at the pairs that pass the first test of
    `s`, holds of no pairs at all and of the few pairs of one key that content emits, and holds at a
    Dict or a List as soon as it holds of what is handed to every field or slot, at a Compound when it
    holds at the dense Dict of its fields (`_set_flat` is the same there).  (`e` is the state
    the pairs came from: the member held in the field or slot, a blank if none is held.) -/
structure Descent (env : Env) (sep : Str) (C : Schema → Elem → Pairs → Prop) : Prop where
  congr_reach : ∀ s e A A', A.filter (fun p => reach env sep s p.1) = A'.filter (fun p => reach env sep s p.1) →
    C s e A' → C s e A
  nil : ∀ s e, C s e []
  leaf : ∀ nm o k e A, A.length ≤ 1 → C (.leaf nm o k) e A
  joined : ∀ nm o k m e A, A.length ≤ 1 → C (.joined nm o k m) e A
  array : ∀ nm o prune member ms A k0, A.length ≤ ms.length → (∀ p ∈ A, p.1 = k0) →
    C (.array nm o prune member) (.array ms) A
  dict : ∀ nm o mode fields ms A,
    (∀ f ∈ fields, C f ((lookup (f.name.getD []) ms).getD (.leaf []))
      (wrap ((possibles sep nm A).filter (fun p => isPrefix (f.name.getD []) p.1)))) →
    C (.dict nm o mode fields) (.dict ms) A
  compound : ∀ nm o k fields ms A, C (.dict nm o .dense fields) (.dict ms) A → C (.compound nm o k fields) (.dict ms) A
  list : ∀ nm o prune mx member ms A,
    (∀ i, ∀ p ∈ A, ∀ q ∈ A, ∀ p' q', p' ∈ groupOf env sep nm prune i [p] →
      q' ∈ groupOf env sep nm prune i [q] → p'.1 = q'.1 → p.1 = q.1) →
    (∀ i, C member (ms[i]?.getD (.leaf [])) (groupOf env sep nm prune i A)) →
    C (.list nm o prune mx member) (.list ms) A

namespace Descent
variable {C : Schema → Elem → Pairs → Prop} (D : Descent env sep C)
include D

theorem fields (hs : SepSafe env sep T) (nm : Option Str)
    (fields : List Schema) (hnd : (namesOf fields).Nodup) (htok : ∀ g ∈ fields, ∃ x, g.name = some x ∧ T x)
    (hrt : ∀ f ∈ fields, ∀ (u : Bool) (e : Elem), OkS env f e →
      C f e (toKeys sep ((relFlat (resolve env f e)).filter (keepP u))))
    (ms : List (Str × Elem)) (hkeys : (ms.map (·.1)).Nodup)
    (hmem : ∀ p ∈ ms, OkSAny env fields p.1 p.2) (u : Bool)
    (own : List PPair) (hown : own = [] ∨ ∃ t, own = [(nm.toList, t)]) :
    ∀ f ∈ fields, C f ((lookup (f.name.getD []) ms).getD (.leaf []))
      (wrap ((possibles sep nm (toKeys sep ((own ++
        bfsPath ((kidsS env fields ms).map (fun k => ((nm.toList, k) : QItem)))).filter (keepP u)))).filter
          (fun p => isPrefix (f.name.getD []) p.1))) := by
  intro f hf
  obtain ⟨x, hx, _⟩ := htok f hf
  simp only [hx, Option.getD_some]
  rw [own_possibles hs nm _ (fun k hk => (kidsS_names htok hk).imp fun _ h => h.1) u own hown]
  apply D.congr_reach _ _ _ _ (own_field hs fields hnd htok ms hkeys f hf x hx u)
  cases hl : lookup x ms with
  | some e => exact hrt f hf u e (okS_member_lookup hnd hmem hf hx hl)
  | none => exact D.nil f _

variable (root : Schema) (hs : SepSafe env sep (Tok root)) (henv : EnvOK env)
include hs henv

theorem own : ∀ s : Schema, (∀ t ∈ names s, t ∈ names root) → wf s = true →
    ∀ (u : Bool) (e : Elem), OkS env s e → C s e (toKeys sep ((relFlat (resolve env s e)).filter (keepP u))) := by
  refine schema_ind_below root ?_ ?_ ?_ ?_ ?_ ?_
  · exact fun nm o k u e hok => D.leaf nm o k e _ (own_leaf nm o k e hok u)
  · exact fun nm o k m u e hok => D.joined nm o k m e _ (own_joined nm o k m e hok u)
  · intro nm o p member _ _ u e hok
    obtain ⟨ms, k0, rfl, hlen, hkey⟩ := own_array (sep := sep) nm o p member e hok u
    exact D.array nm o p member ms _ k0 hlen hkey
  · intro nm o p mx member hnm hmem ih u e hok
    have hmn : ∀ t ∈ names member, t ≠ [] := fun t ht => hs.tok_ne t (hmem t ht)
    obtain ⟨ms, rfl, _, hdig, hok⟩ := okS_list_inv hok
    apply D.list
    · exact fun i => own_group_inj hs henv nm hnm o p mx member hmn ms hdig u i
    · intro i
      rw [own_group hs henv nm hnm o p mx member hmn ms hdig u i]
      cases hi : ms[i]? with
      | some e => exact ih (u || p) e (hok e (List.mem_of_getElem? hi))
      | none => exact D.nil member _
  · intro nm o mode fields hnm hnd htok ih u e hok
    obtain ⟨ms, rfl, hkeys, hmem⟩ := okS_dict_inv hok
    rw [own_dict_eq]
    exact D.dict _ _ _ _ _ _ (D.fields hs nm fields hnd htok ih ms hkeys hmem u [] (Or.inl rfl))
  · intro nm o k fields hnm hnd htok ih u e hok
    obtain ⟨ms, rfl, hkeys, hmem⟩ := okS_dict_inv ((okS_compound nm o k fields e).mp hok)
    rw [own_compound_eq]
    exact D.compound _ _ _ _ _ _ (D.dict _ _ _ _ _ _
      (D.fields hs nm fields hnd htok ih ms hkeys hmem u [(nm.toList, _)] (Or.inr ⟨_, rfl⟩)))

theorem own_fields (fs : List Schema) (hsub : ∀ t ∈ namesL fs, t ∈ names root) (hw : wfL fs = true) :
    ∀ f ∈ fs, ∀ (u : Bool) (e : Elem), OkS env f e →
      C f e (toKeys sep ((relFlat (resolve env f e)).filter (keepP u))) :=
  fun f hf => D.own root hs henv f (fun t ht => hsub t (names_sub_namesL hf t ht)) (wf_of_mem hw f hf)

omit hs in
theorem flatten (s : Schema) (e : Elem) (hs : SepSafe env sep (Tok s)) (hw : wf s = true)
    (hroot : rootOK s = true) (hok : OkS env s e) : C s e (wrap (Flat.flatten env sep s e)) := by
  rw [own_root env sep s e hroot]
  exact D.own s hs henv s (fun t ht => ht) hw false e hok

end Descent

end Flatland.Flat.Proofs
