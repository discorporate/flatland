/-
The element-level mutators of the shared tree model (`set`, `from_defaults`, `set_default`) by cases: the few
shapes each of them can return (`SetShape`, `DefaultShape`), against which an invariant of elements is checked
instead of against the definitions; first of all that the header of the element (`Node.hdr`) stays.  The loops
they are made of are stated once each, for any property of the items they leave (`buildItems_forall`, …); the
recursions through values, classes and elements are `Raw.induction`, `Schema.induction`, `Node.induction`.
-/
import Flatland.Tree
namespace Flatland.Tree
open Flatland.PyList

/-- what no call changes of the element it is made on: identity, stored parent, class, key, keyword overrides -/
def Node.hdr (n : Node) : Nat × Option Nat × Schema × Str × Option Bool × Option Str :=
  (n.id, n.parent, n.sch, n.key, n.ni.optOv, n.ni.nameOv)

@[simp] theorem withKids_hdr (n : Node) (k : List Node) : (n.withKids k).hdr = n.hdr := rfl
@[simp] theorem withScalar_hdr (n : Node) (v : Val) (u : Str) : (n.withScalar v u).hdr = n.hdr := rfl

@[simp] theorem kids_withKids (n : Node) (ks : List Node) : (n.withKids ks).kids = ks := by cases n; rfl
theorem kind_withKids (n : Node) (ks : List Node) : (n.withKids ks).kind = n.kind := by cases n; rfl

theorem kind_of_hdr {a b : Node} (h : a.hdr = b.hdr) : a.kind = b.kind :=
  congrArg (fun t => t.2.2.1.kind) h
theorem key_of_hdr {a b : Node} (h : a.hdr = b.hdr) : a.key = b.key := congrArg (fun t => t.2.2.2.1) h
theorem sch_of_hdr {a b : Node} (h : a.hdr = b.hdr) : a.sch = b.sch := congrArg (fun t => t.2.2.1) h

theorem parent_of_hdr {a b : Node} (h : a.hdr = b.hdr) : a.parent = b.parent ∧ a.id = b.id := by
  simp only [Node.hdr, Prod.mk.injEq] at h; exact ⟨h.2.1, h.1⟩

theorem hdr_id_parent {c : Node} {id : Nat} {p : Option Nat} {s : Schema} {k : Str} {o : Option Bool} {nm : Option Str}
    (h : c.hdr = (id, p, s, k, o, nm)) : c.id = id ∧ c.parent = p := by
  simp only [Node.hdr, Prod.mk.injEq] at h; exact ⟨h.1, h.2.1⟩

theorem parent_withParent (x : Node) (p : Option Nat) : (x.withParent p).parent = p := by cases x; rfl

theorem keys_of_map_hdr {a b : List Node} (hab : a.map Node.hdr = b.map Node.hdr) : a.map Node.key = b.map Node.key := by
  have := congrArg (List.map (fun t : Nat × Option Nat × Schema × Str × Option Bool × Option Str => t.2.2.2.1)) hab
  simpa [List.map_map, Function.comp_def, Node.hdr] using this

theorem replaceKid_split {kids : List Node} (hnd : (kids.map Node.key).Nodup) {k : Str} {child : Node}
    (hc : findKid kids k = some child) :
    ∃ a b, kids = a ++ child :: b ∧ ∀ new, replaceKid kids k new = a ++ new :: b := by
  unfold findKid replaceKid at *
  induction kids with
  | nil => cases hc
  | cons c cs ih =>
    rw [List.map_cons, List.nodup_cons] at hnd
    rw [List.find?_cons] at hc
    cases hm : (c.key == k) with
    | true =>
      rw [hm] at hc; cases hc
      refine ⟨[], cs, rfl, fun new => ?_⟩
      -- no other child carries the key
      have hrest : cs.map (fun x => if (x.key == k) = true then new else x) = cs :=
        (List.map_congr_left (g := id) (fun x hx => if_neg (fun hxk => hnd.1
          (List.mem_map.mpr ⟨x, hx, (beq_iff_eq.mp hxk).trans (beq_iff_eq.mp hm).symm⟩)))).trans (List.map_id cs)
      simp only [List.map_cons, hm, if_true, hrest, List.nil_append]
    | false =>
      rw [hm] at hc
      obtain ⟨a, b, hab, hr⟩ := ih hnd.2 hc
      exact ⟨c :: a, b, by rw [hab]; rfl, fun new => by simp only [List.map_cons, hm, Bool.false_eq_true, if_false, hr new]; rfl⟩

theorem key_withScalar (x : Node) (v : Val) (u : Str) : (x.withScalar v u).key = x.key := by cases x; rfl

theorem node_eta (n : Node) : n = .mk n.ni n.sch n.kids := by cases n; rfl

theorem hdr_of_ni {a b : Node} (h : a.ni = b.ni ∧ a.sch = b.sch) : a.hdr = b.hdr := by
  unfold Node.hdr Node.id Node.parent Node.key; rw [h.1, h.2]

theorem sizeOf_snd_lt_of_mem {kvs : List (Str × Raw)} {p : Str × Raw} (h : p ∈ kvs) : sizeOf p.2 < sizeOf kvs := by
  have := List.sizeOf_lt_of_mem h
  obtain ⟨k, v⟩ := p
  simp only [Prod.mk.sizeOf_spec] at this
  simp only
  omega

theorem Raw.induction {P : Raw → Prop}
    (step : ∀ raw, (∀ xs, raw = .list xs → ∀ x ∈ xs, P x) →
      (∀ kvs, toPairs raw = some (some kvs) → ∀ p ∈ kvs, P p.2) → P raw) : (raw : Raw) → P raw
  | .none => step _ (by intro xs h; cases h) (by intro kvs h; simp [toPairs] at h)
  | .int _ => step _ (by intro xs h; cases h) (by intro kvs h; simp [toPairs] at h)
  | .str t => step _ (by intro xs h; cases h)
      (by
        intro kvs h p hp
        cases t with
        | nil => simp [toPairs] at h; subst h; cases hp
        | cons _ _ => simp [toPairs] at h)
  | .list xs => step _
      (by
        intro xs' h x hx
        cases h
        have := List.sizeOf_lt_of_mem hx
        exact Raw.induction step x)
      (by
        intro kvs h p hp
        cases xs with
        | nil => simp [toPairs] at h; subst h; cases hp
        | cons _ _ => simp [toPairs] at h)
  | .dict kvs => step _ (by intro xs h; cases h)
      (by
        intro kvs' h p hp
        simp only [toPairs, Option.some.injEq] at h
        subst h
        have := sizeOf_snd_lt_of_mem hp
        exact Raw.induction step p.2)
  | .pairs kvs => step _ (by intro xs h; cases h)
      (by
        intro kvs' h p hp
        simp only [toPairs, Option.some.injEq] at h
        subst h
        have := sizeOf_snd_lt_of_mem hp
        exact Raw.induction step p.2)
termination_by raw => sizeOf raw
decreasing_by
  all_goals simp_wf
  all_goals omega

theorem Schema.induction {P : Schema → Prop} (step : ∀ s : Schema, (∀ f ∈ s.subs, P f) → P s) : (s : Schema) → P s
  | .mk info dflt subs => step _ (fun f hf => by
      have := List.sizeOf_lt_of_mem (show f ∈ subs from hf)
      exact Schema.induction step f)
termination_by s => sizeOf s
decreasing_by
  all_goals simp_wf
  all_goals omega

theorem Node.induction {P : Node → Prop} (step : ∀ n : Node, (∀ k ∈ n.kids, P k) → P n) : (n : Node) → P n
  | .mk i s kids => step _ (fun k hk => by
      have := List.sizeOf_lt_of_mem (show k ∈ kids from hk)
      exact Node.induction step k)
termination_by n => sizeOf n
decreasing_by
  all_goals simp_wf
  all_goals omega

theorem attachAll_ni (es : List Node) : ∀ (lst : Node) (n : Nat),
    (attachAll lst es n).1.ni = lst.ni ∧ (attachAll lst es n).1.sch = lst.sch := by
  induction es with
  | nil => intro lst n; exact ⟨rfl, rfl⟩
  | cons e es ih =>
    intro lst n
    rw [attachAll]
    split
    · exact ih (lst.withKids (lst.kids ++ [mkSlot n lst.id lst.kids.length e])) (n + 1)
    · exact ih (lst.withKids (lst.kids ++ [e.withParent (some lst.id)])) n

theorem attachAll_hdr (lst : Node) (es : List Node) (next : Nat) :
    (attachAll lst es next).1.hdr = lst.hdr := hdr_of_ni (attachAll_ni es lst next)

theorem appendEl_hdr (n w : Node) (next : Nat) : (appendEl n w next).1.hdr = n.hdr := by
  unfold appendEl; split <;> rfl

theorem appendEl_forall {Q : Node → Prop} (n w : Node) (next : Nat) (hK : ∀ x ∈ n.kids, Q x)
    (hs : n.kind = .list → Q (mkSlot next n.id n.kids.length w)) (hd : ¬ n.kind = .list → Q (w.withParent (some n.id))) :
    ∀ x ∈ (appendEl n w next).1.kids, Q x := by
  unfold appendEl
  split <;> rename_i hl <;> rw [kids_withKids] <;> intro x hx <;> rcases List.mem_append.mp hx with h | h
  · exact hK x h
  · exact List.mem_singleton.mp h ▸ hs hl
  · exact hK x h
  · exact List.mem_singleton.mp h ▸ hd hl

theorem attachAll_eq (lst : Node) (e : Node) (es : List Node) (next : Nat) :
    attachAll lst (e :: es) next = attachAll (appendEl lst e next).1 es (appendEl lst e next).2 := by
  unfold appendEl
  rw [attachAll]
  split <;> rfl

theorem not_seq_of_map {s : Schema} (hk : s.kind = .dict ∨ s.kind = .sparse)
    (hs : s.kind = .list ∨ s.kind = .array ∨ s.kind = .multi) : False := by
  rcases hk with hk | hk <;> rw [hk] at hs <;> simp at hs

theorem buildItems_forall {P : Node → Prop} (m : Schema) (xs : List Raw)
    (h : ∀ x ∈ xs, ∀ next, P (setNode (blank m none [] next).1 x none (blank m none [] next).2).node) :
    ∀ next, ∀ v ∈ (buildItems m xs next).1, P v := by
  induction xs with
  | nil => intro next v hv; cases hv
  | cons x xs ih =>
    intro next
    rw [buildItems]
    dsimp only
    split
    · intro v hv; cases hv
    · split
      · intro v hv; cases hv
      · intro v hv
        rcases List.mem_cons.mp hv with h1 | h1
        · rw [h1]; exact h x (List.mem_cons_self ..) next
        · exact ih (fun y hy => h y (List.mem_cons_of_mem _ hy)) _ v h1

theorem defaultSlotsWith_forall {P : Node → Prop} (mk : Nat → SetR) (lst : Nat)
    (h : ∀ id idx nx, P (mkSlot id lst idx (mk nx).node)) :
    ∀ (k idx next : Nat), ∀ x ∈ (defaultSlotsWith mk lst k idx next).1, P x := by
  intro k
  induction k with
  | zero => intro idx next x hx; cases hx
  | succ k ih =>
    intro idx next
    rw [defaultSlotsWith]
    dsimp only
    split
    · intro x hx
      rw [List.mem_singleton.mp hx]; exact h _ _ _
    · intro x hx
      rcases List.mem_cons.mp hx with h1 | h1
      · rw [h1]; exact h _ _ _
      · exact ih _ _ x h1

theorem wrapAll_forall {m : Schema} {P : Node → Prop} {as : List Arg}
    (hw : ∀ a ∈ as, ∀ next w k, wrap m a next = (.ok w, k) → P w) :
    ∀ {next : Nat} {ws : List Node} {k : Nat}, wrapAll m as next = (.ok ws, k) → ∀ w ∈ ws, P w := by
  induction as with
  | nil => intro next ws k h; cases h; intro w hw; cases hw
  | cons a as ih =>
    intro next ws k h
    rw [wrapAll] at h
    split at h
    · cases h
    · rename_i w n2 hwa
      split at h
      · cases h
      · rename_i ws' n3 hws
        cases h
        intro x hx
        rcases List.mem_cons.mp hx with h1 | h1
        · rw [h1]; exact hw a (List.mem_cons_self ..) next w n2 hwa
        · exact ih (fun y hy => hw y (List.mem_cons_of_mem _ hy)) hws x h1

theorem map_renumberFrom {β : Type} {f : Node → β} (hf : ∀ x s, f (x.withKey s) = f x) (k : Nat) (l : List Node) :
    (renumberFrom k l).map f = l.map f := by
  induction l generalizing k with
  | nil => rfl
  | cons x xs ih => rw [renumberFrom, List.map_cons, List.map_cons, hf, ih]

theorem kids_renumberFrom (k : Nat) (l : List Node) : (renumberFrom k l).flatMap Node.kids = l.flatMap Node.kids := by
  rw [List.flatMap_def, List.flatMap_def, map_renumberFrom (fun x _ => by cases x; rfl)]

theorem renumberFrom_forall {P : Node → Prop} (hk : ∀ {y : Node} (s : Str), P y → P (y.withKey s)) :
    ∀ (l : List Node) (k : Nat), (∀ y ∈ l, P y) → ∀ x ∈ renumberFrom k l, P x := by
  intro l
  induction l with
  | nil => intro k _ x hx; cases hx
  | cons y ys ih =>
    intro k h x hx
    simp only [renumberFrom, List.mem_cons] at hx
    rcases hx with rfl | hx
    · exact hk _ (h y (List.mem_cons_self ..))
    · exact ih (k + 1) (fun z hz => h z (List.mem_cons_of_mem _ hz)) x hx

theorem newSlots_forall {P : Node → Prop} (lst len : Nat) (ws : List Node) (h : ∀ w ∈ ws, ∀ id, P (mkSlot id lst len w)) :
    ∀ next, ∀ x ∈ (newSlots lst len ws next).1, P x := by
  induction ws with
  | nil => intro next x hx; cases hx
  | cons w ws ih =>
    intro next x hx
    simp only [newSlots, List.mem_cons] at hx
    rcases hx with rfl | hx
    · exact h w (List.mem_cons_self ..) _
    · exact ih (fun y hy => h y (List.mem_cons_of_mem _ hy)) (next + 1) x hx

theorem blankFields_forall {P : Node → Prop} (subs : List Schema) (pid : Nat) (b : Bool)
    (h : ∀ f ∈ subs, ∀ next, P (blank f (some pid) f.key next).1) :
    ∀ next, ∀ k ∈ (blankFields subs pid b next).1, P k := by
  induction subs with
  | nil => intro next k hk; cases hk
  | cons f fs ih =>
    have ih' := ih (fun g hg => h g (List.mem_cons_of_mem _ hg))
    intro next
    rw [blankFields]
    split
    · exact ih' next
    · intro k hk
      rcases List.mem_cons.mp hk with h1 | h1
      · rw [h1]; exact h f (List.mem_cons_self ..) next
      · exact ih' _ k h1

theorem setPairs_forall {P : Node → Prop} (pid : Nat) (subs : List Schema) (kvs : List (Str × Raw))
    (hset : ∀ p ∈ kvs, ∀ c next, P c → P (setNode c p.2 none next).node)
    (hnew : ∀ p ∈ kvs, ∀ f next,
      P (setNode ((blank f none p.1 next).1.withParent (some pid)) p.2 none (blank f none p.1 next).2).node) :
    ∀ (kids : List Node) (next : Nat), (∀ k ∈ kids, P k) → ∀ k ∈ (setPairs pid subs kids kvs next).1, P k := by
  induction kvs with
  | nil => intro kids next hk; simpa [setPairs] using hk
  | cons kv rest ih =>
    obtain ⟨k, v⟩ := kv
    have ih' := ih (fun p hp => hset p (List.mem_cons_of_mem _ hp)) (fun p hp => hnew p (List.mem_cons_of_mem _ hp))
    intro kids next hk
    rw [setPairs]
    split
    · exact ih' kids next hk
    · split
      · rename_i child hc
        have hrep : ∀ x ∈ replaceKid kids k (setNode child v none next).node, P x := by
          intro x hx
          obtain ⟨y, hy, rfl⟩ := List.mem_map.mp hx
          split
          · exact hset (k, v) (List.mem_cons_self ..) child next (hk child (List.mem_of_find?_eq_some hc))
          · exact hk y hy
        dsimp only
        split
        · exact hrep
        · exact ih' _ _ hrep
      · rename_i f _ _ _
        have happ : ∀ x ∈ kids ++ [(setNode ((blank f none k next).1.withParent (some pid)) v none (blank f none k next).2).node],
            P x := fun x hx =>
          (List.mem_append.mp hx).elim (hk x) (fun h => List.mem_singleton.mp h ▸ hnew (k, v) (List.mem_cons_self ..) f next)
        dsimp only
        split
        · exact happ
        · exact ih' _ _ happ

/-- `hbl`: a field whose `set_default` raises leaves blank children behind it -/
theorem defaultFields_forall {P : Node → Prop} (subs : List Schema) (pid : Nat) (b : Bool)
    (hfd : ∀ f ∈ subs, ∀ next, P (fromDefaults f (some pid) f.key next).node)
    (hbl : ∀ f ∈ subs, ∀ next, P (blank f (some pid) f.key next).1) :
    ∀ next, ∀ k ∈ (defaultFields subs pid b next).1, P k := by
  induction subs with
  | nil => intro next k hk; cases hk
  | cons f fs ih =>
    have hfs : ∀ g ∈ fs, ∀ next, P (blank g (some pid) g.key next).1 := fun g hg => hbl g (List.mem_cons_of_mem _ hg)
    have ih' := ih (fun g hg => hfd g (List.mem_cons_of_mem _ hg)) hfs
    intro next
    rw [defaultFields]
    split
    · exact ih' next
    · dsimp only
      split
      · intro x hx
        rcases List.mem_cons.mp hx with h1 | h1
        · rw [h1]
          split
          · exact hbl f (List.mem_cons_self ..) _
          · exact hfd f (List.mem_cons_self ..) next
        · exact blankFields_forall fs pid b hfs _ x h1
      · intro x hx
        rcases List.mem_cons.mp hx with h1 | h1
        · rw [h1]; exact hfd f (List.mem_cons_self ..) next
        · exact ih' _ x h1

theorem setDefaultKids_forall {P : Node → Prop} (kids : List Node)
    (h : ∀ k ∈ kids, ∀ next, P k → P (setDefault k next).node) :
    ∀ next, (∀ k ∈ kids, P k) → ∀ k ∈ (setDefaultKids kids next).1, P k := by
  induction kids with
  | nil => intro next _ k hk; simp [setDefaultKids] at hk
  | cons c cs ih =>
    intro next hk
    have hc := h c (List.mem_cons_self ..) next (hk c (List.mem_cons_self ..))
    rw [setDefaultKids]
    dsimp only
    split
    · intro x hx
      rcases List.mem_cons.mp hx with h1 | h1
      · rw [h1]; exact hc
      · exact hk x (List.mem_cons_of_mem _ h1)
    · intro x hx
      rcases List.mem_cons.mp hx with h1 | h1
      · rw [h1]; exact hc
      · exact ih (fun y hy => h y (List.mem_cons_of_mem _ hy)) _ (fun y hy => hk y (List.mem_cons_of_mem _ hy)) x h1

/-- the `Sequence.set` branch of `setNode` -/
def seqSet (i : NInfo) (s : Schema) (raw : Raw) (next : Nat) : SetR :=
  match s.member with
  | none => ⟨.mk i s [], next, .error .unsupported⟩
  | some m =>
    match raw with
    | .list xs =>
      (match (buildItems m xs next).2.2 with
       | .ok conv =>
         ⟨(attachAll (.mk i s []) (buildItems m xs next).1 (buildItems m xs next).2.1).1,
          (attachAll (.mk i s []) (buildItems m xs next).1 (buildItems m xs next).2.1).2, .ok conv⟩
       | .error .typeError => ⟨.mk i s [], (buildItems m xs next).2.1, .ok false⟩
       | .error e => ⟨.mk i s [], (buildItems m xs next).2.1, .error e⟩)
    | .none => ⟨.mk i s [], next, .ok false⟩
    | .int _ => ⟨.mk i s [], next, .ok false⟩
    | _ => ⟨.mk i s [], next, .error .unsupported⟩

theorem setNode_seq (i : NInfo) (s : Schema) (kids : List Node) (raw : Raw) (pol : Option Policy) (next : Nat)
    (hk : s.kind = .list ∨ s.kind = .array ∨ s.kind = .multi) :
    setNode (.mk i s kids) raw pol next = seqSet i s raw next := by
  unfold setNode seqSet
  rcases hk with hk | hk | hk <;> simp only [hk] <;> rfl

/-- the `Dict.set` branch of `setNode` for a dict-like value with pairs `kvs` -/
def mapSetKvs (i : NInfo) (s : Schema) (kvs : List (Str × Raw)) (pol : Option Policy) (next : Nat) : SetR :=
  match dictPrep i s kvs pol next with
  | .error r => r
  | .ok (fresh, next1) =>
    ⟨.mk i s (setPairs i.id s.subs fresh kvs next1).1, (setPairs i.id s.subs fresh kvs next1).2.1,
      (setPairs i.id s.subs fresh kvs next1).2.2⟩

theorem setNode_map (i : NInfo) (s : Schema) (kids : List Node) (raw : Raw) (pol : Option Policy) (next : Nat)
    (hk : s.kind = .dict ∨ s.kind = .sparse) :
    setNode (.mk i s kids) raw pol next =
      (match toPairs raw with
       | some (some kvs) => mapSetKvs i s kvs pol next
       | some none => ⟨.mk i s kids, next, .ok false⟩
       | none => ⟨.mk i s kids, next, .error .unsupported⟩) := by
  unfold setNode mapSetKvs
  rcases hk with hk | hk <;> simp only [hk] <;>
  · cases raw with
    | none => rfl
    | int _ => rfl
    | str t =>
      cases t <;> simp only [toPairs, setPairs]
      generalize dictPrep i s [] pol next = d
      rcases d with _ | ⟨_, _⟩ <;> rfl
    | list xs =>
      cases xs <;> simp only [toPairs, setPairs]
      generalize dictPrep i s [] pol next = d
      rcases d with _ | ⟨_, _⟩ <;> rfl
    | dict kvs =>
      simp only [toPairs]
      generalize dictPrep i s kvs pol next = d
      rcases d with _ | ⟨_, _⟩ <;> rfl
    | pairs kvs =>
      simp only [toPairs]
      generalize dictPrep i s kvs pol next = d
      rcases d with _ | ⟨_, _⟩ <;> rfl

theorem blank_ni (s : Schema) (p : Option Nat) (k : Str) (n : Nat) :
    (blank s p k n).1.ni = { id := n, parent := p, key := k } ∧ (blank s p k n).1.sch = s := by
  cases s with
  | mk info dflt subs =>
    rw [blank]
    cases info.kind <;> dsimp only <;> first | exact ⟨rfl, rfl⟩ | (split <;> exact ⟨rfl, rfl⟩)

theorem blank_leaf (s : Schema) (parent : Option Nat) (key : Str) (next : Nat) (h : ¬ (s.kind = .dict ∨ s.kind = .sparse)) :
    blank s parent key next = (.mk { id := next, parent := parent, key := key } s [], next + 1) := by
  cases s with
  | mk info dflt subs =>
    rw [blank]
    have : ¬ (info.kind = .dict ∨ info.kind = .sparse) := h
    cases hk : info.kind <;> rw [hk] at this <;> first | rfl | exact absurd (by simp) this

end Flatland.Tree

namespace Flatland.C08.Proofs
open Flatland.Tree Flatland.PyList

theorem children_list {n : Node} (h : n.kind = .list) : children n = n.kids.flatMap Node.kids := by
  unfold children; rw [h]
theorem children_kids {n : Node} (h : n.kind = .array ∨ n.kind = .multi ∨ n.kind = .dict ∨ n.kind = .sparse) :
    children n = n.kids := by
  unfold children; rcases h with h | h | h | h <;> rw [h]

theorem children_nil {n : Node} (hl : ¬ n.kind = .list)
    (h4 : ¬ (n.kind = .array ∨ n.kind = .multi ∨ n.kind = .dict ∨ n.kind = .sparse)) : children n = [] := by
  unfold children
  cases hk : n.kind <;> simp_all

/-- the children `_reset()` gives a mapping: one blank child per (required) field -/
def freshKids (i : NInfo) (s : Schema) (next : Nat) : List Node × Nat :=
  if s.kind = .dict then blankFields s.subs i.id false next
  else if s.info.minreq then blankFields s.subs i.id true next
  else ([], next)

/-- the shapes `setNode (.mk i s kids) raw pol next` can take (whatever the policy) -/
inductive SetShape (i : NInfo) (s : Schema) (kids : List Node) (raw : Raw) (next : Nat) : SetR → Prop
  /-- children untouched (a scalar takes a new value; a value that is not dict-like is refused) -/
  | same {i' : NInfo} {res : Except Exc Bool} (hh : ∃ v u, i' = { i with val := v, u := u }) :
      SetShape i s kids raw next ⟨.mk i' s kids, next, res⟩
  /-- a sequence after `del self[:]`, when nothing is attached -/
  | emptied {n1 : Nat} {res : Except Exc Bool} (hk : s.kind = .list ∨ s.kind = .array ∨ s.kind = .multi)
      (hn : n1 = next ∨ ∃ m xs, s.member = some m ∧ raw = .list xs ∧ n1 = (buildItems m xs next).2.1) :
      SetShape i s kids raw next ⟨.mk i s [], n1, res⟩
  /-- a sequence rebuilt from the items of a list value -/
  | rebuilt {m : Schema} {xs : List Raw} {res : Except Exc Bool}
      (hk : s.kind = .list ∨ s.kind = .array ∨ s.kind = .multi) (hm : s.member = some m) (hraw : raw = .list xs) :
      SetShape i s kids raw next
        ⟨(attachAll (.mk i s []) (buildItems m xs next).1 (buildItems m xs next).2.1).1,
         (attachAll (.mk i s []) (buildItems m xs next).1 (buildItems m xs next).2.1).2, res⟩
  /-- a mapping after `_reset()` and the loop over the pairs (no pairs: the policy raised, or
      the value was empty) -/
  | pairs {kvs : List (Str × Raw)} {res : Except Exc Bool} (hk : s.kind = .dict ∨ s.kind = .sparse)
      (hkvs : kvs = [] ∨ toPairs raw = some (some kvs)) :
      SetShape i s kids raw next
        ⟨.mk i s (setPairs i.id s.subs (freshKids i s next).1 kvs (freshKids i s next).2).1,
         (setPairs i.id s.subs (freshKids i s next).1 kvs (freshKids i s next).2).2.1, res⟩

theorem mapSetKvs_shape (i : NInfo) (s : Schema) (kids : List Node) {raw : Raw} {kvs : List (Str × Raw)}
    (hkvs : toPairs raw = some (some kvs)) (pol : Option Policy) (next : Nat) (hk : s.kind = .dict ∨ s.kind = .sparse) :
    SetShape i s kids raw next (mapSetKvs i s kvs pol next) := by
  unfold mapSetKvs dictPrep
  dsimp only
  cases policyCheck (pol.getD s.info.policy) s.subs kvs with
  | error e => exact .pairs (kvs := []) hk (.inl rfl)
  | ok u => exact .pairs hk (.inr hkvs)

theorem setNode_shape (i : NInfo) (s : Schema) (kids : List Node) (raw : Raw) (pol : Option Policy) (next : Nat) :
    SetShape i s kids raw next (setNode (.mk i s kids) raw pol next) := by
  cases hkd : s.kind with
  | integer | string => unfold setNode; simp only [hkd]; split <;> exact .same ⟨_, _, rfl⟩
  | slot => unfold setNode; simp only [hkd]; exact .same ⟨_, _, rfl⟩
  | list | array | multi =>
    have hk : s.kind = .list ∨ s.kind = .array ∨ s.kind = .multi := by simp [hkd]
    rw [setNode_seq i s kids raw pol next hk]
    unfold seqSet
    split
    · exact .emptied hk (.inl rfl)
    · rename_i m hm
      split
      · split
        · exact .rebuilt hk hm rfl
        · exact .emptied hk (.inr ⟨m, _, hm, rfl, rfl⟩)
        · exact .emptied hk (.inr ⟨m, _, hm, rfl, rfl⟩)
      all_goals exact .emptied hk (.inl rfl)
  | dict | sparse =>
    have hk : s.kind = .dict ∨ s.kind = .sparse := by simp [hkd]
    rw [setNode_map i s kids raw pol next hk]
    split
    · rename_i kvs h; exact mapSetKvs_shape i s kids h pol next hk
    · exact .same ⟨_, _, rfl⟩
    · exact .same ⟨_, _, rfl⟩

/-- the shapes `set_default` can leave the element `n` in (`inPlace`: it may default the children it finds) -/
inductive DefaultShape (inPlace : Prop) (n : Node) (next : Nat) : SetR → Prop
  | same {res : Except Exc Bool} : DefaultShape inPlace n next ⟨n, next, res⟩
  | set {d : Raw} : DefaultShape inPlace n next (setNode n d none next)
  | slots {m : Schema} {k : Nat} (hk : n.kind = .list) (hm : n.sch.member = some m) :
      DefaultShape inPlace n next
        ⟨n.withKids (defaultSlotsWith (fun nx => fromDefaults m none [] nx) n.id k 0 next).1,
         (defaultSlotsWith (fun nx => fromDefaults m none [] nx) n.id k 0 next).2.1,
         (defaultSlotsWith (fun nx => fromDefaults m none [] nx) n.id k 0 next).2.2⟩
  | items {m : Schema} {xs : List Raw} {res : Except Exc Bool} (hk : n.kind = .array ∨ n.kind = .multi)
      (hm : n.sch.member = some m) :
      DefaultShape inPlace n next
        ⟨(attachAll (n.withKids []) (buildItems m xs next).1 (buildItems m xs next).2.1).1,
         (attachAll (n.withKids []) (buildItems m xs next).1 (buildItems m xs next).2.1).2, res⟩
  | emptied {m : Schema} {xs : List Raw} {res : Except Exc Bool} (hk : n.kind = .array ∨ n.kind = .multi)
      (hm : n.sch.member = some m) :
      DefaultShape inPlace n next ⟨n.withKids [], (buildItems m xs next).2.1, res⟩
  | kids (hp : inPlace) (hk : n.kind = .dict) :
      DefaultShape inPlace n next
        ⟨n.withKids (setDefaultKids n.kids next).1, (setDefaultKids n.kids next).2.1, (setDefaultKids n.kids next).2.2⟩
  | fields {b : Bool} (hk : n.kind = .dict ∧ b = false ∨ n.kind = .sparse ∧ b = true) :
      DefaultShape inPlace n next
        ⟨n.withKids (defaultFields n.sch.subs n.id b next).1, (defaultFields n.sch.subs n.id b next).2.1,
         (defaultFields n.sch.subs n.id b next).2.2⟩
  | cleared (hk : n.kind = .sparse) (hm : n.sch.info.minreq = false) : DefaultShape inPlace n next ⟨n.withKids [], next, .ok true⟩

theorem setDefault_shape (i : NInfo) (s : Schema) (kids : List Node) (next : Nat) :
    DefaultShape True (.mk i s kids) next (setDefault (.mk i s kids) next) := by
  unfold setDefault
  split
  · exact .set
  · exact .set
  · exact .same
  · rename_i hk
    split
    · exact .same
    · split
      · rename_i m hm; exact .slots hk hm
      · exact .same
    · exact .set
  · rename_i hk
    split
    · exact .same
    · split
      · rename_i m hm
        dsimp only
        split
        · exact .items (.inl hk) hm
        · exact .emptied (.inl hk) hm
      · exact .same
    · exact .same
  · rename_i hk
    split
    · exact .same
    · split
      · rename_i m hm
        dsimp only
        split
        · exact .items (.inr hk) hm
        · exact .emptied (.inr hk) hm
      · exact .same
    · exact .same
  · rename_i hk
    split
    · exact .kids trivial hk
    · exact .set
  · rename_i hk
    split
    · split
      · exact .fields (.inr ⟨hk, rfl⟩)
      · rename_i hm; exact .cleared hk (show s.info.minreq = false by simpa using hm)
    · exact .set

/-- `schema.from_defaults()` is `el = schema(parent=p); el.set_default()`: it has a `set_default` shape at the blank
    element.  (The model differs from that reading in one branch, a Dict without default: the children are built again by
    `defaultFields` instead of being defaulted where `blank` put them — the shape `fields`.) -/
theorem fromDefaults_shape (s : Schema) (parent : Option Nat) (key : Str) (next : Nat) :
    DefaultShape False (blank s parent key next).1 (blank s parent key next).2 (fromDefaults s parent key next) := by
  have hsch := (blank_ni s parent key next).2
  cases s with
  | mk info dflt subs =>
    have hkind : (blank (.mk info dflt subs) parent key next).1.kind = info.kind := by unfold Node.kind; rw [hsch]; rfl
    have hleaf := blank_leaf (.mk info dflt subs) parent key next
    unfold fromDefaults
    dsimp only
    split
    · exact .set
    · exact .set
    · exact .same
    · rename_i hk
      split
      · exact .same
      · split
        · exact .slots (hkind.trans hk) (by rw [hsch]; rfl)
        · exact .same
      · exact .set
    · rename_i hk
      have hl := hleaf (by show ¬ (info.kind = .dict ∨ info.kind = .sparse); rw [hk]; simp)
      split
      · exact .same
      · split
        · split
          · rw [hl]; exact .items (.inl hk) rfl
          · rw [hl]; exact .emptied (.inl hk) rfl
        · exact .same
      · exact .same
    · rename_i hk
      have hl := hleaf (by show ¬ (info.kind = .dict ∨ info.kind = .sparse); rw [hk]; simp)
      split
      · exact .same
      · split
        · split
          · rw [hl]; exact .items (.inr hk) rfl
          · rw [hl]; exact .emptied (.inr hk) rfl
        · exact .same
      · exact .same
    · rename_i hk
      split
      · have := DefaultShape.fields (inPlace := False) (next := (blank (.mk info .none subs) parent key next).2)
          (.inl ⟨hkind.trans hk, rfl⟩)
        rw [hsch] at this; exact this
      · exact .set
    · rename_i hk
      split
      · split
        · have := DefaultShape.fields (inPlace := False) (next := (blank (.mk info .none subs) parent key next).2)
            (.inr ⟨hkind.trans hk, rfl⟩)
          rw [hsch] at this; exact this
        · rename_i hm; exact .cleared (hkind.trans hk) (by rw [hsch]; show info.minreq = false; simpa using hm)
      · exact .set

end Flatland.C08.Proofs

namespace Flatland.Tree
open Flatland.C08.Proofs

theorem mapReset_eq (n : Node) (next : Nat) :
    mapReset n next = (n.withKids (freshKids n.ni n.sch next).1, (freshKids n.ni n.sch next).2) := by
  unfold mapReset freshKids Node.kind
  split
  · rfl
  · split <;> rfl

theorem mapReset_hdr (n : Node) (next : Nat) : (mapReset n next).1.hdr = n.hdr := by
  rw [mapReset_eq]; rfl

theorem setNode_hdr (n : Node) (raw : Raw) (pol : Option Policy) (next : Nat) :
    (setNode n raw pol next).node.hdr = n.hdr := by
  cases n with
  | mk i s kids =>
    have h := setNode_shape i s kids raw pol next
    generalize setNode (.mk i s kids) raw pol next = r at h ⊢
    cases h with
    | same hh => obtain ⟨v, u, rfl⟩ := hh; rfl
    | emptied | pairs => rfl
    | rebuilt => exact attachAll_hdr _ _ _

theorem blank_hdr (s : Schema) (parent : Option Nat) (key : Str) (next : Nat) :
    (blank s parent key next).1.hdr = (next, parent, s, key, none, none) := by
  have h := blank_ni s parent key next
  unfold Node.hdr Node.id Node.parent Node.key; rw [h.1, h.2]

theorem built_sch (m : Schema) (x : Raw) (next : Nat) :
    (setNode (blank m none [] next).1 x none (blank m none [] next).2).node.sch = m :=
  (sch_of_hdr (setNode_hdr _ x none _)).trans (blank_ni m none [] next).2

theorem construct_hdr (s : Schema) (raw : Raw) (parent : Option Nat) (key : Str) (next : Nat) (e : Node)
    (h : (construct s raw parent key next).1 = .ok e) : e.hdr = (next, parent, s, key, none, none) := by
  unfold construct at h
  dsimp only at h
  split at h
  · cases h
    rw [setNode_hdr, blank_hdr]
  · cases h

theorem _root_.Flatland.C08.Proofs.DefaultShape.hdr {p : Prop} {n : Node} {next : Nat} {r : SetR}
    (h : DefaultShape p n next r) : r.node.hdr = n.hdr := by
  cases h with
  | same | slots | emptied | kids | fields | cleared => rfl
  | set => exact setNode_hdr _ _ _ _
  | items => exact attachAll_hdr _ _ _

theorem fromDefaults_hdr (s : Schema) (parent : Option Nat) (key : Str) (next : Nat) :
    (fromDefaults s parent key next).node.hdr = (next, parent, s, key, none, none) :=
  (fromDefaults_shape s parent key next).hdr.trans (blank_hdr s parent key next)

theorem setDefault_hdr (n : Node) (next : Nat) : (setDefault n next).node.hdr = n.hdr := by
  cases n with
  | mk i s kids => exact (setDefault_shape i s kids next).hdr

end Flatland.Tree
