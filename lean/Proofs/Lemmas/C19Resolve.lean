/-
Frame lookup = "last explicit assignment among the open levels, else the base frame"; the code's
two-step fallback vs the four-level rule on the list of level readings.  Stack discipline of the model: the
frames below the current one are out of a call's reach (`step_below`, `base_run`).
-/
import Proofs.Lemmas.C19Hist
namespace Flatland.C19.Proofs
open Flatland.Markup Flatland.C19 Flatland.C19.Spec

theorem lastAssign_eq (log : List (Str × CVal)) (k : Str) : lastAssign log k = Assoc.get log.reverse k :=
  Assoc.last_unique lastAssign (fun _ => rfl) (fun _ _ r k => by rw [lastAssign]; cases lastAssign r k <;> rfl) log k

theorem get?_frameUpdate (log : List (Str × CVal)) (f : Frame) (k : Str) :
    Dict.get? (frameUpdate f log) k = (lastAssign log k).or (Dict.get? f k) := by
  simp only [frameUpdate, Dict.set_eq]
  rw [lastAssign_eq, Dict.get?_eq, Dict.get?_eq, Assoc.get_foldl_set, Assoc.get_append]

theorem lastAssign_eq_getLast? (log : List (Str × CVal)) (k : Str) :
    lastAssign log k = (log.filterMap (fun kv => if kv.1 = k then some kv.2 else none)).getLast? := by
  induction log with
  | nil => rfl
  | cons p rest ih =>
    obtain ⟨k', v⟩ := p
    simp only [lastAssign, List.filterMap_cons]
    rw [ih]
    by_cases hk : k' = k
    · simp only [hk, if_true, List.getLast?_cons]
      cases (rest.filterMap fun kv => if kv.1 = k then some kv.2 else none).getLast? <;> rfl
    · simp only [hk, if_false]
      cases (rest.filterMap fun kv => if kv.1 = k then some kv.2 else none).getLast? <;> rfl

theorem lastExplicit_cons (lv : Level) (rest : Hist) (k : Str) :
    lastExplicit (lv :: rest) k = (lv.given k).or (lastExplicit rest k) := by
  simp only [lastExplicit, assignments, List.reverse_cons, List.flatMap_append, List.flatMap_cons,
    List.flatMap_nil, List.append_nil, List.getLast?_append, Level.given, lastAssign_eq_getLast?]

theorem lookup_matches : ∀ (top : Frame) (below : List Frame) (h : Hist) (k : Str) (base : Frame),
    Matches (top :: below) h → (top :: below).getLast? = some base →
    Dict.get? top k = (lastExplicit h k).or (Dict.get? base k)
  | b, [], [], k, base, _, hb => by cases hb; rfl
  | f, g :: rest, lv :: lvs, k, base, hm, hb => by
    rw [hm.1, get?_frameUpdate, lookup_matches g rest lvs k base hm.2 (by rwa [List.getLast?_cons_cons] at hb),
      lastExplicit_cons, Level.given, Option.or_assoc]
  | _, [], _ :: _, _, _, hm, _ => by simp [Matches] at hm
  | _, _ :: _, [], _, _, hm, _ => by simp [Matches] at hm

/-- what the code computes from the level readings: the innermost level that MENTIONS the option
    decides; if it says auto (or nobody mentions it) the built-in default applies -/
def codeResolve (b : Bool) : List (Option Trool) → Bool
  | [] => b
  | some .yes :: _ => true
  | some .no :: _ => false
  | some .maybe :: _ => b
  | none :: rest => codeResolve b rest

theorem codeResolve_rule_iff (b : Bool) (levels : List (Option Trool)) :
    codeResolve b levels = (firstOnOff levels).getD b ↔ noShadowingAuto b levels = true := by
  induction levels with
  | nil => simp [codeResolve, firstOnOff, noShadowingAuto]
  | cons x rest ih =>
    cases x with
    | none => simpa only [codeResolve, firstOnOff, noShadowingAuto] using ih
    | some t =>
      cases t with
      | yes => simp [codeResolve, firstOnOff, noShadowingAuto]
      | no => simp [codeResolve, firstOnOff, noShadowingAuto]
      | maybe =>
        simp only [codeResolve, firstOnOff, noShadowingAuto, Bool.or_eq_true, beq_iff_eq]
        cases firstOnOff rest with
        | none => simp
        | some c => simp [eq_comm]

/-- KF-C19-a: where `noShadowingAuto` fails, code and rule disagree -/
theorem codeResolve_ne_rule (b : Bool) (levels : List (Option Trool))
    (h : noShadowingAuto b levels = false) : codeResolve b levels ≠ (firstOnOff levels).getD b :=
  fun e => by rw [(codeResolve_rule_iff b levels).mp e] at h; cases h

theorem step_below (T : Tables) (R : RenderCfg) (g : Gen) (op : Op) :
    ∃ pre, frames (step T R g op).1.ctx = pre ++ g.ctx.below ∧ (step T R g op).1.xml = g.xml := by
  obtain ⟨m, hmv, hg, _, _⟩ := step_moves T R g op
  rw [hg]
  cases hmv with
  | end_ f rest hb hd => exact ⟨[], by simp [frames, Move.ctx, hb], rfl⟩
  | begin s => exact ⟨[_, g.ctx.top], rfl, rfl⟩
  | _ => exact ⟨[_], rfl, rfl⟩

theorem getLast?_cons_of_ne_nil {α} (a : α) (l : List α) (h : l ≠ []) :
    (a :: l).getLast? = l.getLast? := by
  cases l with
  | nil => exact absurd rfl h
  | cons b t => simp [List.getLast?_cons_cons]

theorem base_step (T : Tables) (R : RenderCfg) (g : Gen) (op : Op) (base : Frame)
    (h : g.ctx.below.getLast? = some base) :
    (step T R g op).1.ctx.below.getLast? = some base := by
  have hne : g.ctx.below ≠ [] := by intro e; rw [e] at h; simp at h
  obtain ⟨m, hmv, hg, _, _⟩ := step_moves T R g op
  rw [hg]
  cases hmv with
  | end_ f rest hb hd =>
    -- `end()` refuses to drop the last block frame
    have hrest : rest ≠ [] := by intro e; apply hd; simp [Ctx.depth, hb, e]
    rw [hb, getLast?_cons_of_ne_nil _ _ hrest] at h
    simpa [Move.ctx, hb] using h
  | begin s => exact (getLast?_cons_of_ne_nil _ _ hne).trans h
  | _ => exact h

theorem base_run (T : Tables) (R : RenderCfg) (ops : List Op) (g : Gen) (h : Hist) (base : Frame)
    (hb : g.ctx.below.getLast? = some base) :
    (runS T R g h ops).1.ctx.below.getLast? = some base := by
  induction ops generalizing g h with
  | nil => exact hb
  | cons op rest ih => exact ih _ _ (base_step T R g op base hb)

end Flatland.C19.Proofs
