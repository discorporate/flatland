/-
What each control group of a rendered form posts (`Control.posts (seenOf T ctx)`), from the
per-control theorems of `Proofs/C12.lean`.  Partial-correctness form: IF the tag calls render
(`= .ok`), the posted pairs are the stated ones; that they do render on a generator with default
settings is `Proofs/Lemmas/C12FormTotal.lean`.
-/
import Flatland.C12.Form
import Proofs.C12
import Proofs.C11
namespace Flatland.C12.Proofs
open Flatland.Markup Flatland.C12 Flatland.C19.Proofs

/-- what the theorems need of the tables (true of the current ones: `tablesOK_current`) -/
structure TablesOK (T : Tables) : Prop where
  nameInput : T.autoTag sName sInput = true
  valueInput : T.autoTag sValue sInput = true
  nameTextarea : T.autoTag sName sTextarea = true
  valueTextarea : T.autoTag sValue sTextarea = true
  nameButton : T.autoTag sName sButton = true
  valueButton : T.autoTag sValue sButton = true
  nameSelect : T.autoTag sName sSelect = true
  valueSelect : T.autoTag sValue sSelect = false
  nameOption : T.autoTag sName sOption = false
  valueOption : T.autoTag sValue sOption = true
  textChain : Flatland.C11.Proofs.TextChainOK T.textChain = true

theorem tablesOK_current : TablesOK Tables.current := by constructor <;> decide +kernel

/-- name and value generation are switched on in the context (true of `Generator()`: `fresh_enabled`) -/
structure Live (T : Tables) (ctx : Ctx) : Prop where
  nameOn : Enabled T ctx "auto_name".toList
  valueOn : Enabled T ctx "auto_value".toList

theorem extraOk_nil : extraOk [] = true := by decide +kernel

theorem extraOk_multiple : extraOk [(sMultiple, .text sMultiple)] = true := by decide +kernel

theorem extraOk_nodup {a : Attrs} (h : extraOk a = true) : (Dict.keys a).Nodup := by
  simp only [extraOk, Bool.and_eq_true, decide_eq_true_eq] at h
  exact h.1

theorem extraOk_get? {a : Attrs} (h : extraOk a = true) {k : Str} (hk : k ∈ reservedKeys) : Dict.get? a k = none := by
  simp only [extraOk, Bool.and_eq_true, decide_eq_true_eq, List.all_eq_true, Bool.not_eq_true',
    List.contains_eq_mem, decide_eq_false_iff_not] at h
  rw [Dict.get?_eq_none_iff]
  intro hm
  exact (h.2 k hm).1 hk

theorem extraOk_stable {a : Attrs} (h : extraOk a = true) {k : Str} (hk : k ∈ Dict.keys a) : rstripUnderscore k = k := by
  simp only [extraOk, Bool.and_eq_true, decide_eq_true_eq, List.all_eq_true, beq_iff_eq] at h
  exact (h.2 k hk).2

theorem extraOk_headD {es : List Attrs} (h : es.all extraOk = true) : extraOk (es.headD []) = true := by
  cases es with
  | nil => exact extraOk_nil
  | cons e es => simp only [List.all_cons, Bool.and_eq_true] at h; exact h.1

theorem extraOk_tail {es : List Attrs} (h : es.all extraOk = true) : es.tail.all extraOk = true := by
  cases es with
  | nil => rfl
  | cons e es => simp only [List.all_cons, Bool.and_eq_true] at h; exact h.2

theorem not_mem_keys_of_get? {a : Attrs} {k : Str} (h : Dict.get? a k = none) : k ∉ Dict.keys a :=
  (Dict.get?_eq_none_iff a k).mp h

theorem bind_ok {ε α β : Type} {x : Except ε α} {f : α → Except ε β} {b : β} (h : x >>= f = .ok b) :
    ∃ a, x = .ok a ∧ f a = .ok b :=
  bind_eq_ok.mp h

theorem seenOf_ok {T : Tables} {ctx : Ctx} {tag : Str} {b : Bind} {kw : Attrs} {s : Seen}
    (h : seenOf T ctx tag b kw = .ok s) :
    ∃ st6 body, transform T tag (some b) ⟨kw, none, ctx⟩ = .ok st6 ∧ bodyOf st6.contents = .ok body ∧
      s = (strAttrs st6.attrs, Flatland.C11.decodeRefs body) := by
  obtain ⟨st6, ht, h⟩ := bind_ok h
  obtain ⟨body, hb, h⟩ := bind_ok h
  exact ⟨st6, body, ht, hb, (Except.ok.inj h).symm⟩

theorem seenOf_of_transform {T : Tables} {ctx : Ctx} {tag : Str} {b : Bind} {kw : Attrs} {st6 : TState} {body : Str}
    (ht : transform T tag (some b) ⟨kw, none, ctx⟩ = .ok st6) (hb : bodyOf st6.contents = .ok body) :
    seenOf T ctx tag b kw = .ok (strAttrs st6.attrs, Flatland.C11.decodeRefs body) := by
  unfold seenOf
  simp only [bind, Except.bind, pure, Except.pure, ht, hb]

theorem posts_single {see : Str → Bind → Attrs → Except PyErr Seen} {tag : Str} {b : Bind} {kw : Attrs}
    {ps : List Pair} (h : Control.posts see (.single tag b kw) = .ok ps) :
    ∃ s, see tag b kw = .ok s ∧ ps = (submitted tag s.1 s.2).toList := by
  obtain ⟨s, hs, h⟩ := bind_ok h
  exact ⟨s, hs, (Except.ok.inj h).symm⟩

theorem posts_single_ok {see : Str → Bind → Attrs → Except PyErr Seen} {tag : Str} {b : Bind} {kw : Attrs} {s : Seen}
    (h : see tag b kw = .ok s) : Control.posts see (.single tag b kw) = .ok (submitted tag s.1 s.2).toList := by
  unfold Control.posts
  simp only [bind, Except.bind, pure, Except.pure, h]

theorem posts_seenOf {T : Tables} {ctx : Ctx} {tag : Str} {b : Bind} {kw : Attrs} {ps : List Pair}
    (h : Control.posts (seenOf T ctx) (.single tag b kw) = .ok ps) :
    ∃ st6 body, transform T tag (some b) ⟨kw, none, ctx⟩ = .ok st6 ∧ bodyOf st6.contents = .ok body ∧
      ps = (submitted tag (strAttrs st6.attrs) (Flatland.C11.decodeRefs body)).toList := by
  obtain ⟨s, hs, rfl⟩ := posts_single h
  obtain ⟨st6, body, ht, hb, rfl⟩ := seenOf_ok hs
  exact ⟨st6, body, ht, hb, rfl⟩

theorem postsAll_nil {α} (f : α → Except PyErr (List Pair)) : postsAll f [] = .ok [] := rfl

theorem postsAll_eq {α} (f : α → Except PyErr (List Pair)) (cs : List α) : postsAll f cs = Ex.flatMapM f cs := by
  induction cs with
  | nil => rfl
  | cons c cs ih => rw [postsAll, ih]; rfl

theorem postsAll_cons {α} {f : α → Except PyErr (List Pair)} {c : α} {cs : List α} {ps : List Pair}
    (h : postsAll f (c :: cs) = .ok ps) : ∃ p q, f c = .ok p ∧ postsAll f cs = .ok q ∧ ps = p ++ q := by
  simp only [postsAll_eq] at h ⊢; exact Ex.flatMapM_cons_eq_ok_iff.mp h

theorem postsAll_cons_ok {α} {f : α → Except PyErr (List Pair)} {c : α} {cs : List α} {p q : List Pair}
    (hc : f c = .ok p) (hq : postsAll f cs = .ok q) : postsAll f (c :: cs) = .ok (p ++ q) := by
  simp only [postsAll_eq] at hq ⊢; exact Ex.flatMapM_cons_eq_ok_iff.mpr ⟨p, q, hc, hq, rfl⟩

theorem postsAll_append {α} {f : α → Except PyErr (List Pair)} {a b : List α} {ps : List Pair}
    (h : postsAll f (a ++ b) = .ok ps) : ∃ p q, postsAll f a = .ok p ∧ postsAll f b = .ok q ∧ ps = p ++ q := by
  simp only [postsAll_eq] at h ⊢; exact Ex.flatMapM_append_eq_ok_iff.mp h

theorem postsAll_single {α} {f : α → Except PyErr (List Pair)} {c : α} {ps : List Pair}
    (h : postsAll f [c] = .ok ps) : f c = .ok ps := by
  rwa [postsAll_eq, Ex.flatMapM_singleton] at h

theorem postsAll_ok {α} {f : α → Except PyErr (List Pair)} {cs : List α} (h : ∀ c ∈ cs, ∃ p, f c = .ok p) :
    ∃ ps, postsAll f cs = .ok ps := by
  induction cs with
  | nil => exact ⟨[], rfl⟩
  | cons c cs ih =>
    obtain ⟨p, hp⟩ := h c (List.mem_cons_self ..)
    obtain ⟨q, hq⟩ := ih fun c' hc' => h c' (List.mem_cons_of_mem _ hc')
    exact ⟨_, postsAll_cons_ok hp hq⟩

theorem mem_reserved_name : sName ∈ reservedKeys := by simp only [reservedKeys, List.mem_cons, true_or]
theorem mem_reserved_value : sValue ∈ reservedKeys := by simp only [reservedKeys, List.mem_cons, true_or, or_true]
theorem mem_reserved_type : sType ∈ reservedKeys := by simp only [reservedKeys, List.mem_cons, true_or, or_true]
theorem mem_reserved_autoName : "auto_name".toList ∈ reservedKeys := by simp only [reservedKeys, List.mem_cons, true_or, or_true]
theorem mem_reserved_autoValue : "auto_value".toList ∈ reservedKeys := by simp only [reservedKeys, List.mem_cons, true_or, or_true]

/-- keyword arguments of a control as form mode writes them: the generated `type=` and `value=` (if any) before the author's.
    `kwInput`, `kwCheck`, `kwOption` and the author's attributes alone are its four instances -/
def kwOf (ty lit : Option Str) (extra : Attrs) : Attrs :=
  (ty.map fun t => (sType, Val.text t)).toList ++ ((lit.map fun l => (sValue, Val.text l)).toList ++ extra)

theorem kwInput_eq (ty : Option Str) (extra : Attrs) : kwInput ty extra = kwOf ty none extra := by cases ty <;> rfl
theorem kwCheck_eq (ty lit : Str) (extra : Attrs) : kwCheck ty lit extra = kwOf (some ty) (some lit) extra := rfl

theorem get?_kwOf_other (ty lit : Option Str) (extra : Attrs) (k : Str) (h1 : sType ≠ k) (h2 : sValue ≠ k) :
    Dict.get? (kwOf ty lit extra) k = Dict.get? extra k := by
  cases ty <;> cases lit <;>
    simp only [kwOf, Option.map, Option.toList, List.nil_append, List.cons_append, Dict.get?_cons, h1, h2, if_false]

theorem get?_kwOf_reserved (ty lit : Option Str) {extra : Attrs} (hex : extraOk extra = true) {k : Str}
    (hk : k ∈ reservedKeys) (h1 : sType ≠ k) (h2 : sValue ≠ k) : Dict.get? (kwOf ty lit extra) k = none :=
  (get?_kwOf_other ty lit extra k h1 h2).trans (extraOk_get? hex hk)

theorem get?_kwOf_type (ty lit : Option Str) {extra : Attrs} (hex : extraOk extra = true) :
    Dict.get? (kwOf ty lit extra) sType = ty.map Val.text := by
  cases ty with
  | none =>
    cases lit with
    | none => exact extraOk_get? hex mem_reserved_type
    | some l => exact (Dict.get?_cons ..).trans ((if_neg (by decide +kernel)).trans (extraOk_get? hex mem_reserved_type))
  | some t => exact (Dict.get?_cons ..).trans (if_pos rfl)

theorem get?_kwOf_value (ty lit : Option Str) {extra : Attrs} (hex : extraOk extra = true) :
    Dict.get? (kwOf ty lit extra) sValue = lit.map Val.text := by
  have e : sType ≠ sValue := by decide +kernel
  cases ty <;> cases lit <;>
    simp only [kwOf, Option.map, Option.toList, List.nil_append, List.cons_append, Dict.get?_cons, e, if_false, if_true,
      extraOk_get? hex mem_reserved_value]

theorem nodup_kwOf (ty lit : Option Str) {extra : Attrs} (hex : extraOk extra = true) :
    (Dict.keys (kwOf ty lit extra)).Nodup := by
  have hv : (Dict.keys (kwOf none lit extra)).Nodup := by
    cases lit with
    | none => exact extraOk_nodup hex
    | some l =>
      show (sValue :: Dict.keys extra).Nodup
      exact List.nodup_cons.mpr ⟨not_mem_keys_of_get? (extraOk_get? hex mem_reserved_value), extraOk_nodup hex⟩
  cases ty with
  | none => exact hv
  | some t =>
    show (sType :: Dict.keys (kwOf none lit extra)).Nodup
    exact List.nodup_cons.mpr ⟨not_mem_keys_of_get? (get?_kwOf_type none lit hex), hv⟩

theorem plain_kwOf (T : Tables) (ctx : Ctx) (hL : Live T ctx) (ty lit : Option Str) {extra : Attrs} (hex : extraOk extra = true) :
    Plain T ⟨kwOf ty lit extra, none, ctx⟩ :=
  ⟨hL.nameOn, hL.valueOn,
    get?_kwOf_reserved ty lit hex mem_reserved_autoName (by decide +kernel) (by decide +kernel),
    get?_kwOf_reserved ty lit hex mem_reserved_autoValue (by decide +kernel) (by decide +kernel),
    get?_kwOf_reserved ty lit hex mem_reserved_name (by decide +kernel) (by decide +kernel)⟩

theorem textLikeTy_code (ty : Option Str) (h : textLikeTy ty = true) :
    textLike ((ty.map Val.text).getD (.text [])).lowerKw = true := by
  cases ty with
  | none => decide +kernel
  | some s =>
    simp only [textLikeTy, Bool.and_eq_true] at h
    exact h.1.1

theorem textLikeTy_browser (ty : Option Str) (h : textLikeTy ty = true) :
    asciiLower (((ty.map Val.text).bind Val.str?).getD "text".toList) ≠ "checkbox".toList ∧
    asciiLower (((ty.map Val.text).bind Val.str?).getD "text".toList) ≠ "radio".toList ∧
    inputNeverPosts (asciiLower (((ty.map Val.text).bind Val.str?).getD "text".toList)) = false := by
  cases ty with
  | none => decide +kernel
  | some s =>
    simp only [textLikeTy, Bool.and_eq_true, Bool.not_eq_true', Bool.or_eq_false_iff, beq_eq_false_iff_ne] at h
    exact ⟨h.1.2.1, h.1.2.2, h.2⟩

theorem input_posts (T : Tables) (ctx : Ctx) (hT : TablesOK T) (hL : Live T ctx) (b : Bind) (ty : Option Str)
    (extra : Attrs) (hex : extraOk extra = true) (hty : textLikeTy ty = true) (hname : b.flatName ≠ [])
    (ps : List Pair) (h : Control.posts (seenOf T ctx) (.single sInput b (kwInput ty extra)) = .ok ps) :
    ps = [(b.flatName, b.u)] := by
  rw [kwInput_eq] at h
  obtain ⟨st6, body, ht, _, rfl⟩ := posts_seenOf h
  have hpost := posts_flat_pair_input T b ⟨kwOf ty none extra, none, ctx⟩ st6 (Flatland.C11.decodeRefs body)
    (plain_kwOf T ctx hL ty none hex) (nodup_kwOf ty none hex) (get?_kwOf_value ty none hex)
    (by simp only; rw [get?_kwOf_type ty none hex]; exact textLikeTy_code ty hty)
    (by simp only [browserTextLike]; rw [get?_kwOf_type ty none hex]; exact textLikeTy_browser ty hty)
    hname hT.nameInput hT.valueInput ht
  unfold Spec.PostsFlatPair submittedD at hpost
  rw [hpost]
  rfl

theorem button_posts (T : Tables) (ctx : Ctx) (hT : TablesOK T) (hL : Live T ctx) (b : Bind)
    (extra : Attrs) (hex : extraOk extra = true) (hname : b.flatName ≠ [])
    (ps : List Pair) (h : Control.posts (seenOf T ctx) (.single sButton b extra) = .ok ps) :
    ps = [(b.flatName, b.u)] := by
  obtain ⟨st6, body, ht, _, rfl⟩ := posts_seenOf h
  have hpost := posts_flat_pair_button T b ⟨extra, none, ctx⟩ st6 (Flatland.C11.decodeRefs body)
    (plain_kwOf T ctx hL none none hex) (extraOk_nodup hex) (extraOk_get? hex mem_reserved_value)
    (extraOk_get? hex mem_reserved_type) hname hT.nameButton hT.valueButton ht
  unfold Spec.PostsFlatPair submittedD at hpost
  exact congrArg Option.toList hpost

theorem decode_markupEscape (ch : Flatland.C11.Chain) (hch : Flatland.C11.Proofs.TextChainOK ch = true) (u : Str) :
    Flatland.C11.decodeRefs (Flatland.C11.markupEscape ch u) = u := by
  cases u with
  | nil => exact Flatland.C11.Proofs.decodeRefs_nil
  | cons c cs => exact Flatland.C11.Proofs.decodeRefs_escape ch hch (c :: cs)

theorem dropLeadingLF_of_not (u : Str) (h : startsWithLF u = false) : dropLeadingLF u = u := by
  unfold dropLeadingLF
  split
  · cases h
  · rfl

/-- a `<textarea>` posts `(flat name, u)` — unless `u` starts with a newline (KF-C12-f) -/
theorem textarea_posts (T : Tables) (ctx : Ctx) (hT : TablesOK T) (hL : Live T ctx) (b : Bind)
    (extra : Attrs) (hex : extraOk extra = true) (hname : b.flatName ≠ []) (hlf : startsWithLF b.u = false)
    (ps : List Pair) (h : Control.posts (seenOf T ctx) (.single sTextarea b extra) = .ok ps) :
    ps = [(b.flatName, b.u)] := by
  obtain ⟨st6, body, ht, hb, rfl⟩ := posts_seenOf h
  obtain ⟨hc, hpost⟩ := posts_flat_pair_textarea T b ⟨extra, none, ctx⟩ st6
    (plain_kwOf T ctx hL none none hex) (extraOk_nodup hex) rfl hname hT.nameTextarea hT.valueTextarea ht
  rw [hc] at hb
  cases hb
  have := hpost (Flatland.C11.decodeRefs (Flatland.C11.markupEscape T.textChain b.u))
  unfold submittedD at this
  rw [this, decode_markupEscape _ hT.textChain, dropLeadingLF_of_not _ hlf]
  rfl

theorem toList_ite {α} (c : Bool) (x : α) : (if c = true then some x else none).toList = if c = true then [x] else [] := by
  cases c <;> rfl

theorem checkTy_code (ty : Str) (h : checkTy ty = true) :
    ((Val.text ty).lowerKw.eqStr "radio".toList || (Val.text ty).lowerKw.eqStr "checkbox".toList) = true := by
  simp only [checkTy, Bool.and_eq_true] at h
  exact h.1

theorem checkTy_browser (ty : Str) (h : checkTy ty = true) :
    ∀ s, (Val.text ty).str? = some s → asciiLower s = kwLower s := by
  simp only [checkTy, Bool.and_eq_true, beq_iff_eq] at h
  intro s hs
  cases hs
  exact h.2

theorem checkTy_checkbox : checkTy sCheckbox = true := by decide +kernel

theorem check_posts (T : Tables) (ctx : Ctx) (hT : TablesOK T) (hL : Live T ctx) (b : Bind) (ty lit : Str)
    (extra : Attrs) (hex : extraOk extra = true) (hty : checkTy ty = true) (hname : b.flatName ≠ [])
    (m : Bool) (hm : b.matches T (some (.text lit)) = .ok m)
    (ps : List Pair) (h : Control.posts (seenOf T ctx) (.single sInput b (kwCheck ty lit extra)) = .ok ps) :
    ps = if m = true then [(b.flatName, lit)] else [] := by
  obtain ⟨st6, body, ht, _, rfl⟩ := posts_seenOf h
  have hpost := (checked_iff_matches T b ⟨kwCheck ty lit extra, none, ctx⟩ st6 (.text ty) lit (Flatland.C11.decodeRefs body) m
    (plain_kwOf T ctx hL (some ty) (some lit) hex) (nodup_kwOf (some ty) (some lit) hex)
    (get?_kwOf_type (some ty) (some lit) hex) (checkTy_code ty hty) (checkTy_browser ty hty) (get?_kwOf_value (some ty) (some lit) hex)
    hm hname hT.nameInput hT.valueInput ht).2.2.2
  unfold Spec.PostsIffMatches submittedD at hpost
  rw [hpost]
  exact toList_ite _ _

theorem boolbox_posts (T : Tables) (ctx : Ctx) (hT : TablesOK T) (hL : Live T ctx) (b : Bind) (tru : Str)
    (extra : Attrs) (hex : extraOk extra = true) (hname : b.flatName ≠ []) (hkind : b.kind = .boolean tru)
    (ps : List Pair) (h : Control.posts (seenOf T ctx) (.single sInput b (kwInput (some sCheckbox) extra)) = .ok ps) :
    ps = if tru = b.u then [(b.flatName, b.u)] else [] := by
  obtain ⟨st6, body, ht, _, rfl⟩ := posts_seenOf h
  have hpost := (checked_iff_boolean T b ⟨kwInput (some sCheckbox) extra, none, ctx⟩ st6 (.text sCheckbox) tru
    (Flatland.C11.decodeRefs body) (plain_kwOf T ctx hL (some sCheckbox) none hex)
    (nodup_kwOf (some sCheckbox) none hex) (get?_kwOf_type (some sCheckbox) none hex)
    (by decide +kernel) (checkTy_browser sCheckbox checkTy_checkbox)
    (get?_kwOf_value (some sCheckbox) none hex) hkind hname hT.nameInput hT.valueInput ht).2.2
  unfold Spec.PostsIffMatches submittedD at hpost
  rw [hpost, toList_ite]
  by_cases htu : tru = b.u
  · simp only [← htu, beq_self_eq_true, if_true]
  · simp only [htu, beq_eq_false_iff_ne.mpr htu, Bool.false_eq_true, if_false]

theorem select_carries_name (T : Tables) (b : Bind) (st st6 : TState) (hp : Plain T st)
    (hname : b.flatName ≠ []) (hT1 : T.autoTag sName sSelect = true)
    (h : transform T sSelect (some b) st = .ok st6) :
    Dict.get? st6.attrs sName = some (.text b.flatName) :=
  (control_reads hp hname hT1 (by decide +kernel) h).1

theorem posts_select {see : Str → Bind → Attrs → Except PyErr Seen} {b : Bind} {kw : Attrs} {opts : List Attrs}
    {ps : List Pair} (h : Control.posts see (.select b kw opts) = .ok ps) :
    ∃ s, see sSelect b kw = .ok s ∧
      postsAll (fun okw => do
        let (attrs, text) ← see sOption b okw
        pure (submittedOption ((attr? s.1 sName).getD []) attrs text).toList) opts = .ok ps :=
  bind_ok h

theorem select_seen_name (T : Tables) (ctx : Ctx) (hT : TablesOK T) (hL : Live T ctx) (b : Bind) (kw : Attrs)
    (hex : extraOk kw = true) (hname : b.flatName ≠ [])
    (s : Seen) (h : seenOf T ctx sSelect b kw = .ok s) : (attr? s.1 sName).getD [] = b.flatName := by
  obtain ⟨st6, body, ht, _, rfl⟩ := seenOf_ok h
  have hn := select_carries_name T b ⟨kw, none, ctx⟩ st6 (plain_kwOf T ctx hL none none hex) hname hT.nameSelect ht
  have hnd6 := transform_nodup (st := ⟨kw, none, ctx⟩) (extraOk_nodup hex) ht
  simp only [attr?_strAttrs _ hnd6, hn, Option.bind_some, str?_text, Option.getD_some]

theorem option_posts (T : Tables) (ctx : Ctx) (hT : TablesOK T) (hL : Live T ctx) (b : Bind) (n lit : Str)
    (extra : Attrs) (hex : extraOk extra = true) (hn : n ≠ []) (m : Bool)
    (hm : b.matches T (some (.text lit)) = .ok m) (p : List Pair)
    (h : (do
      let (attrs, text) ← seenOf T ctx sOption b (kwOption lit extra)
      pure (submittedOption n attrs text).toList : Except PyErr (List Pair)) = .ok p) :
    p = if m = true then [(n, lit)] else [] := by
  obtain ⟨s, hs, h⟩ := bind_ok h
  cases h
  obtain ⟨st6, body, ht, _, rfl⟩ := seenOf_ok hs
  have hpost := (selected_iff T b ⟨kwOption lit extra, none, ctx⟩ st6 lit n (Flatland.C11.decodeRefs body) m
    (plain_kwOf T ctx hL none (some lit) hex) (nodup_kwOf none (some lit) hex)
    (get?_kwOf_value none (some lit) hex) hm hn hT.nameOption hT.valueOption ht).2.2
  simp only [hpost]
  exact toList_ite _ _

/-- a check group is an option group with `type=ty` put before the keyword arguments of each tag -/
theorem checkGroup_eq_map (b : Bind) (ty : Str) : ∀ (lits : List Str) (es : List Attrs),
    checkGroup b ty lits es = (optionGroup lits es).map fun kw => .single sInput b ((sType, .text ty) :: kw)
  | [], _ => rfl
  | l :: ls, es => congrArg (Control.single sInput b (kwCheck ty l (es.headD [])) :: ·) (checkGroup_eq_map b ty ls es.tail)

theorem postsAll_map {α β} (f : β → Except PyErr (List Pair)) (g : α → β) (l : List α) :
    postsAll f (l.map g) = postsAll (fun x => f (g x)) l := by
  induction l with
  | nil => rfl
  | cons a l ih => simp only [List.map_cons, postsAll, ih]

/-- every tag of a group is `value=l` before author attributes that are in order -/
theorem group_forall {P : Attrs → Prop} (hone : ∀ l e, extraOk e = true → P (kwOption l e)) :
    ∀ (lits : List Str) (es : List Attrs), es.all extraOk = true → ∀ kw ∈ optionGroup lits es, P kw
  | [], _, _, _, h => nomatch h
  | l :: ls, es, hes, kw, h => by
    rcases List.mem_cons.mp h with rfl | h
    · exact hone l _ (extraOk_headD hes)
    · exact group_forall hone ls es.tail (extraOk_tail hes) kw h

/-- a group of tags `value=l` (l ∈ lits), each posting `(n, l)` exactly when `m l`: one pair per matching literal, in order -/
theorem group_posts {f : Attrs → Except PyErr (List Pair)} (n : Str) (m : Str → Bool)
    (hone : ∀ l e, extraOk e = true → ∀ p, f (kwOption l e) = .ok p → p = if m l = true then [(n, l)] else []) :
    ∀ (lits : List Str) (es : List Attrs), es.all extraOk = true → ∀ ps,
      postsAll f (optionGroup lits es) = .ok ps → ps = (lits.filter m).map (fun l => (n, l)) := by
  intro lits
  induction lits with
  | nil => intro es _ ps h; cases h; rfl
  | cons l ls ih =>
    intro es hes ps h
    obtain ⟨p, q, hp, hq, rfl⟩ := postsAll_cons h
    rw [hone l _ (extraOk_headD hes) p hp, ih es.tail (extraOk_tail hes) q hq]
    cases hml : m l <;> simp [hml]

theorem optionGroup_posts (T : Tables) (ctx : Ctx) (hT : TablesOK T) (hL : Live T ctx) (b : Bind) (n : Str) (hn : n ≠ [])
    (m : Str → Bool) (hm : ∀ l, b.matches T (some (.text l)) = .ok (m l)) :
    ∀ (lits : List Str) (es : List Attrs), es.all extraOk = true → ∀ ps,
      postsAll (fun okw => do
        let (attrs, text) ← seenOf T ctx sOption b okw
        pure (submittedOption n attrs text).toList) (optionGroup lits es) = .ok ps →
      ps = (lits.filter m).map (fun l => (n, l)) :=
  group_posts n m fun l e he p hp => option_posts T ctx hT hL b n l e he hn (m l) (hm l) p hp

theorem checkGroup_posts (T : Tables) (ctx : Ctx) (b : Bind) (ty : Str) (m : Str → Bool)
    (hone : ∀ l extra, extraOk extra = true → ∀ p,
      Control.posts (seenOf T ctx) (.single sInput b (kwCheck ty l extra)) = .ok p →
      p = if m l = true then [(b.flatName, l)] else []) :
    ∀ (lits : List Str) (es : List Attrs), es.all extraOk = true → ∀ ps,
      postsAll (Control.posts (seenOf T ctx)) (checkGroup b ty lits es) = .ok ps →
      ps = (lits.filter m).map (fun l => (b.flatName, l)) := by
  intro lits es hes ps h
  rw [checkGroup_eq_map, postsAll_map] at h
  exact group_posts b.flatName m hone lits es hes ps h

end Flatland.C12.Proofs
