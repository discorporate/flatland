/-
The reference list of C09 (`refStep`, Flatland/Spec/C09.lean) is natural in the type of its items:
mapping the items and the arguments of a call maps what the call leaves and returns, for any map
that respects the equality the list compares by.  Proofs/Lemmas/PyListMap.lean says it of each list
function; this is the same said of a whole call.
-/
import Flatland.Spec.C09
import Proofs.Lemmas.PyListMap
namespace Flatland.C09.Proofs
open Flatland.Tree Flatland.PyList Flatland.C09 Flatland.C09.Spec

variable {α β : Type}

def ROut.map (f : α → β) : ROut α → ROut β
  | .ok => .ok | .exc e => .exc e | .nat n => .nat n | .bool b => .bool b
  | .item a => .item (f a) | .items as => .items (as.map f)

/-- the same call on the mapped items -/
inductive ROpRel (f : α → β) : ROp α → ROp β → Prop
  | append (a : α) : ROpRel f (.append a) (.append (f a))
  | extend (as : List α) : ROpRel f (.extend as) (.extend (as.map f))
  | insert (i : Int) (a : α) : ROpRel f (.insert i a) (.insert i (f a))
  | setitem (i : Int) (a : α) : ROpRel f (.setitem i a) (.setitem i (f a))
  | setslice (s : Slice) (as : List α) : ROpRel f (.setslice s as) (.setslice s (as.map f))
  | delitem (i : Int) : ROpRel f (.delitem i) (.delitem i)
  | delslice (s : Slice) : ROpRel f (.delslice s) (.delslice s)
  | pop (i : Option Int) : ROpRel f (.pop i) (.pop i)
  | remove (a : α) : ROpRel f (.remove a) (.remove (f a))
  | reverse : ROpRel f .reverse .reverse
  | sort {le : α → α → Bool} {le' : β → β → Bool} (h : ∀ a b, le a b = le' (f a) (f b)) : ROpRel f (.sort le) (.sort le')
  | sortNoKey : ROpRel f .sortNoKey .sortNoKey
  | imul (c : Int) {re : α → α} {re' : β → β} (h : ∀ a, f (re a) = re' (f a)) : ROpRel f (.imul c re) (.imul c re')
  | assign (as : List α) : ROpRel f (.assign as) (.assign (as.map f))
  | len : ROpRel f .len .len
  | getitem (i : Int) : ROpRel f (.getitem i) (.getitem i)
  | getslice (s : Slice) : ROpRel f (.getslice s) (.getslice s)
  | contains (a : α) : ROpRel f (.contains a) (.contains (f a))
  | index (a : α) : ROpRel f (.index a) (.index (f a))
  | count (a : α) : ROpRel f (.count a) (.count (f a))

theorem refStep_map [BEq α] [BEq β] (f : α → β) (hf : ∀ a b : α, (a == b) = (f a == f b)) (l : List α)
    {op : ROp α} {op' : ROp β} (h : ROpRel f op op') :
    refStep (l.map f) op' = ((refStep l op).1.map f, ROut.map f (refStep l op).2) := by
  cases h with
  | append a => simp [refStep, ROut.map]
  | extend as => simp [refStep, ROut.map]
  | insert i a => simp [refStep, ROut.map, insertAt_map]
  | setitem i a => simp only [refStep, ← setItem_map]; cases setItem l i a <;> rfl
  | setslice s as => simp only [refStep, ← setSlice_map]; cases setSlice l s as <;> rfl
  | delitem i => simp only [refStep, ← delItem_map]; cases delItem l i <;> rfl
  | delslice s => simp only [refStep, ← delSlice_map]; cases delSlice l s <;> rfl
  | pop i => simp only [refStep, ← popAt_map]; cases popAt l (i.getD (-1)) <;> rfl
  | remove a =>
    simp only [refStep, ← removeFirst_map f (fun x => x == a) (fun x => x == f a) (fun x => hf x a)]
    cases removeFirst (fun x => x == a) l <;> rfl
  | reverse => simp [refStep, ROut.map]
  | sort h => simp only [refStep, sortBy_map f _ _ h, ROut.map]
  | sortNoKey => simp [refStep, ROut.map]; split <;> rfl
  | imul c h =>
    simp only [refStep]
    split
    · rfl
    · simp [ROut.map, Function.comp_def, h]
  | assign as => rfl
  | len => simp [refStep, ROut.map]
  | getitem i => simp only [refStep, ← getItem_map]; cases getItem l i <;> rfl
  | getslice s => simp only [refStep, ← getSlice_map]; cases getSlice l s <;> rfl
  | contains a =>
    simp only [refStep, containsBy_map f (fun x => x == a) (fun x => x == f a) (fun x => hf x a), ROut.map]
  | index a =>
    simp only [refStep, indexOf_map f (fun x => x == a) (fun x => x == f a) (fun x => hf x a)]
    cases indexOf (fun x => x == a) l <;> rfl
  | count a =>
    simp only [refStep, countOf_map f (fun x => x == a) (fun x => x == f a) (fun x => hf x a), ROut.map]

end Flatland.C09.Proofs
