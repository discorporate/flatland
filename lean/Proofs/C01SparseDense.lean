/-
C01: `roundtrip_pruned` (no SparseDicts) is the special case of `roundtrip_sparse` — every `OkP` state
is an `OkS` state (`okS_of_okP`, Proofs/Lemmas/C01SparseDict.lean), and on schemas without SparseDicts `prS` and
`pr` rebuild the same tree.
-/
import Proofs.C01SecondExamples   -- the C01 check audits the C01 modules through this one (harness/props/c01.py)
import Proofs.C01SparseExamples
namespace Flatland.Flat.Proofs
open Flatland.Flat Flatland.Flat.Spec

theorem okSAny_of_okPFields (env : Env) : ∀ fs : List Schema, wfL fs = true →
    ∀ ms : List (Str × Elem), OkPFields env fs ms → ∀ p ∈ ms, OkSAny env fs p.1 p.2 :=
  fun fs hw ms => okSAny_of_okPFields_of env fs ms fun f hf => okS_of_okP env f (wf_of_mem hw f hf)

/-- **without SparseDicts `prS` is the documented pruning `pr`** — so `roundtrip_sparse` extends
    `roundtrip_pruned`, and KF-C01-d/e are the whole difference SparseDicts make. -/
theorem prS_eq_pr (env : Env) (sep : Str) (s : Schema) (e : Elem)
    (hs : SepSafe env sep (Tok s)) (henv : EnvOK env) (hw : wf s = true) (hd : dense s = true)
    (hroot : rootOK s = true) (hok : OkP env s e) :
    prS env sep false s e = pr env false s e :=
  prS_eq_pr_dense s hw hd e hok false

end Flatland.Flat.Proofs
