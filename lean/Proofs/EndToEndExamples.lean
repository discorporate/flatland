/-
END TO END: non-vacuity and why each hypothesis is there.
-/
import Proofs.EndToEnd
import Proofs.C12FormExamples
import Proofs.Lemmas.FlatEval
import Proofs.Lemmas.FlattenE
namespace Flatland.EndToEnd.Proofs
open Flatland.Flat Flatland.Flat.Spec Flatland.Flat.Proofs Flatland.EndToEnd
open Flatland.C12 Flatland.C12.Proofs
open Flatland.Markup (Tables Attrs sChecked)

private def s (x : String) : Str := x.toList

/-- kind 0: a String (every text is its own reading); kind 1: `Boolean` with the library's default
    tokens (`true = '1'`, `false = ''`, synonyms on/true/True/1 and off/false/False/0/''): anything
    else is not adaptable and serialises to `''`; kind 2: a Boolean with CUSTOM tokens
    `true = 'yes'`, `false = 'no'` (KF-C01-h): it reads `''` as `'no'` -/
def exEnvB : Env :=
  { norm := fun k v =>
      if k = 1 then (if v ∈ [s "1", s "on", s "true", s "True"] then s "1" else [])
      else if k = 2 then (if v ∈ [s "yes", s "on", s "true", s "True", s "1"] then s "yes" else s "no")
      else v,
    compose := fun _ _ => [], joinedMembers := fun _ _ => [], ndZeros := [48], maxDigits := 4300 }

/-- Dict{ name: String, bio: String, yes: Boolean, no: Boolean, sub: Dict{ pick: String, flag: Boolean } } -/
def exS : Schema :=
  .dict none false .dense
    [ .leaf (some (s "name")) false 0, .leaf (some (s "bio")) false 0,
      .leaf (some (s "yes")) false 1, .leaf (some (s "no")) false 1,
      .dict (some (s "sub")) false .dense
        [ .leaf (some (s "pick")) false 0, .leaf (some (s "flag")) false 1 ] ]

def exE : Elem :=
  .dict [ (s "name", .leaf (s "Ann")), (s "bio", .leaf (s "hi & bye")), (s "yes", .leaf (s "1")),
          (s "no", .leaf []),
          (s "sub", .dict [ (s "pick", .leaf (s "b")), (s "flag", .leaf []) ]) ]

/-- the form: a text input, a textarea, a checked and an unchecked checkbox (the latter with a stale
    `checked=` the transform must remove), and one level down a select and another unchecked box -/
def exT : FormTree :=
  .dict none [
    .text (some (s "name")) (s "Ann") (.input (some (s "text"))) [],
    .text (some (s "bio")) (s "hi & bye") .textarea [],
    .bool (some (s "yes")) (s "1") (s "1") [],
    .bool (some (s "no")) (s "1") [] [[(sChecked, .text sChecked)]],
    .dict (some (s "sub")) [
      .text (some (s "pick")) (s "b") (.select [s "a", s "b"]) [],
      .bool (some (s "flag")) (s "1") [] [] ] ]

theorem exT_linked : linked exEnvB exS exE exT = true := by
  rw [linked, ← resolveE_eq]; decide +kernel

/-- non-vacuity of `end_to_end_narrow_partial`: the form meets `hypsN` -/
theorem exT_hypsN : hypsN Tables.current exEnvB exS exE exT = true := by
  simp only [hypsN, exT_linked, Bool.true_and]
  decide +kernel

/-- every hypothesis of `end_to_end_partial` holds for it -/
theorem exT_hyps : hyps Tables.current exEnvB exS exE exT = true := hypsN_hyps exT_hypsN

/-- what the form carries, in document order, and what it cannot carry -/
theorem exT_pairs : formPairs [] exT =
    [(s "name", s "Ann"), (s "bio", s "hi & bye"), (s "yes", s "1"), (s "sub_pick", s "b")] := by decide +kernel
theorem exT_unchecked : uncheckedPairs [] exT = [(s "no", []), (s "sub_flag", [])] := by decide +kernel

/-- `flatten()` has them breadth first, the unchecked boxes included -/
theorem exT_flatten : flatten exEnvB usep exS exE =
    [(s "name", s "Ann"), (s "bio", s "hi & bye"), (s "yes", s "1"), (s "no", []),
     (s "sub_pick", s "b"), (s "sub_flag", [])] := by
  rw [flatten_eq_flattenE]; decide +kernel

/-- non-vacuity: the browser posts the four pairs, and `from_flat` of them (evaluated) is the
    element itself -/
theorem exT_end_to_end :
    browserSubmit (seenOf Tables.current freshGen.ctx) (some 0) (renderForm [] exT)
        = .ok [(s "name", s "Ann"), (s "bio", s "hi & bye"), (s "yes", s "1"), (s "sub_pick", s "b")] ∧
    fromFlat exEnvB usep exS
        [(s "name", s "Ann"), (s "bio", s "hi & bye"), (s "yes", s "1"), (s "sub_pick", s "b")] = exE ∧
    prS exEnvB usep false exS exE = exE := by
  obtain ⟨hl, hf, hsub, hcan, hw, hroot, hok, henv, hs, hnd, hdrop⟩ := hyps_unpack exT_hyps
  have hp := form_roundtrip_fresh exT hf hsub
  rw [exT_pairs] at hp
  have hff : fromFlat exEnvB usep exS
      [(s "name", s "Ann"), (s "bio", s "hi & bye"), (s "yes", s "1"), (s "sub_pick", s "b")] = exE :=
    eq_of_elemBeq _ _ (by decide +kernel)
  exact ⟨hp, hff, (end_to_end_partial exEnvB exS exE exT exT_hyps _ hp).symm.trans hff⟩

def exSparseS : Schema := .dict none false .sparse [ .leaf (some (s "b")) true 1 ]
def exSparseE : Elem := .dict [ (s "b", .leaf []) ]
def exSparseT : FormTree := .dict none [ .bool (some (s "b")) (s "1") [] [] ]

theorem exSparse_linked : linked exEnvB exSparseS exSparseE exSparseT = true := by
  rw [linked, ← resolveE_eq]; decide +kernel

theorem exSparse_base : baseHyps Tables.current exEnvB exSparseS exSparseE exSparseT = true := by
  simp only [baseHyps, exSparse_linked, Bool.true_and]
  decide +kernel

/-- all the other hypotheses of `end_to_end_partial` hold too — only `dropSafe` fails -/
example : hnodupB exEnvB usep exSparseS (wrap (formPairs [] exSparseT ++ uncheckedPairs [] exSparseT)) = true
    ∧ boolsCanonical exSparseT = true ∧ dropSafe exEnvB exSparseS = false
    ∧ uncheckedPairs [] exSparseT = [(s "b", [])] := by decide +kernel

/-- an unchecked Boolean in a SparseDict is not re-created -/
theorem end_to_end_full_fails : ¬ EndToEnd_Full := by
  intro h
  obtain ⟨_, hf, hsub, _⟩ := baseHyps_unpack exSparse_base
  have hp := form_roundtrip_fresh exSparseT hf hsub
  have := h exEnvB exSparseS exSparseE exSparseT exSparse_base _ hp
  revert this
  have e1 : formPairs [] exSparseT = [] := by decide +kernel
  rw [e1]
  simp [fromFlat, setFlat, wrap, possibles, flat_eval, prS_eval, exSparseS, exSparseE, usep, s]

/-- List(prune_empty=False) 'l' of Boolean -/
def exNPS : Schema := .list (some (s "l")) false false 1024 (.leaf none false 1)
def exNPE : Elem := .list [ .leaf (s "1"), .leaf [] ]

/-- why `dropSafe` asks every List to prune: the checked box of slot 0 is posted, the unchecked one of slot 1 is not:
    the rebuilt list has one member, the element two (with `prune_empty = True`, the default, both have one) -/
theorem exNonPruning_differs :
    fromFlat exEnvB usep exNPS [(s "l_0", s "1")] = .list [ .leaf (s "1") ] ∧
    fromFlat exEnvB usep exNPS [(s "l_0", s "1"), (s "l_1", [])] = .list [ .leaf (s "1"), .leaf [] ] := by
  constructor <;> rfl

example : dropSafe exEnvB exNPS = false := by decide +kernel

/-- why `dropSafe` looks at the scalar kinds (KF-C01-h): Dict{ c: Boolean(true='yes', false='no') } — never set: the
    box is unchecked, `flatten()` has `('c', '')`; the pair, when present, sets the leaf to `'no'`; the form does not
    post it -/
def exCustomS : Schema := .dict none false .dense [ .leaf (some (s "c")) false 2 ]

example : dropSafe exEnvB exCustomS = false ∧ blankSettled exEnvB exCustomS = false := by decide +kernel

theorem exCustom_differs :
    fromFlat exEnvB usep exCustomS [] = .dict [ (s "c", .leaf []) ] ∧
    fromFlat exEnvB usep exCustomS [(s "c", [])] = .dict [ (s "c", .leaf (s "no")) ] := by
  constructor <;> rfl

def exArrS : Schema := .dict none false .dense [ .array (some (s "a")) false true (.leaf none false 0) ]

/-- why `hnodupB`: an Array / MultiValue with two members has one key twice -/
example : hnodupB exEnvB usep exArrS (wrap [(s "a", s "x"), (s "a", s "y")]) = false
    ∧ hnodupB exEnvB usep exArrS (wrap [(s "a", s "x")]) = true := by decide +kernel

/-- … and there the ORDER of the posted pairs is the order of the members: C02's `order_free` does
    not apply (the composition would need its stable, per-key version) -/
example : fromFlat exEnvB usep exArrS [(s "a", s "x"), (s "a", s "y")]
    ≠ fromFlat exEnvB usep exArrS [(s "a", s "y"), (s "a", s "x")] := by
  simp [fromFlat, setFlat, setFields, blank, blankFields, wrap, possibles, lookup, replace, membersOf, isPrefix,
    arrayNamed, arrayRemainder, truthy, exEnvB, exArrS, Schema.name, usep, s]

/-- the theorem gives the same conclusion as the evaluation above -/
theorem exT_end_to_end_narrow :
    ∃ ps, browserSubmit (seenOf Tables.current freshGen.ctx) (some 0) (renderForm [] exT) = .ok ps ∧
      fromFlat exEnvB usep exS ps = prS exEnvB usep false exS exE :=
  end_to_end_narrow_total exEnvB exS exE exT exT_hypsN

/-- the bridge on this element: its own pairs, and the form's reordering of them, satisfy `HNodup` -/
example : HNodup exEnvB usep exS (wrap (formPairs [] exT ++ uncheckedPairs [] exT)) :=
  hypsN_hnodup exT_hypsN

/-- a List of Dicts, a one-member Array and a scalar AFTER them: document order is not breadth-first
    order, and the keys `l_0_x`, `l_1_x` collide one level down unless read as canonical paths -/
def exNS : Schema :=
  .dict none false .dense
    [ .list (some (s "l")) false true 1024
        (.dict none false .dense [ .leaf (some (s "x")) false 0, .leaf (some (s "b")) false 1 ]),
      .array (some (s "arr")) false true (.leaf none false 0),
      .leaf (some (s "z")) false 0 ]
def exNE : Elem :=
  .dict [ (s "l", .list [ .dict [ (s "x", .leaf (s "p")), (s "b", .leaf (s "1")) ],
                          .dict [ (s "x", .leaf (s "q")), (s "b", .leaf (s "1")) ] ]),
          (s "arr", .array [ .leaf (s "m") ]),
          (s "z", .leaf (s "end")) ]
def exNT : FormTree :=
  .dict none [
    .list (some (s "l")) [
      .dict none [ .text (some (s "x")) (s "p") (.input (some (s "text"))) [],
                   .bool (some (s "b")) (s "1") (s "1") [] ],
      .dict none [ .text (some (s "x")) (s "q") (.input (some (s "text"))) [],
                   .bool (some (s "b")) (s "1") (s "1") [] ] ],
    .array (some (s "arr")) false [s "m"] .checkboxes [[]],
    .text (some (s "z")) (s "end") (.input (some (s "text"))) [] ]

theorem exN_linked : linked exEnvB exNS exNE exNT = true := by
  rw [linked, ← resolveE_eq]; decide +kernel

theorem exN_pairs : formPairs [] exNT =
    [(s "l_0_x", s "p"), (s "l_0_b", s "1"), (s "l_1_x", s "q"), (s "l_1_b", s "1"),
     (s "arr", s "m"), (s "z", s "end")] := by
  simp only [exNT, formPairs, fieldPairs, slotPairs, slotName, Nat.reduceAdd, natStr0, natStr1]
  decide +kernel

theorem exN_hypsN : hypsN Tables.current exEnvB exNS exNE exNT = true := by
  have hok : okSB exEnvB exNS exNE = true := by
    simp only [exNS, exNE, okSB, okSAnyB, List.all_cons, List.all_nil, List.length_cons, List.length_nil,
      Nat.reduceAdd, List.range, List.range.loop, natStr0, natStr1, Schema.name]
    decide +kernel
  have hf : formOk Tables.current [] exNT = true := by
    simp only [exNT, formOk, fieldsOk, slotsOk, slotName, Nat.reduceAdd, natStr0, natStr1]
    decide +kernel
  have hu : (uncheckedPairs [] exNT).isEmpty = true := by
    simp only [exNT, uncheckedPairs, uncheckedFields, uncheckedSlots, slotName, Nat.reduceAdd, natStr0, natStr1]
    decide +kernel
  simp only [hypsN, exN_linked, hok, hf, hu, Bool.true_and, Bool.true_or, Bool.and_true]
  decide +kernel

/-- so the browser's six pairs — in DOCUMENT order: the List first, `z` last, where `flatten()` has `z`
    first — rebuild the element -/
theorem exN_end_to_end :
    fromFlat exEnvB usep exNS (formPairs [] exNT) = prS exEnvB usep false exNS exNE := by
  obtain ⟨hl, _, _, hcan, hw, hroot, hok, henv, hs, hnar, hdrop⟩ := hypsN_unpack exN_hypsN
  exact fromFlat_formPairs_narrow exEnvB exNS exNE exNT henv hs hw hroot hok hl hcan hnar hdrop

-- `narrowB` when an Array holds two members: it fails together with `hnodupB` (everything else holds), and `order_free`
-- is false there (above).  The CONCLUSION still holds (the form posts the members in member order): the per-key stable
-- composition, `end_to_end_arrays_partial` (Proofs/EndToEndArrays.lean).

def exArrE2 : Elem := .dict [ (s "a", .array [ .leaf (s "x"), .leaf (s "y") ]) ]
def exArrT2 : FormTree := .dict none [ .array (some (s "a")) false [s "x", s "y"] .checkboxes [[], []] ]

theorem exArr2_linked : linked exEnvB exArrS exArrE2 exArrT2 = true := by
  rw [linked, ← resolveE_eq]; decide +kernel

/-- only `narrowB` (and with it `hnodupB`) fails -/
theorem exArr2_only_narrow_fails :
    baseHyps Tables.current exEnvB exArrS exArrE2 exArrT2 = true ∧ boolsCanonical exArrT2 = true ∧
    uncheckedPairs [] exArrT2 = [] ∧ narrowB exArrS exArrE2 = false ∧
    hnodupB exEnvB usep exArrS (wrap (formPairs [] exArrT2 ++ uncheckedPairs [] exArrT2)) = false ∧
    hypsN Tables.current exEnvB exArrS exArrE2 exArrT2 = false ∧
    hyps Tables.current exEnvB exArrS exArrE2 exArrT2 = false := by
  simp only [baseHyps, hypsN, hyps, exArr2_linked, Bool.true_and]
  decide +kernel

/-- … while the conclusion is true of it all the same -/
theorem exArr2_still_rebuilds :
    fromFlat exEnvB usep exArrS (formPairs [] exArrT2) = exArrE2 :=
  eq_of_elemBeq _ _ (by decide +kernel)

/-- `hyps` is strictly weaker than `hypsN`: a pruning Array holding `['', 'x']` contributes ONE surviving
    pair; `hnodupB` sees that, the state-level `narrowB` does not -/
def exArrE3 : Elem := .dict [ (s "a", .array [ .leaf [], .leaf (s "x") ]) ]
def exArrT3 : FormTree := .dict none [ .array (some (s "a")) false [[], s "x"] .checkboxes [[], []] ]

theorem exArr3_linked : linked exEnvB exArrS exArrE3 exArrT3 = true := by
  rw [linked, ← resolveE_eq]; decide +kernel

theorem exPrunedArr_hyps :
    hyps Tables.current exEnvB exArrS exArrE3 exArrT3 = true ∧
    hypsN Tables.current exEnvB exArrS exArrE3 exArrT3 = false := by
  simp only [hypsN, hyps, exArr3_linked, Bool.true_and]
  decide +kernel

/-- the two-member Array through the stable composition: both hereditary conditions hold of it -/
theorem exArr2_via_stable :
    fromFlat exEnvB usep exArrS (formPairs [] exArrT2) = prS exEnvB usep false exArrS exArrE2 := by
  obtain ⟨hl, _, _, hw, hroot, hok, henv, hs⟩ := baseHyps_unpack exArr2_only_narrow_fails.1
  have hfl : flatten exEnvB usep exArrS exArrE2 = [(s "a", s "x"), (s "a", s "y")] := by
    rw [flatten_eq_flattenE]; decide +kernel
  have hfp : formPairs [] exArrT2 = [(s "a", s "x"), (s "a", s "y")] := by decide +kernel
  apply fromFlat_formPairs_stable exEnvB exArrS exArrE2 exArrT2 henv hs hw hroot hok hl
  · rw [hfl]
    simp only [exArrS, HNodupA, HNodupAFields, and_true]
  · rw [hfl, hfp]
    simp only [exArrS, ASame, ASameFields, and_true]
    decide +kernel
  · decide +kernel

end Flatland.EndToEnd.Proofs
