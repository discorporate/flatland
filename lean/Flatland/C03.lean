/-
Model A for C03: `set()` of containers with native (Python) values and the `.value` export
(`Sequence.set`, `Dict.set` with its policies, `SparseDict`, `Mapping.value`, `Sequence.value`;
schema/containers.py, `to_pairs` of util.py), over *table-driven leaf-likes*: what a scalar, a
JoinedString or a DateYYYYMMDD in state `st` makes of a native input is
`env.adapt k st x = (adapted?, value, text, parts)`, computed by the harness from the real classes
in isolation.

`setNative env s cur x` is `el.set(x)` on an element of schema `s` that is in state `cur` (a fresh
element is `blank env s`).  The current state matters where the real code keeps it: `Dict.set`
returns False *before* `_reset()` when `list(to_pairs(value))` raises, so a member that is set a
second time through a duplicate key keeps what the first `set()` built; a DateYYYYMMDD given None
keeps its members.  It returns the exception class where the real `set()` raises (unknown keys
under the subset/strict policy, missing keys under strict, unhashable keys).
-/
namespace Flatland.C03

abbrev Str := List Char

/-- native Python values, as far as containers look into them -/
inductive Native
  | none
  | atom (tag : Str)                    -- an opaque, hashable, non-iterable scalar (int, bool, date, Decimal, …)
  | text (s : Str)
  | list (xs : List Native)             -- list; also a generator / iterator (consumed once by `set`)
  | tuple (xs : List Native)            -- tuple (hashable when its items are)
  | dict (kvs : List (Native × Native)) -- dict, insertion order
  | ntuple (kvs : List (Str × Native))  -- namedtuple: field names and values
  | junk                                -- hashable, neither iterable nor dict-like, no scalar takes it
  deriving Inhabited

/-! ### decidable equality of natives (the nested type has no derive handler) -/

mutual
def Native.beq : Native → Native → Bool
  | .none, .none => true
  | .atom a, .atom b => a == b
  | .text a, .text b => a == b
  | .list a, .list b => Native.beqL a b
  | .tuple a, .tuple b => Native.beqL a b
  | .dict a, .dict b => Native.beqD a b
  | .ntuple a, .ntuple b => Native.beqN a b
  | .junk, .junk => true
  | _, _ => false
def Native.beqL : List Native → List Native → Bool
  | [], [] => true
  | a :: as, b :: bs => Native.beq a b && Native.beqL as bs
  | _, _ => false
def Native.beqD : List (Native × Native) → List (Native × Native) → Bool
  | [], [] => true
  | (a, a') :: as, (b, b') :: bs => Native.beq a b && Native.beq a' b' && Native.beqD as bs
  | _, _ => false
def Native.beqN : List (Str × Native) → List (Str × Native) → Bool
  | [], [] => true
  | (a, a') :: as, (b, b') :: bs => a == b && Native.beq a' b' && Native.beqN as bs
  | _, _ => false
end

mutual
theorem Native.beq_iff : ∀ a b : Native, Native.beq a b = true ↔ a = b
  | .none, b => by cases b <;> simp [Native.beq]
  | .junk, b => by cases b <;> simp [Native.beq]
  | .atom a, b => by cases b <;> simp [Native.beq]
  | .text a, b => by cases b <;> simp [Native.beq]
  | .list a, b => by cases b <;> simp [Native.beq, Native.beqL_iff a]
  | .tuple a, b => by cases b <;> simp [Native.beq, Native.beqL_iff a]
  | .dict a, b => by cases b <;> simp [Native.beq, Native.beqD_iff a]
  | .ntuple a, b => by cases b <;> simp [Native.beq, Native.beqN_iff a]
termination_by structural a => a
theorem Native.beqL_iff : ∀ a b : List Native, Native.beqL a b = true ↔ a = b
  | [], b => by cases b <;> simp [Native.beqL]
  | a :: as, b => by
    cases b with
    | nil => simp [Native.beqL]
    | cons b bs => simp [Native.beqL, Native.beq_iff a, Native.beqL_iff as]
termination_by structural a => a
theorem Native.beqD_iff : ∀ a b : List (Native × Native), Native.beqD a b = true ↔ a = b
  | [], b => by cases b <;> simp [Native.beqD]
  | (a, a') :: as, b => by
    cases b with
    | nil => simp [Native.beqD]
    | cons b bs =>
      obtain ⟨b, b'⟩ := b
      simp [Native.beqD, Native.beq_iff a, Native.beq_iff a', Native.beqD_iff as, and_assoc]
termination_by structural a => a
theorem Native.beqN_iff : ∀ a b : List (Str × Native), Native.beqN a b = true ↔ a = b
  | [], b => by cases b <;> simp [Native.beqN]
  | (a, a') :: as, b => by
    cases b with
    | nil => simp [Native.beqN]
    | cons b bs =>
      obtain ⟨b, b'⟩ := b
      simp [Native.beqN, Native.beq_iff a', Native.beqN_iff as, and_assoc]
termination_by structural a => a
end

instance : DecidableEq Native := fun a b => decidable_of_iff _ (Native.beq_iff a b)

inductive Policy | strict | subset | duck | off
  deriving DecidableEq, Repr, Inhabited

inductive DictMode | dense | sparse | sparseReq
  deriving DecidableEq, Repr, Inhabited

inductive Schema
  | leaf (name : Option Str) (opt : Bool) (k : Nat)      -- Scalar / JoinedString / DateYYYYMMDD
  | dict (name : Option Str) (opt : Bool) (mode : DictMode) (policy : Policy) (fields : List Schema)
  | seq (name : Option Str) (opt : Bool) (member : Schema)   -- List / Array
  deriving Inhabited

/-- element state: leaves carry value, text and the texts of the parts `flatten()` shows
    (DateYYYYMMDD fields; the members of a JoinedString are visible to none of `.value`, `.u`,
    `==` and `flatten()`) -/
inductive Elem
  | leaf (v : Native) (u : Str) (parts : List Str)
  | dict (ms : List (Str × Elem))
  | seq (ms : List Elem)
  deriving Inhabited

/-- the state of a leaf-like: `.value`, `.u`, texts of the parts -/
abbrev LeafState := Native × Str × List Str

structure Env where
  /-- `el.set(x)` on a leaf-like of kind `k` in state `st`: returned flag and new state -/
  adapt : Nat → LeafState → Native → Bool × LeafState
  /-- a freshly constructed leaf-like: `K()` -/
  blankLeaf : Nat → LeafState

def Schema.name : Schema → Option Str
  | .leaf n .. => n | .dict n .. => n | .seq n .. => n
def Schema.opt : Schema → Bool
  | .leaf _ o _ => o | .dict _ o .. => o | .seq _ o _ => o

mutual
def blank (env : Env) : Schema → Elem
  | .leaf _ _ k => let b := env.blankLeaf k; .leaf b.1 b.2.1 b.2.2
  | .dict _ _ .dense _ fields => .dict (blankFields env fields)
  | .dict _ _ .sparse _ _ => .dict []
  | .dict _ _ .sparseReq _ fields => .dict (blankRequired env fields)
  | .seq .. => .seq []
def blankFields (env : Env) : List Schema → List (Str × Elem)
  | [] => []
  | f :: fs => (f.name.getD [], blank env f) :: blankFields env fs
def blankRequired (env : Env) : List Schema → List (Str × Elem)
  | [] => []
  | f :: fs => if f.opt then blankRequired env fs else (f.name.getD [], blank env f) :: blankRequired env fs
end

/-- the members `_reset()` leaves: every field (Dict), none (SparseDict), the required ones
    (SparseDict with `minimum_fields='required'`) -/
def blankMs (env : Env) (mode : DictMode) (fields : List Schema) : List (Str × Elem) :=
  match mode with
  | .dense => blankFields env fields
  | .sparse => []
  | .sparseReq => blankRequired env fields

/-- what iterating a native yields; `none` = TypeError (not iterable) -/
def iterate : Native → Option (List Native)
  | .list xs => some xs
  | .tuple xs => some xs
  | .text s => some (s.map (fun c => .text [c]))
  | .dict kvs => some (kvs.map (·.1))
  | .ntuple kvs => some (kvs.map (·.2))
  | _ => none

/-- `((key, value) for key, value in dictlike)`: every item is unpacked into exactly two;
    `none` = TypeError (item not iterable) / ValueError (wrong arity) -/
def unpackPairs : List Native → Option (List (Native × Native))
  | [] => some []
  | item :: rest =>
    match iterate item with
    | some [k, v] =>
      match unpackPairs rest with
      | some ps => some ((k, v) :: ps)
      | none => none
    | _ => none

/-- `list(to_pairs(value))`; `none` = TypeError / ValueError (caught by Dict.set: adapted False) -/
def toPairs : Native → Option (List (Native × Native))
  | .dict kvs => some kvs                                          -- `.items()`
  | .ntuple kvs => some (kvs.map (fun p => (.text p.1, p.2)))      -- `._asdict().items()`
  | x =>
    match iterate x with
    | none => none
    | some items => unpackPairs items

mutual
/-- `hash(x)` does not raise -/
def hashable : Native → Bool
  | .list _ => false
  | .dict _ => false
  | .tuple xs => hashableL xs
  | .ntuple kvs => hashableN kvs
  | _ => true
def hashableL : List Native → Bool
  | [] => true
  | x :: xs => hashable x && hashableL xs
def hashableN : List (Str × Native) → Bool
  | [] => true
  | (_, x) :: xs => hashable x && hashableN xs
end

def findField (key : Str) : List Schema → Option Schema
  | [] => none
  | f :: fs => if f.name = some key then some f else findField key fs

def lookup (key : Str) : List (Str × Elem) → Option Elem
  | [] => none
  | (k, e) :: rest => if k = key then some e else lookup key rest

def replace (key : Str) (e : Elem) : List (Str × Elem) → List (Str × Elem)
  | [] => []
  | (k, x) :: rest => if k = key then (k, e) :: rest else (k, x) :: replace key e rest

def fieldNames : List Schema → List Str
  | [] => []
  | f :: fs => f.name.getD [] :: fieldNames fs

inductive Raise | keyError | typeError
  deriving DecidableEq, Repr, Inhabited

/-- is the key the name of a field (`key in fields`; only a text equals a field name) -/
def isField (fields : List Schema) : Native → Bool
  | .text k => (fieldNames fields).contains k
  | _ => false

def isText (n : Str) : Native → Bool
  | .text k => k == n
  | _ => false

/-- the policy check of `Dict.set`: the exception it raises, if any.  Building the set of given
    keys raises TypeError on an unhashable key. -/
def policyRaise (policy : Policy) (fields : List Schema) (keys : List Native) : Option Raise :=
  let extra := !keys.all (isField fields)
  let missing := !(fieldNames fields).all (fun n => keys.any (isText n))
  let unhashable := !keys.all hashable
  match policy with
  | .strict => if unhashable then some .typeError else if extra then some .keyError
               else if missing then some .typeError else none
  | .subset => if unhashable then some .typeError else if extra then some .keyError else none
  | .duck => none
  | .off => none

/-- the state of the leaf-like the element is (a fresh one's, should the element be no leaf) -/
def leafStateOf (env : Env) (k : Nat) : Elem → LeafState
  | .leaf v u p => (v, u, p)
  | _ => env.blankLeaf k

mutual
/-- `flag = el.set(x)` on an element in state `cur`: the new state and the returned flag, or the
    exception `set()` raises -/
def setNative (env : Env) : Schema → Elem → Native → Except Raise (Elem × Bool)
  | .leaf _ _ k, cur, x =>
    let r := env.adapt k (leafStateOf env k cur) x
    .ok (.leaf r.2.1 r.2.2.1 r.2.2.2, r.1)
  | .dict _ _ mode policy fields, cur, x =>
    match toPairs x with
    | none => .ok (cur, false)                    -- adapted=False, before `_reset()`: state kept
    | some kvs =>
      match policyRaise policy fields (kvs.map (·.1)) with
      | some r => .error r
      | none =>
        match setPairs env fields (blankMs env mode fields) kvs with
        | .ok (ms, flag) => .ok (.dict ms, flag)
        | .error r => .error r
  | .seq _ _ member, _, x =>                      -- `del self[:]` comes first
    match iterate x with
    | none => .ok (.seq [], false)
    | some xs =>
      match setMembers env member xs with
      | .ok (ms, flag) => .ok (.seq ms, flag)
      | .error .typeError => .ok (.seq [], false)        -- `except TypeError:` in Sequence.set
      | .error r => .error r
/-- `for key, value in pairs: if key not in fields: continue; …[key].set(value)` -/
def setPairs (env : Env) (fields : List Schema) :
    List (Str × Elem) → List (Native × Native) → Except Raise (List (Str × Elem) × Bool)
  | ms, [] => .ok (ms, true)
  | ms, (key, v) :: rest =>
    if hashable key = false then .error .typeError        -- `key not in fields`: unhashable
    else match key with
    | .text k =>
      match setOne env fields k (lookup k ms) v with
      | none => setPairs env fields ms rest                 -- `if key not in fields: continue`
      | some (.error r) => .error r
      | some (.ok (e, f)) =>
        let ms' := match lookup k ms with
          | some _ => replace k e ms
          | none => ms ++ [(k, e)]
        match setPairs env fields ms' rest with
        | .ok (ms'', f') => .ok (ms'', f && f')
        | .error r => .error r
    | _ => setPairs env fields ms rest                      -- no field has a non-text name
/-- set the field named `key` (first declared field of that name): the member that is there
    (`cur`), else a fresh one; `none` = no such field -/
def setOne (env : Env) : List Schema → Str → Option Elem → Native → Option (Except Raise (Elem × Bool))
  | [], _, _, _ => none
  | f :: fs, key, cur, v =>
    if f.name = some key then some (setNative env f (cur.getD (blank env f)) v) else setOne env fs key cur v
def setMembers (env : Env) (member : Schema) : List Native → Except Raise (List Elem × Bool)
  | [] => .ok ([], true)
  | x :: xs =>
    match setNative env member (blank env member) x with
    | .error r => .error r
    | .ok (e, f) =>
      match setMembers env member xs with
      | .error r => .error r
      | .ok (es, f') => .ok (e :: es, f && f')
end

/-- `.value` -/
def value : Elem → Native
  | .leaf v _ _ => v
  | .dict ms => .dict (valueMembers ms)
  | .seq ms => .list (valueList ms)
where
  valueMembers : List (Str × Elem) → List (Native × Native)
    | [] => []
    | (k, e) :: rest => (.text k, value e) :: valueMembers rest
  valueList : List Elem → List Native
    | [] => []
    | e :: es => value e :: valueList es

mutual
/-- the hypothesis of the re-import theorem, evaluated on the leaves that occur in the element:
    a fresh leaf-like of the same kind, set with the leaf's exported value, gets into the leaf's
    state (value, text, parts).  With `needFlag` it must also report True. -/
def leafStable (env : Env) (needFlag : Bool) : Schema → Elem → Bool
  | .leaf _ _ k, .leaf v u p =>
    decide ((env.adapt k (env.blankLeaf k) v).2 = (v, u, p)) && (!needFlag || (env.adapt k (env.blankLeaf k) v).1)
  | .dict _ _ _ _ fields, .dict ms => leafStableMs env needFlag fields ms
  | .seq _ _ member, .seq ms => leafStableL env needFlag member ms
  | _, _ => false
def leafStableMs (env : Env) (needFlag : Bool) (fields : List Schema) : List (Str × Elem) → Bool
  | [] => true
  | (k, m) :: rest =>
    (match findField k fields with
     | some f => leafStable env needFlag f m
     | none => false) && leafStableMs env needFlag fields rest
def leafStableL (env : Env) (needFlag : Bool) (member : Schema) : List Elem → Bool
  | [] => true
  | m :: rest => leafStable env needFlag member m && leafStableL env needFlag member rest
end

/-! ### the history of an element: what happened to it before the `set()` the property talks about

The element need not be fresh.  Earlier calls — `set()` on the element, a member's own `set()`
(`el['x'].set(v)`), item assignment (`el['x'] = v`, `el[0] = v`) — are compositions of `setNative`
on sub-states and are run here; `set_flat()` is not modelled here (C01's subject): the state it
leaves is taken from the real element and checked with `shapedB`. -/

inductive Key | name (k : Str) | idx (i : Nat)
  deriving DecidableEq, Inhabited

/-- what a step of the history raises: `set()`'s exceptions, and the lookups' (`el[key]`, `el[i]`) -/
inductive StepRaise | keyError | typeError | indexError
  deriving DecidableEq, Repr, Inhabited

def Raise.toStep : Raise → StepRaise
  | .keyError => .keyError
  | .typeError => .typeError

def liftSet (r : Except Raise (Elem × Bool)) : Except StepRaise (Elem × Bool) :=
  match r with
  | .ok p => .ok p
  | .error e => .error e.toStep

/-- `op(el[p1][p2]…)`: the whole element after an operation on the member at `path`.  A Dict
    member that is not there is a KeyError (`dict.__getitem__`), a sequence index out of range an
    IndexError. -/
def updateAt (op : Schema → Elem → Except StepRaise (Elem × Bool)) :
    Schema → Elem → List Key → Except StepRaise (Elem × Bool)
  | s, cur, [] => op s cur
  | .dict _ _ _ _ fields, .dict ms, .name k :: rest =>
    match lookup k ms, findField k fields with
    | some m, some f =>
      match updateAt op f m rest with
      | .ok (m', fl) => .ok (.dict (replace k m' ms), fl)
      | .error r => .error r
    | _, _ => .error .keyError
  | .seq _ _ member, .seq ms, .idx i :: rest =>
    match ms[i]? with
    | some m =>
      match updateAt op member m rest with
      | .ok (m', fl) => .ok (.seq (ms.set i m'), fl)
      | .error r => .error r
    | none => .error .indexError
  | _, _, _ :: _ => .error .typeError

/-- `el[key] = x` with a native `x`.
    `Mapping.__setitem__` (Dict): `key not in self` → TypeError, else `self[key].set(x)`.
    `SparseDict.__setitem__`: a key that is there: `self[key].set(x)`; a declared field that is not:
    `schema(x, parent=self)` is stored (a fresh member set with `x`; should that `set()` raise,
    nothing is stored); no such field: TypeError.  Both are `Dict.set`'s loop body for the single
    pair `(key, x)` (`setPairs`), behind the membership test.
    `List.__setitem__` (`fresh = false`): `self[i].set(x)`.
    `Sequence.__setitem__` (Array, `fresh = true`): `member_schema(value=x)` replaces the member;
    the IndexError of `list.__setitem__` comes after the member was built.
    Nothing is returned: the flag is reported as true. -/
def itemAssign (env : Env) (key : Key) (fresh : Bool) (x : Native) : Schema → Elem → Except StepRaise (Elem × Bool)
  | .dict _ _ mode _ fields, .dict ms =>
    match key with
    | .name k =>
      if (lookup k ms).isNone && (decide (mode = .dense) || (findField k fields).isNone) then .error .typeError
      else match setPairs env fields ms [(.text k, x)] with
        | .ok (ms', _) => .ok (.dict ms', true)
        | .error r => .error r.toStep
    | .idx _ => .error .typeError
  | .seq _ _ member, .seq ms =>
    match key with
    | .idx i =>
      if fresh then
        match setNative env member (blank env member) x with
        | .error r => .error r.toStep
        | .ok (m, _) => if i < ms.length then .ok (.seq (ms.set i m), true) else .error .indexError
      else
        match ms[i]? with
        | none => .error .indexError
        | some m =>
          match setNative env member m x with
          | .error r => .error r.toStep
          | .ok (m', _) => .ok (.seq (ms.set i m'), true)
    | .name _ => .error .typeError
  | _, _ => .error .typeError

inductive Step
  | set (path : List Key) (x : Native)                               -- `el[p1][p2]….set(x)`
  | setItem (path : List Key) (key : Key) (fresh : Bool) (x : Native) -- `el[p1][p2]…[key] = x`

def applyStep (env : Env) (s : Schema) (cur : Elem) : Step → Except StepRaise (Elem × Bool)
  | .set path x => updateAt (fun s' c => liftSet (setNative env s' c x)) s cur path
  | .setItem path key fresh x => updateAt (itemAssign env key fresh x) s cur path

/-- a history that raised nowhere -/
def runSteps (env : Env) (s : Schema) : Elem → List Step → Except StepRaise Elem
  | cur, [] => .ok cur
  | cur, st :: rest =>
    match applyStep env s cur st with
    | .ok (e, _) => runSteps env s e rest
    | .error r => .error r

/-- the always-present keys come first and in place, keys distinct (`Proofs.C03.KeysOk`) -/
def keysOkB (B ms : List (Str × Elem)) : Bool :=
  decide (ms.map (·.1)).Nodup && decide ((ms.map (·.1)).take B.length = B.map (·.1))

mutual
/-- `Proofs.C03.Shaped` as a function: the state conforms to the schema.  The runner evaluates it
    on states taken from the real element (after `set_flat()`, after a step that raised). -/
def shapedB (env : Env) : Schema → Elem → Bool
  | .leaf .., .leaf .. => true
  | .dict _ _ mode _ fields, .dict ms => keysOkB (blankMs env mode fields) ms && shapedMsB env fields ms
  | .seq _ _ member, .seq ms => shapedLB env member ms
  | _, _ => false
def shapedMsB (env : Env) (fields : List Schema) : List (Str × Elem) → Bool
  | [] => true
  | (k, m) :: rest =>
    (match findField k fields with
     | some f => shapedB env f m
     | none => false) && shapedMsB env fields rest
def shapedLB (env : Env) (member : Schema) : List Elem → Bool
  | [] => true
  | m :: rest => shapedB env member m && shapedLB env member rest
end

end Flatland.C03
